import PCV.Props.C01
import PCV.Props.C01_Default
import PCV.Props.C01_Hyrax
import PCV.Props.C01_IPA
import PCV.Props.C01_LinCode
import PCV.Props.C01_MLPC
import PCV.Props.C01_Marlin
import PCV.Props.C01_MarlinBatch
import PCV.Props.C01_PST13
import PCV.Props.C01_Sonic
import PCV.Props.C02
import PCV.Props.C02_Default
import PCV.Props.C02_Hyrax
import PCV.Props.C02_IPA
import PCV.Props.C02_LinCode
import PCV.Props.C02_MLPC
import PCV.Props.C02_Marlin
import PCV.Props.C02_PST13
import PCV.Props.C02_Sonic
import PCV.Props.C03
import PCV.Props.C03_Hyrax
import PCV.Props.C03_HyraxSound
import PCV.Props.C03_IPA
import PCV.Props.C03_IPAExtract
import PCV.Props.C03_IPAExtractGeneral
import PCV.Props.C03_LinCode
import PCV.Props.C03_MLPC
import PCV.Props.C03_Marlin
import PCV.Props.C03_PST13
import PCV.Props.C03_Sonic
import PCV.Props.C04
import PCV.Props.C04_IPA
import PCV.Props.C04_IPAExtract
import PCV.Props.C04_Sonic
import PCV.Props.C05
import PCV.Props.C05_Default
import PCV.Props.C05_IPA
import PCV.Props.C05_Marlin
import PCV.Props.C05_PST13
import PCV.Props.C05_Sonic
import PCV.Props.C06
import PCV.Props.C06_Default
import PCV.Props.C06_IPA
import PCV.Props.C06_IPAMalformed
import PCV.Props.C06_MarlinBounded
import PCV.Props.C06_MarlinComplete
import PCV.Props.C06_PST13
import PCV.Props.C06_PST13General
import PCV.Props.C06_Sonic
import PCV.Props.C07
import PCV.Props.C07_Hyrax
import PCV.Props.C07_IPA
import PCV.Props.C07_Marlin
import PCV.Props.C07_PST13
import PCV.Props.C07_Sonic
import PCV.Props.C08
import PCV.Props.C08_Hyrax
import PCV.Props.C08_IPA
import PCV.Props.C08_LinCode
import PCV.Props.C08_MLPC
import PCV.Props.C08_Marlin
import PCV.Props.C08_PST13
import PCV.Props.C08_Sonic
import PCV.Props.C09
import PCV.Props.C09_Hyrax
import PCV.Props.C09_IPA
import PCV.Props.C09_LinCode
import PCV.Props.C09_MLPC
import PCV.Props.C09_PST13
import PCV.Props.C09_Sonic
import PCV.Props.C10
import PCV.Props.C10_Default
import PCV.Props.C10_Hyrax
import PCV.Props.C10_IPA
import PCV.Props.C10_LinCode
import PCV.Props.C10_MLPC
import PCV.Props.C10_Marlin
import PCV.Props.C10_PST13
import PCV.Props.C10_Sonic
import PCV.Props.C11
import PCV.Props.C11_Default
import PCV.Props.C11_Hyrax
import PCV.Props.C11_IPA
import PCV.Props.C11_LinCode
import PCV.Props.C11_MarlinHistory
import PCV.Props.C11_MarlinHistoryBounded
import PCV.Props.C11_Sonic
import PCV.Props.C12
import PCV.Props.C13
import PCV.Props.C14
import PCV.Props.C15
import PCV.Props.C16
import PCV.Props.C17
import PCV.Props.C17_Hyrax
import PCV.Props.C17_IPA
import PCV.Props.C17_LinCode
import PCV.Props.C17_MLPC
import PCV.Props.C17_Marlin
import PCV.Props.C17_PST13
import PCV.Props.C17_Sonic
import PCV.Props.C18
import PCV.Props.C19
import PCV.Props.C19_Dim
import PCV.Props.C19_Hyrax
import PCV.Props.C19_IPA
import PCV.Props.C19_LinCode
import PCV.Props.C19_MLPC
import PCV.Props.C19_PST13
import PCV.Props.C19_Sonic
import PCV.Props.Examples
