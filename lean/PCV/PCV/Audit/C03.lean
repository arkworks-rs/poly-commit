-- generated by /verif/check: axiom audit of the property theorems of C03
import PCV.Props.C03
import PCV.Props.C03_Hyrax
import PCV.Props.C03_HyraxSound
import PCV.Props.C03_IPA
import PCV.Props.C03_IPAExtract
import PCV.Props.C03_IPAExtractGeneral
import PCV.Props.C03_LinCode
import PCV.Props.C03_MLPC
import PCV.Props.C03_Marlin
import PCV.Props.C03_PST13
import PCV.Props.C03_Sonic
#print axioms PCV.C03.kzg10_witness_unique
#print axioms PCV.C03.kzg10_value_and_rv
#print axioms PCV.C03.kzg10_other_poly
#print axioms PCV.C03.kzg10_batch_shape_refused
#print axioms PCV.C03.kzg10_algebraic_forgery_reveals_trapdoor
#print axioms PCV.C03.kzg10_algebraic_forgery_exceptional_set
#print axioms PCV.C03.kzg10_algebraic_forgery_hiding
#print axioms PCV.C03.hyrax_wrong_number_refused
#print axioms PCV.C03.hyrax_odd_point_refused
#print axioms PCV.C03.hyrax_accept_shapes
#print axioms PCV.C03.hyrax_row_coms_length_refused
#print axioms PCV.C03.hyrax_z_length_refused
#print axioms PCV.C03.hyrax_single_accept
#print axioms PCV.C03.hyrax_zD_unique
#print axioms PCV.C03.hyrax_zB_unique
#print axioms PCV.C03.hyrax_rEval_unique
#print axioms PCV.C03.hyrax_z_entry_unique
#print axioms PCV.C03.hyrax_value_and_r_eval
#print axioms PCV.C03.hyrax_other_commitment_iff
#print axioms PCV.C03.hyrax_special_soundness
#print axioms PCV.C03.ipa_check_shape_refused
#print axioms PCV.C03.ipa_batch_shape_refused
#print axioms PCV.C03.ipa_batch_shape_refused_first
#print axioms PCV.C03.ipa_batch_count_refused
#print axioms PCV.C03.ipa_c_defect_affine
#print axioms PCV.C03.ipa_c_unique
#print axioms PCV.C03.ipa_final_key_unique
#print axioms PCV.C03.ipa_accepted_components
#print axioms PCV.C03.ipa_accept_is_linear_relation
#print axioms PCV.C03.ipa_running_error_hits_root
#print axioms PCV.C03.ipa_algebraic_forgery_trichotomy
#print axioms PCV.C03.ipa_accept_is_linear_relation_hiding
#print axioms PCV.C03.ipa_combined_commitment_representation
#print axioms PCV.C03.ipa_claim_error_linear_in_challenges
#print axioms PCV.C03.ipa_general_algebraic_forgery_trichotomy
#print axioms PCV.C03.ipa_false_claim_nonzero_coefficient
#print axioms PCV.C03.ipa_general_nonhiding_algebraic_forgery_trichotomy
#print axioms PCV.C03.ipa_hiding_algebraic_forgery_trichotomy
#print axioms PCV.C03.ipa_hiding_challenge_pinned
#print axioms PCV.C03.ipa_batch_accept_is_linear_relation
#print axioms PCV.C03.ipa_batch_items_exist
#print axioms PCV.C03.lincode_v_length_refused
#print axioms PCV.C03.lincode_wf_missing_refused
#print axioms PCV.C03.lincode_wf_length_refused
#print axioms PCV.C03.lincode_stretched_refused
#print axioms PCV.C03.lincode_path_missing_refused
#print axioms PCV.C03.lincode_leaf_index_refused
#print axioms PCV.C03.lincode_bad_path_refused
#print axioms PCV.C03.lincode_column_missing_refused
#print axioms PCV.C03.lincode_column_mismatch_refused
#print axioms PCV.C03.lincode_wf_column_mismatch_refused
#print axioms PCV.C03.lincode_position_out_of_range_refused
#print axioms PCV.C03.lincode_ext_cols_mismatch_refused
#print axioms PCV.C03.lincode_encode_refused
#print axioms PCV.C03.lincode_check_needs_every_position
#print axioms PCV.C03.mlpc_proof_element_affine
#print axioms PCV.C03.mlpc_proof_element_coeff
#print axioms PCV.C03.mlpc_proof_element_unique
#print axioms PCV.C03.mlpc_proof_length_refused
#print axioms PCV.C03.mlpc_other_poly
#print axioms PCV.C03.mlpc_other_point
#print axioms PCV.C03.mlpc_algebraic_forgery_reveals_trapdoor
#print axioms PCV.C03.marlin_witness_unique
#print axioms PCV.C03.marlin_values_and_rv
#print axioms PCV.C03.marlin_algebraic_forgery_reveals_trapdoor
#print axioms PCV.C03.pst13_check_wrong_witness_count
#print axioms PCV.C03.pst13_check_answers_exact_shape
#print axioms PCV.C03.pst13_batch_wrong_shape
#print axioms PCV.C03.pst13_batch_answers_exact_shape
#print axioms PCV.C03.pst13_replaced_witness_defect
#print axioms PCV.C03.pst13_replaced_witness_rejected
#print axioms PCV.C03.pst13_random_v_defect
#print axioms PCV.C03.pst13_changed_random_v_rejected
#print axioms PCV.C03.pst13_algebraic_forgery_reveals_trapdoor
#print axioms PCV.C03.pst13_algebraic_forgery_mv
#print axioms PCV.C03.pst13_algebraic_forgery_hiding
#print axioms PCV.C03.sonic_witness_unique
#print axioms PCV.C03.sonic_value_and_rv
#print axioms PCV.C03.sonic_algebraic_forgery_reveals_trapdoor
