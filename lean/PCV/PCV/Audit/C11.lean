-- generated by /verif/check: axiom audit of the property theorems of C11
import PCV.Props.C11
import PCV.Props.C11_Default
import PCV.Props.C11_Hyrax
import PCV.Props.C11_IPA
import PCV.Props.C11_LinCode
import PCV.Props.C11_MarlinHistory
import PCV.Props.C11_MarlinHistoryBounded
import PCV.Props.C11_Sonic
#print axioms PCV.C11.marlin_history_lockstep
#print axioms PCV.C11.displaced_proof_iff
#print axioms PCV.C11.displaced_proof_rejected
#print axioms PCV.C11.default_batch_lockstep
#print axioms PCV.C11.default_combinations_state
#print axioms PCV.C11.default_combinations_lockstep
#print axioms PCV.C11.hyrax_open_schedule
#print axioms PCV.C11.hyrax_check_decides_on_squeezed
#print axioms PCV.C11.hyrax_check_log
#print axioms PCV.C11.hyrax_unabsorbed_components_do_not_matter
#print axioms PCV.C11.hyrax_absorbed_components_matter
#print axioms PCV.C11.hyrax_open_check_lockstep
#print axioms PCV.C11.hyrax_history_lockstep
#print axioms PCV.C11.hyrax_displaced_query_differs
#print axioms PCV.C11.hyrax_displaced_challenge_differs
#print axioms PCV.C11.hyrax_displaced_iff
#print axioms PCV.C11.hyrax_displaced_rejected
#print axioms PCV.C11.ipa_checkT_decision
#print axioms PCV.C11.ipa_open_check_lockstep
#print axioms PCV.C11.ipa_history_lockstep
#print axioms PCV.C11.ipa_batchSuccinctT_result
#print axioms PCV.C11.ipa_batch_lockstep
#print axioms PCV.C11.ipa_lc_lockstep
#print axioms PCV.C11.ipa_displaced_sponge_iff
#print axioms PCV.C11.ipa_displaced_sponge_rejected
#print axioms PCV.C11.ipa_displaced_rounds
#print axioms PCV.C11.lincode_open_transcript
#print axioms PCV.C11.lincode_check_transcript
#print axioms PCV.C11.lincode_event_schedule
#print axioms PCV.C11.lincode_unabsorbed_components_do_not_matter
#print axioms PCV.C11.lincode_open_check_lockstep_one
#print axioms PCV.C11.lincode_point_fits
#print axioms PCV.C11.lincode_commit_is
#print axioms PCV.C11.lincode_open_check_lockstep
#print axioms PCV.C11.lincode_history_lockstep
#print axioms PCV.C11.lincode_displaced_iff
#print axioms PCV.C11.lincode_displaced_positions_refused
#print axioms PCV.C11.lincode_displaced_coefficients_iff
#print axioms PCV.C11.lincode_displaced_query_differs
#print axioms PCV.C11.checkCombinationsS_decision
#print axioms PCV.C11.mOpOk_imp_mOpOkB
#print axioms PCV.C11.step_lockstep_bounded
#print axioms PCV.C11.historyOk_imp_historyOkB
#print axioms PCV.C11.marlin_mixed_history_lockstep_bounded
#print axioms PCV.C11.marlin_mixed_history_lockstep
#print axioms PCV.C11.exHistoryB_ok
#print axioms PCV.C11.sonic_open_schedule
#print axioms PCV.C11.sonic_check_schedule
#print axioms PCV.C11.sonic_open_check_lockstep
#print axioms PCV.C11.sonic_batch_lockstep
#print axioms PCV.C11.sonic_threaded_decisions
#print axioms PCV.C11.sonic_lc_lockstep
#print axioms PCV.C11.sonic_history_lockstep
#print axioms PCV.C11.sonic_displaced_iff
#print axioms PCV.C11.sonic_displaced_rejected
