/-
  PCV.Proofs.BrakedownEnc — the Brakedown row encoder is a linear map of the declared length
  (compositional: every pass is built from takes, drops, appends, sparse products and evaluations).
-/
import PCV.Model.BrakedownEnc
import PCV.Proofs.RS

namespace PCV
namespace LinCode
variable {F : Type} [Field F]

/-- `f` commutes with linear combinations of equally long inputs, and its output length depends only
on the input length -/
def Lin (f : List F → List F) : Prop :=
  ∀ (a b : F) (x y : List F), x.length = y.length →
    f (lc a x b y) = lc a (f x) b (f y) ∧ (f x).length = (f y).length

theorem Lin.out_length {f : List F → List F} (hf : Lin f) (a b : F) (x y : List F)
    (h : x.length = y.length) : (f (lc a x b y)).length = (f x).length := by
  rw [(hf a b x y h).1, lc_length_eq _ _ (hf a b x y h).2]

theorem lin_id : Lin (fun x : List F => x) := fun _ _ _ _ h => ⟨rfl, h⟩

theorem lin_comp {f g : List F → List F} (hf : Lin f) (hg : Lin g) : Lin (fun x => g (f x)) := by
  intro a b x y h
  obtain ⟨h1, h2⟩ := hf a b x y h
  obtain ⟨h3, h4⟩ := hg a b (f x) (f y) h2
  exact ⟨(congrArg g h1).trans h3, h4⟩

theorem lin_append {f g : List F → List F} (hf : Lin f) (hg : Lin g) :
    Lin (fun x => f x ++ g x) := by
  intro a b x y h
  obtain ⟨h1, h2⟩ := hf a b x y h
  obtain ⟨h3, h4⟩ := hg a b x y h
  refine ⟨?_, by rw [List.length_append, List.length_append, h2, h4]⟩
  show f (lc a x b y) ++ g (lc a x b y) = _
  rw [h1, h3, lc_append _ _ _ _ h2]

theorem lin_take (k : Nat) : Lin (fun x : List F => x.take k) := by
  intro a b x y h
  exact ⟨lc_take a b x y k, by rw [List.length_take, List.length_take, h]⟩

theorem lin_drop_dep (kf : List F → Nat) (hk : ∀ x y : List F, x.length = y.length → kf x = kf y) :
    Lin (fun x : List F => x.drop (kf x)) := by
  intro a b x y h
  have e1 : kf (lc a x b y) = kf x := hk _ _ (lc_length_eq a b h)
  have e2 : kf y = kf x := (hk _ _ h).symm
  refine ⟨?_, by rw [List.length_drop, List.length_drop, h, e2]⟩
  show (lc a x b y).drop (kf (lc a x b y)) = lc a (x.drop (kf x)) b (y.drop (kf y))
  rw [e1, e2, lc_drop]

theorem lin_drop (k : Nat) : Lin (fun x : List F => x.drop k) :=
  lin_drop_dep (fun _ => k) (fun _ _ _ => rfl)

theorem lin_slice (i j : Nat) : Lin (fun x : List F => slice x i j) :=
  lin_comp (lin_drop i) (lin_take (j - i))

theorem lin_evalAt (pts : List F) : Lin (fun x : List F => evalAt pts x) := by
  intro a b x y h
  exact ⟨evalAt_lc pts a b h, by rw [evalAt_length, evalAt_length]⟩

theorem colDot_lc (a b : F) {x y : List F} (h : x.length = y.length) (col : List (Nat × F)) :
    colDot (lc a x b y) col = a * colDot x col + b * colDot y col := by
  unfold colDot
  induction col with
  | nil => simp [lsum]
  | cons e es ih =>
    simp only [List.map_cons, lsum] at ih ⊢
    rw [ih, getD'_lc a b h]; ring

theorem rowMul_length (M : SprsMat F) (v : List F) : (M.rowMul v).length = M.cols.length :=
  List.length_map _

theorem lin_rowMul (M : SprsMat F) : Lin (fun x : List F => M.rowMul x) := by
  intro a b x y h
  refine ⟨?_, by rw [rowMul_length, rowMul_length]⟩
  show M.cols.map (colDot (lc a x b y)) = lc a (M.cols.map (colDot x)) b (M.cols.map (colDot y))
  rw [← lc_map]
  apply List.map_congr_left
  intro c _
  exact colDot_lc a b h c

theorem lin_padTo (k : Nat) : Lin (fun x : List F => padTo k x) := by
  unfold padTo
  apply lin_append (lin_take k)
  intro a b x y h
  refine ⟨?_, by rw [List.length_replicate, List.length_replicate, h]⟩
  show List.replicate (k - (lc a x b y).length) 0 =
    lc a (List.replicate (k - x.length) 0) b (List.replicate (k - y.length) 0)
  rw [lc_length_eq a b h, h, lc_replicate_zero]

theorem lin_setSlice (e : Nat) {g : List F → List F} (hg : Lin g) :
    Lin (fun x : List F => setSlice x e (g x)) := by
  unfold setSlice
  apply lin_append (lin_append (lin_take e) hg)
  apply lin_drop_dep (fun x => e + (g x).length)
  intro x y h
  exact congrArg (e + ·) (hg 1 1 x y h).2

theorem lin_naiveRS (s ie oe : Nat) : Lin (fun x : List F => naiveRS x s ie oe) := by
  unfold naiveRS
  exact lin_setSlice s (lin_comp (lin_slice s ie) (lin_evalAt _))

theorem lin_fwdPass (steps : List (Nat × Nat × SprsMat F)) : Lin (fwdPass steps) := by
  induction steps with
  | nil => exact lin_id
  | cons st rest ih =>
    obtain ⟨s, an, A⟩ := st
    show Lin (fun cw => fwdPass rest (cw ++ A.rowMul (slice cw (s - an) s)))
    exact lin_comp (lin_append lin_id (lin_comp (lin_slice _ _) (lin_rowMul A))) ih

theorem lin_bwdPass (steps : List (Nat × Nat × SprsMat F)) : Lin (bwdPass steps) := by
  induction steps with
  | nil => exact lin_id
  | cons st rest ih =>
    obtain ⟨s, e, B⟩ := st
    show Lin (fun cw => bwdPass rest (setSlice cw e (B.rowMul (slice cw s e))))
    exact lin_comp (lin_setSlice e (lin_comp (lin_slice _ _) (lin_rowMul B))) ih

/-- **The Brakedown row encoding is linear** (forward sparse passes, naive Reed–Solomon base code,
backward sparse passes — by induction over the passes). -/
theorem lin_encodeCore (pp : BParams F) : Lin (encodeCore pp) :=
  lin_comp (g := bwdPass (bwdSteps pp))
    (lin_comp (g := fun cw => naiveRS cw (rsStart pp) (rsInEnd pp) (rsOutEnd pp))
      (lin_comp (g := padTo pp.mExt) (lin_fwdPass (fwdSteps pp)) (lin_padTo _))
      (lin_naiveRS _ _ _))
    (lin_bwdPass _)

theorem padTo_length (k : Nat) (cw : List F) : (padTo k cw).length = k := by
  rw [padTo, List.length_append, List.length_take, List.length_replicate, Nat.add_comm,
    Nat.sub_add_min_cancel]

omit [Field F] in
theorem setSlice_length (cw : List F) (e : Nat) (src : List F) (h : e + src.length ≤ cw.length) :
    (setSlice cw e src).length = cw.length := by
  rw [setSlice, List.length_append, List.length_append, List.length_take, List.length_drop,
    Nat.min_eq_left (Nat.le_trans (Nat.le_add_right _ _) h), Nat.add_sub_cancel' h]

theorem ptsFrom_length (x : F) (k : Nat) : (ptsFrom x k).length = k := by
  induction k generalizing x with
  | zero => rfl
  | succ k ih => rw [ptsFrom, List.length_cons, ih]

theorem naiveRS_length (cw : List F) (s ie oe : Nat) (h1 : s ≤ oe) (h2 : oe ≤ cw.length) :
    (naiveRS cw s ie oe).length = cw.length := by
  apply setSlice_length
  rw [evalAt_length, ptsFrom_length, Nat.add_sub_cancel' h1]
  exact h2

/-- the backward pass keeps the length when every write `cw[e .. e + cols]` stays inside the buffer,
which is what `bwdOk` checks against the declared column counts `bcs` -/
theorem bwdPass_length (k : Nat) (steps : List (Nat × Nat × SprsMat F)) (bcs : List Nat)
    (hlen : steps.length ≤ bcs.length) (h : bwdOk k (steps.zip bcs) = true) (cw : List F)
    (hk : cw.length = k) : (bwdPass steps cw).length = k := by
  induction steps generalizing bcs cw with
  | nil => exact hk
  | cons st rest ih =>
    obtain ⟨s, e, B⟩ := st
    cases bcs with
    | nil => cases hlen
    | cons bc bcs =>
      simp only [List.zip_cons_cons, bwdOk, Bool.and_eq_true, decide_eq_true_eq] at h
      obtain ⟨⟨⟨_, hfit, hB⟩, _⟩, hrest⟩ := h
      refine ih bcs (Nat.le_of_succ_le_succ hlen) hrest _ ?_
      rw [setSlice_length _ _ _ (by rw [rowMul_length, hB, hk]; exact hfit), hk]

omit [Field F] in
theorem bwdSteps_length (pp : BParams F) :
    (bwdSteps pp).length = min (min pp.start.length pp.stop.length) pp.bMats.length := by
  rw [bwdSteps, List.length_zipWith, List.length_zip]

theorem encodeCore_length (pp : BParams F) (msg : List F) (h : shapeOk pp = true) :
    (encodeCore pp msg).length = pp.mExt := by
  unfold shapeOk at h
  simp only [Bool.and_eq_true, decide_eq_true_eq] at h
  obtain ⟨⟨⟨hl, _⟩, hrs⟩, hb⟩ := h
  refine bwdPass_length _ _ _ ?_ hb _ ?_
  · rw [bwdSteps_length, List.length_map]
    exact Nat.le_trans (Nat.min_le_left _ _) hl.2.2.2
  · rw [naiveRS_length _ _ _ _ hrs.2.2.1 (by rw [padTo_length]; exact hrs.2.2.2), padTo_length]

theorem encode_ok_iff (pp : BParams F) (msg cw : List F) :
    encode pp msg = .ok cw ↔ msg.length = pp.m ∧ shapeOk pp = true ∧ cw = encodeCore pp msg := by
  unfold encode
  by_cases h1 : msg.length = pp.m
  · by_cases h2 : shapeOk pp = true
    · simp [h1, h2, eq_comm]
    · simp [h1, h2]
  · simp [h1]

theorem encode_wrong_length (pp : BParams F) (x : List F) (h : x.length ≠ pp.m) :
    encode pp x = .error .encodingError := by
  unfold encode; simp [h]

/-- a one-level toy code for the non-vacuity examples: `m = 2`, `A : 2×1`, base code of length 2,
`B : 2×1`, `m_ext = 5` -/
def toyParams (F : Type) [Field F] : BParams F :=
  { m := 2, mExt := 5, aDims := [(2, 1)], bDims := [(2, 1)], start := [2], stop := [4],
    aMats := [⟨[[(0, 3), (1, 4)]]⟩], bMats := [⟨[[(0, 1), (1, 2)]]⟩] }

end LinCode
end PCV
