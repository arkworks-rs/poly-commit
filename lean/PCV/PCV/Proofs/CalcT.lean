/-
  PCV.Proofs.CalcT — the number of opened columns: monotonicity of the soundness bound, leastness
  of `tSpec`, justification of the search cap, soundness of the certified fast evaluation, range of
  the derived indices.
-/
import PCV.Model.CalcT
import Mathlib.Algebra.Order.Field.Basic
import Mathlib.Algebra.Order.Field.Rat

namespace PCV
namespace LinCode
variable {lam d0 d1 n q t t' : Nat}

/-- the bound as `A·X + B·Y ≤ B·q` with `A = (2d1−d0)^t`, `B = (2d1)^t`, `X = 2·q·2^lam`,
`Y = n·2^lam` -/
theorem boundHolds_iff :
    boundHolds lam d0 d1 n q t = true ↔
      (2 * d1 - d0) ^ t * (2 * (q * 2 ^ lam)) + (2 * d1) ^ t * (n * 2 ^ lam)
        ≤ (2 * d1) ^ t * q := by
  show decide (2 * (2 * d1 - d0) ^ t * q * 2 ^ lam + n * (2 * d1) ^ t * 2 ^ lam ≤ (2 * d1) ^ t * q)
    = true ↔ _
  rw [decide_eq_true_iff, Nat.mul_comm 2 (_ ^ t), Nat.mul_comm n]
  simp only [Nat.mul_assoc]

/-- one more opening multiplies `A` by `a` and `B` by some `c ≥ a` -/
theorem bound_step {A B X Y q a c : Nat} (hac : a ≤ c) (h : A * X + B * Y ≤ B * q) :
    A * a * X + B * c * Y ≤ B * c * q := by
  rw [Nat.mul_right_comm A, Nat.mul_right_comm B _ Y, Nat.mul_right_comm B _ q]
  calc A * X * a + B * Y * c
      ≤ A * X * c + B * Y * c := Nat.add_le_add_right (Nat.mul_le_mul_left _ hac) _
    _ = (A * X + B * Y) * c := (Nat.add_mul _ _ _).symm
    _ ≤ B * q * c := Nat.mul_le_mul_right _ h

/-- the bound holds once the first term `A·X ≤ A·P` is at most `B`, since `B ≤ B·(q − Y)` -/
theorem bound_of_gap {A B X Y P q : Nat} (hX : X ≤ P) (hgap : A * P ≤ B) (hY : Y < q) :
    A * X + B * Y ≤ B * q :=
  calc A * X + B * Y ≤ A * P + B * Y := Nat.add_le_add_right (Nat.mul_le_mul_left _ hX) _
    _ ≤ B + B * Y := Nat.add_le_add_right hgap _
    _ = B * (Y + 1) := (Nat.add_comm _ _).trans (Nat.mul_succ _ _).symm
    _ ≤ B * q := Nat.mul_le_mul_left _ hY

/-- no side condition: in ℕ `2·d1 − d0 ≤ 2·d1` always -/
theorem bound_mono (lam d0 d1 n q t : Nat) (h : boundHolds lam d0 d1 n q t = true) :
    boundHolds lam d0 d1 n q (t + 1) = true :=
  boundHolds_iff.2 (bound_step (Nat.sub_le _ _) (boundHolds_iff.1 h))

theorem bound_mono_le (hle : t ≤ t')
    (h : boundHolds lam d0 d1 n q t = true) : boundHolds lam d0 d1 n q t' = true := by
  induction hle with
  | refl => exact h
  | step _ ih => exact bound_mono _ _ _ _ _ _ ih

/-- The cleared-denominator inequality is the rational soundness bound
`2·(1 − d/2)^t + n/q ≤ 2^(−lam)` with `d = d0/d1`. -/
theorem boundHolds_iff_rat (lam d0 d1 n q t : Nat) (hd : d0 ≤ 2 * d1) (hd1 : 0 < d1) (hq : 0 < q) :
    boundHolds lam d0 d1 n q t = true ↔
      (2 : ℚ) * (1 - ((d0 : ℚ) / d1) / 2) ^ t + (n : ℚ) / q ≤ 1 / 2 ^ lam := by
  have hd1' : (0 : ℚ) < 2 * d1 := mul_pos two_pos (Nat.cast_pos.2 hd1)
  have hBq : (0 : ℚ) < (2 * (d1 : ℚ)) ^ t * q := mul_pos (pow_pos hd1' t) (Nat.cast_pos.2 hq)
  have e1 : 1 - ((d0 : ℚ) / d1) / 2 = (2 * d1 - d0) / (2 * d1) := by
    rw [div_div, mul_comm, sub_div' hd1'.ne', one_mul]
  -- one fraction on each side, then cross-multiply
  rw [boundHolds_iff, ← Nat.cast_le (α := ℚ), e1, div_pow, mul_div_assoc',
    div_add_div _ _ (left_ne_zero_of_mul hBq.ne') (right_ne_zero_of_mul hBq.ne'),
    div_le_div_iff₀ hBq (pow_pos two_pos lam), one_mul]
  push_cast [Nat.cast_sub hd]
  rw [add_mul, mul_assoc _ (n : ℚ), mul_comm 2 (_ ^ t), mul_assoc, mul_assoc]

theorem findFrom_eq_find? (p : Nat → Bool) (fuel s : Nat) :
    findFrom p fuel s = (List.range' s fuel).find? p := by
  induction fuel generalizing s with
  | zero => rfl
  | succ fuel ih =>
    rw [findFrom, List.range'_succ, List.find?_cons, ih]
    cases p s <;> rfl

theorem findFrom_eq_some_iff {p : Nat → Bool} {fuel t : Nat} :
    findFrom p fuel 0 = some t ↔ p t = true ∧ t < fuel ∧ ∀ k, k < t → p k = false := by
  rw [findFrom_eq_find?, ← List.range_eq_range', List.find?_range_eq_some, List.mem_range]
  simp only [Bool.not_eq_eq_eq_not, Bool.not_true]

theorem findFrom_eq_none_iff {p : Nat → Bool} {fuel : Nat} :
    findFrom p fuel 0 = none ↔ ∀ k, k < fuel → p k = false := by
  rw [findFrom_eq_find?, ← List.range_eq_range', List.find?_range_eq_none]
  simp only [Bool.not_eq_eq_eq_not, Bool.not_true]

theorem findFrom_getD_least (p : Nat → Bool) (b d : Nat) (hb : p b = true) :
    p ((findFrom p (b + 1) 0).getD d) = true ∧
      ∀ k, k < (findFrom p (b + 1) 0).getD d → p k = false := by
  cases hf : findFrom p (b + 1) 0 with
  | none => exact absurd hb (Bool.eq_false_iff.1 (findFrom_eq_none_iff.1 hf b (Nat.lt_succ_self b)))
  | some s => exact ⟨(findFrom_eq_some_iff.1 hf).1, (findFrom_eq_some_iff.1 hf).2.2⟩

/-- failing one step earlier is enough, by monotonicity -/
theorem tLeast_of_boundary (hcap : t ≤ tCap lam d1 q)
    (hb : boundHolds lam d0 d1 n q t = true)
    (hprev : t = 0 ∨ boundHolds lam d0 d1 n q (t - 1) = false) :
    tLeast lam d0 d1 n q = some t := by
  refine findFrom_eq_some_iff.2 ⟨hb, Nat.lt_succ_of_le hcap, fun k hk => ?_⟩
  rcases hprev with rfl | hp
  · cases hk
  · exact Bool.eq_false_iff.2 fun hbk =>
      Bool.false_ne_true (hp.symm.trans (bound_mono_le (Nat.le_sub_one_of_lt hk) hbk))

/-- `(m+1)^k·m ≥ m^k·(m+k)` (Bernoulli, cleared of the division) -/
theorem bernoulli_nat (m k : Nat) : m ^ k * (m + k) ≤ (m + 1) ^ k * m := by
  induction k with
  | zero => exact Nat.le_refl _
  | succ k ih =>
    calc m ^ (k + 1) * (m + (k + 1)) = m ^ k * (m * (m + k + 1)) := Nat.mul_assoc _ _ _
      _ ≤ m ^ k * ((m + 1) * (m + k)) := by
          refine Nat.mul_le_mul_left _ ?_
          rw [Nat.mul_succ, Nat.succ_mul]
          exact Nat.add_le_add_left (Nat.le_add_right m k) _
      _ = (m + 1) * (m ^ k * (m + k)) := Nat.mul_left_comm _ _ _
      _ ≤ (m + 1) * ((m + 1) ^ k * m) := Nat.mul_le_mul_left _ ih
      _ = (m + 1) ^ (k + 1) * m := by rw [← Nat.mul_assoc, ← Nat.pow_succ']

/-- for `1 ≤ a < b`: `b^((b−1)·k) ≥ a^((b−1)·k) · 2^k`, since `(m+1)^m ≥ m^m·2` for `m = b − 1` -/
theorem pow_gap {a b : Nat} (k : Nat) (hab : a < b) (hb1 : 1 < b) :
    a ^ ((b - 1) * k) * 2 ^ k ≤ b ^ ((b - 1) * k) := by
  obtain ⟨m, rfl⟩ : ∃ m, b = m + 1 := ⟨b - 1, (Nat.sub_add_cancel (Nat.le_of_lt hb1)).symm⟩
  rw [Nat.add_sub_cancel]
  have h2 : m ^ m * 2 ≤ (m + 1) ^ m := by
    refine Nat.le_of_mul_le_mul_right ?_ (Nat.lt_of_succ_lt_succ hb1)
    rw [Nat.mul_assoc, Nat.two_mul]
    exact bernoulli_nat m m
  calc a ^ (m * k) * 2 ^ k = (a ^ m * 2) ^ k := by rw [Nat.mul_pow, Nat.pow_mul]
    _ ≤ (m ^ m * 2) ^ k :=
        Nat.pow_le_pow_left
          (Nat.mul_le_mul_right 2 (Nat.pow_le_pow_left (Nat.le_of_lt_succ hab) m)) k
    _ ≤ ((m + 1) ^ m) ^ k := Nat.pow_le_pow_left h2 k
    _ = (m + 1) ^ (m * k) := (Nat.pow_mul ..).symm

/-- a bound that holds for some `t` leaves the residual `n/q` strictly below `2^(−lam)`: its first
term is positive -/
theorem residual_lt_of_bound (hd : d0 < 2 * d1) (hq : 0 < q)
    (h : boundHolds lam d0 d1 n q t = true) : n * 2 ^ lam < q :=
  have hAX : 0 < (2 * d1 - d0) ^ t * (2 * (q * 2 ^ lam)) :=
    Nat.mul_pos (Nat.pow_pos (Nat.sub_pos_of_lt hd))
      (Nat.mul_pos Nat.two_pos (Nat.mul_pos hq (Nat.two_pow_pos lam)))
  Nat.lt_of_mul_lt_mul_left
    (Nat.lt_of_lt_of_le (Nat.lt_add_of_pos_left hAX) (boundHolds_iff.1 h))

/-- Conversely, if the residual is strictly below `2^(−lam)` the bound holds after
`T = (2d1−1)·(lam + log₂q + 2)` openings: by `pow_gap` the first term `2·(1 − d/2)^T` is at most
`1/(q·2^lam)`, and the gap `2^(−lam) − n/q` is at least that. -/
theorem bound_of_residual_lt (hd0 : 0 < d0) (hd : d0 < 2 * d1)
    (hres : n * 2 ^ lam < q) :
    boundHolds lam d0 d1 n q ((2 * d1 - 1) * (lam + Nat.log2 q + 2)) = true := by
  have hq2 : 2 * (q * 2 ^ lam) ≤ 2 ^ (lam + Nat.log2 q + 2) :=
    calc 2 * (q * 2 ^ lam) ≤ 2 * (2 ^ (Nat.log2 q + 1) * 2 ^ lam) :=
          Nat.mul_le_mul_left _ (Nat.mul_le_mul_right _ Nat.lt_log2_self.le)
      _ = 2 ^ (lam + Nat.log2 q + 2) := by
          rw [← Nat.pow_add, ← Nat.pow_succ', Nat.add_right_comm, Nat.add_comm _ lam]
  exact boundHolds_iff.2 (bound_of_gap hq2
    (pow_gap _ (Nat.sub_lt (Nat.lt_of_le_of_lt (Nat.zero_le _) hd) hd0) (Nat.lt_of_le_of_lt hd0 hd))
    hres)

/-- **The search cap is justified.** -/
theorem bound_at_cap (hd0 : 0 < d0) (hd : d0 < 2 * d1) (hq : 0 < q)
    (h : boundHolds lam d0 d1 n q t = true) :
    boundHolds lam d0 d1 n q (tCap lam d1 q) = true :=
  bound_mono_le (Nat.mul_le_mul_right _ (Nat.sub_le _ 1))
    (bound_of_residual_lt hd0 hd (residual_lt_of_bound hd hq h))

theorem tLeast_eq_some_iff (hd0 : 0 < d0) (hd : d0 < 2 * d1) (hq : 0 < q) :
    tLeast lam d0 d1 n q = some t ↔
      boundHolds lam d0 d1 n q t = true ∧ ∀ k, k < t → boundHolds lam d0 d1 n q k = false := by
  refine findFrom_eq_some_iff.trans ⟨fun ⟨hb, _, hl⟩ => ⟨hb, hl⟩, fun ⟨hb, hl⟩ => ⟨hb, ?_, hl⟩⟩
  -- `t` is within the cap: the bound holds there, and fails everywhere below `t`
  exact Nat.lt_succ_of_le (Nat.le_of_not_lt fun hlt =>
    Bool.false_ne_true ((hl _ hlt).symm.trans (bound_at_cap hd0 hd hq hb)))

theorem tLeast_eq_none_iff (hd0 : 0 < d0) (hd : d0 < 2 * d1) (hq : 0 < q) :
    tLeast lam d0 d1 n q = none ↔ ∀ t, boundHolds lam d0 d1 n q t = false := by
  refine findFrom_eq_none_iff.trans ⟨fun h t => Bool.eq_false_iff.2 fun hb => ?_, fun h k _ => h k⟩
  exact Bool.false_ne_true ((h _ (Nat.lt_succ_self _)).symm.trans (bound_at_cap hd0 hd hq hb))

theorem noneCert_iff :
    noneCert lam d0 d1 n q = true ↔
      0 < d1 ∧ (q < n * 2 ^ lam ∨ 0 < q ∧ (d0 = 0 ∨ d0 < 2 * d1 ∧ q ≤ n * 2 ^ lam)) := by
  simp only [noneCert, Bool.and_eq_true, Bool.or_eq_true, decide_eq_true_eq]

/-- If the residual `n/q` alone is `≥ 2^(−lam)` (or the distance is `0`) no `t` satisfies the
bound. -/
theorem noneCert_sound (h : noneCert lam d0 d1 n q = true) (t : Nat) :
    boundHolds lam d0 d1 n q t = false := by
  rw [Bool.eq_false_iff]
  intro hb
  obtain ⟨hd1, hlt | ⟨hq, rfl | ⟨hd, hle⟩⟩⟩ := noneCert_iff.1 h
  · have hB : 0 < (2 * d1) ^ t := Nat.pow_pos (Nat.mul_pos Nat.two_pos hd1)
    exact Nat.lt_irrefl _ (Nat.lt_of_lt_of_le (Nat.mul_lt_mul_of_pos_left hlt hB)
      (Nat.le_trans (Nat.le_add_left _ _) (boundHolds_iff.1 hb)))
  · have hb := boundHolds_iff.1 hb
    rw [Nat.sub_zero, ← Nat.mul_add] at hb
    have h1 := Nat.le_of_mul_le_mul_left hb (Nat.pow_pos (Nat.mul_pos Nat.two_pos hd1))
    have h2 : q ≤ q * 2 ^ lam := Nat.le_mul_of_pos_right q (Nat.two_pow_pos lam)
    omega
  · exact Nat.lt_irrefl _ (Nat.lt_of_lt_of_le (residual_lt_of_bound hd hq hb) hle)

theorem certified_sound {c : Nat}
    (h : certified (boundHolds lam d0 d1 n q) (tCap lam d1 q) c = true) :
    tLeast lam d0 d1 n q = some c := by
  unfold certified at h
  simp only [Bool.and_eq_true, Bool.or_eq_true, beq_iff_eq, Bool.not_eq_true',
    decide_eq_true_eq] at h
  exact tLeast_of_boundary h.1.1 h.1.2 h.2

theorem tLeastFast_eq (lam d0 d1 n q hint : Nat) :
    tLeastFast lam d0 d1 n q hint = tLeast lam d0 d1 n q := by
  unfold tLeastFast
  by_cases h1 : noneCert lam d0 d1 n q = true
  · rw [if_pos h1]
    exact (findFrom_eq_none_iff.2 fun k _ => noneCert_sound h1 k).symm
  · rw [if_neg h1]
    by_cases h2 : (decide (hint ≤ hintLimit) &&
        certified (boundHolds lam d0 d1 n q) (tCap lam d1 q) hint) = true
    · rw [if_pos h2]
      exact (certified_sound (Bool.and_eq_true_iff.1 h2).2).symm
    · rw [if_neg h2]
      dsimp only
      split
      · next h => exact (certified_sound h).symm
      · rfl

theorem capAt_eq_min (n t : Nat) : capAt n t = min t n := by
  unfold capAt
  split
  · next h => exact (Nat.min_eq_left (Nat.le_of_lt h)).symm
  · next h => exact (Nat.min_eq_right (Nat.le_of_not_lt h)).symm

theorem tSpec_eq_some_iff {r : Nat} (hd0 : 0 < d0) (hd : d0 < 2 * d1) (hq : 0 < q) :
    tSpec lam d0 d1 n q = some r ↔
      ∃ t, r = min t n ∧ boundHolds lam d0 d1 n q t = true ∧
        ∀ k, k < t → boundHolds lam d0 d1 n q k = false := by
  unfold tSpec
  simp only [Option.map_eq_some_iff, tLeast_eq_some_iff hd0 hd hq, capAt_eq_min]
  exact ⟨fun ⟨t, ht, hr⟩ => ⟨t, hr.symm, ht⟩, fun ⟨t, hr, ht⟩ => ⟨t, ht, hr.symm⟩⟩

theorem tSpec_eq_none_iff (hd0 : 0 < d0) (hd : d0 < 2 * d1) (hq : 0 < q) :
    tSpec lam d0 d1 n q = none ↔ ∀ t, boundHolds lam d0 d1 n q t = false := by
  rw [tSpec, Option.map_eq_none_iff, tLeast_eq_none_iff hd0 hd hq]

theorem tSpec_isSome_iff (hd0 : 0 < d0) (hd : d0 < 2 * d1) (hq : 0 < q) :
    (tSpec lam d0 d1 n q).isSome = true ↔ n * 2 ^ lam < q := by
  constructor
  · intro h
    obtain ⟨r, hr⟩ := Option.isSome_iff_exists.1 h
    obtain ⟨t, _, hb, _⟩ := (tSpec_eq_some_iff hd0 hd hq).1 hr
    exact residual_lt_of_bound hd hq hb
  · intro h
    rw [← Option.ne_none_iff_isSome, Ne, tSpec_eq_none_iff hd0 hd hq]
    exact fun hall => Bool.false_ne_true ((hall _).symm.trans (bound_of_residual_lt hd0 hd h))

theorem cappedCert_sound (h : cappedCert lam d0 d1 n q = true) :
    tSpec lam d0 d1 n q = some n := by
  unfold cappedCert distanceUsable at h
  simp only [Bool.and_eq_true, decide_eq_true_eq, Bool.not_eq_true'] at h
  obtain ⟨⟨⟨⟨⟨_, ⟨⟨hd1, hd0⟩, hd⟩⟩, hq⟩, _⟩, hnone⟩, hb⟩ := h
  have hres : n * 2 ^ lam < q := Nat.lt_of_not_le fun hle =>
    Bool.false_ne_true (hnone.symm.trans (noneCert_iff.2 ⟨hd1, Or.inr ⟨hq, Or.inr ⟨hd, hle⟩⟩⟩))
  obtain ⟨r, hs⟩ := Option.isSome_iff_exists.1 ((tSpec_isSome_iff hd0 hd hq).2 hres)
  obtain ⟨t, hr, hbt, _⟩ := (tSpec_eq_some_iff hd0 hd hq).1 hs
  have hge : n ≤ t := Nat.le_of_not_lt fun hlt =>
    Bool.false_ne_true (hb.symm.trans (bound_mono_le (Nat.le_sub_one_of_lt hlt) hbt))
  rw [hs, hr, Nat.min_eq_right hge]

theorem tSpecFast_eq (lam d0 d1 n q hint : Nat) :
    tSpecFast lam d0 d1 n q hint = tSpec lam d0 d1 n q := by
  unfold tSpecFast
  split
  · next h => exact (cappedCert_sound (Bool.and_eq_true_iff.1 h).2).symm
  · rw [tLeastFast_eq, tSpec]

theorem calcT_eq (lam d0 d1 n q hint : Nat) :
    calcT lam d0 d1 n q hint =
      if distanceUsable d0 d1 then
        match tSpec lam d0 d1 n q with
        | some t => .ok t
        | none => .error .invalidParameters
      else .error .invalidParameters := by
  unfold calcT
  rw [tSpecFast_eq]
  rfl

theorem indexOfBytes_lt (n : Nat) (hn : 0 < n) (bytes : List Nat) : indexOfBytes n bytes < n :=
  Nat.mod_lt _ hn

theorem getIndices_lt (n : Nat) (hn : 0 < n) (sq : List (List Nat)) :
    ∀ i ∈ getIndices n sq, i < n := by
  intro i hi
  obtain ⟨b, _, rfl⟩ := List.mem_map.1 hi
  exact indexOfBytes_lt n hn b

theorem getIndices_length (n : Nat) (sq : List (List Nat)) :
    (getIndices n sq).length = sq.length :=
  List.length_map _

end LinCode
end PCV
