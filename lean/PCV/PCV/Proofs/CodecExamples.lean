/-
  PCV.Proofs.CodecExamples — fixed example data for the non-vacuity examples of Props/C12.lean:
  a copy of the schema of `kzg10::VerifierKey` as it is today, toy field codecs, a consistent
  record, and mutants of the schema.  (Deliberately NOT the generated schema: a legitimate change of
  the Rust struct must not break examples.)
-/
import PCV.Proofs.Codec

namespace PCV.Ex
open PCV PCV.Codec PCV.Schema

/-- the shape of `kzg10::VerifierKey` -/
def vkSchema : Schema where
  fields := [("g", "E::G1Affine"), ("gamma_g", "E::G1Affine"), ("h", "E::G2Affine"),
    ("beta_h", "E::G2Affine"), ("prepared_h", "E::G2Prepared"), ("prepared_beta_h", "E::G2Prepared")]
  written := ["g", "gamma_g", "h", "beta_h"]
  read := [⟨"g", "g", "E::G1Affine", false⟩, ⟨"gamma_g", "gamma_g", "E::G1Affine", false⟩,
    ⟨"h", "h", "E::G2Affine", false⟩, ⟨"beta_h", "beta_h", "E::G2Affine", false⟩]
  sized := ["g", "gamma_g", "h", "beta_h"]
  checked := ["g", "gamma_g", "h", "beta_h"]
  inspected := []
  prepared := [("prepared_h", "h"), ("prepared_beta_h", "beta_h")]

def fc2 : String → Codec (List Nat) := fun _ => raw 2
def prep2 : String → List Nat → List Nat := fun _ v => v.map (· + 100)
/-- a verifier key whose prepared fields are consistent -/
def vk0 : Rec (List Nat) :=
  [("g", [1, 2]), ("gamma_g", [3, 4]), ("h", [5, 6]), ("beta_h", [7, 8]),
   ("prepared_h", [105, 106]), ("prepared_beta_h", [107, 108])]

theorem vk0_wf : vkSchema.WF (fun _ v => v.length = 2) prep2 vk0 := by
  unfold Schema.WF
  decide +kernel

/-- mutant 1: the deserializer reads `gamma_g` before `g` -/
def vkSwapped : Schema :=
  { vkSchema with
    read := [⟨"gamma_g", "gamma_g", "E::G1Affine", false⟩, ⟨"g", "g", "E::G1Affine", false⟩,
             ⟨"h", "h", "E::G2Affine", false⟩, ⟨"beta_h", "beta_h", "E::G2Affine", false⟩] }
/-- mutant 2: `serialized_size` forgets `beta_h` -/
def vkShortSize : Schema := { vkSchema with sized := ["g", "gamma_g", "h"] }
/-- mutant 3: `prepared_beta_h` is rebuilt from `h` -/
def vkWrongPrep : Schema :=
  { vkSchema with prepared := [("prepared_h", "h"), ("prepared_beta_h", "h")] }
/-- mutant 4: a field is not written at all -/
def vkDropped : Schema :=
  { vkSchema with written := ["g", "gamma_g", "h"], sized := ["g", "gamma_g", "h"] }
/-- mutant 5: `Valid::check` skips `beta_h` -/
def vkUnchecked : Schema := { vkSchema with checked := ["g", "gamma_g", "h"] }

end PCV.Ex
