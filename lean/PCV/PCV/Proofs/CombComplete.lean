/-
  PCV.Proofs.CombComplete — the `Combinations` iterator enumerates EVERY sorted length-`k`
  sub-multiset of its input (all inputs): each `next` moves to the lexicographic successor among
  the selections of the sorted data, the first output is the minimum, the iterator stops only at the
  maximum, and `2^|original|` steps of fuel are never exhausted.
-/
import PCV.Proofs.CombInv
import Mathlib.Data.List.Sublists

namespace PCV
namespace Comb

theorem pw_le {a b : List Nat} (h : List.Forall₂ (· ≤ ·) a b) : a ≤ b := by
  rw [← not_lt]
  induction h with
  | nil => exact lt_irrefl _
  | cons hxy _ ih =>
    rw [List.cons_lt_cons_iff]
    rintro (h | ⟨_, h⟩)
    · exact Nat.not_lt.2 hxy h
    · exact ih h

theorem append_lt_of_lt {a b : List Nat} (x y : List Nat) (hlen : a.length = b.length)
    (h : a < b) : a ++ x < b ++ y := by
  induction h with
  | nil => cases hlen
  | rel h => exact List.Lex.rel h
  | cons _ ih => exact List.Lex.cons (ih (Nat.succ.inj hlen))

theorem append_le_append_left (a : List Nat) {x y : List Nat} (h : x ≤ y) : a ++ x ≤ a ++ y := by
  induction a with
  | nil => exact h
  | cons p a ih => exact List.cons_le_cons p ih

theorem lt_of_append_lt (a : List Nat) {x y : List Nat} (h : a ++ x < a ++ y) : x < y :=
  lt_of_not_ge (fun hle => not_le.2 h (append_le_append_left a hle))

theorem incr_count {l : List Nat} {a n : Nat} (han : a ≤ n) (hpw : l.Pairwise (· < ·))
    (h : ∀ x ∈ l, a ≤ x ∧ x < n) : a + l.length ≤ n := by
  induction l generalizing a with
  | nil => exact han
  | cons x l ih =>
    obtain ⟨hx, hl⟩ := List.pairwise_cons.1 hpw
    have h1 := h x List.mem_cons_self
    have := ih (a := x + 1) h1.2 hl (fun y hy => ⟨hx y hy, (h y (List.mem_cons_of_mem _ hy)).2⟩)
    rw [Nat.add_right_comm] at this
    exact Nat.le_trans (Nat.add_le_add_right h1.1 _) this

theorem pw_lower {orig : List Nat} (hs : orig.Pairwise (· ≤ ·)) {l : List Nat} (b : Nat)
    (hpw : l.Pairwise (· < ·)) (h : ∀ x ∈ l, b ≤ x ∧ x < orig.length) :
    List.Forall₂ (· ≤ ·) ((List.range' b l.length).map (fun n => getD' orig n 0))
      (l.map (fun n => getD' orig n 0)) := by
  induction l generalizing b with
  | nil => exact List.Forall₂.nil
  | cons x l ih =>
    obtain ⟨hx, hl⟩ := List.pairwise_cons.1 hpw
    have h1 := h x List.mem_cons_self
    simp only [List.length_cons, List.range'_succ, List.map_cons]
    refine List.Forall₂.cons (sorted_mono hs h1.1 h1.2) ?_
    exact ih (b + 1) hl (fun y hy =>
      ⟨Nat.lt_of_le_of_lt h1.1 (hx y hy), (h y (List.mem_cons_of_mem _ hy)).2⟩)

theorem pw_upper {orig : List Nat} (hs : orig.Pairwise (· ≤ ·)) {l : List Nat}
    (hpw : l.Pairwise (· < ·)) (h : ∀ x ∈ l, x < orig.length) :
    List.Forall₂ (· ≤ ·) (l.map (fun n => getD' orig n 0))
      ((List.range' (orig.length - l.length) l.length).map (fun n => getD' orig n 0)) := by
  induction l with
  | nil => exact List.Forall₂.nil
  | cons x l ih =>
    obtain ⟨hx, hl⟩ := List.pairwise_cons.1 hpw
    have hcnt := incr_count (h x List.mem_cons_self) hl
      (fun y hy => ⟨hx y hy, h y (List.mem_cons_of_mem _ hy)⟩)
    have hlen : l.length < orig.length :=
      Nat.lt_of_lt_of_le (Nat.lt_add_of_pos_left (Nat.succ_pos x)) hcnt
    rw [Nat.succ_add] at hcnt
    rw [List.length_cons, range'_back hlen]
    exact List.Forall₂.cons
      (sorted_mono hs (Nat.le_sub_of_add_le hcnt)
        (Nat.sub_lt (Nat.zero_lt_of_lt hlen) (Nat.succ_pos _)))
      (ih hl (fun y hy => h y (List.mem_cons_of_mem _ hy)))

theorem min_le {orig : List Nat} (hs : orig.Pairwise (· ≤ ·)) {k : Nat} {w : List Nat}
    (hw : Good orig k w) : (List.range k).map (fun n => getD' orig n 0) ≤ w := by
  obtain ⟨q, hq1, hq2, hq3, rfl⟩ := hw
  have := pw_lower hs 0 hq1 (fun x hx => ⟨Nat.zero_le _, hq2 x hx⟩)
  rw [hq3] at this
  rw [List.range_eq_range']
  exact pw_le this

/-- **Successor.** No selection lies strictly between two consecutive outputs. -/
theorem gap {c : Comb} (hinv : Inv c) {pre : List Nat} {lastpos : Nat} {suf : List Nat} {j : Nat}
    (d : Step c pre lastpos suf j) {w : List Nat} (hw : Good c.original c.len w)
    (hlt : c.insert < w) :
    ({ c with position := pre ++ List.range' j (suf.length + 1) } : Comb).insert ≤ w := by
  obtain ⟨q, hq1, hq2, hq3, rfl⟩ := hw
  have hqlen : q.length = pre.length + (suf.length + 1) := by
    rw [hq3, ← hinv.posLen, d.hpos, List.length_append, List.length_cons]
  obtain ⟨qpre, qt, qsuf, rfl, hqprelen⟩ := exists_split q pre.length
    (hqlen ▸ Nat.lt_add_of_pos_right (Nat.succ_pos _))
  rw [List.length_append, List.length_cons, hqprelen] at hqlen
  have hqsuflen : qsuf.length = suf.length := Nat.succ.inj (Nat.add_left_cancel hqlen)
  have hprelen : (pre.map (val c)).length = (qpre.map (val c)).length := by
    rw [List.length_map, List.length_map, hqprelen]
  have hqpw := List.pairwise_append.1 hq1
  obtain ⟨hqt, hqsufpw⟩ := List.pairwise_cons.1 hqpw.2.1
  have hqR : ∀ x ∈ qt :: qsuf, x < c.original.length := fun x hx =>
    hq2 x (List.mem_append_right _ hx)
  simp only [insert, d.hpos, List.map_append, List.map_cons] at hlt ⊢
  rcases lt_trichotomy (pre.map (val c)) (qpre.map (val c)) with hA | hA | hA
  · exact le_of_lt (append_lt_of_lt _ _ hprelen hA)
  · rw [← hA] at hlt ⊢
    have hrest := List.cons_lt_cons_iff.1 (lt_of_append_lt _ hlt)
    -- the tail of the competitor cannot exceed the (maximal) tail of the current output
    have hup := pw_upper hinv.sorted hqsufpw
      (fun x hx => hqR x (List.mem_cons_of_mem _ hx))
    rw [hqsuflen] at hup
    have htail : qsuf.map (val c) ≤ suf.map (val c) := (pw_le hup).trans (pw_le d.hsuf)
    have hv : val c lastpos < val c qt := hrest.elim id (fun h => absurd h.2 (not_lt.2 htail))
    -- so the competitor's entry sits at or after `j`, the first index with a larger value
    have hlastR : lastpos < c.original.length :=
      Nat.lt_trans d.hlt (Nat.lt_of_le_of_lt (Nat.le_add_right _ _) d.hfit)
    have hqtj : j ≤ qt := Nat.le_of_not_lt (fun hcon => by
      rcases Nat.lt_or_ge lastpos qt with h | h
      · exact d.hfirst qt h hcon hv
      · exact Nat.not_le.2 hv (sorted_mono hinv.sorted h hlastR))
    have hlow := pw_lower hinv.sorted j hqpw.2.1
      (fun x hx => ⟨(List.mem_cons.1 hx).elim (fun h => h ▸ hqtj)
        (fun h => Nat.le_trans hqtj (Nat.le_of_lt (hqt x h))), hqR x hx⟩)
    simp only [List.length_cons, hqsuflen, List.map_cons] at hlow
    exact append_le_append_left _ (pw_le hlow)
  · exact absurd hlt (lt_asymm (append_lt_of_lt _ _ hprelen.symm hA))

/-- **Maximum.** When a started iterator returns `None`, its last output is above every
selection. -/
theorem max_ge {c : Comb} (hinv : Inv c) (hst : c.started = true) {c' : Comb}
    (h : c.next = (none, c')) {w : List Nat} (hw : Good c.original c.len w) : w ≤ c.insert := by
  obtain ⟨q, hq1, hq2, hq3, rfl⟩ := hw
  have h2 := pw_upper hinv.sorted hq1 hq2
  rw [hq3] at h2
  exact (pw_le h2).trans (pw_le (next_none hinv hst h))

theorem collect_complete (f : Nat) {c : Comb} (hinv : Inv c) (hst : c.started = true)
    (hfuel : (collect f c).length < f) {w : List Nat} (hw : Good c.original c.len w)
    (hlt : c.insert < w) : w ∈ collect f c := by
  induction f generalizing c with
  | zero => simp at hfuel
  | succ f ih =>
    simp only [collect] at hfuel ⊢
    cases hn : c.next with
    | mk o c' =>
      cases o with
      | none => exact absurd hlt (not_lt.2 (max_ge hinv hst hn hw))
      | some v =>
        obtain ⟨pre, lastpos, suf, j, d, rfl, rfl⟩ := next_some hinv hst hn
        simp only [hn] at hfuel ⊢
        rcases eq_or_lt_of_le (gap hinv d hw hlt) with heq | hlt'
        · rw [heq]; exact List.mem_cons_self
        · exact List.mem_cons_of_mem _
            (ih (d.inv hinv) hst (Nat.lt_of_succ_lt_succ hfuel) hw hlt')

/-- **Every selection is produced.** Whenever `Combinations::new(original, k)` does not panic,
every sorted length-`k` sub-multiset of the input (every length-`k` sublist of the sorted input)
is among the collected outputs; together with `combinations_spec` the outputs are exactly those,
each once. -/
theorem combinations_complete (original : List Nat) (k : Nat) (outs : List (List Nat))
    (h : combinations original k = .ok outs) :
    ∀ w, List.Sublist w (sortNat original) → w.length = k → w ∈ outs := by
  intro w hsub hwk
  have hgood : Good (sortNat original) k w := good_iff_sublist.2 ⟨hsub, hwk⟩
  have hspec := combinations_spec original k outs h
  obtain ⟨c, hc, houts⟩ := combinations_new h
  obtain ⟨hinv, _, horig, hlen, hpos0⟩ := inv_new hc
  have hk1 : 1 ≤ k := by rw [← hlen]; exact hinv.lenPos
  -- fuel: the outputs are distinct non-empty sublists of the sorted input
  have hlenlt : outs.length < 2 ^ original.length := by
    have hsubset : ([] : List Nat) :: outs ⊆ (sortNat original).sublists := by
      intro v hv
      rw [List.mem_sublists]
      rcases List.mem_cons.1 hv with rfl | hv
      · exact List.nil_sublist _
      · exact (good_iff_sublist.1 (hspec.2.2 v hv).1).1
    have hnd : (([] : List Nat) :: outs).Nodup := by
      refine List.nodup_cons.2 ⟨fun hmem => ?_, hspec.2.1⟩
      exact Nat.not_succ_le_zero 0 (le_of_le_of_eq hk1 (hspec.2.2 [] hmem).2.2.1.symm)
    have := hnd.length_le_of_subset hsubset
    rwa [List.length_sublists, (sortNat_perm original).length_eq] at this
  rw [houts] at hlenlt ⊢
  have hfirst : c.insert = (List.range k).map (fun n => getD' (sortNat original) n 0) := by
    rw [insert, hpos0, horig]
  have hmin := min_le (sortNat_sorted original) hgood
  rw [← hfirst] at hmin
  rw [← horig, ← hlen] at hgood
  rcases eq_or_lt_of_le hmin with heq | hlt
  · rw [heq]; exact List.mem_cons_self
  · exact List.mem_cons_of_mem _
      (collect_complete _ hinv.start rfl (Nat.lt_sub_of_add_lt hlenlt) hgood hlt)

theorem combinations_ok (original : List Nat) (k : Nat) (h : k < original.length) (hk : 1 ≤ k) :
    ∃ outs, combinations original k = .ok outs := by
  unfold combinations Comb.new
  rw [if_pos ⟨h, hk⟩]
  exact ⟨_, rfl⟩

theorem mem_combinations {original : List Nat} {k : Nat} {outs : List (List Nat)}
    (h : combinations original k = .ok outs) {m : List Nat} :
    m ∈ outs ↔ List.Sublist m (sortNat original) ∧ m.length = k :=
  ⟨fun hm => good_iff_sublist.1 ((combinations_spec original k outs h).2.2 m hm).1,
    fun hm => combinations_complete original k outs h m hm.1 hm.2⟩

end Comb
end PCV
