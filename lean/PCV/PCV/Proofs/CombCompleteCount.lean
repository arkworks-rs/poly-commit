/-
  PCV.Proofs.CombCompleteCount — the number of monomials: `specTerms n D` has `C(n+D, D)` entries,
  for all `n`, `D` (stars and bars through `Nat.multichoose`).
-/
import PCV.Proofs.Combinations
import Mathlib.Data.Nat.Choose.Basic
import Mathlib.Data.Sym.Card

namespace PCV
namespace C15Spec

theorem sum_multichoose (c k : Nat) :
    ((List.range (k + 1)).map (fun j => Nat.multichoose c j)).sum = Nat.multichoose (c + 1) k := by
  induction k with
  | zero => simp
  | succ k ih =>
    rw [List.range_succ, List.map_append, List.sum_append, ih, Nat.multichoose_succ_succ,
      List.map_singleton, List.sum_singleton, Nat.add_comm]

theorem reverse_range_map (F : Nat → Nat) (k : Nat) :
    ((List.range (k + 1)).reverse.map (fun e => F (k - e))) = (List.range (k + 1)).map F := by
  rw [List.range_eq_range', List.reverse_range', List.map_map, ← List.range_eq_range']
  refine List.map_congr_left (fun i hi => ?_)
  simp only [Function.comp, Nat.zero_add, Nat.add_sub_cancel,
    Nat.sub_sub_self (Nat.le_of_lt_succ (List.mem_range.1 hi))]

theorem termsExact_length (c lo k : Nat) : (termsExact c lo k).length = Nat.multichoose c k := by
  induction c generalizing lo k with
  | zero => cases k <;> simp [termsExact]
  | succ c ih =>
    simp only [termsExact, List.length_flatMap, List.length_map, ih]
    rw [reverse_range_map (fun j => Nat.multichoose c j) k, sum_multichoose]

/-- degree `D + 1` adds `C(n+D, D+1)` monomials (Pascal) -/
theorem specTerms_length (n D : Nat) : (specTerms n D).length = Nat.choose (n + D) D := by
  induction D with
  | zero => simp [specTerms]
  | succ D ih =>
    have : (specTerms n (D + 1)).length
        = (specTerms n D).length + (termsExact n 0 (D + 1)).length := by
      simp only [specTerms, List.range'_concat, List.flatMap_append, List.length_append,
        List.flatMap_singleton, List.length_singleton, Nat.one_mul, Nat.add_comm 1 D]
      exact Nat.add_right_comm _ _ _
    rw [this, ih, termsExact_length, Nat.multichoose_eq, show n + (D + 1) - 1 = n + D from rfl,
      ← Nat.add_assoc, Nat.choose_succ_succ]

end C15Spec
end PCV
