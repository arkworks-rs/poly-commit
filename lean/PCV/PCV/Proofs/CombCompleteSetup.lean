/-
  PCV.Proofs.CombCompleteSetup — `MarlinPST13::setup` builds, for ALL `num_vars ≥ 1`, exactly the
  specification list `specTerms`, order included.  The multisets of one degree come from the
  `Combinations` iterator, whose outputs are strictly increasing (`CombInv`) and complete
  (`CombComplete`); the `expand`ed monomials of `termsExact`, in their order, are strictly
  increasing with the same members, so the two lists coincide; and the map multiset ↦ `P::Term`
  undoes `expand`.
-/
import PCV.Proofs.CombComplete
import PCV.Proofs.Combinations
import PCV.Proofs.PST13

namespace PCV
namespace Comb
open PCV.MV PCV.C15Spec

theorem mem_variableSet (nv D x : Nat) (h : x ∈ variableSet nv D) : x < nv := by
  simp only [variableSet, List.mem_flatMap, List.mem_range] at h
  obtain ⟨v, hv, hx⟩ := h
  rw [List.eq_of_mem_replicate hx]; exact hv

theorem variableSet_sorted (nv D : Nat) : (variableSet nv D).Pairwise (· ≤ ·) := by
  unfold variableSet
  rw [List.pairwise_flatMap]
  refine ⟨fun a _ => ?_, ?_⟩
  · exact List.pairwise_replicate.2 (Or.inr (Nat.le_refl _))
  · refine List.pairwise_lt_range.imp (fun {a b} hab x hx y hy => ?_)
    rw [List.eq_of_mem_replicate hx, List.eq_of_mem_replicate hy]; exact Nat.le_of_lt hab

theorem variableSet_length (nv D : Nat) : (variableSet nv D).length = nv * D := by
  unfold variableSet
  induction nv with
  | zero => simp
  | succ n ih =>
    rw [List.range_succ, List.flatMap_append, List.length_append, ih]
    simp [Nat.succ_mul]

theorem wf_filter_map (l : List Nat) (c : Nat → Nat) (hl : l.Pairwise (· < ·)) :
    Term.wf ((l.map (fun v => (v, c v))).filter (fun q => q.2 != 0)) = true := by
  rw [PST.Term.wf_iff]
  refine ⟨fun q hq => ?_, ?_⟩
  · simp only [List.mem_filter] at hq
    simpa using hq.2
  · refine List.Pairwise.sublist List.filter_sublist ?_
    rw [List.pairwise_map]
    exact hl

/-- on that list `SparseTerm::new` has nothing to do but drop the zero counts -/
theorem termOfMultiset_eq (nv : Nat) (m : List Nat) :
    termOfMultiset nv m
      = ((List.range nv).map (fun v => (v, m.count v))).filter (fun q => q.2 != 0) := by
  have hwf := wf_filter_map (List.range nv) (fun v => m.count v) List.pairwise_lt_range
  have h2 := Term.retainNonzero_of_wf hwf
  have h3 := Term.new_of_wf hwf
  unfold termOfMultiset
  unfold Term.new at h3 ⊢
  simp only [h2] at h3
  exact h3

theorem count_expand {c lo k : Nat} {t : Term} (ht : t ∈ termsExact c lo k) :
    ((List.range' lo c).map (fun v => (v, (expand t).count v))).filter (fun q => q.2 != 0) = t := by
  induction c generalizing lo k t with
  | zero =>
    cases k with
    | zero => rw [List.mem_singleton.1 ht]; rfl
    | succ k => cases ht
  | succ c ih =>
    simp only [termsExact, List.mem_flatMap, List.mem_reverse, List.mem_range, List.mem_map] at ht
    obtain ⟨e, _, t', ht', rfl⟩ := ht
    have hlo : (expand t').count lo = 0 := List.count_eq_zero.2 (fun hm =>
      Nat.lt_irrefl lo (bounds_of_mem_multisets (List.mem_map_of_mem ht') lo hm).1)
    have htail :
        (List.range' (lo + 1) c).map (fun v => (v, (List.replicate e lo ++ expand t').count v))
          = (List.range' (lo + 1) c).map (fun v => (v, (expand t').count v)) :=
      List.map_congr_left (fun v hv => by
        have : lo ≠ v := Nat.ne_of_lt (List.mem_range'_1.1 hv).1
        simp [List.count_append, List.count_replicate, this])
    rw [List.range'_succ, List.map_cons, List.filter_cons, expand_consPow, htail, ih ht']
    simp [List.count_append, hlo, consPow]

theorem eq_of_pairwise_lt {l₁ l₂ : List (List Nat)} (h₁ : l₁.Pairwise (· < ·))
    (h₂ : l₂.Pairwise (· < ·)) (h : ∀ m, m ∈ l₁ ↔ m ∈ l₂) : l₁ = l₂ :=
  List.Perm.eq_of_pairwise (fun _ _ _ _ hab hba => absurd hab (lt_asymm hba)) h₁ h₂
    ((List.perm_ext_iff_of_nodup (h₁.imp ne_of_lt) (h₂.imp ne_of_lt)).2 h)

theorem degreeMultisets_eq {nv D k : Nat} (hnv : 1 ≤ nv) (hk1 : 1 ≤ k) (hkD : k ≤ D) :
    degreeMultisets nv D k = .ok (multisets nv 0 k) := by
  have hmem : ∀ {m}, m.Sublist (variableSet nv D) ∧ m.length = k ↔ m ∈ multisets nv 0 k := by
    intro m; rw [mem_multisets hkD, variableSet, List.range_eq_range']
  unfold degreeMultisets
  simp only
  split
  · rename_i heq
    congr 1
    refine eq_of_pairwise_lt (List.pairwise_singleton _ _) (multisets_pairwise nv 0 k) (fun m => ?_)
    rw [← hmem, List.mem_singleton]
    exact ⟨fun h => by subst h; exact ⟨List.Sublist.refl _, heq⟩,
      fun h => h.1.eq_of_length (by rw [h.2, heq])⟩
  · rename_i hne
    have hgt : (variableSet nv D).length > k := by
      rw [variableSet_length] at hne ⊢
      exact Nat.lt_of_le_of_ne (Nat.le_trans hkD (Nat.le_mul_of_pos_left D hnv)) (Ne.symm hne)
    obtain ⟨outs, hcomb⟩ := combinations_ok (variableSet nv D) k hgt hk1
    rw [hcomb]
    congr 1
    refine eq_of_pairwise_lt (combinations_spec _ k outs hcomb).1 (multisets_pairwise nv 0 k)
      (fun m => ?_)
    rw [mem_combinations hcomb, sortNat_of_sorted _ (variableSet_sorted nv D), ← hmem]

theorem multisetsFrom_eq {nv D : Nat} (hnv : 1 ≤ nv) {cnt start : Nat} (hs : 1 ≤ start)
    (he : start + cnt ≤ D + 1) :
    multisetsFrom nv D cnt start = .ok ((List.range' start cnt).flatMap (multisets nv 0)) := by
  induction cnt generalizing start with
  | zero => rfl
  | succ cnt ih =>
    have he' : start + 1 + cnt ≤ D + 1 :=
      Nat.le_trans (Nat.le_of_eq (Nat.succ_add_eq_add_succ _ _)) he
    simp only [multisetsFrom, ih (Nat.le_add_left 1 start) he', List.range'_succ,
      degreeMultisets_eq hnv hs
        (Nat.le_of_succ_le_succ (Nat.le_trans (Nat.le_add_right _ cnt) he')),
      List.flatMap_cons]

theorem termOfMultiset_multisets (nv k : Nat) :
    (multisets nv 0 k).map (termOfMultiset nv) = termsExact nv 0 k := by
  rw [multisets, List.map_map]
  refine (List.map_congr_left (fun t ht => ?_)).trans (List.map_id _)
  rw [Function.comp_apply, termOfMultiset_eq, List.range_eq_range']
  exact count_expand ht

/-- **`setup` builds the specification list, in its order**, every `num_vars ≥ 1`, every
`max_degree`. -/
theorem setupTerms_eq_specTerms (nv D : Nat) (hnv : 1 ≤ nv) :
    setupTerms nv D = .ok (specTerms nv D) := by
  simp only [setupTerms, setupMultisets, specTerms, List.map_flatMap, termOfMultiset_multisets,
    multisetsFrom_eq hnv (Nat.le_refl 1) (Nat.le_of_eq (Nat.add_comm 1 D))]
  rfl

/-- `setup`'s term list has no duplicates and contains exactly the monomials (`SparseTerm::new`
results) in variables `< nv` of total degree `≤ D`. -/
theorem setupTerms_general (nv D : Nat) (hnv : 1 ≤ nv) :
    ∃ l, setupTerms nv D = .ok l ∧ l.Nodup ∧
      ∀ t, t ∈ l ↔ (Term.wf t = true ∧ Term.varsBelow nv t = true ∧ Term.degree t ≤ D) :=
  ⟨_, setupTerms_eq_specTerms nv D hnv, nodup_specTerms nv D, mem_specTerms nv D⟩

end Comb
end PCV
