/-
  PCV.Proofs.CombInv — the `Combinations` iterator model, for all inputs: every iterator state
  reached from `Combinations::new` is valid (sorted data, strictly increasing in-range positions,
  so no index of the Rust code is out of bounds), each `next` yields a lexicographically larger
  vector, and every output is a sorted selection of `len` entries of the input (`good_iff_sublist`:
  the selections are the sublists of the sorted input).  The code of `next` is analysed once
  (`next_some`: a `Step` on the position vector; `next_none`); validity and monotonicity here,
  successor and maximum in `CombComplete`, are read off that description.
-/
import PCV.Model.Combinations
import PCV.Proofs.GetD
import Mathlib.Data.List.Lex
import Mathlib.Data.List.Sort

namespace PCV
namespace Comb

theorem getD'_append_left {α} (a b : List α) (k : Nat) (d : α) (h : k < a.length) :
    getD' (a ++ b) k d = getD' a k d :=
  PCV.getD'_append_left a b k d h

theorem sorted_mono {orig : List Nat} (hs : orig.Pairwise (· ≤ ·)) {i j : Nat} (hij : i ≤ j)
    (hj : j < orig.length) : getD' orig i 0 ≤ getD' orig j 0 := by
  have hi := Nat.lt_of_le_of_lt hij hj
  rw [getD'_lt orig i 0 hi, getD'_lt orig j 0 hj]
  rcases Nat.lt_or_eq_of_le hij with h | h
  · exact (List.pairwise_iff_getElem.1 hs) i j hi hj h
  · subst h; exact Nat.le_refl _

theorem getD'_split {c : Comb} {pre : List Nat} {a : Nat} {suf : List Nat}
    (hlen : c.position.length = c.len) (hpos : c.position = pre ++ a :: suf) :
    getD' c.position (c.len - (suf.length + 1)) 0 = a := by
  rw [← hlen, hpos, List.length_append, List.length_cons, Nat.add_sub_cancel]
  simp [getD']

theorem exists_split (l : List Nat) (n : Nat) (h : n < l.length) :
    ∃ pre a suf, l = pre ++ a :: suf ∧ pre.length = n :=
  ⟨l.take n, l[n], l.drop (n + 1), by rw [← List.drop_eq_getElem_cons h, List.take_append_drop],
    by rw [List.length_take, Nat.min_eq_left (Nat.le_of_lt h)]⟩

theorem range'_back {N s : Nat} (h : s < N) :
    List.range' (N - (s + 1)) (s + 1) = (N - (s + 1)) :: List.range' (N - s) s := by
  rw [List.range'_succ, show N - (s + 1) + 1 = N - s from
    Nat.succ_pred_eq_of_pos (Nat.sub_pos_of_lt h)]

/-- the step of each loop below (`skipEqual`, `findGreater`, `resetLoop`) past an index -/
theorem of_succ_le (P : Nat → Prop) {a t : Nat} (ha : P a) (hat : a ≤ t) (h : a + 1 ≤ t → P t) :
    P t :=
  (Nat.lt_or_eq_of_le hat).elim h (fun g => g ▸ ha)

theorem skipEqual_spec (orig : List Nat) (cur : Nat) (fuel i e : Nat) (hie : i < e)
    (hel : e < orig.length) (he : getD' orig e 0 ≠ cur) (hf : e - i ≤ fuel) :
    i < skipEqual orig cur fuel i ∧ skipEqual orig cur fuel i ≤ e
      ∧ getD' orig (skipEqual orig cur fuel i) 0 ≠ cur
      ∧ ∀ x, i < x → x < skipEqual orig cur fuel i → getD' orig x 0 = cur := by
  induction fuel generalizing i with
  | zero => exact absurd (Nat.sub_pos_of_lt hie) (Nat.not_lt.2 hf)
  | succ f ih =>
    -- the loop's test reads `orig[i + 1]`, in range since `i + 1 ≤ e`
    have hread : orig[i + 1]? = some (getD' orig (i + 1) 0) := by
      simp [getD', Nat.lt_of_le_of_lt hie hel]
    rw [skipEqual, hread]
    by_cases heq : getD' orig (i + 1) 0 = cur
    · rw [if_pos (congrArg some heq)]
      have hne : i + 1 ≠ e := fun h => he (h ▸ heq)
      obtain ⟨h1, h2, h3, h4⟩ := ih (i + 1) (Nat.lt_of_le_of_ne hie hne) (Nat.pred_le_pred hf)
      exact ⟨Nat.lt_of_succ_lt h1, h2, h3,
        fun x hx1 hx2 => of_succ_le (getD' orig · 0 = cur) heq hx1 (fun h => h4 x h hx2)⟩
    · rw [if_neg (fun h => heq (Option.some.inj h))]
      exact ⟨Nat.lt_succ_self i, hie, heq, fun x hx1 hx2 => absurd hx2 (Nat.not_lt.2 hx1)⟩

theorem findGreater_spec (orig : List Nat) (val fuel j0 : Nat) :
    (∀ j, findGreater orig val fuel j0 = some j →
      j0 ≤ j ∧ j < j0 + fuel ∧ val < getD' orig j 0 ∧
        ∀ t, j0 ≤ t → t < j → ¬ val < getD' orig t 0) ∧
    (findGreater orig val fuel j0 = none →
      ∀ t, j0 ≤ t → t < j0 + fuel → ¬ val < getD' orig t 0) := by
  induction fuel generalizing j0 with
  | zero => exact ⟨fun _ h => (nomatch h), fun _ t h1 h2 => absurd h2 (Nat.not_lt.2 h1)⟩
  | succ f ih =>
    rw [findGreater]
    by_cases hv : val < getD' orig j0 0
    · rw [if_pos hv]
      refine ⟨fun j h => ?_, fun h => (nomatch h)⟩
      obtain rfl := Option.some.inj h
      exact ⟨Nat.le_refl _, Nat.lt_add_of_pos_right (Nat.succ_pos f), hv,
        fun t h1 h2 => absurd h2 (Nat.not_lt.2 h1)⟩
    · rw [if_neg hv]
      obtain ⟨ih1, ih2⟩ := ih (j0 + 1)
      rw [Nat.succ_add_eq_add_succ j0 f] at ih1 ih2
      refine ⟨fun j h => ?_, fun h t g1 g2 => of_succ_le (¬ val < getD' orig · 0) hv g1 (fun g => ih2 h t g g2)⟩
      obtain ⟨h1, h2, h3, h4⟩ := ih1 j h
      exact ⟨Nat.le_of_succ_le h1, h2, h3,
        fun t g1 g2 => of_succ_le (¬ val < getD' orig · 0) hv g1 (fun g => h4 t g g2)⟩

theorem setRun_append (pre blk : List Nat) (j i : Nat) (h : i ≤ blk.length) :
    setRun (pre ++ blk) pre.length j i = pre ++ ((List.range i).map (j + ·) ++ blk.drop i) := by
  induction i with
  | zero => simp [setRun]
  | succ i ih =>
    have hd : blk.drop i = blk[i] :: blk.drop (i + 1) := List.drop_eq_getElem_cons h
    simp only [setRun]
    rw [ih (Nat.le_of_succ_le h), List.set_append_right _ _ (Nat.le_add_right _ _)]
    congr 1
    rw [List.set_append_right _ _ (by simp)]
    simp only [List.length_map, List.length_range, Nat.add_sub_cancel_left, Nat.sub_self]
    rw [hd, List.range_succ]
    simp only [List.set_cons_zero, List.map_append, List.map_cons, List.map_nil, List.append_assoc,
      List.singleton_append]

theorem setRun_block (pre blk : List Nat) (j : Nat) :
    setRun (pre ++ blk) pre.length j blk.length = pre ++ List.range' j blk.length := by
  rw [setRun_append pre blk j blk.length (Nat.le_refl _), List.drop_length, List.append_nil,
    List.range'_eq_map_range]

abbrev val (c : Comb) (x : Nat) : Nat := getD' c.original x 0

/-- the test of the reset loop at `i`: the `i`-th position from the back can still be raised -/
def cond (c : Comb) (i : Nat) : Prop :=
  val c (getD' c.position (c.len - i) 0) < val c (c.original.length - i)

/-- the search of the reset loop at `i` -/
def fg (c : Comb) (i : Nat) : Option Nat :=
  findGreater c.original (val c (getD' c.position (c.len - i) 0))
    (c.original.length - (getD' c.position (c.len - i) 0 + 1)) (getD' c.position (c.len - i) 0 + 1)

instance (c : Comb) (i : Nat) : Decidable (cond c i) := inferInstanceAs (Decidable (_ < _))

theorem resetLoop_succ (c : Comb) (f i : Nat) :
    resetLoop c (f + 1) i =
      if cond c i then
        match fg c i with
        | some j => some (setRun c.position (c.len - i) j i)
        | none => resetLoop c f (i + 1)
      else resetLoop c f (i + 1) := rfl

structure Inv (c : Comb) : Prop where
  sorted : c.original.Pairwise (· ≤ ·)
  posLen : c.position.length = c.len
  lenPos : 1 ≤ c.len
  lenLt : c.len < c.original.length
  incr : c.position.Pairwise (· < ·)
  inRange : ∀ i ∈ c.position, i < c.original.length

theorem cond_bound {c : Comb} (hinv : Inv c) {i : Nat} (hi1 : 1 ≤ i) (hc : cond c i) :
    getD' c.position (c.len - i) 0 < c.original.length - i := by
  have hidx : c.len - i < c.position.length := hinv.posLen.symm ▸ Nat.sub_lt hinv.lenPos hi1
  have hlp := hinv.inRange _ (getD'_mem c.position _ 0 hidx)
  exact Nat.lt_of_not_le (fun hcon =>
    Nat.not_le.2 hc (sorted_mono hinv.sorted hcon hlp))

theorem fg_some_of_cond {c : Comb} (hinv : Inv c) {i : Nat} (hi1 : 1 ≤ i) (hc : cond c i) :
    fg c i ≠ none := by
  have hbound := cond_bound hinv hi1 hc
  unfold cond at hc
  unfold fg
  generalize getD' c.position (c.len - i) 0 = p at hbound hc ⊢
  -- the index `|original| - i` the test compared with is within the range searched
  have hN : p + 1 ≤ c.original.length := Nat.le_trans hbound (Nat.sub_le _ _)
  exact fun hnone => (findGreater_spec _ _ _ _).2 hnone (c.original.length - i) hbound
    (by rw [Nat.add_sub_cancel' hN]; exact Nat.sub_lt (Nat.lt_of_lt_of_le (Nat.succ_pos _) hN) hi1)
    hc

theorem resetLoop_spec {c : Comb} (hinv : Inv c) (fuel i0 n : Nat) (hi0 : 1 ≤ i0)
    (hn : i0 + fuel = n + 1) :
    (∀ pos', resetLoop c fuel i0 = some pos' →
      ∃ i j, i0 ≤ i ∧ i ≤ n ∧ cond c i ∧ fg c i = some j ∧
        pos' = setRun c.position (c.len - i) j i ∧ ∀ i', i0 ≤ i' → i' < i → ¬ cond c i') ∧
    (resetLoop c fuel i0 = none → ∀ i', i0 ≤ i' → i' ≤ n → ¬ cond c i') := by
  induction fuel generalizing i0 with
  | zero =>
    exact ⟨fun _ h => (nomatch h), fun _ i' h1 h2 =>
      absurd (Nat.le_trans (Nat.le_of_eq hn.symm) (Nat.le_trans h1 h2)) (Nat.not_succ_le_self n)⟩
  | succ f ih =>
    have hle : i0 ≤ n := Nat.succ.inj hn ▸ Nat.le_add_right i0 f
    rw [resetLoop_succ]
    by_cases hc : cond c i0
    · rw [if_pos hc]
      cases hfg : fg c i0 with
      | none => exact absurd hfg (fg_some_of_cond hinv hi0 hc)
      | some j =>
        exact ⟨fun pos' h => ⟨i0, j, Nat.le_refl _, hle, hc, hfg, (Option.some.inj h).symm,
          fun i' h1 h2 => absurd h2 (Nat.not_lt.2 h1)⟩, fun h => nomatch h⟩
    · rw [if_neg hc]
      obtain ⟨ih1, ih2⟩ := ih (i0 + 1) (Nat.le_succ_of_le hi0)
        ((Nat.succ_add_eq_add_succ i0 f).trans hn)
      refine ⟨fun pos' h => ?_,
        fun h i' g1 g2 => of_succ_le (¬ cond c ·) hc g1 (fun g => ih2 h i' g g2)⟩
      obtain ⟨i, j, h1, h2, h3, h4, h5, h6⟩ := ih1 pos' h
      exact ⟨i, j, Nat.le_of_succ_le h1, h2, h3, h4, h5,
        fun i' g1 g2 => of_succ_le (¬ cond c ·) hc g1 (fun g => h6 i' g g2)⟩

theorem resetLoop_next {c : Comb} (hinv : Inv c) :
    (∀ pos', resetLoop c (c.len - 1) 2 = some pos' →
      ∃ i j, 2 ≤ i ∧ i ≤ c.len ∧ cond c i ∧ fg c i = some j ∧
        pos' = setRun c.position (c.len - i) j i ∧ ∀ i', 2 ≤ i' → i' < i → ¬ cond c i') ∧
    (resetLoop c (c.len - 1) 2 = none → ∀ i', 2 ≤ i' → i' ≤ c.len → ¬ cond c i') :=
  resetLoop_spec hinv (c.len - 1) 2 c.len (Nat.le_succ 1)
    ((Nat.add_comm 2 _).trans (congrArg Nat.succ (Nat.sub_add_cancel hinv.lenPos)))

theorem not_cond_of_back (c : Comb) (hback : backAtMax c = true) (n : Nat)
    (h : ∀ i, 2 ≤ i → i ≤ n → ¬ cond c i) : ∀ i, 1 ≤ i → i ≤ n → ¬ cond c i := by
  have h1 : ¬ cond c 1 := fun hc => Nat.ne_of_lt hc (of_decide_eq_true hback)
  exact fun i g1 g2 => of_succ_le (¬ cond c ·) h1 g1 (fun g => h i g g2)

theorem tail_at_max {c : Comb} (pre suf : List Nat) (hpos : c.position = pre ++ suf)
    (hlen : c.position.length = c.len) (hN : suf.length ≤ c.original.length)
    (h : ∀ i, 1 ≤ i → i ≤ suf.length → ¬ cond c i) :
    List.Forall₂ (· ≤ ·)
      ((List.range' (c.original.length - suf.length) suf.length).map (val c))
      (suf.map (val c)) := by
  induction suf generalizing pre with
  | nil => exact List.Forall₂.nil
  | cons a s ih =>
    rw [List.length_cons, range'_back hN]
    refine List.Forall₂.cons ?_ (ih (pre ++ [a]) (hpos.trans (List.append_cons _ _ _))
      (Nat.le_of_succ_le hN) (fun i h1 h2 => h i h1 (Nat.le_succ_of_le h2)))
    have := h (s.length + 1) (Nat.succ_le_succ (Nat.zero_le _)) (Nat.le_refl _)
    unfold cond at this
    rw [getD'_split hlen hpos] at this
    exact not_lt.1 this

/-- What a successful `next` of a started iterator does: the position vector is
`pre ++ lastpos :: suf`; every position of `suf` already carries the largest value it can
(`hsuf`); `lastpos` moves to `j`, the first index with a larger value, and the rest follows
consecutively: the new vector is `pre ++ [j, j+1, …, j+|suf|]`. -/
structure Step (c : Comb) (pre : List Nat) (lastpos : Nat) (suf : List Nat) (j : Nat) : Prop where
  hpos : c.position = pre ++ lastpos :: suf
  hlt : lastpos < j
  hfit : j + suf.length < c.original.length
  hval : val c lastpos < val c j
  hfirst : ∀ x, lastpos < x → x < j → ¬ val c lastpos < val c x
  hsuf : List.Forall₂ (· ≤ ·)
    ((List.range' (c.original.length - suf.length) suf.length).map (val c)) (suf.map (val c))

theorem bump_step {c : Comb} (hinv : Inv c) (hback : backAtMax c = false) :
    ∃ pre last j, Step c pre last [] j ∧ bump c = pre ++ [j] := by
  have hposLen := hinv.posLen
  obtain ⟨pre, last, hpos⟩ : ∃ pre last, c.position = pre ++ [last] :=
    (List.eq_nil_or_concat' c.position).resolve_left
      (List.ne_nil_of_length_pos (hposLen ▸ hinv.lenPos))
  have hlast : getD' c.position (c.len - 1) 0 = last :=
    getD'_split (suf := []) hposLen hpos
  have hpre : c.len - 1 = pre.length := by rw [← hposLen, hpos, List.length_append]; rfl
  have hlastR : last < c.original.length :=
    hinv.inRange last (hpos ▸ List.mem_append_right pre (List.mem_singleton_self last))
  have hne : val c last ≠ val c (c.original.length - 1) := by
    rw [← hlast]; exact of_decide_eq_false hback
  have hlt1 : last < c.original.length - 1 :=
    Nat.lt_of_le_of_ne (Nat.le_sub_one_of_lt hlastR) (fun h => hne (h ▸ rfl))
  have hmax : c.original.length - 1 < c.original.length :=
    Nat.sub_lt (Nat.zero_lt_of_lt hlastR) Nat.one_pos
  obtain ⟨hs1, hs2, hs3, hs4⟩ := skipEqual_spec c.original (val c last) c.original.length last
    (c.original.length - 1) hlt1 hmax (Ne.symm hne) (Nat.le_trans (Nat.sub_le _ _) (Nat.sub_le _ _))
  have hbump : bump c = pre ++ [skipEqual c.original (val c last) c.original.length last] := by
    unfold bump
    simp only [hlast]
    rw [hpos, hpre, List.set_append_right _ _ (Nat.le_refl _), Nat.sub_self]
    rfl
  generalize skipEqual c.original (val c last) c.original.length last = r at *
  have hrR : r < c.original.length := Nat.lt_of_le_of_lt hs2 hmax
  refine ⟨pre, last, r, ⟨hpos, hs1, hrR, ?_, fun x hx1 hx2 => ?_, List.Forall₂.nil⟩, hbump⟩
  · exact Nat.lt_of_le_of_ne (sorted_mono hinv.sorted (Nat.le_of_lt hs1) hrR) (Ne.symm hs3)
  · exact fun h => Nat.ne_of_lt h (hs4 x hx1 hx2).symm

theorem reset_step {c : Comb} (hinv : Inv c) (hback : backAtMax c = true) {pos' : List Nat}
    (h : resetLoop c (c.len - 1) 2 = some pos') :
    ∃ pre lastpos suf j, Step c pre lastpos suf j ∧
      pos' = pre ++ List.range' j (suf.length + 1) := by
  obtain ⟨i, j, hi2, hi, hcond, hfg, rfl, hskip⟩ := (resetLoop_next hinv).1 pos' h
  have hbound := cond_bound hinv (Nat.le_of_succ_le hi2) hcond
  have hposLen := hinv.posLen
  obtain ⟨pre, lastpos, suf, hsplit, hprelen⟩ := exists_split c.position (c.len - i)
    (hposLen.symm ▸ Nat.sub_lt hinv.lenPos (Nat.lt_of_succ_lt hi2))
  have hsuflen : suf.length + 1 = i := by
    have := congrArg List.length hsplit
    rw [List.length_append, List.length_cons, hposLen, hprelen] at this
    exact Nat.add_left_cancel (this.symm.trans (Nat.sub_add_cancel hi).symm)
  subst hsuflen
  have hlp := getD'_split hposLen hsplit
  unfold cond at hcond
  unfold fg at hfg
  rw [hlp] at hcond hfg hbound
  obtain ⟨hj1, hj2, hjv, hjmin⟩ := (findGreater_spec _ _ _ _).1 j hfg
  have hjle : j ≤ c.original.length - (suf.length + 1) :=
    Nat.le_of_not_lt (fun hcon => hjmin _ hbound hcon hcond)
  have hN : suf.length + 1 ≤ c.original.length := Nat.le_of_lt (Nat.lt_of_le_of_lt hi hinv.lenLt)
  refine ⟨pre, lastpos, suf, j, ⟨hsplit, hj1, Nat.add_le_of_le_sub hN hjle, hjv,
    fun x hx1 hx2 => hjmin x hx1 hx2, ?_⟩, ?_⟩
  · exact tail_at_max (pre ++ [lastpos]) suf (hsplit.trans (List.append_cons _ _ _)) hposLen
      (Nat.le_of_succ_le hN)
      (not_cond_of_back c hback _ (fun i' h1 h2 => hskip i' h1 (Nat.lt_succ_of_le h2)))
  · rw [hsplit, ← hprelen]
    exact setRun_block pre (lastpos :: suf) j

theorem next_some {c : Comb} (hinv : Inv c) (hst : c.started = true) {v : List Nat} {c' : Comb}
    (h : c.next = (some v, c')) :
    ∃ pre lastpos suf j, Step c pre lastpos suf j ∧
      c' = { c with position := pre ++ List.range' j (suf.length + 1) } ∧ v = c'.insert := by
  unfold next at h
  simp only [hst, Bool.not_true, Bool.false_eq_true, if_false] at h
  split at h
  · rename_i hback
    split at h
    · rename_i pos' hreset
      obtain ⟨pre, lastpos, suf, j, d, rfl⟩ := reset_step hinv hback hreset
      injection h with h1 h2
      subst h2
      exact ⟨pre, lastpos, suf, j, d, by rw [hst], (Option.some.inj h1).symm⟩
    · cases h
  · rename_i hback
    obtain ⟨pre, last, j, d, hb⟩ := bump_step hinv (by simpa using hback)
    injection h with h1 h2
    subst h2
    exact ⟨pre, last, [], j, d, by rw [hb, hst]; rfl, (Option.some.inj h1).symm⟩

/-- **A started iterator returns `None`** only when every position carries the largest value it
can. -/
theorem next_none {c : Comb} (hinv : Inv c) (hst : c.started = true) {c' : Comb}
    (h : c.next = (none, c')) :
    List.Forall₂ (· ≤ ·)
      ((List.range' (c.original.length - c.len) c.len).map (val c)) c.insert := by
  have hposLen := hinv.posLen
  unfold next at h
  simp only [hst, Bool.not_true, Bool.false_eq_true, if_false] at h
  split at h
  · rename_i hback
    split at h
    · cases h
    · rename_i hnone
      have hskip := (resetLoop_next hinv).2 hnone
      have := tail_at_max [] c.position rfl hposLen (hposLen ▸ Nat.le_of_lt hinv.lenLt)
        (not_cond_of_back c hback _ (fun i h1 h2 => hskip i h1 (hposLen ▸ h2)))
      rwa [hposLen] at this
  · cases h

theorem Step.inv {c : Comb} {pre : List Nat} {lastpos : Nat} {suf : List Nat} {j : Nat}
    (d : Step c pre lastpos suf j) (hinv : Inv c) :
    Inv { c with position := pre ++ List.range' j (suf.length + 1) } := by
  have hpw := List.pairwise_append.1 (d.hpos ▸ hinv.incr)
  refine ⟨hinv.sorted, ?_, hinv.lenPos, hinv.lenLt, ?_, fun a ha => ?_⟩
  · show (pre ++ List.range' j (suf.length + 1)).length = c.len
    rw [List.length_append, List.length_range', ← hinv.posLen, d.hpos, List.length_append,
      List.length_cons]
  · refine List.pairwise_append.2 ⟨hpw.1, List.pairwise_lt_range', fun a ha b hb => ?_⟩
    exact Nat.lt_of_lt_of_le (Nat.lt_trans (hpw.2.2 a ha lastpos List.mem_cons_self) d.hlt)
      (List.mem_range'_1.1 hb).1
  · rcases List.mem_append.1 ha with ha | ha
    · exact hinv.inRange a (by rw [d.hpos]; exact List.mem_append_left _ ha)
    · exact Nat.lt_of_lt_of_le (List.mem_range'_1.1 ha).2 (Nat.succ_le_of_lt d.hfit)

theorem Step.lt {c : Comb} {pre : List Nat} {lastpos : Nat} {suf : List Nat} {j : Nat}
    (d : Step c pre lastpos suf j) :
    c.insert < ({ c with position := pre ++ List.range' j (suf.length + 1) } : Comb).insert := by
  simp only [insert, d.hpos, List.map_append, List.map_cons, List.range'_succ]
  exact List.append_left_lt (List.cons_lt_cons_iff.2 (Or.inl d.hval))

def Good (orig : List Nat) (k : Nat) (v : List Nat) : Prop :=
  ∃ pos : List Nat, pos.Pairwise (· < ·) ∧ (∀ i ∈ pos, i < orig.length) ∧ pos.length = k ∧
    v = pos.map (fun n => getD' orig n 0)

theorem good_insert (c : Comb) (h : Inv c) : Good c.original c.len c.insert :=
  ⟨c.position, h.incr, h.inRange, h.posLen, rfl⟩

theorem collect_started (f : Nat) {c : Comb} (hinv : Inv c) (hst : c.started = true) :
    (collect f c).Pairwise (· < ·) ∧
      ∀ v ∈ collect f c, c.insert < v ∧ Good c.original c.len v := by
  induction f generalizing c with
  | zero => simp [collect]
  | succ f ih =>
    simp only [collect]
    cases hn : c.next with
    | mk o c' =>
      cases o with
      | none => simp
      | some v =>
        obtain ⟨pre, lastpos, suf, j, d, rfl, rfl⟩ := next_some hinv hst hn
        obtain ⟨hpw, hall⟩ := ih (d.inv hinv) hst
        refine ⟨List.pairwise_cons.2 ⟨fun w hw => (hall w hw).1, hpw⟩, fun w hw => ?_⟩
        rcases List.mem_cons.1 hw with rfl | hw
        · exact ⟨d.lt, good_insert _ (d.inv hinv)⟩
        · exact ⟨lt_trans d.lt (hall w hw).1, (hall w hw).2⟩

/-- `sort_unstable` is modelled by insertion sort -/
theorem insertNat_eq (a : Nat) (l : List Nat) : insertNat a l = l.orderedInsert (· ≤ ·) a := by
  induction l with
  | nil => rfl
  | cons b l ih =>
    rw [insertNat, List.orderedInsert_cons, ih]
    by_cases h : a ≤ b
    · rw [if_pos h, if_neg (Nat.not_lt.2 h)]
    · rw [if_neg h, if_pos (Nat.lt_of_not_le h)]

theorem sortNat_eq (l : List Nat) : sortNat l = l.insertionSort (· ≤ ·) := by
  induction l with
  | nil => rfl
  | cons a l ih => rw [sortNat, ih, insertNat_eq, List.insertionSort_cons]

theorem sortNat_perm (l : List Nat) : (sortNat l).Perm l :=
  sortNat_eq l ▸ List.perm_insertionSort _ l

theorem sortNat_sorted (l : List Nat) : (sortNat l).Pairwise (· ≤ ·) :=
  sortNat_eq l ▸ List.pairwise_insertionSort _ l

theorem sortNat_of_sorted (l : List Nat) (h : l.Pairwise (· ≤ ·)) : sortNat l = l :=
  (sortNat_eq l).trans h.insertionSort_eq

theorem inv_new {original : List Nat} {len : Nat} {c : Comb} (h : Comb.new original len = .ok c) :
    Inv c ∧ c.started = false ∧ c.original = sortNat original ∧ c.len = len
      ∧ c.position = List.range len := by
  unfold Comb.new at h
  split at h
  · rename_i hc
    injection h with h
    subst h
    have hlen : (sortNat original).length = original.length := (sortNat_perm original).length_eq
    exact ⟨⟨sortNat_sorted original, List.length_range, hc.2, hlen.symm ▸ hc.1,
      List.pairwise_lt_range, fun i hi => hlen.symm ▸ Nat.lt_trans (List.mem_range.1 hi) hc.1⟩,
      rfl, rfl, rfl, rfl⟩
  · cases h

theorem collect_unstarted (f : Nat) (c : Comb) (hst : c.started = false) :
    collect (f + 1) c = c.insert :: collect f { c with started := true } := by
  simp only [collect, next, hst, Bool.not_false, if_true]
  rfl

theorem Inv.start {c : Comb} (h : Inv c) : Inv { c with started := true } :=
  ⟨h.sorted, h.posLen, h.lenPos, h.lenLt, h.incr, h.inRange⟩

theorem combinations_new {original : List Nat} {k : Nat} {outs : List (List Nat)}
    (h : combinations original k = .ok outs) :
    ∃ c, Comb.new original k = .ok c ∧
      outs = c.insert :: collect (2 ^ original.length - 1) { c with started := true } := by
  unfold combinations at h
  split at h
  · cases h
  · rename_i c hc
    refine ⟨c, hc, ?_⟩
    rw [← Except.ok.inj h, ← collect_unstarted _ c (inv_new hc).2.1,
      Nat.sub_add_cancel (Nat.two_pow_pos _)]

/-- strictly increasing in-range positions are a sublist of all positions `0, …, |orig|−1`, and
reading the entries is a `map` -/
theorem good_iff_sublist {orig : List Nat} {k : Nat} {v : List Nat} :
    Good orig k v ↔ List.Sublist v orig ∧ v.length = k := by
  constructor
  · rintro ⟨pos, h1, h2, h3, rfl⟩
    obtain ⟨l, hperm, hsub⟩ := List.subperm_of_subset (h1.imp ne_of_lt)
      (fun i hi => List.mem_range.2 (h2 i hi))
    obtain rfl : l = pos := hperm.eq_of_pairwise (fun _ _ _ _ hab hba => absurd hab (lt_asymm hba))
      (List.pairwise_lt_range.sublist hsub) h1
    exact ⟨by simpa only [map_getD'_range] using hsub.map (fun n => getD' orig n 0),
      by rw [List.length_map, h3]⟩
  · rintro ⟨hsub, rfl⟩
    rw [← map_getD'_range orig 0, List.sublist_map_iff] at hsub
    obtain ⟨pos, hpos, rfl⟩ := hsub
    exact ⟨pos, List.pairwise_lt_range.sublist hpos, fun i hi => List.mem_range.1 (hpos.subset hi),
      (List.length_map _).symm, rfl⟩

/-- **The `Combinations` iterator, all inputs.** Whenever `Combinations::new(original, k)` does
not panic, the collected outputs are strictly increasing in the lexicographic order (hence pairwise
distinct), and each output is a selection of `k` entries of the sorted input at strictly increasing
positions (a sub-multiset of the input), itself sorted. -/
theorem combinations_spec (original : List Nat) (k : Nat) (outs : List (List Nat))
    (h : combinations original k = .ok outs) :
    outs.Pairwise (· < ·) ∧ outs.Nodup ∧
      ∀ v ∈ outs, Comb.Good (sortNat original) k v ∧ v.Pairwise (· ≤ ·) ∧ v.length = k ∧
        ∀ x ∈ v, x ∈ original := by
  obtain ⟨c, hc, rfl⟩ := combinations_new h
  obtain ⟨hinv, _, horig, hlen, _⟩ := inv_new hc
  obtain ⟨hpw, hall⟩ := collect_started (2 ^ original.length - 1) hinv.start rfl
  have hpw' := List.pairwise_cons.2 ⟨fun w hw => (hall w hw).1, hpw⟩
  refine ⟨hpw', hpw'.imp ne_of_lt, fun v hv => ?_⟩
  have hgood : Good (sortNat original) k v := by
    rw [← horig, ← hlen]
    rcases List.mem_cons.1 hv with rfl | hv
    · exact good_insert c hinv
    · exact (hall v hv).2
  obtain ⟨hsub, hlen⟩ := good_iff_sublist.1 hgood
  exact ⟨hgood, (sortNat_sorted original).sublist hsub, hlen,
    fun x hx => (sortNat_perm original).mem_iff.1 (hsub.subset hx)⟩

end Comb
end PCV
