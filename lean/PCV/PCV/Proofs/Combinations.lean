/-
  PCV.Proofs.Combinations — the specification the multiset enumeration of `setup` is compared with:
  `specTerms nv D` lists, in the order `setup` produces them, the monomials of total degree `≤ D`
  in `nv` variables (as `SparseTerm::new` results).  Proved for all `nv`, `D`: it contains exactly
  those monomials, each once; and the multisets of its monomials (`multisets`: what the
  `Combinations` iterator is to produce) are the sub-multisets of the variables, in strictly
  increasing lexicographic order.
-/
import PCV.Model.Combinations
import PCV.Proofs.MVPoly
import Mathlib.Data.List.Lex
import Mathlib.Data.List.Nodup

namespace PCV
namespace C15Spec
open PCV.MV

def consPow (v e : Nat) (t : Term) : Term := if e = 0 then t else (v, e) :: t

/-- the monomials of total degree exactly `k` in the `c` variables `lo, …, lo+c−1`, highest power
of the lowest variable first (the order in which `Combinations` yields the multisets) -/
def termsExact : Nat → Nat → Nat → List Term
  | 0, _, 0 => [[]]
  | 0, _, _ + 1 => []
  | c + 1, lo, k =>
    ((List.range (k + 1)).reverse).flatMap (fun e => (termsExact c (lo + 1) (k - e)).map (consPow lo e))

def specTerms (nv D : Nat) : List Term :=
  (List.range' 1 D).flatMap (fun k => termsExact nv 0 k) ++ [[]]

def IsMono (lo hi k : Nat) (t : Term) : Prop :=
  Term.wf t = true ∧ Term.degree t = k ∧ ∀ q ∈ t, lo ≤ q.1 ∧ q.1 < hi

theorem Term.eq_nil_of_degree_zero {t : Term} (hwf : Term.wf t = true) (hd : Term.degree t = 0) :
    t = [] := by
  cases t with
  | nil => rfl
  | cons q t => exact absurd (Nat.eq_zero_of_add_eq_zero_right hd) (Term.wf_head_pos hwf)

theorem isMono_consPow {lo hi k' : Nat} {t' : Term} (e : Nat) (hlo : lo < hi)
    (h : IsMono (lo + 1) hi k' t') : IsMono lo hi (e + k') (consPow lo e t') := by
  obtain ⟨hwf, hd, hv⟩ := h
  have hv' : ∀ q ∈ t', lo ≤ q.1 ∧ q.1 < hi := fun q hq =>
    ⟨Nat.le_of_succ_le (hv q hq).1, (hv q hq).2⟩
  unfold consPow
  by_cases he : e = 0
  · rw [if_pos he, he, Nat.zero_add]; exact ⟨hwf, hd, hv'⟩
  · rw [if_neg he]
    refine ⟨Term.wf_cons he hwf (fun r hr => (hv r hr).1), by rw [Term.degree, hd],
      fun q hq => ?_⟩
    rcases List.mem_cons.1 hq with rfl | hq
    · exact ⟨Nat.le_refl _, hlo⟩
    · exact hv' q hq

theorem isMono_uncons {lo hi k : Nat} {t : Term} (h : IsMono lo hi k t) :
    ∃ e t', e ≤ k ∧ IsMono (lo + 1) hi (k - e) t' ∧ consPow lo e t' = t := by
  obtain ⟨hwf, hd, hv⟩ := h
  cases t with
  | nil => exact ⟨0, [], Nat.zero_le _, ⟨rfl, hd, fun q hq => nomatch hq⟩, rfl⟩
  | cons a t' =>
    have ha := hv a List.mem_cons_self
    have htl : ∀ q ∈ t', a.1 + 1 ≤ q.1 ∧ q.1 < hi := fun q hq =>
      ⟨Term.wf_head_lt hwf q hq, (hv q (List.mem_cons_of_mem _ hq)).2⟩
    by_cases hlo : a.1 = lo
    · obtain ⟨v, e⟩ := a
      subst hlo
      exact ⟨e, t', by rw [← hd]; exact Nat.le_add_right _ _,
        ⟨Term.wf_tail hwf, by rw [← hd, Term.degree, Nat.add_sub_cancel_left], htl⟩,
        if_neg (Term.wf_head_pos hwf)⟩
    · have hgt : lo + 1 ≤ a.1 := Nat.lt_of_le_of_ne ha.1 (Ne.symm hlo)
      refine ⟨0, a :: t', Nat.zero_le _, ⟨hwf, hd, fun q hq => ?_⟩, rfl⟩
      rcases List.mem_cons.1 hq with rfl | hq
      · exact ⟨hgt, ha.2⟩
      · exact ⟨Nat.le_trans hgt (Nat.le_of_succ_le (htl q hq).1), (htl q hq).2⟩

theorem mem_termsExact (c lo k : Nat) (t : Term) :
    t ∈ termsExact c lo k ↔ IsMono lo (lo + c) k t := by
  induction c generalizing lo k t with
  | zero =>
    have hnil : IsMono lo (lo + 0) k t → t = [] := fun ⟨_, _, h⟩ => by
      cases t with
      | nil => rfl
      | cons q t =>
        exact absurd (h q List.mem_cons_self).2 (Nat.not_lt.2 (h q List.mem_cons_self).1)
    cases k with
    | zero =>
      rw [termsExact, List.mem_singleton]
      exact ⟨fun h => h ▸ ⟨rfl, rfl, fun q hq => nomatch hq⟩, hnil⟩
    | succ k =>
      rw [termsExact]
      refine ⟨fun h => absurd h List.not_mem_nil, fun h => ?_⟩
      have := h.2.1
      rw [hnil h] at this
      cases this
  | succ c ih =>
    simp only [termsExact, List.mem_flatMap, List.mem_reverse, List.mem_range, List.mem_map, ih,
      Nat.succ_add_eq_add_succ lo c]
    constructor
    · rintro ⟨e, he, t', ht', rfl⟩
      have := isMono_consPow e (Nat.lt_add_of_pos_right (Nat.succ_pos c)) ht'
      rwa [Nat.add_sub_cancel' (Nat.le_of_lt_succ he)] at this
    · intro h
      obtain ⟨e, t', he, ht', rfl⟩ := isMono_uncons h
      exact ⟨e, Nat.lt_succ_of_le he, t', ht', rfl⟩

theorem find?_consPow {lo e : Nat} {t : Term} (h : ∀ q ∈ t, q.1 ≠ lo) :
    Term.find? lo (consPow lo e t) = if e = 0 then none else some e := by
  unfold consPow
  split
  · induction t with
    | nil => rfl
    | cons q t ih =>
      simp only [Term.find?]
      rw [if_neg (h q (by simp))]
      exact ih (fun r hr => h r (by simp [hr]))
  · simp [Term.find?]

theorem consPow_injective (lo e : Nat) : Function.Injective (consPow lo e) := by
  intro a b h
  unfold consPow at h
  split at h
  · exact h
  · exact List.tail_eq_of_cons_eq h

def expand : Term → List Nat
  | [] => []
  | q :: t => List.replicate q.2 q.1 ++ expand t

/-- the sorted multisets of `k` entries among the `c` variables `lo, …, lo+c−1` -/
def multisets (c lo k : Nat) : List (List Nat) := (termsExact c lo k).map expand

theorem expand_consPow (lo e : Nat) (t : Term) :
    expand (consPow lo e t) = List.replicate e lo ++ expand t := by
  unfold consPow
  split
  · rename_i h; subst h; rfl
  · rfl

theorem multisets_succ (c lo k : Nat) :
    multisets (c + 1) lo k = (List.range (k + 1)).reverse.flatMap
      (fun e => (multisets c (lo + 1) (k - e)).map (List.replicate e lo ++ ·)) := by
  simp only [multisets, termsExact, List.map_flatMap, List.map_map, Function.comp_def,
    expand_consPow]

theorem mem_multisets {D c lo k : Nat} (hk : k ≤ D) {m : List Nat} :
    m ∈ multisets c lo k ↔
      List.Sublist m ((List.range' lo c).flatMap (fun v => List.replicate D v)) ∧ m.length = k := by
  induction c generalizing lo k m with
  | zero =>
    cases k with
    | zero => simp [multisets, termsExact, expand]
    | succ k =>
      simp only [multisets, termsExact, List.map_nil, List.not_mem_nil, List.range'_zero,
        List.flatMap_nil, List.sublist_nil, false_iff]
      rintro ⟨rfl, h⟩; cases h
  | succ c ih =>
    simp only [multisets_succ, List.mem_flatMap, List.mem_reverse, List.mem_range, List.mem_map,
      List.range'_succ, List.flatMap_cons, List.sublist_append_iff, List.sublist_replicate_iff]
    constructor
    · rintro ⟨e, he, m', hm', rfl⟩
      have he := Nat.le_of_lt_succ he
      obtain ⟨hsub, hlen⟩ := (ih (Nat.le_trans (Nat.sub_le k e) hk)).1 hm'
      exact ⟨⟨_, m', rfl, ⟨e, Nat.le_trans he hk, rfl⟩, hsub⟩,
        by rw [List.length_append, List.length_replicate, hlen, Nat.add_sub_cancel' he]⟩
    · rintro ⟨⟨_, m', rfl, ⟨e, he, rfl⟩, hsub⟩, hlen⟩
      rw [List.length_append, List.length_replicate] at hlen
      exact ⟨e, Nat.lt_succ_of_le (hlen ▸ Nat.le_add_right e _), m',
        (ih (Nat.le_trans (Nat.sub_le k e) hk)).2 ⟨hsub, Nat.eq_sub_of_add_eq' hlen⟩, rfl⟩

theorem bounds_of_mem_multisets {c lo k : Nat} {m : List Nat} (hm : m ∈ multisets c lo k) :
    ∀ x ∈ m, lo ≤ x ∧ x < lo + c := by
  intro x hx
  have := ((mem_multisets (Nat.le_refl k)).1 hm).1.subset hx
  simp only [List.mem_flatMap, List.mem_range'_1] at this
  obtain ⟨v, hv, hh⟩ := this
  rw [List.eq_of_mem_replicate hh]
  exact hv

theorem length_of_mem_multisets {c lo k : Nat} {m : List Nat} (hm : m ∈ multisets c lo k) :
    m.length = k :=
  ((mem_multisets (Nat.le_refl k)).1 hm).2

theorem multisets_pairwise (c lo k : Nat) : (multisets c lo k).Pairwise (· < ·) := by
  induction c generalizing lo k with
  | zero => cases k <;> simp [multisets, termsExact]
  | succ c ih =>
    rw [multisets_succ, List.pairwise_flatMap]
    refine ⟨fun e _ => (List.pairwise_map.2 ((ih (lo + 1) (k - e)).imp List.append_left_lt)), ?_⟩
    rw [List.pairwise_reverse]
    refine List.pairwise_lt_range.imp_of_mem (fun {e₂ e₁} _ he₁ hlt x hx y hy => ?_)
    -- more copies of `lo` come first: `x` continues with `lo` where `y` continues above `lo`
    simp only [List.mem_map, List.mem_range] at hx hy he₁
    obtain ⟨a, _, rfl⟩ := hx
    obtain ⟨b, hb, rfl⟩ := hy
    have hlen := length_of_mem_multisets hb
    have he₂ : e₂ < k := Nat.lt_of_lt_of_le hlt (Nat.le_of_lt_succ he₁)
    obtain ⟨d, rfl⟩ : ∃ d, e₁ = e₂ + (d + 1) := Nat.exists_eq_add_of_lt hlt
    cases b with
    | nil => exact absurd hlen.symm (Nat.sub_ne_zero_of_lt he₂)
    | cons h b =>
      rw [List.replicate_add, List.append_assoc]
      exact List.append_left_lt (List.cons_lt_cons_iff.2
        (Or.inl (bounds_of_mem_multisets hb h List.mem_cons_self).1))

theorem nodup_termsExact (c lo k : Nat) : (termsExact c lo k).Nodup :=
  List.Nodup.of_map expand ((multisets_pairwise c lo k).imp ne_of_lt)

theorem mem_specTerms (nv D : Nat) (t : Term) :
    t ∈ specTerms nv D ↔ (Term.wf t = true ∧ Term.varsBelow nv t = true ∧ Term.degree t ≤ D) := by
  have hvb : Term.varsBelow nv t = true ↔ ∀ q ∈ t, 0 ≤ q.1 ∧ q.1 < 0 + nv := by
    simp only [Term.varsBelow, List.all_eq_true, decide_eq_true_eq, Nat.zero_le, true_and,
      Nat.zero_add]
  simp only [specTerms, List.mem_append, List.mem_flatMap, List.mem_range'_1, List.mem_singleton,
    mem_termsExact, IsMono]
  constructor
  · rintro (⟨k, hk, hwf, hd, hv⟩ | rfl)
    · exact ⟨hwf, hvb.2 hv, hd ▸ Nat.lt_one_add_iff.1 hk.2⟩
    · exact ⟨rfl, rfl, Nat.zero_le D⟩
  · rintro ⟨hwf, hv, hd⟩
    by_cases h0 : Term.degree t = 0
    · exact Or.inr (Term.eq_nil_of_degree_zero hwf h0)
    · exact Or.inl ⟨Term.degree t, ⟨Nat.pos_of_ne_zero h0, Nat.lt_one_add_iff.2 hd⟩, hwf, rfl,
        hvb.1 hv⟩

theorem nodup_specTerms (nv D : Nat) : (specTerms nv D).Nodup := by
  have hdeg : ∀ {k t}, t ∈ termsExact nv 0 k → Term.degree t = k := fun h =>
    ((mem_termsExact nv 0 _ _).1 h).2.1
  unfold specTerms
  rw [List.nodup_append]
  refine ⟨?_, List.nodup_singleton _, ?_⟩
  · rw [List.nodup_flatMap]
    refine ⟨fun k _ => nodup_termsExact nv 0 k, ?_⟩
    refine (List.Nodup.pairwise_of_forall_ne (List.nodup_range' 1 Nat.one_pos) ?_)
    intro k1 _ k2 _ hne
    rw [Function.onFun, List.disjoint_left]
    exact fun t h1 h2 => hne ((hdeg h1).symm.trans (hdeg h2))
  · intro a ha b hb hab
    rw [List.mem_singleton.1 hb] at hab
    simp only [List.mem_flatMap, List.mem_range'_1] at ha
    obtain ⟨k, hk, hm⟩ := ha
    have hk0 : Term.degree ([] : Term) = k := hdeg (hab ▸ hm)
    exact Nat.not_succ_le_zero 0 (le_of_le_of_eq hk.1 hk0.symm)

end C15Spec
end PCV
