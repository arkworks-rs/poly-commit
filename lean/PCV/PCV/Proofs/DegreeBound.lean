/-
  PCV.Proofs.DegreeBound — why the shifted commitment enforces a degree bound.  The verifier's test
  is (through a KZG opening at the challenge point `z`) `s(z) = z^(D−d)·p(z)` for the polynomial `s`
  inside the shifted commitment; `s` has at most `D+1` coefficients because it is committed under the
  `D+1` published powers.  If `deg p > d` then `X^(D−d)·p` has a non-zero coefficient beyond `D`,
  so `s − X^(D−d)·p` is a non-zero polynomial and the test can hold only for the few `z` that are its
  roots — and `z` is drawn after both commitments are fixed.
-/
import PCV.Proofs.RootsCoeff
import PCV.Proofs.PolyMore

namespace PCV
namespace DegreeBound
variable {F : Type} [Field F] [DecidableEq F]

omit [DecidableEq F] in
theorem coeff_eq_getD (p : List F) (i : Nat) : coeff p i = p.getD i 0 :=
  List.getD_eq_getElem?_getD.symm

/-- **Degree-bound soundness, the counting step.** `s` fits the key (`≤ D+1` coefficients), `p` has a
non-zero coefficient above `d ≤ D`: the challenge points at which the verifier's relation
`s(z) = z^(D−d)·p(z)` can hold lie in a set of at most `max(|s|, D−d+|p|) − 1` field elements. -/
theorem bound_violation_few_points (s p : List F) (D d : Nat) (hd : d ≤ D)
    (hs : s.length ≤ D + 1) (hp : ∃ i, d < i ∧ coeff p i ≠ 0) :
    ∃ S : Finset F, S.card ≤ max s.length (D - d + p.length) - 1 ∧
      ∀ z, z ∉ S → evalPoly s z ≠ fpow z (D - d) * evalPoly p z := by
  obtain ⟨i, hi, hc⟩ := hp
  -- the difference `s − X^(D−d)·p` has the non-zero coefficient `−pᵢ` at `i + (D−d) > D`
  have hcoef : (psub s (pshift (D - d) p)).getD (i + (D - d)) 0 ≠ 0 := by
    rw [← coeff_eq_getD, psub_coeff, coeff_pshift, coeff_beyond s _ (by omega), zero_sub]
    exact neg_ne_zero.2 hc
  obtain ⟨S, hcard, hS⟩ := Roots.zeros_bounded_of_coeff _ ⟨_, hcoef⟩
  rw [psub_len, pshift_len] at hcard
  refine ⟨S, hcard, fun z hz he => hz (hS z ?_)⟩
  rw [eval_psub, eval_pshift, he, sub_self]

end DegreeBound
end PCV
