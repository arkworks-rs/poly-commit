/-
  PCV.Proofs.Dimensions — the coefficient-matrix shape: ceilings, the balanced window of the row
  count, and the factor-4 balancing inequality against every alternative row count.
-/
import PCV.Model.Dimensions
import PCV.Proofs.CalcT

namespace PCV
namespace LinCode

theorem ceilDiv_mul_ge (x y : Nat) (hy : 0 < y) : x ≤ ceilDiv x y * y := by
  have := Nat.lt_div_mul_add (a := x + y - 1) hy
  unfold ceilDiv
  omega

theorem ceilDiv_mul_lt (x y : Nat) (hy : 0 < y) : ceilDiv x y * y < x + y := by
  have := Nat.div_mul_le_self (x + y - 1) y
  unfold ceilDiv
  omega

theorem ceilDiv_pos (x y : Nat) (hx : 0 < x) (hy : 0 < y) : 0 < ceilDiv x y :=
  Nat.div_pos (Nat.le_sub_one_of_lt (Nat.lt_add_of_pos_left hx)) hy

theorem ceilSqrt_spec (c : Nat) :
    c ≤ ceilSqrt c * ceilSqrt c ∧ ∀ k, k < ceilSqrt c → k * k < c := by
  have h := findFrom_getD_least (fun s => decide (c ≤ s * s)) c c
    (decide_eq_true (Nat.le_mul_self c))
  simp only [decide_eq_true_eq, decide_eq_false_iff_not, Nat.not_le] at h
  exact h

theorem clog2_spec (x : Nat) : x ≤ 2 ^ clog2 x ∧ ∀ k, k < clog2 x → 2 ^ k < x := by
  have h := findFrom_getD_least (fun k => decide (x ≤ 2 ^ k)) x x
    (decide_eq_true Nat.lt_two_pow_self.le)
  simp only [decide_eq_true_eq, decide_eq_false_iff_not, Nat.not_le] at h
  exact h

theorem dimN_pos (N t : Nat) : 0 < dimN N t := Nat.pow_pos Nat.two_pos

/-- `n` is at least the balanced value -/
theorem dimN_sq_ge (N t : Nat) (ht : 0 < t) : 2 * N ≤ t * (dimN N t * dimN N t) := by
  unfold dimN
  set C := ceilDiv (2 * N) t
  have h3 : ceilSqrt C ≤ 2 ^ clog2 (ceilSqrt C) := (clog2_spec _).1
  calc 2 * N ≤ C * t := ceilDiv_mul_ge _ _ ht
    _ ≤ (ceilSqrt C * ceilSqrt C) * t := Nat.mul_le_mul_right _ (ceilSqrt_spec C).1
    _ ≤ (2 ^ clog2 (ceilSqrt C) * 2 ^ clog2 (ceilSqrt C)) * t :=
        Nat.mul_le_mul_right _ (Nat.mul_le_mul h3 h3)
    _ = t * (2 ^ clog2 (ceilSqrt C) * 2 ^ clog2 (ceilSqrt C)) := Nat.mul_comm _ _

/-- `n` is less than twice the balanced value: `n = 2^k` for the least `k` with `s ≤ 2^k`, `s` the
least number with `C = ⌈2N/t⌉ ≤ s²`; so unless `k = 0` the half `h = 2^(k−1)` is below `s`, hence
`h² < C` and `t·h² < 2N`. -/
theorem dimN_one_or_double (N t : Nat) (ht : 0 < t) :
    dimN N t = 1 ∨ ∃ h, dimN N t = 2 * h ∧ t * (h * h) < 2 * N := by
  unfold dimN
  set C := ceilDiv (2 * N) t
  cases hk : clog2 (ceilSqrt C) with
  | zero => exact Or.inl rfl
  | succ k =>
    refine Or.inr ⟨2 ^ k, Nat.pow_succ', ?_⟩
    have hlt : 2 ^ k < ceilSqrt C := (clog2_spec _).2 k (hk ▸ Nat.lt_succ_self k)
    generalize 2 ^ k = h at hlt ⊢
    have hsq : (h * h + 1) * t ≤ C * t := Nat.mul_le_mul_right _ ((ceilSqrt_spec C).2 h hlt)
    rw [Nat.succ_mul, Nat.mul_comm] at hsq
    exact Nat.lt_of_add_lt_add_right (Nat.lt_of_le_of_lt hsq (ceilDiv_mul_lt _ _ ht))

variable {N t c n n' : Nat}

theorem two_ceilDiv_le (hn : 0 < n) (h : 2 * N ≤ t * (n * n)) :
    2 * ceilDiv N n ≤ t * n + 1 :=
  Nat.le_of_lt_succ <| Nat.lt_of_mul_lt_mul_right (a := n) <|
    calc 2 * ceilDiv N n * n = 2 * (ceilDiv N n * n) := Nat.mul_assoc _ _ _
      _ < 2 * (N + n) := Nat.mul_lt_mul_of_pos_left (ceilDiv_mul_lt N n hn) Nat.two_pos
      _ = 2 * N + 2 * n := Nat.mul_add _ _ _
      _ ≤ t * (n * n) + 2 * n := Nat.add_le_add_right h _
      _ = (t * n + 2) * n := by rw [Nat.add_mul, Nat.mul_assoc]

/-- Below twice the balanced value, the row term is less than twice the whole cost (`c = 1`) of
any `n′`: with `n = 2h`, `C = ⌈N/n′⌉`,
`(t·h)² = t·(t·h²) < t·2N ≤ 2·(t·n′)·C ≤ (t·n′ + C)²`. -/
theorem rowCost_lt_two_mul (hN : 0 < N) (ht : 0 < t) (hn' : 0 < n')
    (hlt : n = 1 ∨ ∃ h, n = 2 * h ∧ t * (h * h) < 2 * N) :
    t * n < 2 * (t * n' + ceilDiv N n') := by
  have hC : 0 < ceilDiv N n' := ceilDiv_pos N n' hN hn'
  have hcov : N ≤ ceilDiv N n' * n' := ceilDiv_mul_ge N n' hn'
  generalize ceilDiv N n' = C at hC hcov ⊢
  rcases hlt with rfl | ⟨h, rfl, hlt⟩
  · calc t * 1 ≤ t * n' := Nat.mul_le_mul_left _ hn'
      _ < t * n' + C := Nat.lt_add_of_pos_right hC
      _ ≤ 2 * (t * n' + C) := Nat.le_mul_of_pos_left _ Nat.two_pos
  · have key : t * h * (t * h) < (t * n' + C) * (t * n' + C) :=
      calc t * h * (t * h) = t * (t * (h * h)) := by rw [Nat.mul_mul_mul_comm, Nat.mul_assoc]
        _ < t * (2 * (C * n')) :=
            Nat.mul_lt_mul_of_pos_left (Nat.lt_of_lt_of_le hlt (Nat.mul_le_mul_left 2 hcov)) ht
        _ = 2 * (t * n') * C := by
            rw [Nat.mul_left_comm, Nat.mul_comm C, ← Nat.mul_assoc t, Nat.mul_assoc 2]
        _ ≤ t * n' * (t * n') + 2 * (t * n') * C + C * C :=
            Nat.le_add_right_of_le (Nat.le_add_left _ _)
        _ = (t * n' + C) * (t * n' + C) := (add_mul_self_eq _ _).symm
    rw [Nat.mul_left_comm]
    exact Nat.mul_lt_mul_of_pos_left (Nat.mul_self_lt_mul_self_iff.1 key) Nat.two_pos

/-- **Dimension balancing.**  A row count `n` in the balanced window (`2N ≤ t·n²`, and `n = 1` or
`t·(n/2)² < 2N`) costs at most four times what any other row count `n′ ≥ 1` does, for `c = 1` or
`2` row combinations: the second term of its cost is at most the first,
`c·⌈N/n⌉ ≤ 2·⌈N/n⌉ ≤ t·n + 1`, and the first is bounded by `rowCost_lt_two_mul`. -/
theorem proofCost_le_four_mul (hc1 : 1 ≤ c) (hc2 : c ≤ 2) (hN : 0 < N)
    (ht : 0 < t) (hn' : 0 < n') (hge : 2 * N ≤ t * (n * n))
    (hlt : n = 1 ∨ ∃ h, n = 2 * h ∧ t * (h * h) < 2 * N) :
    proofCost N t c n ≤ 4 * proofCost N t c n' := by
  have hn : 0 < n :=
    Nat.pos_of_ne_zero (by rintro rfl; exact absurd hge (Nat.not_le.2 (Nat.mul_pos Nat.two_pos hN)))
  have hrow := rowCost_lt_two_mul hN ht hn' hlt
  calc t * n + c * ceilDiv N n
      ≤ t * n + (t * n + 1) :=
        Nat.add_le_add_left (Nat.le_trans (Nat.mul_le_mul_right _ hc2) (two_ceilDiv_le hn hge)) _
    _ ≤ 2 * (t * n' + ceilDiv N n') + 2 * (t * n' + ceilDiv N n') :=
        Nat.add_le_add (Nat.le_of_lt hrow) hrow
    _ = 4 * (t * n' + ceilDiv N n') := (Nat.add_mul 2 2 _).symm
    _ ≤ 4 * (t * n' + c * ceilDiv N n') :=
        Nat.mul_le_mul_left 4 (Nat.add_le_add_left (Nat.le_mul_of_pos_left _ hc1) _)

/-- the shape `compute_dimensions` chooses lies in the balanced window -/
theorem dimN_cost_le_four_mul (hc1 : 1 ≤ c) (hc2 : c ≤ 2) (hN : 0 < N)
    (ht : 0 < t) (hn' : 0 < n') : proofCost N t c (dimN N t) ≤ 4 * proofCost N t c n' :=
  proofCost_le_four_mul hc1 hc2 hN ht hn' (dimN_sq_ge N t ht) (dimN_one_or_double N t ht)

end LinCode
end PCV
