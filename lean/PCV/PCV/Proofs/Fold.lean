/-
  PCV.Proofs.Fold — the folded-polynomial iterators of `data_structures.rs` enumerate the coefficients of
  the successive foldings, for every length.  `Emits` is the big-step semantics of the stack machine both
  iterators share; the model's fuelled iteration computes it.  A machine with challenges `u :: us`
  simulates the machine with `us` on the once-folded stream with all levels shifted by one (`sim`, even
  length), and `init_stack` commutes with that shift; an odd length is the even length after the zero
  padding `init_stack` stands for.  Induction on the challenge list gives every level; the stream
  iterator (`EmitsS`) yields the top-level items of the same run.
-/
import PCV.Model.Fold
import Mathlib.Tactic.Ring
import Mathlib.Tactic.LinearCombination
import Mathlib.Algebra.Field.Basic

set_option linter.unusedSectionVars false

namespace PCV
namespace Fold
variable {F : Type} [Field F]

/-- big-step semantics of the stack machine of `FoldedPolynomialTreeIter`: from the stack `st` on the
stream `it` it emits `out` (fold the two top entries of equal level, else read one item) -/
inductive Emits (chal : List F) : List (Nat × F) → List F → List (Nat × F) → Prop
  | fold {st it out item st'} (h : foldTop chal st = some (item, st'))
      (k : Emits chal (pushItem chal.length item st') it out) : Emits chal st it (item :: out)
  | read {st x it out} (h : foldTop chal st = none)
      (k : Emits chal (pushItem chal.length (0, x) st) it out) : Emits chal st (x :: it) out
  | done {st} (h : foldTop chal st = none) : Emits chal st [] []

/-- big-step semantics of `FoldedPolynomialStreamIter` (one constructor per outcome of a round) -/
inductive EmitsS (chal : List F) : List (Nat × F) → List F → List F → Prop
  | push {st it item st' it' out} (h : Stream.stepItem chal st it = some (item, st', it'))
      (hne : item.1 ≠ chal.length) (k : EmitsS chal (item :: st') it' out) : EmitsS chal st it out
  | out {st it item st' it' out} (h : Stream.stepItem chal st it = some (item, st', it'))
      (heq : item.1 = chal.length) (k : EmitsS chal st' it' out) : EmitsS chal st it (item.2 :: out)
  | done {st it} (h : Stream.stepItem chal st it = none) : EmitsS chal st it []

variable {chal us : List F} {st st' : List (Nat × F)} {item : Nat × F} {it it' : List F}

theorem foldTop_eq_some :
    foldTop chal st = some (item, st') ↔
      ∃ lhs rhs, st = lhs :: rhs :: st' ∧ lhs.1 = rhs.1
        ∧ item = (rhs.1 + 1, rhs.2 * chal.getD rhs.1 0 + lhs.2) := by
  constructor
  · intro h
    unfold foldTop at h
    split at h
    · split at h
      · cases h
        exact ⟨_, _, rfl, ‹_›, rfl⟩
      · cases h
    · cases h
  · rintro ⟨l, r, rfl, hlr, rfl⟩
    exact if_pos hlr

theorem foldTop_length (h : foldTop chal st = some (item, st')) : st.length = st'.length + 2 := by
  obtain ⟨_, _, rfl, _, _⟩ := foldTop_eq_some.1 h
  rfl

theorem foldTop_level_pos (h : foldTop chal st = some (item, st')) : 1 ≤ item.1 := by
  obtain ⟨_, _, _, _, rfl⟩ := foldTop_eq_some.1 h
  exact Nat.le_add_left 1 _

theorem pushItem_of_ne {d : Nat} {item : Nat × F} (h : item.1 ≠ d) (st : List (Nat × F)) :
    pushItem d item st = item :: st :=
  if_pos h

theorem pushItem_of_eq {d : Nat} {item : Nat × F} (h : item.1 = d) (st : List (Nat × F)) :
    pushItem d item st = st :=
  if_neg (not_not.2 h)

theorem pushItem_length_le (d : Nat) (item : Nat × F) (st : List (Nat × F)) :
    (pushItem d item st).length ≤ st.length + 1 := by
  unfold pushItem; split <;> simp

theorem pushItem_level_lt {d : Nat} {item : Nat × F} {st : List (Nat × F)}
    (hi : item.1 ≤ d) (hst : ∀ e ∈ st, e.1 < d) : ∀ e ∈ pushItem d item st, e.1 < d := by
  unfold pushItem
  split
  · rename_i hne
    exact List.forall_mem_cons.2 ⟨Nat.lt_of_le_of_ne hi hne, hst⟩
  · exact hst

theorem next_fold (it : List F)
    (h : foldTop chal st = some (item, st')) :
    Tree.next chal st it = some (item, it, pushItem chal.length item st') := by
  cases it <;> simp [Tree.next, h]

theorem next_read (x : F) (it : List F)
    (h : foldTop chal st = none) :
    Tree.next chal st (x :: it) = Tree.next chal (pushItem chal.length (0, x) st) it := by
  simp [Tree.next, h]

theorem next_done (h : foldTop chal st = none) :
    Tree.next chal st [] = none := by
  simp [Tree.next, h]

theorem collect_read (x : F) (it : List F) (f : Nat)
    (h : foldTop chal st = none) :
    Tree.collect chal f st (x :: it) = Tree.collect chal f (pushItem chal.length (0, x) st) it := by
  cases f with
  | zero => rfl
  | succ f => simp only [Tree.collect, next_read x it h]

theorem collect_of_emits {out : List (Nat × F)}
    (h : Emits chal st it out) :
    ∀ f, it.length + st.length < f → Tree.collect chal f st it = out := by
  induction h with
  | @fold st it out item st' h k ih =>
    intro f hf
    cases f with
    | zero => cases hf
    | succ f =>
      simp only [Tree.collect, next_fold it h]
      rw [ih f (by
        have := foldTop_length h
        have := pushItem_length_le chal.length item st'
        omega)]
  | @read st x it out h k ih =>
    intro f hf
    rw [collect_read x it f h]
    exact ih f (by
      have := pushItem_length_le chal.length (0, x) st
      simp at hf; omega)
  | @done st h =>
    intro f _
    cases f with
    | zero => rfl
    | succ f => simp only [Tree.collect, next_done h]

theorem emits_total (chal : List F) (st : List (Nat × F)) (it : List F) :
    ∃ out, Emits chal st it out := by
  generalize hm : 2 * it.length + st.length = m
  induction m using Nat.strong_induction_on generalizing st it with
  | _ m ih =>
    cases hf : foldTop chal st with
    | some r =>
      obtain ⟨item, st'⟩ := r
      have h1 := foldTop_length hf
      have h2 := pushItem_length_le chal.length item st'
      obtain ⟨out, ho⟩ := ih _ (by omega) (pushItem chal.length item st') it rfl
      exact ⟨item :: out, Emits.fold hf ho⟩
    | none =>
      cases it with
      | nil => exact ⟨[], Emits.done hf⟩
      | cons x it =>
        have h2 := pushItem_length_le chal.length (0, x) st
        rw [List.length_cons] at hm
        obtain ⟨out, ho⟩ := ih _ (by omega) (pushItem chal.length (0, x) st) it rfl
        exact ⟨out, Emits.read hf ho⟩

theorem toList_eq_of_emits (chal csBE : List F) (out : List (Nat × F))
    (h : Emits chal (initStack csBE.length chal.length) csBE out) : Tree.toList csBE chal = out := by
  unfold Tree.toList
  exact collect_of_emits h _ (Nat.lt_succ_self _)

theorem level_cons (item : Nat × F) (items : List (Nat × F)) (i : Nat) :
    Tree.level (item :: items) i
      = if item.1 = i then item.2 :: Tree.level items i else Tree.level items i := by
  unfold Tree.level
  by_cases h : item.1 = i <;> simp [h]

def lift (st : List (Nat × F)) : List (Nat × F) := st.map (fun e => (e.1 + 1, e.2))

theorem foldTop_lift (u : F) (st : List (Nat × F)) :
    foldTop (u :: us) (lift st)
      = (foldTop us st).map fun r => ((r.1.1 + 1, r.1.2), lift r.2) := by
  match st with
  | [] => rfl
  | [_] => rfl
  | lhs :: rhs :: rest =>
    by_cases heq : lhs.1 = rhs.1
    · rw [foldTop, if_pos heq]
      exact if_pos (congrArg (· + 1) heq)
    · rw [foldTop, if_neg heq]
      exact if_neg fun h' => heq (Nat.succ.inj h')

theorem pushItem_lift (d : Nat) (item : Nat × F) (st : List (Nat × F)) :
    pushItem (d + 1) (item.1 + 1, item.2) (lift st) = lift (pushItem d item st) := by
  unfold pushItem
  by_cases h : item.1 = d
  · simp [h]
  · simp [h, lift]

theorem foldTop_zero_fast (chal : List F) (x : F)
    (h : Stream.fastPath st = true) : foldTop chal ((0, x) :: st) = none := by
  match st, h with
  | [], _ => rfl
  | top :: rest, h =>
    simp only [Stream.fastPath, bne_iff_ne, ne_eq] at h
    exact if_neg fun hh => h hh.symm

theorem length_mod_two_tail {a b : F} {rest : List F} {r : Nat}
    (h : (a :: b :: rest).length % 2 = r) : rest.length % 2 = r :=
  (Nat.add_mod_right rest.length 2).symm.trans h

/-- folding consecutive pairs of a big-endian stream: `rhs·u + lhs` -/
def pairsBE (u : F) : List F → List F
  | a :: b :: rest => (a * u + b) :: pairsBE u rest
  | _ => []

/-- **simulation**: the machine with challenges `u :: us` on an even-length stream `xs`, started
from a shifted stack, emits the pair-folded stream at level 1 and, one level up, exactly what the
machine with challenges `us` emits on the pair-folded stream. -/
theorem sim (u : F) {ys : List F} {out' : List (Nat × F)}
    (h : Emits us st' ys out') :
    ∀ xs, ys = pairsBE u xs → xs.length % 2 = 0 →
      ∃ out, Emits (u :: us) (lift st') xs out ∧ Tree.level out 1 = ys
        ∧ ∀ i, 1 ≤ i → Tree.level out (i + 1) = Tree.level out' i := by
  induction h with
  | @fold st it out item st'' h k ih =>
    intro xs hxs hlen
    obtain ⟨o, ho, h1, h2⟩ := ih xs hxs hlen
    have hpos := foldTop_level_pos h
    refine ⟨(item.1 + 1, item.2) :: o, ?_, ?_, ?_⟩
    · exact Emits.fold (by rw [foldTop_lift, h]; rfl) (pushItem_lift us.length item st'' ▸ ho)
    · rw [level_cons, if_neg (fun h' : item.1 + 1 = 1 => absurd (Nat.succ.inj h') (Nat.ne_of_gt hpos))]
      exact h1
    · intro i hi
      rw [level_cons, level_cons, h2 i hi]
      simp only [Nat.add_right_cancel_iff]
  | @read st y it out h k ih =>
    intro xs hxs hlen
    match xs, hxs, hlen with
    | [], hxs, _ => cases hxs
    | [_], hxs, _ => cases hxs
    | a :: b :: xs', hxs, hlen =>
      simp only [pairsBE, List.cons.injEq] at hxs
      obtain ⟨hy, hit⟩ := hxs
      obtain ⟨o, ho, h1, h2⟩ := ih xs' hit (length_mod_two_tail hlen)
      refine ⟨(1, y) :: o, ?_, ?_, ?_⟩
      · have h0 : ∀ c : F, ((0, c) : Nat × F).1 ≠ (u :: us).length := fun _ => (Nat.succ_ne_zero _).symm
        apply Emits.read (by rw [foldTop_lift, h]; rfl)
        rw [pushItem_of_ne (h0 a)]
        apply Emits.read (foldTop_zero_fast _ a (by cases st <;> rfl))
        rw [pushItem_of_ne (h0 b)]
        have hf : foldTop (u :: us) ((0, b) :: (0, a) :: lift st) = some ((1, y), lift st) :=
          foldTop_eq_some.2 ⟨(0, b), (0, a), rfl, rfl, by rw [hy]; rfl⟩
        apply Emits.fold hf
        exact (pushItem_lift us.length (0, y) st) ▸ ho
      · rw [level_cons, if_pos rfl, h1]
      · intro i hi
        rw [level_cons, if_neg (fun h' : 1 = i + 1 => absurd (Nat.succ.inj h').symm (Nat.ne_of_gt hi))]
        exact h2 i hi
  | @done st h =>
    intro xs hxs hlen
    match xs, hxs, hlen with
    | [], _, _ => exact ⟨[], Emits.done (by rw [foldTop_lift, h]; rfl), rfl, fun i _ => rfl⟩
    | [_], _, hlen => cases hlen
    | _ :: _ :: _, hxs, _ => cases hxs

theorem initStackLoop_zero (i : Nat) (acc : List (Nat × F)) : initStackLoop i 0 acc = acc := by
  induction i generalizing acc with
  | zero => rfl
  | succ i ih =>
    simp only [initStackLoop, if_neg (Nat.not_le.2 (Nat.two_pow_pos i)), ih]

/-- the loop one level up on a deficit `2q + b`, `b ≤ 1`: the bit `b` becomes a level-0 entry on
top, the rest is the loop on `q` with all levels shifted -/
theorem initStackLoop_lift (i q b : Nat) (acc : List (Nat × F)) (hb : b ≤ 1) (hq : q < 2 ^ i) :
    initStackLoop (i + 1) (2 * q + b) (lift acc)
      = (if b = 1 then [((0 : Nat), (0 : F))] else []) ++ lift (initStackLoop i q acc) := by
  induction i generalizing q acc with
  | zero =>
    obtain rfl : q = 0 := Nat.lt_one_iff.1 hq
    rcases Nat.le_one_iff_eq_zero_or_eq_one.1 hb with rfl | rfl <;> rfl
  | succ i ih =>
    have hp : 2 ^ (i + 1) = 2 * 2 ^ i := by rw [pow_succ, Nat.mul_comm]
    rw [initStackLoop, hp]
    by_cases hge : q ≥ 2 ^ i
    · obtain ⟨q', rfl⟩ := Nat.exists_eq_add_of_le hge
      have hq' : q' < 2 ^ i := by
        rw [hp, Nat.two_mul] at hq
        exact Nat.lt_of_add_lt_add_left hq
      rw [if_pos (Nat.le_add_right_of_le (Nat.mul_le_mul_left 2 hge)), Nat.mul_add, Nat.add_assoc,
        Nat.add_sub_cancel_left]
      exact (ih q' ((i, 0) :: acc) hq').trans
        (by conv_rhs => rw [initStackLoop, if_pos hge, Nat.add_sub_cancel_left])
    · rw [if_neg (by omega), ih q acc (Nat.lt_of_not_le hge)]
      conv_rhs => rw [initStackLoop, if_neg hge]

theorem initStack_even (k d : Nat) :
    (initStack (2 * k) (d + 1) : List (Nat × F)) = lift (initStack k d) := by
  have h2 := Nat.mod_lt k (Nat.two_pow_pos d)
  unfold initStack
  rw [pow_succ, Nat.mul_comm (2 ^ d) 2, Nat.mul_mod_mul_left]
  by_cases h0 : k % 2 ^ d = 0
  · rw [h0, if_neg (not_not.2 rfl), if_neg (not_not.2 rfl)]
    rfl
  · rw [if_pos (Nat.mul_ne_zero two_ne_zero h0), if_pos h0, ← Nat.mul_sub]
    exact initStackLoop_lift d _ 0 [] (Nat.zero_le 1)
      (Nat.sub_lt (Nat.two_pow_pos d) (Nat.pos_of_ne_zero h0))

theorem initStack_odd (k d : Nat) :
    (initStack (2 * k + 1) (d + 1) : List (Nat × F)) = (0, 0) :: lift (initStack (k + 1) d) := by
  -- `c` is the deficit of `k + 1` (possibly `0`, when `k + 1` is a multiple of `2^d`)
  obtain ⟨c, hc⟩ := Nat.exists_eq_add_of_lt (Nat.mod_lt k (Nat.two_pow_pos d))
  have hmod : (2 * k + 1) % (2 * 2 ^ d) = 2 * (k % 2 ^ d) + 1 := by
    rw [Nat.mod_mul, Nat.mul_add_mod, Nat.mul_add_div Nat.two_pos, Nat.add_comm]
    rfl
  unfold initStack
  rw [pow_succ, Nat.mul_comm (2 ^ d) 2, hmod, if_pos (Nat.succ_ne_zero _),
    show 2 * 2 ^ d - (2 * (k % 2 ^ d) + 1) = 2 * c + 1 by omega]
  refine (initStackLoop_lift d c 1 [] (Nat.le_refl 1)
    (Nat.lt_of_lt_of_eq (Nat.lt_succ_of_le (Nat.le_add_left c _)) hc.symm)).trans ?_
  rw [if_pos rfl, List.singleton_append, (Nat.mod_add_mod k (2 ^ d) 1).symm]
  cases c with
  | zero => rw [← hc, Nat.mod_self, if_neg (not_not.2 rfl), initStackLoop_zero]
  | succ c =>
    rw [Nat.mod_eq_of_lt (a := k % 2 ^ d + 1) (by omega), if_pos (Nat.succ_ne_zero _),
      show 2 ^ d - (k % 2 ^ d + 1) = c + 1 by omega]

theorem initStackLoop_eq (i delta : Nat) (acc : List (Nat × F)) :
    ∃ new, initStackLoop i delta acc = new ++ acc ∧ new.Pairwise (fun a b => a.1 < b.1)
      ∧ ∀ e ∈ new, e.1 < i := by
  induction i generalizing delta acc with
  | zero => exact ⟨[], rfl, List.Pairwise.nil, fun e he => nomatch he⟩
  | succ i ih =>
    rw [initStackLoop]
    split
    · obtain ⟨new, h, hs, hlt⟩ := ih (delta - 2 ^ i) ((i, 0) :: acc)
      refine ⟨new ++ [(i, 0)], by rw [h, List.append_assoc]; rfl, ?_, ?_⟩
      · exact List.pairwise_append.2 ⟨hs, List.pairwise_singleton _ _,
          fun a ha b hb => by rw [List.mem_singleton.1 hb]; exact hlt a ha⟩
      · intro e he
        rcases List.mem_append.1 he with he | he
        · exact Nat.lt_succ_of_lt (hlt e he)
        · rw [List.mem_singleton.1 he]; exact Nat.lt_succ_self i
    · obtain ⟨new, h, hs, hlt⟩ := ih delta acc
      exact ⟨new, h, hs, fun e he => Nat.lt_succ_of_lt (hlt e he)⟩

theorem initStack_sorted (n d : Nat) :
    (initStack n d : List (Nat × F)).Pairwise (fun a b => a.1 < b.1)
      ∧ ∀ e ∈ (initStack n d : List (Nat × F)), e.1 < d := by
  unfold initStack
  split
  · obtain ⟨new, h, hs, hlt⟩ := initStackLoop_eq d (2 ^ d - n % 2 ^ d) ([] : List (Nat × F))
    rw [h, List.append_nil]
    exact ⟨hs, hlt⟩
  · exact ⟨List.Pairwise.nil, fun e he => nomatch he⟩

theorem foldTop_none_of_sorted (chal : List F) (st : List (Nat × F))
    (hs : st.Pairwise (fun a b => a.1 < b.1)) : foldTop chal st = none := by
  match st with
  | [] => rfl
  | [_] => rfl
  | lhs :: rhs :: rest =>
    exact if_neg (Nat.ne_of_lt ((List.pairwise_cons.1 hs).1 rhs List.mem_cons_self))

theorem foldTop_initStack (chal : List F) (n d : Nat) : foldTop chal (initStack n d) = none :=
  foldTop_none_of_sorted chal _ (initStack_sorted n d).1

theorem pairsBE_append (u : F) (xs : List F) (a b : F) (h : xs.length % 2 = 0) :
    pairsBE u (xs ++ [a, b]) = pairsBE u xs ++ [a * u + b] := by
  match xs, h with
  | [], _ => rfl
  | [_], h => cases h
  | x :: y :: rest, h =>
    simp only [List.cons_append, pairsBE]
    rw [pairsBE_append u rest a b (length_mod_two_tail h)]

theorem fold_length (cs : List F) (u : F) : (fold cs u).length = (cs.length + 1) / 2 := by
  match cs with
  | [] => simp [fold]
  | [_] => simp [fold]
  | a :: b :: rest =>
    rw [fold, List.length_cons, fold_length rest u]
    exact (Nat.add_div_right _ Nat.two_pos).symm

theorem fold_reverse (cs : List F) (u : F) (h : cs.length % 2 = 0) :
    (fold cs u).reverse = pairsBE u cs.reverse := by
  match cs, h with
  | [], _ => rfl
  | [_], h => cases h
  | a :: b :: rest, h =>
    have hr := length_mod_two_tail h
    simp only [fold, List.reverse_cons, List.append_assoc, List.cons_append, List.nil_append]
    rw [pairsBE_append u rest.reverse b a (by rw [List.length_reverse]; exact hr),
      fold_reverse rest u hr, add_comm a, mul_comm u]

theorem fold_append_zero (cs : List F) (u : F) (h : cs.length % 2 = 1) :
    fold (cs ++ [0]) u = fold cs u := by
  match cs, h with
  | [], h => cases h
  | [a], _ => simp [fold]
  | a :: b :: rest, h =>
    simp only [List.cons_append, fold]
    rw [fold_append_zero rest u (length_mod_two_tail h)]

theorem foldAll_length_le (us cs : List F) : (foldAll cs us).length ≤ cs.length := by
  induction us generalizing cs with
  | nil => exact Nat.le_refl _
  | cons v vs ih =>
    have := ih (fold cs v)
    rw [fold_length] at this
    simp only [foldAll]
    omega

/-- **one challenge**: a run of the machine with challenges `u :: us` on `cs` emits the folding
`fold cs u` at level 1 and, one level up, what the machine with challenges `us` emits on that
folding.  For an even length this is the simulation; for an odd length `init_stack` has pushed the
zero that pads the vector to even length, i.e. the machine behaves as if it had read it. -/
theorem emits_step (u : F) (cs : List F) {out' : List (Nat × F)}
    (ho' : Emits us (initStack (fold cs u).length us.length) (fold cs u).reverse out') :
    ∃ out, Emits (u :: us) (initStack cs.length (us.length + 1)) cs.reverse out
      ∧ Tree.level out 1 = (fold cs u).reverse
      ∧ ∀ j, 1 ≤ j → Tree.level out (j + 1) = Tree.level out' j := by
  wlog hpar : cs.length % 2 = 0 generalizing cs
  · -- the run on `cs ++ [0]` begins by reading the padding zero
    have hodd : cs.length % 2 = 1 := Nat.mod_two_ne_zero.1 hpar
    rw [← fold_append_zero cs u hodd] at ho'
    obtain ⟨out, ho, h1, h2⟩ := this (cs ++ [0]) ho'
      (by rw [List.length_append, List.length_singleton]; exact Nat.succ_mod_two_eq_zero_iff.2 hodd)
    rw [fold_append_zero cs u hodd] at h1
    refine ⟨out, ?_, h1, h2⟩
    rw [List.reverse_append, List.reverse_singleton, List.singleton_append,
      List.length_append] at ho
    cases ho with
    | fold h _ => rw [foldTop_initStack] at h; cases h
    | read _ k =>
      obtain ⟨n, hn⟩ : ∃ n, cs.length = 2 * n + 1 :=
        ⟨_, hodd ▸ (Nat.div_add_mod cs.length 2).symm⟩
      rw [hn, show 2 * n + 1 + [(0 : F)].length = 2 * (n + 1) from rfl, initStack_even] at k
      rw [hn, initStack_odd]
      rw [pushItem_of_ne (d := (u :: us).length) (item := ((0 : Nat), (0 : F)))
        (Nat.succ_ne_zero us.length).symm] at k
      exact k
  · obtain ⟨k, hk⟩ := Nat.dvd_of_mod_eq_zero hpar
    have hfl : (fold cs u).length = k := by
      rw [fold_length, hk, Nat.mul_add_div Nat.two_pos]; rfl
    rw [hk, ← hfl, initStack_even]
    exact sim u ho' cs.reverse (fold_reverse cs u hpar)
      (by rw [List.length_reverse]; exact hpar)

/-- **`FoldedPolynomialTree`**: for every coefficient vector (any length) and every challenge list,
the items of level `i` (`1 ≤ i ≤ depth`), in the order the iterator yields them, are the
coefficients of the `i`-fold folding, highest degree first. -/
theorem tree_level_eq_fold (chal : List F) : ∀ (cs : List F) (i : Nat), 1 ≤ i → i ≤ chal.length →
    Tree.level (Tree.toList cs.reverse chal) i = (foldAll cs (chal.take i)).reverse := by
  induction chal with
  | nil => exact fun cs i h1 h2 => absurd (Nat.le_trans h1 h2) (Nat.not_succ_le_zero 0)
  | cons u us ih =>
    intro cs i h1 h2
    -- the machine for `us` on the once-folded stream, and the run for `u :: us` it induces
    obtain ⟨out', ho'⟩ := emits_total us (initStack (fold cs u).length us.length)
      (fold cs u).reverse
    have hto' := toList_eq_of_emits us (fold cs u).reverse out'
      (by rw [List.length_reverse]; exact ho')
    obtain ⟨out, ho, hl1, hl2⟩ := emits_step u cs ho'
    rw [toList_eq_of_emits (u :: us) cs.reverse out (by rw [List.length_reverse]; exact ho)]
    rcases Nat.eq_or_lt_of_le h1 with h1' | h1'
    · subst h1'
      simpa [foldAll] using hl1
    · obtain ⟨j, rfl⟩ := Nat.exists_eq_add_of_lt h1'
      rw [hl2 _ (Nat.le_add_right 1 j), ← hto',
        ih (fold cs u) _ (Nat.le_add_right 1 j) (Nat.le_of_succ_le_succ h2)]
      simp [foldAll]

theorem emits_levels {out : List (Nat × F)}
    (h : Emits chal st it out) (hst : ∀ e ∈ st, e.1 < chal.length) :
    ∀ item ∈ out, 1 ≤ item.1 ∧ item.1 ≤ chal.length := by
  induction h with
  | @fold st it out item st' hf k ih =>
    obtain ⟨l, r, rfl, _, rfl⟩ := foldTop_eq_some.1 hf
    have hle : r.1 + 1 ≤ chal.length := hst r (List.mem_cons_of_mem _ List.mem_cons_self)
    exact List.forall_mem_cons.2 ⟨⟨Nat.le_add_left 1 _, hle⟩,
      ih (pushItem_level_lt hle fun e he =>
        hst e (List.mem_cons_of_mem _ (List.mem_cons_of_mem _ he)))⟩
  | @read st x it out hf k ih =>
    exact ih (pushItem_level_lt (Nat.zero_le _) hst)
  | done _ => exact fun x hx => nomatch hx

theorem stepItem_measure (h : Stream.stepItem chal st it = some (item, st', it')) :
    2 * it'.length + st'.length + 2 ≤ 2 * it.length + st.length := by
  unfold Stream.stepItem at h
  split at h
  · next hf =>
    cases h
    rw [foldTop_length hf]
    exact Nat.le_refl _
  · split at h
    · split at h
      · cases h
        rw [List.length_cons, List.length_cons]
        omega
      · cases h
    · split at h
      · cases h
        rw [List.length_cons, Nat.mul_add 2 _ 1, Nat.add_right_comm]
      · cases h

theorem nextS_of_emits {out : List F}
    (h : EmitsS chal st it out) : ∀ f, 2 * it.length + st.length < f →
      match (generalizing := false) out with
      | [] => Stream.next chal f st it = none
      | x :: out' => ∃ it' st', Stream.next chal f st it = some (x, it', st')
          ∧ EmitsS chal st' it' out' := by
  induction h with
  | @push st it item st' it' out h hne k ih =>
    intro f hf
    cases f with
    | zero => cases hf
    | succ f =>
      simp only [Stream.next, h, if_pos hne]
      exact ih f (Nat.lt_of_succ_lt_succ (Nat.lt_of_le_of_lt (stepItem_measure h) hf))
  | @out st it item st' it' out h heq k _ =>
    intro f hf
    cases f with
    | zero => cases hf
    | succ f =>
      simp only [Stream.next, h, if_neg (not_not.2 heq)]
      exact ⟨it', st', rfl, k⟩
  | @done st it h =>
    intro f hf
    cases f with
    | zero => cases hf
    | succ f => simp only [Stream.next, h]

theorem collectS_of_emits {out : List F}
    (h : EmitsS chal st it out) (f : Nat) (hf : out.length < f) :
    Stream.collect chal f st it = out := by
  induction out generalizing st it f with
  | nil =>
    cases f with
    | zero => cases hf
    | succ f =>
      have : Stream.next chal _ st it = none := nextS_of_emits h _ (Nat.lt_succ_self _)
      simp only [Stream.collect, this]
  | cons x out ih =>
    cases f with
    | zero => cases hf
    | succ f =>
      obtain ⟨it', st', hn, hk⟩ := nextS_of_emits h _ (Nat.lt_succ_self _)
      simp only [Stream.collect, hn]
      rw [ih hk f (Nat.lt_of_succ_lt_succ hf)]

theorem level_length_le (items : List (Nat × F)) (i : Nat) :
    (Tree.level items i).length ≤ items.length := by
  unfold Tree.level
  rw [List.length_map]
  exact List.length_filter_le _ _

/-- for a positive depth the stream iterator yields the top-level items of the tree iterator's run
(its fast path reads two items and folds them at once, `challenges[0] * rhs + lhs`) -/
theorem streamS_of_emits {out : List (Nat × F)} (h : Emits chal st it out) (hd : 1 ≤ chal.length) :
    EmitsS chal st it (Tree.level out chal.length) := by
  have h0 : ∀ c : F, ((0, c) : Nat × F).1 ≠ chal.length := fun _ => Nat.ne_of_lt hd
  generalize hm : 2 * it.length + st.length = m
  induction m using Nat.strong_induction_on generalizing st it out with
  | _ m ih =>
    -- one round of the stream iterator on an item the tree iterator emits next
    have round : ∀ {st' it' item out}, Stream.stepItem chal st it = some (item, st', it') →
        Emits chal (pushItem chal.length item st') it' out →
        EmitsS chal st it (Tree.level (item :: out) chal.length) := by
      intro st' it' item out hstep k
      have hdec : 2 * it'.length + st'.length + 2 ≤ m := hm ▸ stepItem_measure hstep
      rw [level_cons]
      by_cases heq : item.1 = chal.length
      · rw [if_pos heq]
        rw [pushItem_of_eq heq] at k
        exact EmitsS.out hstep heq (ih _ (Nat.lt_of_succ_lt hdec) k rfl)
      · rw [if_neg heq]
        rw [pushItem_of_ne heq] at k
        exact EmitsS.push hstep heq (ih _ hdec k rfl)
    cases h with
    | @fold _ _ out item st' hf k => exact round (by simp only [Stream.stepItem, hf]) k
    | @read _ x it' _ hf k =>
      by_cases hfast : Stream.fastPath st = true
      · -- fast path: the tree iterator reads a second item and folds the two at once
        rw [pushItem_of_ne (h0 x)] at k
        have hz := foldTop_zero_fast chal x hfast
        have hcond : (decide (chal.length > 0) && Stream.fastPath st) = true := by
          rw [hfast, Bool.and_true, decide_eq_true_eq]; exact hd
        cases k with
        | fold h2 _ => rw [hz] at h2; cases h2
        | done _ => exact EmitsS.done (by simp only [Stream.stepItem, hf, hcond, if_true])
        | @read _ y it'' _ _ k2 =>
          rw [pushItem_of_ne (h0 y)] at k2
          have hf3 : foldTop chal ((0, y) :: (0, x) :: st)
              = some ((1, x * chal.getD 0 0 + y), st) :=
            foldTop_eq_some.2 ⟨_, _, rfl, rfl, rfl⟩
          cases k2 with
          | read h3 _ => rw [hf3] at h3; cases h3
          | done h3 => rw [hf3] at h3; cases h3
          | @fold _ _ out3 item3 st3 h3 k3 =>
            rw [hf3] at h3
            cases h3
            refine round ?_ k3
            simp only [Stream.stepItem, hf, hcond, if_true, mul_comm]
      · have hcond : (decide (chal.length > 0) && Stream.fastPath st) = false := by
          rw [Bool.not_eq_true] at hfast; rw [hfast, Bool.and_false]
        have h := round (item := (0, x))
          (by simp only [Stream.stepItem, hf, hcond, Bool.false_eq_true, if_false]) k
        rwa [level_cons, if_neg (h0 x)] at h
    | done hf =>
      exact EmitsS.done (by
        simp only [Stream.stepItem, hf]
        split <;> rfl)

theorem streamS_depth_zero (it : List F) : EmitsS ([] : List F) [] it it := by
  induction it with
  | nil => exact EmitsS.done (by simp [Stream.stepItem, foldTop])
  | cons x it ih =>
    have hstep : Stream.stepItem ([] : List F) [] (x :: it) = some ((0, x), [], it) := by
      simp [Stream.stepItem, foldTop]
    exact EmitsS.out hstep rfl ih

end Fold
end PCV
