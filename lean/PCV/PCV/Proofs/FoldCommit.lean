/-
  PCV.Proofs.FoldCommit — `commit_folding` / `open_folding` of `space.rs`: the per-level skip
  offsets `len(srs) - ceil_div(n, 2^i)` align the items of level `i` of the tree iterator with the
  SRS, so the results are the time-efficient commitments / multi-point proofs of the explicitly
  folded polynomials.
-/
import PCV.Proofs.Fold
import PCV.Proofs.StreamKZGMulti

namespace PCV
namespace Fold
variable {F : Type} [Field F]
open SKZG

theorem msmStrict_eq_dot (bs cs : List F) (acc : F) (h : cs.length ≤ bs.length) :
    msmStrict bs cs acc = .ok (acc + dot bs cs) := by
  induction cs generalizing bs acc with
  | nil =>
    rw [dot_nil_right, add_zero]
    cases bs <;> rfl
  | cons c cs ih =>
    cases bs with
    | nil => cases h
    | cons b bs => rw [msmStrict, ih bs _ (Nat.le_of_succ_le_succ h), dot_cons, add_assoc]

theorem mapExcept_ok {α β : Type} (f : α → Except Err β) (g : α → β) (l : List α)
    (h : ∀ a ∈ l, f a = .ok (g a)) : mapExcept f l = .ok (l.map g) := by
  induction l with
  | nil => rfl
  | cons a l ih =>
    simp only [mapExcept, h a List.mem_cons_self, ih (fun b hb => h b (List.mem_cons_of_mem _ hb)),
      List.map_cons]

theorem ceil_half (n P : Nat) (hP : 1 ≤ P) :
    ((n + 1) / 2 + P - 1) / P = (n + 2 * P - 1) / (2 * P) := by
  obtain ⟨Q, rfl⟩ := Nat.exists_eq_add_of_le' hP
  rw [← Nat.div_div_eq_div_mul, show n + 2 * (Q + 1) - 1 = n + 1 + 2 * Q by omega,
    Nat.add_mul_div_left _ _ Nat.two_pos]
  rfl

theorem foldAll_length (us cs : List F) :
    (foldAll cs us).length = ceilDiv cs.length (2 ^ us.length) := by
  induction us generalizing cs with
  | nil => simp [foldAll, ceilDiv]
  | cons u us ih =>
    simp only [foldAll, ih, fold_length, ceilDiv, List.length_cons]
    rw [ceil_half _ _ (Nat.two_pow_pos _), pow_succ, Nat.mul_comm]

theorem foldings_eq (chal cs : List F) :
    foldings cs chal = (List.range chal.length).map (fun j => foldAll cs (chal.take (j + 1))) := by
  induction chal generalizing cs with
  | nil => rfl
  | cons u us ih =>
    simp only [foldings, List.length_cons, List.range_succ_eq_map, List.map_cons, List.map_map, ih]
    congr 1

/-- `map(|i| …)` over the levels `1..=depth` -/
theorem mapExcept_levels {β : Type} (f : Nat → Except Err β) (g : Nat → β) (d : Nat)
    (h : ∀ j < d, f (j + 1) = .ok (g j)) :
    mapExcept f ((List.range d).map (· + 1)) = .ok ((List.range d).map g) := by
  rw [mapExcept_ok f (fun i => g (i - 1)), List.map_map]
  · rfl
  · intro i hi
    obtain ⟨j, hj, rfl⟩ := List.mem_map.1 hi
    exact h j (List.mem_range.1 hj)

/-- level `j + 1` of the tree iterator is the `(j+1)`-fold folding, and the number of bases
`commit_folding` / `open_folding` keep for it, `ceil_div(n, 2^(j+1))`, is its length -/
theorem level_facts {chal : List F} (cs : List F) {j : Nat} (hj : j < chal.length) :
    Tree.level (Tree.toList cs.reverse chal) (j + 1) = (foldAll cs (chal.take (j + 1))).reverse
      ∧ ceilDiv cs.length (2 ^ (j + 1)) = (foldAll cs (chal.take (j + 1))).length :=
  ⟨tree_level_eq_fold chal cs (j + 1) (Nat.succ_pos j) hj,
    by rw [foldAll_length, List.length_take, Nat.min_eq_left hj]⟩

/-- **`commit_folding`** returns the MSMs of the explicitly folded polynomials with the key, for every
length and depth and every key at least as long as the input. -/
theorem commitFolding_eq_dot {ck : CK F} {cs : List F} (chal : List F)
    (h : cs.length ≤ ck.powersOfG.length) :
    commitFolding (CKS.ofTime ck) cs.reverse chal
      = .ok ((foldings cs chal).map (dot ck.powersOfG)) := by
  unfold commitFolding
  rw [foldings_eq, List.map_map]
  apply mapExcept_levels
  intro j hj
  obtain ⟨hlev, hlen⟩ := level_facts cs hj
  have hle := (foldAll_length_le (chal.take (j + 1)) cs).trans h
  simp only [CKS.ofTime, List.length_reverse]
  rw [hlen, if_neg (Nat.not_lt.2 hle), hlev,
    msmStrict_eq_dot _ _ _ (by
      rw [List.length_drop, List.length_reverse, List.length_reverse, Nat.sub_sub_self hle]),
    dot_stream _ _ hle, zero_add]
  rfl

/-- the per-level loop of `open_folding` is the loop of `open_multi_points` with the popped quotient
coefficients scaled by `η` -/
theorem ofLoop_eq_mpLoop (zs : List F) (η : F) (state rest bases : List F) (acc : F) :
    ofLoop zs η state rest bases (η * acc)
      = (Space.mpLoop zs state rest bases acc).map (fun r => (r.1, η * r.2)) := by
  induction rest generalizing state bases acc with
  | nil => simp only [ofLoop, Space.mpLoop, Except.map]
  | cons c cs ih =>
    cases state with
    | nil => cases bases <;> simp only [ofLoop, Space.mpLoop, Except.map]
    | cons q st =>
      cases bases with
      | nil => simp only [ofLoop, Space.mpLoop, Except.map]
      | cons b bs =>
        simp only [ofLoop, Space.mpLoop]
        rw [← ih, mul_add, mul_left_comm]

/-- one level of `open_folding`: the window started at `m` zeros and fed every coefficient gives the
remainder and `η` times the quotient commitment of the streaming `open_multi_points` -/
theorem ofLoop_level {ck : CK F} {f pts : List F} (η : F) (hm : 1 ≤ pts.length)
    (hL : f.length ≤ ck.powersOfG.length) :
    ofLoop (vanishing pts).reverse.tail η (List.replicate pts.length 0) f.reverse
        (ck.powersOfG.reverse.drop (ck.powersOfG.length - f.length)) 0
      = .ok ((spaceRes ck f pts).1, η * (spaceRes ck f pts).2) := by
  have h := space_openMulti_window (cks := CKS.ofTime ck) (s := f.reverse) pts
    (by simpa [CKS.ofTime] using hL)
  rw [space_openMulti_eq hm hL] at h
  simp only [CKS.ofTime, List.length_reverse] at h
  have h2 := ofLoop_eq_mpLoop (vanishing pts).reverse.tail η (List.replicate pts.length 0) f.reverse
    (ck.powersOfG.reverse.drop (ck.powersOfG.length - f.length)) 0
  rw [mul_zero] at h2
  rw [h2, ← h]
  rfl

/-- **`open_folding`**: per level the remainder of the streaming `open_multi_points` of the
explicitly folded polynomial, and the single proof `Σᵢ etas[i-1]·πᵢ` of their quotient
commitments. -/
theorem openFolding_eq {ck : CK F} {cs chal pts etas : List F} (hm : 1 ≤ pts.length)
    (hL : cs.length ≤ ck.powersOfG.length) (he : chal.length ≤ etas.length) :
    openFolding (CKS.ofTime ck) cs.reverse chal pts etas
      = .ok ((List.range chal.length).map
              (fun j => (spaceRes ck (foldAll cs (chal.take (j + 1))) pts).1),
            lsum ((List.range chal.length).map
              (fun j => etas.getD j 0 * (spaceRes ck (foldAll cs (chal.take (j + 1))) pts).2))) := by
  unfold openFolding
  dsimp only
  rw [mapExcept_levels _ (fun j => ((spaceRes ck (foldAll cs (chal.take (j + 1))) pts).1,
      etas.getD j 0 * (spaceRes ck (foldAll cs (chal.take (j + 1))) pts).2))]
  · simp only [List.map_map]
    rfl
  · intro j hj
    obtain ⟨hlev, hlen⟩ := level_facts cs hj
    have hle := (foldAll_length_le (chal.take (j + 1)) cs).trans hL
    simp only [CKS.ofTime, List.length_reverse]
    rw [hlen, if_neg (Nat.not_lt.2 hle), hlev, if_neg (by
      simp only [Bool.and_eq_true, decide_eq_true_eq]
      exact fun h => Nat.not_lt.2 (Nat.le_trans hj he) h.2)]
    exact ofLoop_level _ hm hle

end Fold
end PCV
