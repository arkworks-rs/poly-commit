/-
  PCV.Proofs.GetD — `getD'` (indexing with a default) inside the range, on appended lists, on prefixes
  and on tabulated lists.
-/
import PCV.Model.Basic

namespace PCV
variable {α : Type}

theorem getD'_lt (l : List α) (k : Nat) (d : α) (h : k < l.length) : getD' l k d = l[k] := by
  unfold getD'; simp [h]

theorem getD'_mem (l : List α) (k : Nat) (d : α) (h : k < l.length) : getD' l k d ∈ l := by
  rw [getD'_lt l k d h]; exact List.getElem_mem h

theorem getD'_append_left (a b : List α) (k : Nat) (d : α) (h : k < a.length) :
    getD' (a ++ b) k d = getD' a k d := by
  unfold getD'; rw [List.getElem?_append_left h]

theorem getD'_append_right (a b : List α) (k : Nat) (d : α) :
    getD' (a ++ b) (a.length + k) d = getD' b k d := by
  unfold getD'; rw [List.getElem?_append_right (Nat.le_add_right _ _), Nat.add_sub_cancel_left]

theorem getD'_take (l : List α) {i n : Nat} (d : α) (h : i < n) :
    getD' (l.take n) i d = getD' l i d := by
  rw [getD', getD', List.getElem?_take_of_lt h]

theorem getD'_map_range {f : Nat → α} {n i : Nat} {d : α} (h : i < n) :
    getD' ((List.range n).map f) i d = f i := by
  simp [getD', h]

theorem map_getD'_range (l : List α) (d : α) :
    (List.range l.length).map (fun i => getD' l i d) = l :=
  List.ext_getElem (by simp) fun i _ h => by simp [getD', h]

end PCV
