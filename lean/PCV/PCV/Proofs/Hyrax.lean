/-
  PCV.Proofs.Hyrax — lemmas about the Hyrax model (`PCV.Model.Hyrax`): when `commitOne`, `openOne` and
  the loops answer and what; the key identity `mleEval evals point = ⟨Lᵀ·M, R⟩`; completeness of the
  proof of dot-product; `check = ok true ↔ every item satisfies the relation`; completeness and
  totality of the honest run; linearity of the row commitments.
-/
import Mathlib.Data.List.Forall2
import PCV.Proofs.HyraxMLE

namespace PCV
namespace Hyrax
variable {F : Type} [Field F]

theorem tensorPrime_length (vs : List F) : (tensorPrime vs).length = 2 ^ vs.length := by
  rw [tensorPrime_eq, MLPC.eqTable_length, List.length_reverse]

theorem tensorL_eq (point : List F) :
    tensorL point = MLPC.eqTable (point.take (point.length - point.length / 2)) := by
  rw [tensorL, tensorPrime_eq, List.drop_reverse, List.reverse_reverse]

theorem tensorR_eq (point : List F) :
    tensorR point = MLPC.eqTable (point.drop (point.length - point.length / 2)) := by
  rw [tensorR, tensorPrime_eq, List.take_reverse, List.reverse_reverse]

theorem two_mul_half {n : Nat} (h : n % 2 = 0) : 2 * (n / 2) = n :=
  Nat.mul_div_cancel' (Nat.dvd_of_mod_eq_zero h)

theorem sub_half {n : Nat} (h : n % 2 = 0) : n - n / 2 = n / 2 :=
  Nat.sub_eq_of_eq_add (by rw [← Nat.two_mul, two_mul_half h])

theorem tensorL_length (point : List F) (h : point.length % 2 = 0) :
    (tensorL point).length = 2 ^ (point.length / 2) := by
  rw [tensorL_eq, MLPC.eqTable_length, List.length_take, sub_half h, Nat.min_eq_left (Nat.div_le_self _ _)]

theorem tensorR_length (point : List F) (h : point.length % 2 = 0) :
    (tensorR point).length = 2 ^ (point.length / 2) := by
  rw [tensorR_eq, MLPC.eqTable_length, List.length_drop, sub_half h, sub_half h]

/-- `Lᵀ·M` for the column-major matrix of `evals` -/
def ltOf (L evals : List F) (dim : Nat) : List F :=
  (List.range dim).map fun col => dot L (colOf evals dim col)

theorem ltOf_length (L evals : List F) (dim : Nat) : (ltOf L evals dim).length = dim := by
  simp [ltOf]

theorem two_pow_half_sq {n : Nat} (h : n % 2 = 0) : 2 ^ (n / 2) * 2 ^ (n / 2) = 2 ^ n := by
  rw [← pow_add, ← Nat.two_mul, two_mul_half h]

/-- **Key identity.** For every even number of variables: the multilinear extension of `evals`
at `point` (ark-poly's little-endian `evaluate`) is `Lᵀ·M·R` for the column-major square matrix
`M` of `evals` and the `tensor_prime` vectors of the two halves of the reversed point. -/
theorem mleEval_eq_LMR (evals point : List F) (hn : point.length % 2 = 0)
    (he : evals.length = 2 ^ point.length) :
    mleEval evals point
      = dot (ltOf (tensorL point) evals (2 ^ (point.length / 2))) (tensorR point) := by
  have hf : evals.length = 2 ^ (point.length / 2) * 2 ^ (point.length / 2) :=
    he.trans (two_pow_half_sq hn).symm
  -- the columns of Hyrax's matrix are the rows of `mleEval_eq_rows`, split at the lower half of the point
  rw [mleEval_eq, tensorL_eq, tensorR_eq, ltOf, dot_comm]
  conv_lhs => rw [← flatten_cols hf]
  rw [MLPC.mleEval_eq_rows point (point.length - point.length / 2) _ (fun r hr => by
      obtain ⟨c, _, rfl⟩ := List.mem_map.1 hr
      rw [colOf_length, sub_half hn, Nat.min_eq_left (Nat.div_le_self _ _)])
    (by rw [flatten_cols hf, he]), List.map_map]
  exact congrArg _ (List.map_congr_left fun c _ => dot_comm _ _)

omit [Field F] in
theorem ite_error_ok_iff {α : Type} {p : Prop} [Decidable p] {e : Err} {x : Except Err α} {r : α} :
    (if p then .error e else x) = .ok r ↔ ¬p ∧ x = .ok r := by
  by_cases h : p
  · rw [if_pos h]; exact ⟨nofun, fun h' => absurd h h'.1⟩
  · rw [if_neg h]; exact ⟨fun h' => ⟨h, h'⟩, fun h' => h'.2⟩

omit [Field F] in
/-- the parity test that opens `open` and `check` -/
theorem ite_odd_ok_iff {α : Type} {n : Nat} {x : Except Err α} {r : α} :
    (if n % 2 = 1 then .error .invalidNumVars else x) = .ok r ↔ n % 2 = 0 ∧ x = .ok r :=
  ite_error_ok_iff.trans (and_congr_left' Nat.mod_two_ne_one)

omit [Field F] in
theorem exists_error_of_not_ok {α : Type} {x : Except Err α} (h : ∀ a, x ≠ .ok a) :
    ∃ e, x = .error e := by
  cases x with
  | error e => exact ⟨e, rfl⟩
  | ok a => exact absurd rfl (h a)

variable {ks : List F} {hh : F} {p : MLPoly F} {ps polys : List (MLPoly F)} {st : State F}
  {sts : List (State F)} {coms : List (List F)} {T com point draws ρs ρdraws odraws rest vs cs d : List F}
  {L R : List F} {n dim : Nat} {v c rEval rD rB ch : F} {π : Proof F} {πs : List (Proof F)}
  {it : OpenItem F} {its items : List (OpenItem F)}

theorem rowCommits_length (ks : List F) (hh : F) (rows : List (List F)) (ρs : List F) :
    (rowCommits ks hh rows ρs).length = min rows.length ρs.length := by
  simp [rowCommits]

theorem rowCommits_rowsOf_length (ks : List F) (hh : F) (evals ρs : List F) (dim : Nat)
    (h : dim ≤ ρs.length) :
    (rowCommits ks hh (rowsOf evals dim dim) (ρs.take dim)).length = dim := by
  rw [rowCommits_length, rowsOf_length, List.length_take_of_le h, Nat.min_self]

theorem le_two_pow_half {n : Nat} (h : n % 2 = 0) : n ≤ 2 ^ (n / 2) := by
  have : 2 * (n / 2) ≤ 2 ^ (n / 2) := by
    cases n / 2 with
    | zero => exact Nat.zero_le _
    | succ k => rw [Nat.pow_succ, Nat.mul_comm _ 2]; exact Nat.mul_le_mul_left 2 Nat.lt_two_pow_self
  rwa [two_mul_half h] at this

/-- The `n > ks.length` test of `commitOne` does not appear: a key of `2^(nv/2)` generators passes it
(`le_two_pow_half`). -/
theorem commitOne_ok_iff :
    commitOne ks hh p ρs = .ok (T, st) ↔
      p.nv % 2 = 0 ∧ ks.length = 2 ^ (p.nv / 2) ∧ p.evals.length = 2 ^ p.nv ∧
      2 ^ (p.nv / 2) ≤ ρs.length ∧
      T = rowCommits ks hh (rowsOf p.evals (2 ^ (p.nv / 2)) (2 ^ (p.nv / 2))) (ρs.take (2 ^ (p.nv / 2))) ∧
      st = ⟨ρs.take (2 ^ (p.nv / 2)),
            ⟨2 ^ (p.nv / 2), 2 ^ (p.nv / 2), rowsOf p.evals (2 ^ (p.nv / 2)) (2 ^ (p.nv / 2))⟩⟩ := by
  unfold commitOne
  simp only [flatToMatrix_eq]
  rw [ite_odd_ok_iff, ite_error_ok_iff]
  refine and_congr_right fun hn => ?_
  rw [← two_pow_half_sq hn]
  by_cases h3 : p.evals.length = 2 ^ (p.nv / 2) * 2 ^ (p.nv / 2)
  swap
  · rw [if_pos h3]; exact ⟨(fun h => nomatch h.2), fun h => (h3 h.2.1).elim⟩
  rw [if_neg (not_not.2 h3)]
  simp only
  rw [ite_error_ok_iff, ite_error_ok_iff, not_not, Nat.not_lt, Nat.not_lt,
    newFromRows_rowsOf _ _ _ (Nat.two_pow_pos _), Except.ok.injEq, Prod.mk.injEq]
  exact ⟨fun ⟨_, h4, h5, a, b⟩ => ⟨h4, h3, h5, a.symm, b.symm⟩,
    fun ⟨h4, _, h5, a, b⟩ =>
      ⟨(le_two_pow_half hn).trans_eq h4.symm, h4, h5, a.symm, b.symm⟩⟩

theorem commit_cons_ok_iff :
    commit ks hh (p :: ps) draws = .ok (coms, sts, rest) ↔
      ∃ c st cs' sts', commitOne ks hh p draws = .ok (c, st) ∧
        commit ks hh ps (draws.drop (2 ^ (p.nv / 2))) = .ok (cs', sts', rest) ∧
        coms = c :: cs' ∧ sts = st :: sts' := by
  rw [commit]
  cases commitOne ks hh p draws with
  | error e => simp
  | ok x =>
    cases commit ks hh ps (draws.drop (2 ^ (p.nv / 2))) with
    | error e => simp
    | ok y =>
      constructor
      · intro h
        cases h
        exact ⟨_, _, _, _, rfl, rfl, rfl, rfl⟩
      · rintro ⟨c, st, cs', sts', h1, h2, rfl, rfl⟩
        cases h1
        cases h2
        rfl

theorem commitOne_prefix (more : List F) (h : commitOne ks hh p ρs = .ok (T, st)) :
    commitOne ks hh p (ρs.take (2 ^ (p.nv / 2)) ++ more) = .ok (T, st) ∧
      (ρs.take (2 ^ (p.nv / 2)) ++ more).drop (2 ^ (p.nv / 2)) = more := by
  obtain ⟨hn, hks, he, hρ, rfl, rfl⟩ := commitOne_ok_iff.1 h
  have htl := List.length_take_of_le hρ
  have htake : (ρs.take (2 ^ (p.nv / 2)) ++ more).take (2 ^ (p.nv / 2)) = ρs.take (2 ^ (p.nv / 2)) := by
    rw [List.take_append_of_le_length htl.ge, List.take_of_length_le htl.le]
  refine ⟨commitOne_ok_iff.2 ⟨hn, hks, he, ?_, ?_, ?_⟩, ?_⟩
  · rw [List.length_append, htl]; exact Nat.le_add_right _ _
  · rw [htake]
  · rw [htake]
  · rw [List.drop_append_of_le_length htl.ge, List.drop_of_length_le htl.le, List.nil_append]

theorem commit_of_commitOne {outs : List (List F × State F)}
    (h : List.Forall₂ (fun p x => ∃ ρ, commitOne ks hh p ρ = .ok x) polys outs) :
    ∃ ρs rest, commit ks hh polys ρs = .ok (outs.map (·.1), outs.map (·.2), rest) := by
  induction h with
  | nil => exact ⟨[], [], rfl⟩
  | @cons p x ps xs hx _ ih =>
    obtain ⟨ρ, hρ⟩ := hx
    obtain ⟨ρs, rest, hc⟩ := ih
    obtain ⟨h1, h2⟩ := commitOne_prefix ρs hρ
    exact ⟨_, rest, commit_cons_ok_iff.2 ⟨_, _, _, _, h1, h2.symm ▸ hc, rfl, rfl⟩⟩

def honestProof (k0 hh : F) (ks L R ρ lt : List F) (rEval : F) (d : List F) (rD rB ch : F) :
    Proof F :=
  ⟨k0 * dot lt R + hh * rEval, dot ks d + hh * rD, k0 * dot R d + hh * rB,
   vectorSum d (scalarByVector ch lt), ch * dot L ρ + rD, ch * rEval + rB, rEval⟩

/-- `openOne` on a state as `commitOne` produces it -/
theorem openOne_ok_iff {ρ evals : List F} :
    openOne ks hh L R ⟨ρ, ⟨dim, dim, rowsOf evals dim dim⟩⟩ rEval d rD rB ch = .ok π ↔
      L.length = dim ∧ ks.length = d.length ∧ ∃ k0, key0 ks = some k0 ∧
        π = honestProof k0 hh ks L R ρ (ltOf L evals dim) rEval d rD rB ch := by
  unfold openOne
  by_cases hL : L.length = dim
  · rw [rowMul_rowsOf hL]
    cases key0 ks with
    | none => exact ⟨nofun, fun ⟨_, _, _, h, _⟩ => nomatch h⟩
    | some k0 =>
      simp only
      rw [ite_error_ok_iff, not_not, Except.ok.injEq]
      exact ⟨fun ⟨hd, h⟩ => ⟨hL, hd, k0, rfl, h.symm⟩,
        fun ⟨_, hd, _, hk, h⟩ => by cases hk; exact ⟨hd, h.symm⟩⟩
  · have : Matrix.rowMul (⟨dim, dim, rowsOf evals dim dim⟩ : Matrix F) L = .error .abort :=
      if_pos hL
    rw [this]; exact ⟨nofun, fun h => (hL h.1).elim⟩

theorem openLoop_cons_ok_iff :
    openLoop ks hh L R n dim (it :: its) draws cs = .ok πs ↔
      ∃ c cs' π πs', cs = c :: cs' ∧ it.polyLabel = it.comLabel ∧ it.nv = n ∧
        dim + 3 ≤ draws.length ∧
        openOne ks hh L R it.st (drawREval draws) (drawD dim draws) (drawRD dim draws)
          (drawRB dim draws) c = .ok π ∧
        openLoop ks hh L R n dim its (draws.drop (dim + 3)) cs' = .ok πs' ∧ πs = π :: πs' := by
  conv_lhs => unfold openLoop
  rw [ite_error_ok_iff, ite_error_ok_iff, ite_error_ok_iff, not_not, not_not, Nat.not_lt]
  constructor
  · rintro ⟨hl, hnv, hdr, h⟩
    cases cs with
    | nil => cases h
    | cons c cs' =>
      simp only at h
      cases h1 : openOne ks hh L R it.st (drawREval draws) (drawD dim draws) (drawRD dim draws)
          (drawRB dim draws) c with
      | error e => rw [h1] at h; cases h
      | ok π =>
        rw [h1] at h
        cases h2 : openLoop ks hh L R n dim its (draws.drop (dim + 3)) cs' with
        | error e => rw [h2] at h; cases h
        | ok πs' =>
          rw [h2] at h
          cases h
          exact ⟨c, cs', π, πs', rfl, hl, hnv, hdr, h1, h2, rfl⟩
  · rintro ⟨c, cs', π, πs', rfl, hl, hnv, hdr, h1, h2, rfl⟩
    exact ⟨hl, hnv, hdr, by simp only [h1, h2]⟩

omit [Field F] in
theorem drawD_length (h : dim + 3 ≤ draws.length) :
    (drawD dim draws).length = dim := by
  rw [drawD, List.length_take, List.length_drop]
  exact Nat.min_eq_left (Nat.le_sub_of_add_le (Nat.le_of_succ_le (Nat.le_of_succ_le h)))

theorem open_ok_iff :
    Hyrax.open ks hh items point draws cs = .ok πs ↔
      point.length % 2 = 0 ∧
      openLoop ks hh (tensorL point) (tensorR point) point.length (2 ^ (point.length / 2))
        items draws cs = .ok πs :=
  ite_odd_ok_iff

theorem dot_honest_z {a lt : List F} (hd : d.length = lt.length) :
    dot a (vectorSum d (scalarByVector ch lt)) = dot a d + ch * dot a lt := by
  unfold vectorSum scalarByVector
  rw [dot_zipWith_add _ (by rw [List.length_map, hd]), dot_map_mul_right, mul_comm]

theorem vectorSum_left_unique {m z : List F} {n : Nat} (hm : m.length = n) (hz : z.length = n) :
    ∃ d, d.length = n ∧ vectorSum d m = z ∧
      ∀ d', d'.length = n → vectorSum d' m = z → d' = d := by
  induction m generalizing z n with
  | nil =>
    cases hm
    cases List.length_eq_zero_iff.1 hz
    exact ⟨[], rfl, rfl, fun d' hd' _ => List.length_eq_zero_iff.1 hd'⟩
  | cons t ts ih =>
    cases hm
    cases z with
    | nil => cases hz
    | cons a as =>
      obtain ⟨d, hd1, hd2, hd3⟩ := ih rfl (Nat.succ.inj hz)
      refine ⟨(a - t) :: d, congrArg (· + 1) hd1, ?_, ?_⟩
      · rw [vectorSum, List.zipWith_cons_cons, sub_add_cancel]
        exact congrArg _ hd2
      · intro d' hd' he
        cases d' with
        | nil => cases hd'
        | cons x xs =>
          rw [vectorSum, List.zipWith_cons_cons] at he
          obtain ⟨h1, h2⟩ := List.cons.inj he
          rw [eq_sub_of_add_eq h1, hd3 xs (Nat.succ.inj hd') h2]

/-- one (commitment, value, proof, challenge) item passes all tests of `check` -/
def ItemOK (ks : List F) (hh : F) (L R : List F) (dim : Nat) (com : List F) (v : F)
    (π : Proof F) (c : F) : Prop :=
  ∃ k0, key0 ks = some k0 ∧ com.length = dim ∧ ks.length = π.z.length ∧
    defectEval k0 hh v π = 0 ∧ defect14 k0 hh R π c = 0 ∧ defect13 ks hh L com π c = 0

theorem itemOK_iff_of_key {k0 : F} (hk : key0 ks = some k0) :
    ItemOK ks hh L R dim com v π c ↔ com.length = dim ∧ ks.length = π.z.length ∧
      defectEval k0 hh v π = 0 ∧ defect14 k0 hh R π c = 0 ∧ defect13 ks hh L com π c = 0 := by
  simp only [ItemOK, hk, Option.some.injEq, exists_eq_left']

/-- **Completeness of the Σ-protocol**, for any vector `lt` and any commitment `com` whose combination
`⟨com, L⟩` is the Pedersen commitment to `lt` with blinding `⟨L, ρ⟩`: the closed-form proof passes
every test for the value `⟨lt, R⟩`, under its own challenge. -/
theorem honestProof_itemOK {k0 : F} {ρ lt : List F} (R : List F) (rEval rD rB ch : F)
    (hk : key0 ks = some k0) (hd : ks.length = d.length)
    (hlt : d.length = lt.length) (hcom : dot com L = dot ks lt + hh * dot L ρ) :
    ItemOK ks hh L R com.length com (dot lt R) (honestProof k0 hh ks L R ρ lt rEval d rD rB ch) ch := by
  refine (itemOK_iff_of_key hk).2 ⟨rfl, ?_, ?_, ?_, ?_⟩
  · simp only [honestProof, vectorSum, scalarByVector, List.length_zipWith, List.length_map, ← hlt,
      Nat.min_self, hd]
  · exact sub_self _
  · simp only [defect14, honestProof, innerProduct]
    rw [dot_honest_z hlt, dot_comm R lt]; ring
  · simp only [defect13, honestProof]
    rw [dot_honest_z hlt, hcom]; ring

/-- `⟨T, L⟩` for honest row commitments: the Pedersen commitment to `Lᵀ·M` with blinding `⟨L,ρ⟩`
(`Σ_r L_r·⟨ks, M_r⟩ = ⟨ks, Lᵀ·M⟩` is `dot_exchange`) -/
theorem dot_honest_rowComs (ks : List F) (hh : F) (evals ρ L : List F) (dim : Nat)
    (hρ : ρ.length = dim) :
    dot (rowCommits ks hh (rowsOf evals dim dim) ρ) L
      = dot ks (ltOf L evals dim) + hh * dot L ρ := by
  rw [dot_rowCommits (by rw [rowsOf_length, hρ]), dot_comm ρ L, rowsOf, List.map_map]
  exact congrArg (· + hh * dot L ρ)
    (dot_exchange ks L (fun row col => getD' evals (col * dim + row) 0) dim dim)

section Check
variable [DecidableEq F]

theorem preCheck_true_iff :
    preCheck ks hh dim com v π = .ok true
      ↔ ∃ k0, key0 ks = some k0 ∧ defectEval k0 hh v π = 0 ∧ com.length = dim := by
  unfold preCheck
  cases hk : key0 ks with
  | none => simp
  | some k0 =>
    simp only [Option.some.injEq, exists_eq_left']
    by_cases h1 : defectEval k0 hh v π = 0
    · by_cases h2 : com.length = dim <;> simp [h1, h2]
    · simp [h1]

theorem postCheck_true_iff :
    postCheck ks hh L R com π c = .ok true
      ↔ ∃ k0, key0 ks = some k0 ∧ defect14 k0 hh R π c = 0 ∧ ks.length = π.z.length ∧
          defect13 ks hh L com π c = 0 := by
  unfold postCheck
  cases hk : key0 ks with
  | none => simp
  | some k0 =>
    simp only [Option.some.injEq, exists_eq_left']
    by_cases h1 : defect14 k0 hh R π c = 0
    · by_cases h2 : ks.length = π.z.length
      · by_cases h3 : defect13 ks hh L com π c = 0 <;> simp [h1, h2, h3]
      · simp [h1, h2]
    · simp [h1]

theorem preCheck_of_key {k0 : F} (hk : key0 ks = some k0) :
    preCheck ks hh dim com v π =
      if defectEval k0 hh v π ≠ 0 then .ok false
      else if com.length ≠ dim then .error .invalidCommitment else .ok true := by
  simp only [preCheck, hk]

theorem postCheck_of_key {k0 : F} (hk : key0 ks = some k0) :
    postCheck ks hh L R com π c =
      if defect14 k0 hh R π c ≠ 0 then .ok false
      else if ks.length ≠ π.z.length then .error .abort
      else if defect13 ks hh L com π c ≠ 0 then .ok false else .ok true := by
  simp only [postCheck, hk]

theorem itemOK_iff_checks :
    ItemOK ks hh L R dim com v π c
      ↔ preCheck ks hh dim com v π = .ok true ∧ postCheck ks hh L R com π c = .ok true := by
  rw [preCheck_true_iff, postCheck_true_iff]
  constructor
  · rintro ⟨k0, hk, h1, h2, h3, h4, h5⟩
    exact ⟨⟨k0, hk, h3, h1⟩, ⟨k0, hk, h4, h2, h5⟩⟩
  · rintro ⟨⟨k0, hk, h3, h1⟩, ⟨k0', hk', h4, h2, h5⟩⟩
    cases hk.symm.trans hk'
    exact ⟨k0, hk, h1, h2, h3, h4, h5⟩

theorem checkLoop_cons_nil :
    checkLoop ks hh L R dim (com :: coms) (v :: vs) (π :: πs) [] ≠ .ok true := by
  unfold checkLoop
  cases preCheck ks hh dim com v π with
  | error e => simp
  | ok b => cases b <;> simp

theorem checkLoop_cons_iff :
    checkLoop ks hh L R dim (com :: coms) (v :: vs) (π :: πs) (c :: cs) = .ok true
      ↔ ItemOK ks hh L R dim com v π c ∧ checkLoop ks hh L R dim coms vs πs cs = .ok true := by
  rw [itemOK_iff_checks]
  conv_lhs => unfold checkLoop
  cases preCheck ks hh dim com v π with
  | error e => simp
  | ok b =>
    cases b with
    | false => simp
    | true =>
      simp only [true_and]
      cases postCheck ks hh L R com π c with
      | error e => simp
      | ok b' => cases b' <;> simp

theorem checkLoop_iff (h1 : coms.length = πs.length) (h2 : vs.length = πs.length) :
    checkLoop ks hh L R dim coms vs πs cs = .ok true
      ↔ πs.length ≤ cs.length ∧
        ∀ x ∈ List.zip coms (List.zip vs (List.zip πs cs)),
          ItemOK ks hh L R dim x.1 x.2.1 x.2.2.1 x.2.2.2 := by
  induction πs generalizing coms vs cs with
  | nil =>
    cases List.length_eq_zero_iff.1 h1
    cases List.length_eq_zero_iff.1 h2
    exact ⟨fun _ => ⟨Nat.zero_le _, nofun⟩, fun _ => rfl⟩
  | cons π πs ih =>
    cases coms with
    | nil => cases h1
    | cons com coms =>
      cases vs with
      | nil => cases h2
      | cons v vs =>
        cases cs with
        | nil =>
          exact ⟨fun h => absurd h checkLoop_cons_nil,
            fun h => absurd h.1 (Nat.not_succ_le_zero _)⟩
        | cons c cs =>
          rw [checkLoop_cons_iff, ih (Nat.succ.inj h1) (Nat.succ.inj h2)]
          simp only [List.length_cons, Nat.add_le_add_iff_right, List.zip_cons_cons,
            List.forall_mem_cons]
          exact and_left_comm

theorem check_eq_loop (hn : point.length % 2 = 0)
    (h1 : coms.length = πs.length) (h2 : vs.length = πs.length) :
    check ks hh coms point vs πs cs
      = checkLoop ks hh (tensorL point) (tensorR point) (2 ^ (point.length / 2)) coms vs πs cs := by
  unfold check
  simp only
  rw [if_neg (Nat.mod_two_ne_one.2 hn), if_neg (not_or.2 ⟨not_not.2 h1, not_not.2 h2⟩)]

theorem check_odd (h : point.length % 2 = 1) :
    check ks hh coms point vs πs cs = .error .invalidNumVars := by
  unfold check; simp [h]

theorem check_lengths (hn : point.length % 2 = 0)
    (h : coms.length ≠ πs.length ∨ vs.length ≠ πs.length) :
    check ks hh coms point vs πs cs = .error .incorrectInputLength := by
  unfold check
  simp only
  rw [if_neg (Nat.mod_two_ne_one.2 hn), if_pos h]

theorem check_iff :
    check ks hh coms point vs πs cs = .ok true
      ↔ point.length % 2 = 0 ∧ coms.length = πs.length ∧ vs.length = πs.length ∧
        πs.length ≤ cs.length ∧
        ∀ x ∈ List.zip coms (List.zip vs (List.zip πs cs)),
          ItemOK ks hh (tensorL point) (tensorR point) (2 ^ (point.length / 2))
            x.1 x.2.1 x.2.2.1 x.2.2.2 := by
  refine ite_odd_ok_iff.trans (and_congr_right fun _ => ite_error_ok_iff.trans ?_)
  rw [not_or, not_not, not_not, and_assoc]
  exact and_congr_right fun h1 => and_congr_right fun h2 => checkLoop_iff h1 h2

theorem check_single (hn : point.length % 2 = 0) :
    check ks hh [T] point [v] [π] cs =
      match preCheck ks hh (2 ^ (point.length / 2)) T v π with
      | .ok true =>
        match cs with
        | [] => .error .abort
        | c :: _ => postCheck ks hh (tensorL point) (tensorR point) T π c
      | r => r := by
  rw [check_eq_loop hn rfl rfl]
  conv_lhs => unfold checkLoop
  cases preCheck ks hh (2 ^ (point.length / 2)) T v π with
  | error e => rfl
  | ok b =>
    cases b with
    | false => rfl
    | true =>
      cases cs with
      | nil => rfl
      | cons c cs =>
        simp only
        cases postCheck ks hh (tensorL point) (tensorR point) T π c with
        | error e => rfl
        | ok b' => cases b' <;> simp [checkLoop]

theorem check_single_iff :
    check ks hh [T] point [v] [π] [c] = .ok true ↔
      point.length % 2 = 0 ∧
      ItemOK ks hh (tensorL point) (tensorR point) (2 ^ (point.length / 2)) T v π c := by
  rw [check_iff]
  simp

omit [DecidableEq F] in
theorem honest_item_ok (hn : point.length % 2 = 0) (hc : commitOne ks hh p ρs = .ok (T, st))
    (ho : openOne ks hh (tensorL point) (tensorR point) st rEval d rD rB ch = .ok π) :
    ItemOK ks hh (tensorL point) (tensorR point) (2 ^ (point.length / 2)) T
        (mleEval p.evals point) π ch ∧
      T.length = 2 ^ (point.length / 2) ∧ π.z.length = 2 ^ (point.length / 2) := by
  obtain ⟨hnv, hks, he, hρ, rfl, rfl⟩ := commitOne_ok_iff.1 hc
  obtain ⟨hL, hdl, k0, hk, rfl⟩ := openOne_ok_iff.1 ho
  have hdim : p.nv / 2 = point.length / 2 :=
    Nat.pow_right_injective (le_refl 2) (hL.symm.trans (tensorL_length point hn))
  have hnp : p.nv = point.length := by
    rw [← two_mul_half hnv, hdim, two_mul_half hn]
  rw [hdim] at hks hρ ⊢
  rw [hnp] at he
  have hρl := List.length_take_of_le hρ
  have hcl := rowCommits_rowsOf_length ks hh p.evals ρs _ hρ
  have := honestProof_itemOK (tensorR point) rEval rD rB ch hk hdl
    (by rw [ltOf_length, ← hdl, hks]) (dot_honest_rowComs ks hh p.evals _ (tensorL point) _ hρl)
  rw [hcl, ← mleEval_eq_LMR p.evals point hn he] at this
  exact ⟨this, hcl, by rw [← this.choose_spec.2.2.1, hks]⟩

/-- **Completeness of `commit`, `open`, `check`**, with the shapes of the outputs. -/
theorem complete (hc : commit ks hh polys ρdraws = .ok (coms, sts, rest)) (hst : items.map (·.st) = sts)
    (ho : Hyrax.open ks hh items point odraws cs = .ok πs) :
    check ks hh coms point (polys.map fun p => mleEval p.evals point) πs cs = .ok true ∧
      coms.length = polys.length ∧ πs.length = polys.length ∧
      (∀ c ∈ coms, c.length = 2 ^ (point.length / 2)) ∧
      (∀ π ∈ πs, π.z.length = 2 ^ (point.length / 2)) := by
  obtain ⟨hn, hl⟩ := open_ok_iff.1 ho
  clear ho
  -- the loops, by induction on the polynomials; the counts then let `check` enter its loop
  suffices h : checkLoop ks hh (tensorL point) (tensorR point) (2 ^ (point.length / 2)) coms
      (polys.map fun p => mleEval p.evals point) πs cs = .ok true ∧ coms.length = polys.length ∧
      πs.length = polys.length ∧ (∀ c ∈ coms, c.length = 2 ^ (point.length / 2)) ∧
      ∀ π ∈ πs, π.z.length = 2 ^ (point.length / 2) by
    rwa [check_eq_loop hn (h.2.1.trans h.2.2.1.symm) (by simp [h.2.2.1])]
  induction polys generalizing ρdraws odraws cs coms sts rest items πs with
  | nil =>
    cases hc
    cases List.map_eq_nil_iff.1 hst
    cases hl
    simp [checkLoop]
  | cons p ps ih =>
    obtain ⟨c, st, cs', sts', hc1, hc2, rfl, rfl⟩ := commit_cons_ok_iff.1 hc
    cases items with
    | nil => simp at hst
    | cons it its =>
      obtain ⟨rfl, hst2⟩ := List.cons.inj hst
      obtain ⟨ch, chs, π, πs', rfl, _, _, _, ho1, ho2, rfl⟩ := openLoop_cons_ok_iff.1 hl
      obtain ⟨hitem, hcl, hzl⟩ := honest_item_ok hn hc1 ho1
      obtain ⟨ih1, ih2, ih3, ih4, ih5⟩ := ih hc2 hst2 ho2
      exact ⟨checkLoop_cons_iff.2 ⟨hitem, ih1⟩, congrArg (· + 1) ih2, congrArg (· + 1) ih3,
        List.forall_mem_cons.2 ⟨hcl, ih4⟩, List.forall_mem_cons.2 ⟨hzl, ih5⟩⟩

theorem check_shapes (h : check ks hh coms point vs πs cs = .ok true) :
    point.length % 2 = 0 ∧ coms.length = πs.length ∧ vs.length = πs.length ∧
      (∀ c ∈ coms, c.length = 2 ^ (point.length / 2)) ∧ ∀ π ∈ πs, π.z.length = ks.length := by
  obtain ⟨hn, h1, h2, h3, hall⟩ := check_iff.1 h
  -- the lengths agree, so every position of `coms` and of `πs` is a position of the zipped list
  have item : ∀ i (hi : i < πs.length),
      ItemOK ks hh (tensorL point) (tensorR point) (2 ^ (point.length / 2))
        (coms[i]'(h1 ▸ hi)) (vs[i]'(h2 ▸ hi)) πs[i] (cs[i]'(Nat.lt_of_lt_of_le hi h3)) := fun i hi =>
    hall (coms[i]'(h1 ▸ hi), vs[i]'(h2 ▸ hi), πs[i], cs[i]'(Nat.lt_of_lt_of_le hi h3))
      (List.mem_iff_getElem.2 ⟨i, by simp only [List.length_zip]; omega, by simp only [List.getElem_zip]⟩)
  refine ⟨hn, h1, h2, fun c hc => ?_, fun π hπ => ?_⟩
  · obtain ⟨i, hi, rfl⟩ := List.getElem_of_mem hc
    obtain ⟨_, _, e, _⟩ := item i (h1 ▸ hi)
    exact e
  · obtain ⟨i, hi, rfl⟩ := List.getElem_of_mem hπ
    obtain ⟨_, _, _, e, _⟩ := item i hi
    exact e.symm

end Check

theorem getD'_zipWith_add (a b : List F) (i : Nat) (h : a.length = b.length) :
    getD' (List.zipWith (· + ·) a b) i 0 = getD' a i 0 + getD' b i 0 := by
  unfold getD'
  rw [List.getElem?_zipWith]
  by_cases hi : i < a.length
  · have hb : i < b.length := h ▸ hi
    simp [List.getElem?_eq_getElem hi, List.getElem?_eq_getElem hb]
  · have ha : a[i]? = none := List.getElem?_eq_none (Nat.le_of_not_lt hi)
    have hb : b[i]? = none := List.getElem?_eq_none (h ▸ Nat.le_of_not_lt hi)
    simp [ha, hb]

theorem getD'_rowCommits (ks : List F) (hh : F) (evals ρ : List F) (d r : Nat) (hr : r < d)
    (hρ : d ≤ ρ.length) :
    getD' (rowCommits ks hh (rowsOf evals d d) ρ) r 0
      = dot ks ((List.range d).map fun col => getD' evals (col * d + r) 0) + hh * getD' ρ r 0 := by
  unfold rowCommits rowsOf getD'
  have h2 : r < ρ.length := Nat.lt_of_lt_of_le hr hρ
  simp [hr, h2]

theorem rowCommits_add (ks : List F) (hh : F) {e₁ e₂ ρ σ : List F} {d : Nat}
    (he : e₁.length = e₂.length) (hρ : ρ.length = d) (hσ : σ.length = d) :
    rowCommits ks hh (rowsOf (vectorSum e₁ e₂) d d) (vectorSum ρ σ)
      = vectorSum (rowCommits ks hh (rowsOf e₁ d d) ρ) (rowCommits ks hh (rowsOf e₂ d d) σ) := by
  apply List.ext_getElem
  · simp [rowCommits, vectorSum, rowsOf, hρ, hσ]
  · intro i h1 h2
    simp only [rowCommits, vectorSum, rowsOf, List.getElem_zipWith, List.getElem_map,
      List.getElem_range, getD'_zipWith_add _ _ _ he]
    rw [dot_comm ks, dot_map_add, dot_comm _ ks, dot_comm _ ks, mul_add, add_add_add_comm]

/-- the `open` inputs of an honest run: polynomial `i` with the state `commit` returned for it -/
def honestItems (polys : List (MLPoly F)) (sts : List (State F)) : List (OpenItem F) :=
  List.zipWith (fun p st => (⟨[], [], p.nv, st⟩ : OpenItem F)) polys sts

omit [Field F] in
theorem honestItems_st (polys : List (MLPoly F)) (sts : List (State F))
    (h : polys.length = sts.length) : (honestItems polys sts).map (·.st) = sts := by
  rw [honestItems, List.map_zipWith]
  exact List.ext_getElem (by rw [List.length_zipWith, h, Nat.min_self]) fun i _ _ =>
    List.getElem_zipWith

omit [Field F] in
theorem key0_of_length_pos (ks : List F) (h : 0 < ks.length) : ∃ k0, key0 ks = some k0 := by
  cases ks with
  | nil => simp at h
  | cons k _ => exact ⟨k, rfl⟩

/-- **The honest run never refuses** (so the hypotheses of `complete` are satisfiable). -/
theorem honest_total (hn : point.length % 2 = 0) (hks : ks.length = 2 ^ (point.length / 2))
    (hp : ∀ p ∈ polys, p.nv = point.length ∧ p.evals.length = 2 ^ p.nv)
    (h1 : polys.length * 2 ^ (point.length / 2) ≤ ρdraws.length)
    (h2 : polys.length * (2 ^ (point.length / 2) + 3) ≤ odraws.length)
    (h3 : polys.length ≤ cs.length) :
    ∃ coms sts rest πs, commit ks hh polys ρdraws = .ok (coms, sts, rest) ∧
      (honestItems polys sts).map (·.st) = sts ∧
      Hyrax.open ks hh (honestItems polys sts) point odraws cs = .ok πs := by
  suffices h : ∃ coms sts rest πs, commit ks hh polys ρdraws = .ok (coms, sts, rest) ∧
      polys.length = sts.length ∧
      openLoop ks hh (tensorL point) (tensorR point) point.length (2 ^ (point.length / 2))
        (honestItems polys sts) odraws cs = .ok πs by
    obtain ⟨coms, sts, rest, πs, a, b, c⟩ := h
    exact ⟨coms, sts, rest, πs, a, honestItems_st polys sts b, open_ok_iff.2 ⟨hn, c⟩⟩
  induction polys generalizing ρdraws odraws cs with
  | nil => exact ⟨[], [], ρdraws, [], rfl, rfl, rfl⟩
  | cons p ps ih =>
    obtain ⟨hnv, hev⟩ := hp p List.mem_cons_self
    rw [List.length_cons, Nat.succ_mul] at h1 h2
    have hD : 2 ^ (point.length / 2) + 3 ≤ odraws.length := le_trans (Nat.le_add_left _ _) h2
    cases cs with
    | nil => exact absurd h3 (Nat.not_succ_le_zero _)
    | cons ch chs =>
      obtain ⟨coms, sts, rest, πs, ihc, ihl, iho⟩ :=
        ih (ρdraws := ρdraws.drop (2 ^ (point.length / 2)))
          (odraws := odraws.drop (2 ^ (point.length / 2) + 3)) (fun q hq => hp q (List.mem_cons_of_mem _ hq))
          (by rw [List.length_drop]; exact Nat.le_sub_of_add_le h1)
          (by rw [List.length_drop]; exact Nat.le_sub_of_add_le h2)
          (Nat.le_of_succ_le_succ h3)
      obtain ⟨k0, hk0⟩ := key0_of_length_pos ks (by rw [hks]; exact Nat.two_pow_pos _)
      have hc1 := (commitOne_ok_iff (ks := ks) (hh := hh) (p := p) (ρs := ρdraws)).2
        ⟨hnv ▸ hn, hnv ▸ hks, hev, hnv ▸ le_trans (Nat.le_add_left _ _) h1, rfl, rfl⟩
      rw [hnv] at hc1
      exact ⟨_, _, rest, _, commit_cons_ok_iff.2 ⟨_, _, _, _, hc1, hnv ▸ ihc, rfl, rfl⟩,
        congrArg (· + 1) ihl,
        openLoop_cons_ok_iff.2 ⟨_, _, _, _, rfl, rfl, hnv, hD, openOne_ok_iff.2
          ⟨tensorL_length point hn, hks.trans (drawD_length hD).symm, k0, hk0, rfl⟩, iho, rfl⟩⟩

end Hyrax
end PCV
