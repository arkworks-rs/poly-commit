/-
  PCV.Proofs.HyraxHistory — Hyrax's `open` / `check` on a sponge as the `openF` / `checkF` of the
  trait defaults: the per-call hypothesis of `TrHistory.history_lockstep` (honest triples: the
  verifier accepts and ends in the prover's sponge state); and `open` / `check` of a single proof, for the
  proof verified at another history in `Props/C11_Hyrax.lean`.
-/
import PCV.Proofs.HyraxTranscript
import PCV.Proofs.TranscriptHistory


namespace PCV
namespace Hyrax
variable {F : Type} [Field F] [DecidableEq F]

/-- `Polynomial::evaluate` of a labelled polynomial -/
def evalLP (lp : LPoly F) (z : List F) : F := mleEval lp.poly.evals z

/-- every triple holds a commitment and a state that `commit` made for its polynomial -/
def GoodTrips (ks : List F) (hh : F) (ts : List ((LPoly F × State F) × LComm F)) : Prop :=
  ∀ t ∈ ts, ∃ ρs, commitOne ks hh t.1.1.poly ρs = .ok (t.2.rowComs, t.1.2)

/-- prover state and verifier state are related when the sponges are equal -/
def SameSponge (sp : PState F) (sv : Log F) : Prop := sp.1 = sv

variable {ro : RO F} {ks : List F} {hh : F}

omit [DecidableEq F] in
theorem honest_toItems {ts : List ((LPoly F × State F) × LComm F)}
    (h : GoodTrips ks hh ts) :
    List.Forall₂ (HonestItem ks hh) (toItems ts) (ts.map (·.1.1.poly)) :=
  List.forall₂_map_left_iff.2 (List.forall₂_map_right_iff.2 (List.forall₂_same.2 h))

/-- **The per-call hypothesis of the history theorem, for Hyrax.** -/
theorem openF_checkF_complete (ro : RO F) (ks : List F) (hh : F)
    (ts : List ((LPoly F × State F) × LComm F)) (z : List F) (π : List (Proof F))
    (sp sp' : PState F) (sv : Log F) (hg : GoodTrips ks hh ts) (hR : SameSponge sp sv)
    (ho : openF ro ks hh ts z sp = .ok (π, sp')) :
    ∃ sv', checkF ro ks hh (ts.map (·.2)) z (ts.map fun t => evalLP t.1.1 z) π sv = .ok (true, sv') ∧
      SameSponge sp' sv' := by
  unfold openF at ho
  cases h : openT ro ks hh (toItems ts) z sp.2 sp.1 with
  | error e => rw [h] at ho; cases ho
  | ok r =>
    obtain ⟨πs, rest, s'⟩ := r
    rw [h] at ho
    simp only [Except.ok.injEq, Prod.mk.injEq] at ho
    obtain ⟨rfl, rfl⟩ := ho
    cases hR
    refine ⟨s', ?_, rfl⟩
    simpa only [checkF, toItems, evalLP, List.map_map, Function.comp_def] using
      openT_checkT_lockstep (honest_toItems hg) h

theorem checkT_single (ro : RO F) (ks : List F) (hh : F) (T point : List F) (v : F) (π : Proof F)
    (s : Log F) :
    (checkT ro ks hh [T] point [v] [π] s).map (·.1)
      = check ks hh [T] point [v] [π]
          [ro.fe (absorbIter s ks hh T point π.comEval π.comD π.comB) 0] := by
  rw [checkT_fst]
  simp [runChallenges, Proof.absorbed]

omit [DecidableEq F] in
theorem openT_single_inv {it : OpenItem F × List F}
    {point draws rest : List F} {s s' : Log F} {π : Proof F}
    (h : openT ro ks hh [it] point draws s = .ok ([π], rest, s')) :
    point.length % 2 = 0 ∧
    openOne ks hh (tensorL point) (tensorR point) it.1.st (drawREval draws)
      (drawD (2 ^ (point.length / 2)) draws) (drawRD (2 ^ (point.length / 2)) draws)
      (drawRB (2 ^ (point.length / 2)) draws)
      (ro.fe (absorbIter s ks hh it.2 point π.comEval π.comD π.comB) 0) = .ok π ∧
    s' = absorbIter s ks hh it.2 point π.comEval π.comD π.comB ++ [.squeezeField 1] := by
  obtain ⟨hn, h⟩ := openT_ok_iff.1 h
  obtain ⟨h1, rfl, -, -⟩ := openLoopT_spec h
  obtain ⟨c, cs', π', πs', hc, -, -, -, ho, -, he⟩ := openLoop_cons_ok_iff.1 h1
  cases hc
  cases he
  exact ⟨hn, ho, rfl⟩

end Hyrax
end PCV
