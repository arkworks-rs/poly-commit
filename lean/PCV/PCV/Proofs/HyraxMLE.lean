/-
  PCV.Proofs.HyraxMLE — the algebra behind Hyrax.  Its `fix_variables`, `evaluate` and `tensor_prime` are
  those of `Model/MLPC` (`tensor_prime` on the reversed point), so `PCV.Proofs.MLE` speaks of them; the
  columns of the column-major matrix, one after the other, are the flat list (`flatten_cols`: Hyrax's
  matrix is the transpose of the row-major one of the linear codes), which makes `f̃(z) = ⟨Lᵀ·M, R⟩` an
  instance of `MLPC.mleEval_eq_rows`;  `Σ_r L_r·⟨ks, M_r⟩ = ⟨ks, Lᵀ·M⟩`.
-/
import PCV.Model.Hyrax
import PCV.Proofs.MLE

namespace PCV
namespace Hyrax
variable {F : Type} [Field F]

theorem dot_map_mul_left (a b : List F) (c : F) : dot a (b.map (c * ·)) = c * dot a b :=
  dot_pscale_right a b c

theorem dot_replicate_zero (k : List F) (n : Nat) : dot k (List.replicate n (0 : F)) = 0 :=
  dot_replicate_zero_right k n

theorem fixFirst_eq (r : F) : ∀ e : List F, fixFirst r e = MLPC.fixVar r e
  | [] | [_] => rfl
  | a :: b :: t => by rw [fixFirst, MLPC.fixVar, fixFirst_eq r t]

theorem fixFirst_length (r : F) (e : List F) : (fixFirst r e).length = e.length / 2 := by
  rw [fixFirst_eq, MLPC.fixVar_length]

theorem mleEval_eq (e pt : List F) : mleEval e pt = MLPC.mleEval e pt := by
  induction pt generalizing e with
  | nil => cases e <;> rfl
  | cons r rest ih => rw [mleEval, MLPC.mleEval, fixFirst_eq, ih]

/-- `tensor_prime` puts its FIRST value on the highest index bit -/
theorem tensorPrime_eq : ∀ vs : List F, tensorPrime vs = MLPC.eqTable vs.reverse
  | [] => rfl
  | v :: vs => by rw [tensorPrime, tensorPrime_eq vs, List.reverse_cons, MLPC.eqTable_snoc]

/-- column `col` of the column-major matrix = the `col`-th chunk of `n` entries of `flat` -/
def colOf (flat : List F) (n col : Nat) : List F :=
  (List.range n).map fun row => getD' flat (col * n + row) 0

theorem colOf_succ (flat : List F) (n col : Nat) :
    colOf flat n (col + 1) = colOf (flat.drop n) n col := by
  unfold colOf
  apply List.map_congr_left
  intro row _
  simp only [getD', List.getElem?_drop]
  congr 2
  rw [Nat.succ_mul, Nat.add_right_comm, Nat.add_comm]

theorem colOf_zero (flat : List F) (n : Nat) (h : n ≤ flat.length) : colOf flat n 0 = flat.take n := by
  apply List.ext_getElem
  · rw [colOf, List.length_map, List.length_range, List.length_take, Nat.min_eq_left h]
  · intro i h1 _
    have hi : i < n := by rwa [colOf, List.length_map, List.length_range] at h1
    simp only [colOf, List.getElem_map, List.getElem_range, List.getElem_take, getD', Nat.zero_mul,
      Nat.zero_add, List.getElem?_eq_getElem (Nat.lt_of_lt_of_le hi h), Option.getD_some]

theorem colOf_length (flat : List F) (n col : Nat) : (colOf flat n col).length = n := by
  rw [colOf, List.length_map, List.length_range]

/-- the columns of the column-major matrix, one after the other, are the flat list -/
theorem flatten_cols {flat : List F} {n m : Nat} (h : flat.length = n * m) :
    ((List.range m).map (colOf flat n)).flatten = flat := by
  induction m generalizing flat with
  | zero => exact (List.length_eq_zero_iff.1 h).symm
  | succ m ih =>
    rw [Nat.mul_succ] at h
    rw [List.range_succ_eq_map, List.map_cons, List.map_map, List.flatten_cons,
      colOf_zero flat n (h ▸ Nat.le_add_left _ _)]
    have : colOf flat n ∘ Nat.succ = colOf (flat.drop n) n := funext fun c => colOf_succ flat n c
    rw [this, ih (by rw [List.length_drop, h, Nat.add_sub_cancel]), List.take_append_drop]

/-- the rows `flat_to_matrix_column_major` produces -/
def rowsOf (flat : List F) (n m : Nat) : List (List F) :=
  (List.range n).map fun row => (List.range m).map fun col => getD' flat (col * n + row) 0

theorem flatToMatrix_eq (flat : List F) (n m : Nat) :
    flatToMatrixColumnMajor flat n m
      = if flat.length ≠ n * m then .error .abort else .ok (rowsOf flat n m) := rfl

theorem flatToMatrix_ok (flat : List F) (n m : Nat) (h : flat.length = n * m) :
    flatToMatrixColumnMajor flat n m = .ok (rowsOf flat n m) := by
  rw [flatToMatrix_eq, if_neg (not_not.2 h)]

theorem rowsOf_length (flat : List F) (n m : Nat) : (rowsOf flat n m).length = n := by
  simp [rowsOf]

theorem newFromRows_rowsOf (flat : List F) (n m : Nat) (hn : 0 < n) :
    Matrix.newFromRows (rowsOf flat n m) = .ok ⟨n, m, rowsOf flat n m⟩ := by
  obtain ⟨k, rfl⟩ : ∃ k, n = k + 1 := ⟨n - 1, (Nat.sub_add_cancel hn).symm⟩
  have hlen := rowsOf_length flat (k + 1) m
  unfold rowsOf at hlen ⊢
  rw [List.range_succ_eq_map] at hlen ⊢
  simp only [List.map_cons, Matrix.newFromRows]
  simp only [List.map_cons] at hlen
  rw [if_pos (by simp)]
  simp only [List.length_map, List.length_range] at hlen ⊢
  rw [hlen]

theorem col_rowsOf (flat : List F) (n m col : Nat) (h : col < m) :
    Matrix.col ⟨n, m, rowsOf flat n m⟩ col = colOf flat n col := by
  unfold Matrix.col colOf rowsOf
  apply List.map_congr_left
  intro row hr
  rw [List.mem_range] at hr
  simp only
  rw [getD'_map_range hr, getD'_map_range h]

theorem rowMul_rowsOf {flat L : List F} {n m : Nat} (hL : L.length = n) :
    Matrix.rowMul ⟨n, m, rowsOf flat n m⟩ L
      = .ok ((List.range m).map fun col => dot L (colOf flat n col)) := by
  unfold Matrix.rowMul innerProduct
  simp only [hL, ne_eq, not_true_eq_false, if_false]
  congr 1
  apply List.map_congr_left
  intro col hc
  rw [List.mem_range] at hc
  rw [col_rowsOf flat n m col hc]

theorem dot_map_add {α : Type} (l : List α) (f g : α → F) (L : List F) :
    dot (l.map fun x => f x + g x) L = dot (l.map f) L + dot (l.map g) L := by
  rw [dot_comm _ L, dot_comm _ L, dot_comm _ L,
    ← dot_zipWith_add _ (by rw [List.length_map, List.length_map]), List.zipWith_map,
    List.zipWith_self]

theorem dot_map_zero {α : Type} (l : List α) (L : List F) :
    dot (l.map fun _ => (0 : F)) L = 0 := by
  rw [List.map_const', dot_replicate_zero_left]

theorem dot_exchange (ks L : List F) (M : Nat → Nat → F) (n m : Nat) :
    dot ((List.range n).map fun r => dot ks ((List.range m).map (M r))) L
      = dot ks ((List.range m).map fun c => dot L ((List.range n).map (M · c))) := by
  induction ks generalizing M m with
  | nil => simp only [dot_nil_left]; exact dot_map_zero _ L
  | cons k ks ih =>
    cases m with
    | zero => simp only [List.range_zero, List.map_nil, dot_nil_right]; exact dot_map_zero _ L
    | succ m =>
      -- split off column 0; the remaining columns are the matrix `M r (c + 1)`
      simp only [List.range_succ_eq_map, List.map_cons, List.map_map, dot_cons]
      rw [dot_map_add, dot_map_smul, dot_comm L]
      exact congrArg _ (ih (fun r c => M r (c + 1)) m)

theorem dot_rowCommits {ks : List F} {hh : F} {rows : List (List F)} {ρs L : List F}
    (h : rows.length = ρs.length) :
    dot (rowCommits ks hh rows ρs) L = dot (rows.map (dot ks)) L + hh * dot ρs L := by
  have : rowCommits ks hh rows ρs = List.zipWith (· + ·) (rows.map (dot ks)) (ρs.map (hh * ·)) :=
    (List.zipWith_map ..).symm
  rw [this, dot_comm, dot_zipWith_add _ (by simp [h]), ← pscale, dot_pscale_right, dot_comm L, dot_comm L]

end Hyrax
end PCV
