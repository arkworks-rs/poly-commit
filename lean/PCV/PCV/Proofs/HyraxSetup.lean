/-
  PCV.Proofs.HyraxSetup — when `Hyrax.setup` answers and what (`Model/HyraxSetup.lean`).
-/
import PCV.Proofs.Hyrax
import PCV.Model.HyraxSetup

namespace PCV.Hyrax
theorem setup_ok_iff {F : Type} {gen : Nat → F} {n : Nat} {pp : UParams F} :
    setup gen (some n) = .ok pp ↔
      n % 2 = 0 ∧ pp = ⟨(List.range (2 ^ (n / 2))).map gen, gen (2 ^ (n / 2))⟩ := by
  exact ite_odd_ok_iff.trans (and_congr_right fun _ =>
    ⟨fun h => (Except.ok.inj h).symm, fun h => congrArg _ h.symm⟩)
end PCV.Hyrax
