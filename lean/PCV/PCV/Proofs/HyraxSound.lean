/-
  PCV.Proofs.HyraxSound — special soundness of Hyrax's proof of dot-product (equations (13), (14) and the
  evaluation-commitment test): two accepting transcripts with the same first message and different
  challenges give Pedersen openings of the row combination `T' = ⟨L, row_coms⟩` and of `com_eval` that
  are tied together by `R`; with the third test they pin the claimed value unless a discrete-log
  relation between `com_key[0]` and `h` has been found.
-/
import PCV.Proofs.Hyrax


namespace PCV
namespace Hyrax
variable {F : Type} [Field F]

/-- `(z − z')·s` in the vector operations of the model; the extracted witness for `s = (c − c')⁻¹` -/
def diffQuot (s : F) (z z' : List F) : List F :=
  vectorSum (scalarByVector s z) (scalarByVector (-s) z')

theorem dot_diffQuot {k z z' : List F} {s : F} (h : z.length = z'.length) :
    dot k (diffQuot s z z') = (dot k z - dot k z') * s := by
  rw [diffQuot, dot_honest_z (by rw [scalarByVector, List.length_map, h]), scalarByVector,
    dot_map_mul_right, sub_mul, sub_eq_add_neg, neg_mul, mul_comm s]

/-- Equations (13) and (14) both have the shape `a + h·b = X·c + D`, affine in the challenge: two
responses to `c ≠ c'`, subtracted and divided by `c − c'`, open `X`. -/
theorem open_of_two_responses {a a' b b' X D h c c' : F} (hc : c ≠ c')
    (e : a + h * b - (X * c + D) = 0) (e' : a' + h * b' - (X * c' + D) = 0) :
    X = (a - a') * (c - c')⁻¹ + h * ((b - b') * (c - c')⁻¹) := by
  have hi : (c - c') * (c - c')⁻¹ = 1 := mul_inv_cancel₀ (sub_ne_zero.2 hc)
  linear_combination (c - c')⁻¹ * (e' - e) - X * hi

/-- **Special soundness.** Two accepted responses `(z, z_d, z_b)`, `(z', z_d', z_b')` to challenges
`c ≠ c'` for the same first message `(com_eval, com_d, com_b)` (equations (13) and (14) hold for both):
with `w = (z − z')/(c − c')`, `ρ = (z_d − z_d')/(c − c')`, `σ = (z_b − z_b')/(c − c')`
* `⟨L, row_coms⟩ = ⟨com_key, w⟩ + ρ·h` — an opening of the row combination to the vector `w`,
* `com_eval = ⟨R, w⟩·com_key[0] + σ·h` — an opening of the evaluation commitment to `⟨R, w⟩`. -/
theorem special_soundness (ks : List F) (k0 hh : F) (L R T : List F)
    (ce cd cb : F) (z z' : List F) (zd zd' zb zb' re re' c c' : F) (hc : c ≠ c')
    (hlen : z.length = z'.length)
    (h13 : defect13 ks hh L T ⟨ce, cd, cb, z, zd, zb, re⟩ c = 0)
    (h13' : defect13 ks hh L T ⟨ce, cd, cb, z', zd', zb', re'⟩ c' = 0)
    (h14 : defect14 k0 hh R ⟨ce, cd, cb, z, zd, zb, re⟩ c = 0)
    (h14' : defect14 k0 hh R ⟨ce, cd, cb, z', zd', zb', re'⟩ c' = 0) :
    dot T L = dot ks (diffQuot (c - c')⁻¹ z z') + hh * ((zd - zd') * (c - c')⁻¹) ∧
    ce = k0 * dot R (diffQuot (c - c')⁻¹ z z') + hh * ((zb - zb') * (c - c')⁻¹) := by
  rw [dot_diffQuot hlen, dot_diffQuot hlen]
  refine ⟨open_of_two_responses hc h13 h13', ?_⟩
  rw [← mul_assoc, mul_sub]
  exact open_of_two_responses hc h14 h14'

/-- … and with the evaluation-commitment test `com_eval = value·com_key[0] + r_eval·h`: the extracted
vector `w` evaluates to the claimed value, `⟨R, w⟩ = value`, unless
`(⟨R,w⟩ − value)·com_key[0] + (σ − r_eval)·h = 0` is a non-trivial relation between the two generators. -/
theorem value_or_relation (k0 hh : F) (R w : List F) (ce σ value rEval : F)
    (hopen : ce = k0 * dot R w + hh * σ)
    (heval : ce - (k0 * value + hh * rEval) = 0) :
    (dot R w - value) * k0 + (σ - rEval) * hh = 0 := by
  linear_combination heval - hopen

end Hyrax
end PCV
