/-
  PCV.Proofs.HyraxTranscript — lemmas about the transcript view of Hyrax
  (`Model/HyraxTranscript.lean`): what the log and the challenges are functions of, projection to
  the challenge-list model (`Model/Hyrax.lean`), lock-step of `open` / `check`.
-/
import PCV.Proofs.Hyrax
import PCV.Model.HyraxTranscript


namespace PCV
namespace Hyrax
variable {F : Type}

theorem absorbIter_eq (s : Log F) (ks : List F) (hh : F) (T point : List F) (ce cd cb : F) :
    absorbIter s ks hh T point ce cd cb
      = s ++ [.absorb (.key ks hh), .absorb (.rowComs T), .absorb (.point point),
              .absorb (.comEval ce), .absorb (.comD cd), .absorb (.comB cb)] := by
  simp [absorbIter, Sponge.absorb]

/-- the events of one complete iteration: six absorbs and one squeeze of one field element -/
def iterEvents (ks : List F) (hh : F) (T point : List F) (a : F × F × F) : Log F :=
  [.absorb (.key ks hh), .absorb (.rowComs T), .absorb (.point point),
   .absorb (.comEval a.1), .absorb (.comD a.2.1), .absorb (.comB a.2.2), .squeezeField 1]

variable {ro : RO F} {ks : List F} {hh : F} {L R point com draws rest vs : List F} {n dim : Nat}
  {coms : List (List F)} {v : F} {π : Proof F} {πs : List (Proof F)} {s s' : Log F} {b : Bool}
  {items : List (OpenItem F × List F)}

theorem runLog_cons (ks : List F) (hh : F) (point T : List F) (Ts : List (List F)) (a : F × F × F)
    (as : List (F × F × F)) (s : Log F) :
    runLog ks hh point (T :: Ts) (a :: as) s
      = runLog ks hh point Ts as (s ++ iterEvents ks hh T point a) := by
  rw [runLog, absorbIter_eq, List.append_assoc]
  rfl

theorem runLog_eq_append (ks : List F) (hh : F) (point : List F) (Ts : List (List F))
    (as : List (F × F × F)) (s : Log F) :
    runLog ks hh point Ts as s
      = s ++ ((Ts.zip as).map fun x => iterEvents ks hh x.1 point x.2).flatten := by
  induction Ts generalizing as s with
  | nil => simp [runLog]
  | cons T Ts ih =>
    cases as with
    | nil => simp [runLog]
    | cons a as => rw [runLog_cons, ih]; simp

theorem runLog_length (ks : List F) (hh : F) (point : List F) (Ts : List (List F))
    (as : List (F × F × F)) (s : Log F) :
    (runLog ks hh point Ts as s).length = s.length + 7 * min Ts.length as.length := by
  induction Ts generalizing as s with
  | nil => simp [runLog]
  | cons T Ts ih =>
    cases as with
    | nil => simp [runLog]
    | cons a as =>
      rw [runLog_cons, ih, List.length_append, List.length_cons, List.length_cons,
        Nat.succ_min_succ]
      show _ + 7 + _ = _
      rw [Nat.mul_succ, Nat.add_assoc, Nat.add_comm 7]

theorem iterEvents_inj {T : List F} {a a' : F × F × F}
    (h : iterEvents ks hh T point a = iterEvents ks hh T point a') : a = a' := by
  simp only [iterEvents, List.cons.injEq, SpongeEv.absorb.injEq, Item.comEval.injEq, Item.comD.injEq,
    Item.comB.injEq, true_and, and_true] at h
  exact Prod.ext h.1 (Prod.ext h.2.1 h.2.2)

theorem runLog_inj {as as' : List (F × F × F)}
    (hl : as.length = coms.length) (hl' : as'.length = coms.length)
    (h : runLog ks hh point coms as s = runLog ks hh point coms as' s) : as = as' := by
  induction coms generalizing as as' s with
  | nil => rw [List.length_eq_zero_iff.1 hl, List.length_eq_zero_iff.1 hl']
  | cons T Ts ih =>
    cases as with
    | nil => cases hl
    | cons a as =>
    cases as' with
    | nil => cases hl'
    | cons a' as' =>
      rw [runLog_cons, runLog_cons] at h
      -- both logs continue `s` with the seven events of the first iteration
      have h' := h
      rw [runLog_eq_append, runLog_eq_append] at h'
      obtain rfl : a = a' := iterEvents_inj (List.append_cancel_left
        (List.append_inj_left h' (by rw [List.length_append, List.length_append]; rfl)))
      rw [ih (Nat.succ.inj hl) (Nat.succ.inj hl') h]

variable [Field F]

/-- the three commitments absorbed before the squeeze are those of the proof, whatever the challenge -/
theorem openComs_eq_map (ks : List F) (hh : F) (L R : List F) (st : State F) (rEval : F)
    (d : List F) (rD rB c : F) :
    openComs ks hh L R st rEval d rD rB
      = (openOne ks hh L R st rEval d rD rB c).map Proof.absorbed := by
  unfold openOne openComs
  cases st.mat.rowMul L with
  | error e => rfl
  | ok lt =>
    cases key0 ks with
    | none => rfl
    | some k0 =>
      by_cases hd : ks.length ≠ d.length
      · simp only [if_pos hd]; rfl
      · simp only [if_neg hd]; rfl

theorem openT_ok_iff {r : List (Proof F) × List F × Log F} :
    openT ro ks hh items point draws s = .ok r ↔
      point.length % 2 = 0 ∧
      openLoopT ro ks hh (tensorL point) (tensorR point) point.length (2 ^ (point.length / 2)) point
        items draws s = .ok r :=
  ite_odd_ok_iff

/-- **`open` on a sponge = `open` on the challenges it squeezes.**  If the transcript version
answers, the challenge-list model answers the same proofs when given the challenges
`runChallenges` (a function of the oracle, the prior history, the statement and the ABSORBED proof
components); the final sponge is `runLog`, and exactly `dim + 3` draws per polynomial are used. -/
theorem openLoopT_spec (h : openLoopT ro ks hh L R n dim point items draws s = .ok (πs, rest, s')) :
    openLoop ks hh L R n dim (items.map (·.1)) draws
        (runChallenges ro ks hh point (items.map (·.2)) (πs.map Proof.absorbed) s) = .ok πs ∧
      s' = runLog ks hh point (items.map (·.2)) (πs.map Proof.absorbed) s ∧
      rest = draws.drop (items.length * (dim + 3)) ∧ πs.length = items.length := by
  induction items generalizing draws s πs rest s' with
  | nil =>
    cases h
    exact ⟨rfl, rfl, by simp, rfl⟩
  | cons it its ih =>
    unfold openLoopT at h
    rw [ite_error_ok_iff, ite_error_ok_iff, ite_error_ok_iff, not_not, not_not, Nat.not_lt] at h
    obtain ⟨hl, hnv, hdr, h⟩ := h
    cases hc : openComs ks hh L R it.1.st (drawREval draws) (drawD dim draws)
        (drawRD dim draws) (drawRB dim draws) with
    | error e => rw [hc] at h; cases h
    | ok abc =>
      rw [hc] at h
      simp only [Sponge.squeezeOne] at h
      cases h1 : openOne ks hh L R it.1.st (drawREval draws) (drawD dim draws)
          (drawRD dim draws) (drawRB dim draws)
          (ro.fe (absorbIter s ks hh it.2 point abc.1 abc.2.1 abc.2.2) 0) with
      | error e => rw [h1] at h; cases h
      | ok π =>
        rw [h1] at h
        -- the absorbed triple is that of `π`
        rw [openComs_eq_map, h1] at hc
        cases hc
        simp only [Proof.absorbed] at h h1
        cases h2 : openLoopT ro ks hh L R n dim point its (draws.drop (dim + 3))
            (absorbIter s ks hh it.2 point π.comEval π.comD π.comB ++ [.squeezeField 1]) with
        | error e => rw [h2] at h; cases h
        | ok r =>
          rw [h2] at h
          cases h
          obtain ⟨i1, i2, i3, i4⟩ := ih h2
          refine ⟨openLoop_cons_ok_iff.2 ⟨_, _, π, _, rfl, hl, hnv, hdr, h1, i1, rfl⟩, i2, ?_,
            congrArg (· + 1) i4⟩
          rw [i3, List.drop_drop, List.length_cons, Nat.succ_mul, Nat.add_comm]

section Dec
variable [DecidableEq F]

/-- **The verifier's decisions are those of the challenge-list model** on the challenges
`runChallenges` — for every input, honest or not. -/
theorem checkLoopT_fst (ro : RO F) (ks : List F) (hh : F) (L R : List F) (dim : Nat) (point : List F)
    (coms : List (List F)) (vs : List F) (πs : List (Proof F)) (s : Log F) :
    (checkLoopT ro ks hh L R dim point coms vs πs s).map (·.1)
      = checkLoop ks hh L R dim coms vs πs
          (runChallenges ro ks hh point coms (πs.map Proof.absorbed) s) := by
  induction coms generalizing vs πs s with
  | nil => rfl
  | cons com coms ih =>
    cases vs with
    | nil => rfl
    | cons v vs =>
      cases πs with
      | nil => rfl
      | cons π πs =>
        simp only [checkLoopT, checkLoop, List.map_cons, runChallenges, Proof.absorbed,
          Sponge.squeezeOne]
        cases preCheck ks hh dim com v π with
        | error e => rfl
        | ok b =>
          cases b with
          | false => rfl
          | true =>
            simp only
            cases postCheck ks hh L R com π
                (ro.fe (absorbIter s ks hh com point π.comEval π.comD π.comB) 0) with
            | error e => rfl
            | ok b =>
              cases b with
              | false => rfl
              | true => exact ih vs πs _

theorem checkLoopT_end (h : coms = [] ∨ vs = [] ∨ πs = []) :
    checkLoopT ro ks hh L R dim point coms vs πs s = .ok (true, s) := by
  rcases h with rfl | rfl | rfl
  · rfl
  · cases coms <;> rfl
  · cases coms <;> cases vs <;> rfl

theorem checkLoopT_cons_ok
    (h : checkLoopT ro ks hh L R dim point (com :: coms) (v :: vs) (π :: πs) s = .ok (b, s')) :
    (b = false ∧ s' = s) ∨
    (b = false ∧ s' = absorbIter s ks hh com point π.comEval π.comD π.comB ++ [.squeezeField 1]) ∨
    checkLoopT ro ks hh L R dim point coms vs πs
      (absorbIter s ks hh com point π.comEval π.comD π.comB ++ [.squeezeField 1]) = .ok (b, s') := by
  unfold checkLoopT at h
  cases hp : preCheck ks hh dim com v π with
  | error e => rw [hp] at h; cases h
  | ok b1 =>
    rw [hp] at h
    cases b1 with
    | false => cases h; exact .inl ⟨rfl, rfl⟩
    | true =>
      simp only [Sponge.squeezeOne] at h
      cases hq : postCheck ks hh L R com π
          (ro.fe (absorbIter s ks hh com point π.comEval π.comD π.comB) 0) with
      | error e => rw [hq] at h; cases h
      | ok b2 =>
        rw [hq] at h
        cases b2 with
        | false => cases h; exact .inr (.inl ⟨rfl, rfl⟩)
        | true => exact .inr (.inr h)

/-- **The verifier's sponge after ANY answered `check`** (accepted or `Ok(false)`) is the run log
of the first `k` (commitment, absorbed triple) pairs for some `k`: it depends on the statement and
on `com_eval, com_d, com_b` of the proofs — never on `z, z_d, z_b, r_eval` or the claimed values,
which only decide how far the loop gets. -/
theorem checkLoopT_log (h : checkLoopT ro ks hh L R dim point coms vs πs s = .ok (b, s')) :
    ∃ k, k ≤ min coms.length (min vs.length πs.length) ∧
      s' = runLog ks hh point (coms.take k) ((πs.take k).map Proof.absorbed) s ∧
      (b = true → k = min coms.length (min vs.length πs.length)) := by
  induction coms generalizing vs πs s with
  | nil =>
    cases h
    exact ⟨0, Nat.zero_le _, rfl, fun _ => (Nat.zero_min _).symm⟩
  | cons com coms ih =>
    cases vs with
    | nil =>
      cases (checkLoopT_end (.inr (.inl rfl))).symm.trans h
      exact ⟨0, Nat.zero_le _, rfl, fun _ => by rw [List.length_nil, Nat.zero_min, Nat.min_zero]⟩
    | cons v vs =>
      cases πs with
      | nil =>
        cases h
        exact ⟨0, Nat.zero_le _, rfl, fun _ => by rw [List.length_nil, Nat.min_zero, Nat.min_zero]⟩
      | cons π πs =>
        simp only [List.length_cons, Nat.succ_min_succ]
        rcases checkLoopT_cons_ok h with ⟨rfl, rfl⟩ | ⟨rfl, rfl⟩ | h'
        · exact ⟨0, Nat.zero_le _, rfl, nofun⟩
        · exact ⟨1, Nat.succ_le_succ (Nat.zero_le _), rfl, nofun⟩
        · obtain ⟨k, hk, hs, hb⟩ := ih h'
          exact ⟨k + 1, Nat.succ_le_succ hk, hs, fun hbt => congrArg (· + 1) (hb hbt)⟩

theorem checkT_ok_iff {r : Bool × Log F} :
    checkT ro ks hh coms point vs πs s = .ok r ↔
      point.length % 2 = 0 ∧ coms.length = πs.length ∧ vs.length = πs.length ∧
      checkLoopT ro ks hh (tensorL point) (tensorR point) (2 ^ (point.length / 2)) point coms vs πs s
        = .ok r := by
  refine ite_odd_ok_iff.trans (and_congr_right fun _ => ite_error_ok_iff.trans ?_)
  rw [not_or, not_not, not_not, and_assoc]

theorem checkT_fst (ro : RO F) (ks : List F) (hh : F) (coms : List (List F)) (point vs : List F)
    (πs : List (Proof F)) (s : Log F) :
    (checkT ro ks hh coms point vs πs s).map (·.1)
      = check ks hh coms point vs πs
          (runChallenges ro ks hh point coms (πs.map Proof.absorbed) s) := by
  unfold checkT check
  simp only
  split
  · rfl
  · split
    · rfl
    · exact checkLoopT_fst ro ks hh _ _ _ point coms vs πs s

theorem checkT_log (h : checkT ro ks hh coms point vs πs s = .ok (b, s')) :
    ∃ k, k ≤ πs.length ∧
      s' = runLog ks hh point (coms.take k) ((πs.take k).map Proof.absorbed) s := by
  obtain ⟨_, _, _, h⟩ := checkT_ok_iff.1 h
  obtain ⟨k, hk, hs, _⟩ := checkLoopT_log h
  exact ⟨k, hk.trans ((Nat.min_le_right _ _).trans (Nat.min_le_right _ _)), hs⟩

theorem checkT_accept_log (h : checkT ro ks hh coms point vs πs s = .ok (true, s')) :
    s' = runLog ks hh point coms (πs.map Proof.absorbed) s := by
  obtain ⟨_, h1, h2, h⟩ := checkT_ok_iff.1 h
  obtain ⟨k, _, hs, hb⟩ := checkLoopT_log h
  obtain rfl : k = πs.length := by rw [hb rfl, h1, h2, Nat.min_self, Nat.min_self]
  rw [hs, ← h1, List.take_length, h1, List.take_length]

/-- an `open` item made from a commitment of `p`: the state and the row commitments are what
`commit` returned for `p` (for some blinding draws) -/
def HonestItem (ks : List F) (hh : F) (it : OpenItem F × List F) (p : MLPoly F) : Prop :=
  ∃ ρs, commitOne ks hh p ρs = .ok (it.2, it.1.st)

theorem except_map_fst_ok_true {α : Type} {x : Except Err (Bool × α)} :
    x.map (·.1) = .ok true ↔ ∃ s', x = .ok (true, s') := by
  cases x with
  | error e => exact ⟨nofun, fun ⟨_, h⟩ => nomatch h⟩
  | ok r =>
    obtain ⟨b, s⟩ := r
    exact ⟨fun h => ⟨s, by cases h; rfl⟩, fun ⟨_, h⟩ => by cases h; rfl⟩

/-- **Lock-step of `open` and `check`.**  On honest items, whenever the prover answers, the verifier on
the same prior history accepts the true values and ends with EXACTLY the prover's sponge: the items are
the output of one `commit` run, so the challenge-list model accepts on the squeezed challenges
(`complete`), and both sponges are the run log. -/
theorem openT_checkT_lockstep {polys : List (MLPoly F)}
    (hh' : List.Forall₂ (HonestItem ks hh) items polys)
    (ho : openT ro ks hh items point draws s = .ok (πs, rest, s')) :
    checkT ro ks hh (items.map (·.2)) point (polys.map fun p => mleEval p.evals point) πs s
      = .ok (true, s') := by
  obtain ⟨hn, hl⟩ := openT_ok_iff.1 ho
  obtain ⟨h1, rfl, -, -⟩ := openLoopT_spec hl
  obtain ⟨ρs, rest', hc⟩ := commit_of_commitOne (outs := items.map fun it => (it.2, it.1.st))
    (List.forall₂_map_right_iff.2 hh'.flip)
  have hacc := (complete hc (by simp only [List.map_map, Function.comp_def])
    (open_ok_iff.2 ⟨hn, h1⟩)).1
  simp only [List.map_map, Function.comp_def] at hacc
  obtain ⟨s'', hs⟩ := except_map_fst_ok_true.1 ((checkT_fst ..).trans hacc)
  rw [hs, checkT_accept_log hs]

end Dec

end Hyrax
end PCV
