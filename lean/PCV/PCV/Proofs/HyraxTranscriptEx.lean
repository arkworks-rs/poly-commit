/-
  PCV.Proofs.HyraxTranscriptEx — a concrete Hyrax history over `ZMod 101` for the non-vacuity examples
  of `Props/C11_Hyrax.lean`: key `[3,5]`, `h = 7`, two committed polynomials in two variables, an
  oracle that depends on the length of the history, three operations (`open`, default `batch_open`
  over two point labels, default `open_combinations`) on one sponge and one RNG.
-/
import PCV.Proofs.HyraxHistory
import PCV.Props.Examples


namespace PCV
namespace Hyrax
namespace TEx
open TraitDefault

def ro : RO K := ⟨fun h i => ((h.length * 7 + i + 3 : Nat) : K), fun _ _ => 0⟩
def polys : List (LPoly K) := [⟨[97], ⟨2, [1, 2, 3, 4]⟩⟩, ⟨[98], ⟨2, [0, 0, 9, 0]⟩⟩]
def sts : List (State K) :=
  [⟨[10, 20], ⟨2, 2, [[1, 3], [2, 4]]⟩⟩, ⟨[2, 4], ⟨2, 2, [[0, 9], [0, 0]]⟩⟩]
def comms : List (LComm K) := [⟨[97], [88, 65]⟩, ⟨[98], [59, 28]⟩]
/-- `Vec<F>: Ord`: lexicographic on canonical representatives -/
def ltVec (a b : List K) : Bool := decide (a.map ZMod.val < b.map ZMod.val)
def trips := polyStComm polys sts comms
def draws : List K := (List.range 40).map fun i => ((i * 3 + 1 : Nat) : K)

def ops : List (TrHistory.Op (List K) K (LPoly K) (State K) (LComm K)) :=
  [.single (trips.take 1) [6, 17],
   .batch [([97], ([120], [6, 17])), ([98], ([120], [6, 17])), ([98], ([121], [2, 9]))],
   .combo [⟨[101], [(2, .poly [97]), (5, .poly [98]), (1, .one)]⟩] [([101], ([122], [4, 4]))]]

def vops : List (TrHistory.VOp (List K) K (LComm K)) :=
  [.single (comms.take 1) [6, 17] [41],
   .batch [([97], ([120], [6, 17])), ([98], ([120], [6, 17])), ([98], ([121], [2, 9]))]
     [(([97], [6, 17]), 41), (([98], [6, 17]), 43), (([98], [2, 9]), 20)],
   .combo [⟨[101], [(2, .poly [97]), (5, .poly [98]), (1, .one)]⟩] [([101], ([122], [4, 4]))]
     [(([101], [4, 4]), 93)]]

def proverOut := TrHistory.proverRun ltVec (fun (p : LPoly K) => p.label) evalLP (openF ro [3, 5] 7)
  polys sts comms ops ([], draws)
def histProofs : List (TrHistory.OpProof K (List (Proof K))) :=
  match proverOut with | .ok (πs, _) => πs | .error _ => []
def histLog : Log K := match proverOut with | .ok (_, (s, _)) => s | .error _ => []

theorem commit_eq : commit ([3, 5] : List K) 7 (polys.map (·.poly)) [10, 20, 2, 4]
    = .ok (comms.map (·.rowComs), sts, []) := by decide +kernel

theorem good : GoodTrips ([3, 5] : List K) 7 trips := by
  intro t ht
  simp only [trips, polyStComm, polys, sts, comms, List.zip_cons_cons, List.zip_nil_right,
    List.mem_cons, List.not_mem_nil, or_false] at ht
  rcases ht with rfl | rfl
  · exact ⟨[10, 20], by decide +kernel⟩
  · exact ⟨[2, 4], by decide +kernel⟩

theorem prover_eq : proverOut = .ok (histProofs, (histLog, draws.drop 30)) := by decide +kernel

theorem histLog_length : histLog.length = 42 := by decide +kernel

theorem ltVec_strict : QS.StrictTotal ltVec := by
  constructor
  · intro a b c h1 h2
    simp only [ltVec, decide_eq_true_eq] at h1 h2 ⊢
    exact lt_trans h1 h2
  · intro a b hne h
    simp only [ltVec, decide_eq_true_eq, decide_eq_false_iff_not] at h ⊢
    exact (lt_or_gt_of_ne fun h' =>
      hne (List.map_injective_iff.2 (ZMod.val_injective 101) h')).resolve_left h

theorem ltVec_irrefl : ∀ a, ltVec a a = false := by
  intro a; simp [ltVec]

/-- the claims of `vops` are the true ones for `ops` -/
theorem truthful : List.Forall₂ (TrHistory.Truthful ltVec (fun (p : LPoly K) => p.label) evalLP
    (GoodTrips ([3, 5] : List K) 7) polys sts comms) ops vops :=
  .cons ⟨fun t ht => good t (List.mem_of_mem_take ht), by decide +kernel, rfl, by decide +kernel⟩
    (.cons (by decide +kernel) (.cons (by decide +kernel) .nil))

/-- not evaluated: on a truthful history the verifier's run is what `history_lockstep` says it is -/
theorem verifier_eq : TrHistory.verifierRun ltVec (fun (c : LComm K) => c.label) (checkF ro [3, 5] 7)
    comms vops histProofs [] = .ok (true, histLog) := by
  obtain ⟨sv', hv, hR⟩ := TrHistory.history_lockstep ltVec (fun (p : LPoly K) => p.label)
    (fun (c : LComm K) => c.label) evalLP (GoodTrips ([3, 5] : List K) 7) polys sts comms comms
    ltVec_strict ltVec_irrefl (openF ro [3, 5] 7) (checkF ro [3, 5] 7) SameSponge
    (openF_checkF_complete ro [3, 5] 7) (TrHistory.htrip_of_length _ polys _ _ rfl rfl)
    (fun ls ts h t ht => good t (TrHistory.gatherOpen_mem _ _ ls ts h t ht))
    (TrHistory.hcm_of_labels _ _ polys _ _ rfl rfl (by decide +kernel))
    ops vops truthful ([], draws) [] histProofs (histLog, draws.drop 30) rfl prover_eq
  rw [hv, show sv' = histLog from hR.symm]

end TEx
end Hyrax
end PCV
