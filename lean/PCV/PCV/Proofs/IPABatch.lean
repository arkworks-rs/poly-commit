/-
  PCV.Proofs.IPABatch — completeness of `batch_check ∘ batch_open` for the IPA model: the prover's
  and the verifier's label lookups pick the same (polynomial, commitment, state) triple, every
  point label's `open`/`succinct_check` pair threads the sponge and the random oracle identically,
  and all final-key defects vanish, so the randomized test passes for every randomizer list.
-/
import PCV.Proofs.IPAVerify
import PCV.Proofs.Lookup


namespace PCV
namespace IPA
variable {F : Type} [Field F] [DecidableEq F]

theorem allCommitted_forall₂ (ck : CK F) :
    ∀ {polys : List (LPoly F)} {comms : List (LComm F)} {sts : List (Rand F)},
      AllCommitted ck polys comms sts → (∀ p ∈ polys, pnorm p.poly = p.poly) →
      List.Forall₂ (fun (x : LPoly F × (Rand F × LComm F)) c =>
          x.2.2 = c ∧ Committed ck x.1 c x.2.1 ∧ pnorm x.1.poly = x.1.poly)
        (polys.zip (sts.zip comms)) comms
  | [], [], [], _, _ => .nil
  | p :: _, _ :: _, _ :: _, ⟨hc, hcs⟩, hnf =>
    .cons ⟨rfl, hc, hnf p List.mem_cons_self⟩
      (allCommitted_forall₂ ck hcs fun q hq => hnf q (List.mem_cons_of_mem _ hq))

/-- the prover's and the verifier's label lookups find nothing together, or a committed triple and
its commitment -/
theorem lookup_agree (ck : CK F) (l : Label) {polys : List (LPoly F)} {comms : List (LComm F)}
    {sts : List (Rand F)} (hall : AllCommitted ck polys comms sts)
    (hnf : ∀ p ∈ polys, pnorm p.poly = p.poly) :
    (Marlin.lookupLast (fun (x : LPoly F × (Rand F × LComm F)) => x.1.label) l
          (polys.zip (sts.zip comms)) = none ∧
        Marlin.lookupLast (fun (c : LComm F) => c.label) l comms = none) ∨
      ∃ p st c, Marlin.lookupLast (fun (x : LPoly F × (Rand F × LComm F)) => x.1.label) l
          (polys.zip (sts.zip comms)) = some (p, st, c) ∧
        Marlin.lookupLast (fun (c : LComm F) => c.label) l comms = some c ∧ Committed ck p c st ∧
        pnorm p.poly = p.poly := by
  rcases Marlin.lookupLast_forall₂ _ l _ _ (fun _ _ hab => hab.2.1.1.symm)
    (allCommitted_forall₂ ck hall hnf) with h | ⟨⟨p, st, c⟩, _, h1, h2, rfl, h3, h4⟩
  · exact .inl h
  · exact .inr ⟨p, st, c, h1, h2, h3, h4⟩

/-- the evaluations handed to the verifier are the true ones for every queried (label, point) -/
def TrueEvals (polys : List (LPoly F)) (comms : List (LComm F)) (sts : List (Rand F))
    (evals : List ((Label × F) × F)) (gs : List (Label × (F × List Label))) : Prop :=
  ∀ g ∈ gs, ∀ l ∈ g.2.2, ∀ p st c,
    Marlin.lookupLast (fun (x : LPoly F × (Rand F × LComm F)) => x.1.label) l
      (polys.zip (sts.zip comms)) = some (p, st, c) →
    Marlin.lookupEval evals l g.2.1 = some (evalPoly p.poly g.2.1)

theorem gather_agree {ck : CK F} {polys : List (LPoly F)} {comms : List (LComm F)}
    {sts : List (Rand F)} {evals : List ((Label × F) × F)} {z : F}
    (hall : AllCommitted ck polys comms sts) (hnf : ∀ p ∈ polys, pnorm p.poly = p.poly) :
    ∀ (ls : List Label) {ps cs ss},
      (∀ l ∈ ls, ∀ p st c,
        Marlin.lookupLast (fun (x : LPoly F × (Rand F × LComm F)) => x.1.label) l
          (polys.zip (sts.zip comms)) = some (p, st, c) →
        Marlin.lookupEval evals l z = some (evalPoly p.poly z)) →
      gatherPolys polys comms sts ls = .ok (ps, cs, ss) →
      gatherComms comms evals z ls = .ok (cs, ps.map fun p => evalPoly p.poly z) ∧
        AllCommitted ck ps cs ss ∧ ∀ p ∈ ps, pnorm p.poly = p.poly := by
  intro ls
  induction ls with
  | nil =>
    intro ps cs ss _ h
    cases h
    exact ⟨rfl, trivial, fun _ hp => nomatch hp⟩
  | cons l ls ih =>
    intro ps cs ss hev h
    simp only [gatherPolys] at h
    split at h
    · cases h
    · rename_i p st c hlook
      split at h
      · cases h
      · rename_i ps' cs' ss' hrec
        cases h
        obtain ⟨hlc, hcm, hpn⟩ : Marlin.lookupLast (fun (c : LComm F) => c.label) l comms = some c ∧
            Committed ck p c st ∧ pnorm p.poly = p.poly := by
          rcases lookup_agree ck l hall hnf with ⟨h0, _⟩ | ⟨_, _, _, h1, h⟩
          · rw [hlook] at h0; cases h0
          · rw [hlook] at h1; cases h1; exact h
        obtain ⟨hg, hall', hnf'⟩ := ih (fun l' hl' => hev l' (List.mem_cons_of_mem _ hl')) hrec
        refine ⟨?_, ⟨hcm, hall'⟩, ?_⟩
        · simp only [gatherComms, hlc, hev l List.mem_cons_self p st c hlook, hg, List.map_cons]
        · intro q hq
          rcases List.mem_cons.1 hq with rfl | hq
          · exact hpn
          · exact hnf' q hq

/-- one point label of the batch; the sponge and the random oracle are left where the prover left
them, so the next label starts from the same state on both sides -/
theorem batch_group_step {ck : CK F} {k : Nat} (hk : ck.commKey.length = 2 ^ k)
    {polys : List (LPoly F)} {comms : List (LComm F)} {sts : List (Rand F)}
    (hall : AllCommitted ck polys comms sts) (hnf : ∀ p ∈ polys, pnorm p.poly = p.poly)
    {evals : List ((Label × F) × F)} {rng : Bool} {g : Label × (F × List Label)}
    {gs : List (Label × (F × List Label))} {ξs ros draws : List F} {πs : List (Proof F)}
    {ξr ror dr : List F} (hev : TrueEvals polys comms sts evals (g :: gs))
    (h : batchOpenGroups ck polys comms sts rng (g :: gs) ξs ros draws = .ok (πs, ξr, ror, dr)) :
    ∃ cs vs us π πs' ξs' ros' draws', πs = π :: πs' ∧
      gatherComms comms evals g.2.1 g.2.2 = .ok (cs, vs) ∧ badShape ck π = false ∧
      succinctCheck ck cs g.2.1 vs π ξs ros = .ok (some us, ξs', ros') ∧ defect2 ck π us = 0 ∧
      batchOpenGroups ck polys comms sts rng gs ξs' ros' draws' = .ok (πs', ξr, ror, dr) := by
  simp only [batchOpenGroups] at h
  split at h
  · cases h
  · rename_i ps cs ss hgather
    split at h
    · cases h
    · rename_i π ξs' ros' draws' hopen
      split at h
      · cases h
      · rename_i πs' a b c hrec
        cases h
        obtain ⟨hg, hall', hnf'⟩ := gather_agree hall hnf g.2.2 (hev g List.mem_cons_self) hgather
        obtain ⟨hshape, ⟨us, hsc, hd2⟩, _, _⟩ := open_succinct_complete hk hall' hnf' hopen
        exact ⟨cs, _, us, π, πs', ξs', ros', draws', rfl, hg, hshape, hsc, hd2, hrec⟩

/-- the loop of `batch_check` on the proofs of `batch_open` -/
theorem batch_groups_complete {ck : CK F} {k : Nat} (hk : ck.commKey.length = 2 ^ k)
    {polys : List (LPoly F)} {comms : List (LComm F)} {sts : List (Rand F)}
    (hall : AllCommitted ck polys comms sts) (hnf : ∀ p ∈ polys, pnorm p.poly = p.poly)
    (evals : List ((Label × F) × F)) {rng : Bool} :
    ∀ (gs : List (Label × (F × List Label))) {ξs ros draws : List F} {πs : List (Proof F)}
      {ξr ror dr : List F}, TrueEvals polys comms sts evals gs →
      batchOpenGroups ck polys comms sts rng gs ξs ros draws = .ok (πs, ξr, ror, dr) →
      πs.length = gs.length ∧
      ∃ uss, batchSuccinct ck comms evals gs πs ξs ros = .ok (some uss) ∧
        ∀ d ∈ defect2s ck uss πs, d = 0 := by
  intro gs
  induction gs with
  | nil =>
    intro ξs ros draws πs ξr ror dr _ h
    cases h
    exact ⟨rfl, [], rfl, fun _ hd => nomatch hd⟩
  | cons g gs ih =>
    intro ξs ros draws πs ξr ror dr hev h
    obtain ⟨cs, vs, us, π, πs', ξs', ros', draws', rfl, hg, hshape, hsc, hd2, hrec⟩ :=
      batch_group_step hk hall hnf hev h
    obtain ⟨hlen, uss, hbs, hds⟩ := ih (fun g' hg' => hev g' (List.mem_cons_of_mem _ hg')) hrec
    refine ⟨congrArg (· + 1) hlen, us :: uss, ?_, ?_⟩
    · simp only [batchSuccinct, hshape, Bool.false_eq_true, if_false, hg, hsc, hbs]
    · intro d hd
      rcases List.mem_cons.1 hd with rfl | hd
      · exact hd2
      · exact hds d hd

/-- **Completeness of `batch_check ∘ batch_open`** (trait-default `batch_open`, IPA's own
`batch_check`), for every query set, every randomizer list and all oracle outputs. -/
theorem batch_complete (ck : CK F) (k : Nat) (hk : ck.commKey.length = 2 ^ k)
    (polys : List (LPoly F)) (comms : List (LComm F)) (sts : List (Rand F))
    (hall : AllCommitted ck polys comms sts) (hnf : ∀ p ∈ polys, pnorm p.poly = p.poly)
    (qs : List (Query F)) (evals : List ((Label × F) × F))
    (hev : TrueEvals polys comms sts evals (Marlin.groupQueries qs))
    (ξs ros rs : List F) (rng : Bool) (draws : List F) (πs : List (Proof F)) (ξr ror dr : List F)
    (ho : batchOpen ck polys comms sts qs ξs ros rng draws = .ok (πs, ξr, ror, dr)) :
    batchCheck ck comms qs evals πs ξs ros rs = .ok true := by
  unfold batchOpen at ho
  obtain ⟨hlen, uss, hbs, hds⟩ := batch_groups_complete hk hall hnf evals _ hev ho
  rw [batchCheck_of_succinct rs hlen hbs, KZG.wsum_zero _ _ _ hds]
  simp

end IPA
end PCV
