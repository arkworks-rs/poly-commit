/-
  PCV.Proofs.IPABatchErr — `batch_check` of the IPA model on a perturbed statement.
  From an accepted batch, with the oracle outputs held fixed: changing the commitments by `errC`
  (per label, unshifted part) and the claimed values by `errV` (per key) changes the succinct-check
  defect of every point label by an explicit amount (`groupErr`), and nothing else; the batch is then
  accepted iff all these amounts vanish.
-/
import PCV.Proofs.IPAVerify
import PCV.Proofs.Lookup

namespace PCV
namespace IPA
variable {F : Type} [Field F] [DecidableEq F]

def bump (err : Label × F → F) (evals : List ((Label × F) × F)) : List ((Label × F) × F) :=
  evals.map fun e => (e.1, e.2 + err e.1)

def bumpComms (errC : Label → F) (comms : List (LComm F)) : List (LComm F) := comms.map (bumpC errC)

theorem lookupEval_bump (err : Label × F → F) (evals : List ((Label × F) × F)) (l : Label) (z : F) :
    Marlin.lookupEval (bump err evals) l z = (Marlin.lookupEval evals l z).map (· + err (l, z)) :=
  Marlin.lookupEval_map l z (fun k v => v + err k) evals

omit [DecidableEq F] in
theorem lookupLast_bumpComms (errC : Label → F) (comms : List (LComm F)) (l : Label) :
    Marlin.lookupLast (fun (c : LComm F) => c.label) l (bumpComms errC comms)
      = (Marlin.lookupLast (fun (c : LComm F) => c.label) l comms).map (bumpC errC) :=
  Marlin.lookupLast_map _ l _ (bumpC errC) comms fun _ _ => rfl

theorem gatherComms_bump (errC : Label → F) (errV : Label × F → F) {comms : List (LComm F)}
    {evals : List ((Label × F) × F)} {z : F} :
    ∀ (ls : List Label) {cs : List (LComm F)} {vs : List F},
      gatherComms comms evals z ls = .ok (cs, vs) →
      gatherComms (bumpComms errC comms) (bump errV evals) z ls
        = .ok (cs.map (bumpC errC), addVec vs (ls.map fun l => errV (l, z))) ∧
      vs.length = ls.length ∧ cs.length = ls.length := by
  intro ls
  induction ls with
  | nil =>
    intro cs vs h
    cases h
    exact ⟨rfl, rfl, rfl⟩
  | cons l ls ih =>
    intro cs vs h
    simp only [gatherComms] at h
    split at h
    · cases h
    · rename_i c hc
      split at h
      · cases h
      · rename_i v hv
        split at h
        · cases h
        · rename_i cs' vs' hrec
          cases h
          obtain ⟨i1, i2, i3⟩ := ih hrec
          refine ⟨?_, congrArg (· + 1) i2, congrArg (· + 1) i3⟩
          simp only [gatherComms, lookupLast_bumpComms, hc, Option.map_some, lookupEval_bump, hv, i1,
            List.map_cons, addVec]

/-- the amount by which the succinct-check defect of one point label moves -/
def groupErr (vk : VK F) (errC : Label → F) (errV : Label × F → F) (z : F) (ls : List Label)
    (cs : List (LComm F)) (vs : List F) (ξ₀ cur : F) (ξs : List F) : F :=
  commErr errC cs (addVec vs (ls.map fun l => errV (l, z))) cur ξs
    + vk.h * ξ₀ * valueErr vk z cs (ls.map fun l => errV (l, z)) cur ξs

/-- the defect shifts of all point labels, in the order of `batch_check`'s loop (the sponge and the
random oracle are threaded as in the code) -/
def batchErrs (vk : VK F) (comms : List (LComm F)) (evals : List ((Label × F) × F))
    (errC : Label → F) (errV : Label × F → F) :
    List (Label × (F × List Label)) → List (Proof F) → List F → List F → List F
  | g :: gs, π :: πs, ξs, ros =>
    match gatherComms comms evals g.2.1 g.2.2 with
    | .error _ => []
    | .ok (cs, vs) =>
      match ξs with
      | [] => []
      | cur :: ξs' =>
        match succinctRun vk cs g.2.1 vs π ξs ros with
        | .error _ => []
        | .ok (r, ξr, ror) =>
          groupErr vk errC errV g.2.1 g.2.2 cs vs r.ξ₀ cur ξs'
            :: batchErrs vk comms evals errC errV gs πs ξr ror
  | _, _, _, _ => []

def allZero (es : List F) : Bool := es.all fun e => decide (e = 0)

theorem allZero_cons (e : F) (es : List F) : allZero (e :: es) = (decide (e = 0) && allZero es) := rfl

theorem succinctCheck_some_iff (vk : VK F) (cs : List (LComm F)) (z : F) (vs : List F) (π : Proof F)
    (ξs ros us ξr ror : List F) :
    succinctCheck vk cs z vs π ξs ros = .ok (some us, ξr, ror) ↔
      ∃ r, succinctRun vk cs z vs π ξs ros = .ok (r, ξr, ror) ∧ defect1 vk z π r = 0 ∧ r.us = us := by
  unfold succinctCheck
  cases succinctRun vk cs z vs π ξs ros with
  | error e => simp
  | ok x =>
    obtain ⟨r, a, b⟩ := x
    simp only [Except.ok.injEq, Prod.mk.injEq]
    constructor
    · rintro ⟨ho, rfl, rfl⟩
      by_cases h : defect1 vk z π r = 0
      · rw [if_pos h] at ho; exact ⟨r, ⟨rfl, rfl, rfl⟩, h, Option.some.inj ho⟩
      · rw [if_neg h] at ho; cases ho
    · rintro ⟨_, ⟨rfl, rfl, rfl⟩, h, rfl⟩
      exact ⟨if_pos h, rfl, rfl⟩

theorem batchSuccinct_bump {vk : VK F} {comms : List (LComm F)} {evals : List ((Label × F) × F)}
    (errC : Label → F) (errV : Label × F → F) :
    ∀ (gs : List (Label × (F × List Label))) {πs : List (Proof F)} {ξs ros : List F}
      {uss : List (List F)},
      batchSuccinct vk comms evals gs πs ξs ros = .ok (some uss) →
      batchSuccinct vk (bumpComms errC comms) (bump errV evals) gs πs ξs ros
        = .ok (if allZero (batchErrs vk comms evals errC errV gs πs ξs ros) then some uss else none) := by
  intro gs
  induction gs with
  | nil =>
    intro πs ξs ros uss h
    cases h
    rfl
  | cons g gs ih =>
    intro πs ξs ros uss h
    cases πs with
    | nil =>
      cases h
      rfl
    | cons π πs =>
      obtain ⟨hshape, cs, vs, us, ξr, ror, uss', hg, hsc, hrec, rfl⟩ :=
        batchSuccinct_cons_ok h
      obtain ⟨hg', hlv, _⟩ := gatherComms_bump errC errV g.2.2 hg
      obtain ⟨r, hrun, hd1, rfl⟩ := (succinctCheck_some_iff ..).1 hsc
      cases ξs with
      | nil => cases hrun
      | cons cur ξt =>
        have hb := succinctRun_bump errC (ds := g.2.2.map fun l => errV (l, g.2.1)) hrun
          ((List.length_map _).trans hlv.symm)
        simp only [batchSuccinct, hshape, Bool.false_eq_true, if_false, hg', succinctCheck,
          hb, defect1_shift, hd1, zero_add, batchErrs, hg, hrun, allZero_cons, groupErr]
        have hih := ih hrec
        by_cases hz : commErr errC cs (addVec vs (g.2.2.map fun l => errV (l, g.2.1))) cur ξt
            + vk.h * r.ξ₀ * valueErr vk g.2.1 cs (g.2.2.map fun l => errV (l, g.2.1)) cur ξt = 0
        · simp only [hz, if_true, decide_true, Bool.true_and, hih]
          cases allZero (batchErrs vk comms evals errC errV gs πs ξr ror) <;> rfl
        · simp [hz]

/-- **`batch_check` on a perturbed statement.** From an accepted batch, with the oracle outputs and
the verifier's randomizers held fixed: after changing the commitments by `errC` and the claimed
values by `errV` the batch is accepted iff the defect shift of every point label vanishes. -/
theorem batchCheck_bump (vk : VK F) (comms : List (LComm F)) (qs : List (Query F))
    (evals : List ((Label × F) × F)) (πs : List (Proof F)) (ξs ros rs : List F)
    (errC : Label → F) (errV : Label × F → F)
    (hacc : batchCheck vk comms qs evals πs ξs ros rs = .ok true) :
    batchCheck vk (bumpComms errC comms) qs (bump errV evals) πs ξs ros rs
      = .ok (allZero (batchErrs vk comms evals errC errV (Marlin.groupQueries qs) πs ξs ros)) := by
  obtain ⟨hl, uss, hs, hd⟩ := batchCheck_ok_true hacc
  rw [batchCheck_of_loop rs hl (batchSuccinct_bump errC errV _ hs)]
  cases allZero (batchErrs vk comms evals errC errV (Marlin.groupQueries qs) πs ξs ros) with
  | false => rfl
  | true => exact congrArg Except.ok (decide_eq_true hd)

theorem bumpComms_zero (comms : List (LComm F)) : bumpComms (fun _ => 0) comms = comms := by
  unfold bumpComms
  rw [List.map_congr_left (fun c _ => bumpC_zero c), List.map_id']

end IPA
end PCV
