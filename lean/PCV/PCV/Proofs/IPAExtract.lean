/-
  PCV.Proofs.IPAExtract — the algebraic-forger analysis over TWO generator families `(G, h′)`: non-hiding
  commitments and proofs, every element `⟨x.1, G⟩ + x.2·h′`.  A pair `x` is the representation `⟨x.1, x.2, 0⟩`
  over `(G, h′, s)` of `PCV.Proofs.IPAExtractGeneral`; everything here is read off the three-family theorems
  through that embedding.
-/
import PCV.Proofs.IPAExtractGeneral

set_option linter.unusedSectionVars false

namespace PCV
namespace IPA

variable {F : Type} [Field F] [DecidableEq F]

def repVal (G : List F) (h' : F) (x : List F × F) : F := dot G x.1 + h' * x.2

/-- the representation of `Σ (u⁻¹·L + u·R)` -/
def lrRep : List (List F × F) → List (List F × F) → List F → List F × F
  | L :: Ls, R :: Rs, u :: us =>
    (padd (padd (pscale u⁻¹ L.1) (pscale u R.1)) (lrRep Ls Rs us).1,
     L.2 * u⁻¹ + R.2 * u + (lrRep Ls Rs us).2)
  | _, _, _ => ([], 0)

/-- coefficients of `G` in the verifier's equation -/
def relG (P : List F × F) (Ls Rs : List (List F × F)) (us : List F) (c : F) : List F :=
  padd (padd P.1 (lrRep Ls Rs us).1) (pscale (-c) (Succinct.computeCoeffs us))

/-- coefficient of `h′` in the verifier's equation -/
def relH (P : List F × F) (V : F) (Ls Rs : List (List F × F)) (us : List F) (c z : F) : F :=
  P.2 + V + (lrRep Ls Rs us).2 - c * Succinct.evaluate us z

/-- how far a represented element is from "its `G`-part evaluated at `z` equals its `h′`-part" -/
def slack (z : F) (x : List F × F) : F := evalPoly x.1 z - x.2

theorem slack3_eq (z : F) (x : Rep3 F) : slack3 z x = slack z x.gh := rfl

theorem rep3Val_eq (G : List F) (h' s : F) (x : Rep3 F) :
    rep3Val G h' s x = repVal G h' x.gh + s * x.s := rfl

def emb3 (x : List F × F) : Rep3 F := ⟨x.1, x.2, 0⟩

theorem rep3Val_emb3 (G : List F) (h' s : F) (x : List F × F) :
    rep3Val G h' s (emb3 x) = repVal G h' x := by
  rw [rep3Val_eq, emb3, mul_zero, add_zero]
  rfl

theorem lrRep3_emb3 (Ls Rs : List (List F × F)) (us : List F) :
    lrRep3 (Ls.map emb3) (Rs.map emb3) us = emb3 (lrRep Ls Rs us) := by
  induction Ls generalizing Rs us with
  | nil => rfl
  | cons L Ls ih =>
    cases Rs with
    | nil => rfl
    | cons R Rs =>
      cases us with
      | nil => rfl
      | cons u us => simp only [List.map_cons, lrRep3, lrRep, ih Rs us, emb3, zero_mul, add_zero]

theorem rel3_emb3 (P : List F × F) (V : F) (Ls Rs : List (List F × F)) (us : List F) (c z : F) :
    rel3 (emb3 P) V (Ls.map emb3) (Rs.map emb3) us c z = emb3 (relG P Ls Rs us c, relH P V Ls Rs us c z) := by
  unfold rel3
  rw [lrRep3_emb3]
  simp only [emb3, add_zero]
  rfl

/-- **Acceptance is one linear relation between the generators.** -/
theorem accept_relation {vk : VK F} {z : F} {π : Proof F} {r : Run F} {P : List F × F}
    {Ls Rs : List (List F × F)}
    (hC : r.C = repVal vk.commKey (vk.h * r.ξ₀) P)
    (hlr : r.lr = repVal vk.commKey (vk.h * r.ξ₀) (lrRep Ls Rs r.us))
    (h1 : defect1 vk z π r = 0) (h2 : defect2 vk π r.us = 0) :
    repVal vk.commKey (vk.h * r.ξ₀) (relG P Ls Rs r.us π.c, relH P r.V Ls Rs r.us π.c z) = 0 := by
  rw [← rep3Val_emb3 _ _ vk.s] at hC hlr ⊢
  rw [← lrRep3_emb3] at hlr
  rw [← rel3_emb3]
  exact accept_relation3 hC hlr h1 h2

theorem map_rep3Val_emb3 (G : List F) (h' s : F) (Ls : List (List F × F)) :
    (Ls.map emb3).map (rep3Val G h' s) = Ls.map (repVal G h') := by
  rw [List.map_map]
  exact List.map_congr_left fun x _ => rep3Val_emb3 G h' s x

/-- **IPA, algebraic forger: the trichotomy over two families.**  The trichotomy of `algebraic_trichotomy3` on
embedded data says: either the prover holds a NON-TRIVIAL linear relation between the generators (some coefficient
of `rel` is non-zero, and `⟨rel_G, G⟩ + rel_h·h′ = 0`), or the combined claim error `A` is zero, or some round
challenge is a root of a non-zero quadratic fixed before it was drawn. -/
theorem trichotomy_emb3 {G : List F} {h' s : F} {P : List F × F} {V : F} {Ls Rs : List (List F × F)}
    {us : List F} {c z A : F}
    (h : ((rel3 (emb3 P) V (Ls.map emb3) (Rs.map emb3) us c z).Nontrivial ∧
            rep3Val G h' s (rel3 (emb3 P) V (Ls.map emb3) (Rs.map emb3) us c z) = 0)
          ∨ A = 0
          ∨ ∃ i, i < us.length ∧ i < (Ls.map emb3).length ∧ i < (Rs.map emb3).length ∧
              A + lrSum (((Ls.map emb3).map (slack3 z)).take i) (((Rs.map emb3).map (slack3 z)).take i)
                    (us.take i) ≠ 0 ∧
              ((Rs.map emb3).map (slack3 z)).getD i 0 * us.getD i 0 ^ 2
                + (A + lrSum (((Ls.map emb3).map (slack3 z)).take i)
                        (((Rs.map emb3).map (slack3 z)).take i) (us.take i))
                  * us.getD i 0
                + ((Ls.map emb3).map (slack3 z)).getD i 0 = 0) :
    ((∃ i, (relG P Ls Rs us c).getD i 0 ≠ 0) ∨ relH P V Ls Rs us c z ≠ 0) ∧
        repVal G h' (relG P Ls Rs us c, relH P V Ls Rs us c z) = 0
      ∨ A = 0
      ∨ ∃ i, i < us.length ∧ i < Ls.length ∧ i < Rs.length ∧
          A + lrSum ((Ls.map (slack z)).take i) ((Rs.map (slack z)).take i) (us.take i) ≠ 0 ∧
          (Rs.map (slack z)).getD i 0 * us.getD i 0 ^ 2
            + (A + lrSum ((Ls.map (slack z)).take i) ((Rs.map (slack z)).take i) (us.take i)) * us.getD i 0
            + (Ls.map (slack z)).getD i 0 = 0 := by
  rw [rel3_emb3, rep3Val_emb3, List.map_map, List.map_map, List.length_map, List.length_map] at h
  refine h.imp_left (And.imp_left ?_)
  -- the embedded relation vector has no `s`-component
  rintro (hn | hn | hn)
  · exact .inl hn
  · exact .inr hn
  · exact absurd rfl hn

end IPA
end PCV
