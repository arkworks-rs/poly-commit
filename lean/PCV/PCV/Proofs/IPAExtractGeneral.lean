/-
  PCV.Proofs.IPAExtractGeneral — what an ALGEBRAIC forger against the inner-product-argument verifier gives away.

  Every group element the prover sends (`L_i`, `R_i`, commitments, the proof's hiding commitment) comes with a
  representation over THREE independent generator families `(G, h′, s)`: committer key, round generator `h′ = ξ₀·h`,
  hiding generator `s` (the library's own operations — MSMs over the key — produce such elements).  Acceptance is
  then ONE linear relation `⟨rel_G, G⟩ + rel_h·h′ + rel_s·s = 0` whose coefficients the prover knows.  Either it is
  non-trivial (a discrete-log relation), or the claimed value can only be false if one round challenge `u_i` is a
  root of a NON-ZERO quadratic fixed before `u_i` was drawn.  Also: the combined commitment and value of an arbitrary
  statement, and the one relation between `(G, h, s)` of an accepted `batch_check`.  Two families: `IPAExtract`.
-/
import PCV.Proofs.IPABatchErr

set_option linter.unusedSectionVars false

namespace PCV
namespace IPA

variable {F : Type} [Field F] [DecidableEq F]

theorem verifyRounds_sound {ls rs ros us rest : List F} {lr : F}
    (h : verifyRounds ls rs ros = .ok (us, lr, rest)) :
    lr = lrSum ls rs us ∧ (∀ u ∈ us, u ≠ 0) := by
  fun_induction verifyRounds ls rs ros generalizing us lr rest with
  | case1 => cases h
  | case2 => cases h
  | case3 => cases h
  | case4 l ls r rs u ros' hu us' sum rest' hrec ih =>
    cases h
    obtain ⟨e1, e2⟩ := ih hrec
    exact ⟨congrArg (l * u⁻¹ + r * u + ·) e1, List.forall_mem_cons.2 ⟨hu, e2⟩⟩
  | case5 ls rs =>
    cases h
    exact ⟨by simp [lrSum], fun _ hx => nomatch hx⟩

theorem eq_neg_div_of_add_mul_eq_zero {a b x : F} (hb : b ≠ 0) (h : a + x * b = 0) : x = -a / b := by
  rw [eq_div_iff hb]
  exact eq_neg_of_add_eq_zero_right h

/-- **The round-by-round argument.** At the first round `i` where the running error becomes zero, the challenge
`u_i` is a root of the quadratic `ρ_i·X² + A_i·X + λ_i`, whose middle coefficient — the running error `A_i` before
that round — is non-zero; `A_i`, `λ_i`, `ρ_i` depend only on what was sent before `u_i` was drawn. -/
theorem running_error_hits_root (ls rs us : List F) (A : F) (hu : ∀ u ∈ us, u ≠ 0)
    (hA : A ≠ 0) (hend : A + lrSum ls rs us = 0) :
    ∃ i, i < us.length ∧ i < ls.length ∧ i < rs.length ∧
      A + lrSum (ls.take i) (rs.take i) (us.take i) ≠ 0 ∧
      rs.getD i 0 * us.getD i 0 ^ 2
        + (A + lrSum (ls.take i) (rs.take i) (us.take i)) * us.getD i 0 + ls.getD i 0 = 0 := by
  fun_induction lrSum ls rs us generalizing A with
  | case2 => exact absurd ((add_zero A).symm.trans hend) hA
  | case1 l ls r rs u us ih =>
    by_cases hA' : A + (l * u⁻¹ + r * u) = 0
    · have e0 : A + lrSum (List.take 0 (l :: ls)) (List.take 0 (r :: rs)) (List.take 0 (u :: us)) = A :=
        add_zero A
      refine ⟨0, Nat.succ_pos _, Nat.succ_pos _, Nat.succ_pos _, ?_, ?_⟩
      · rw [e0]; exact hA
      · rw [e0]
        show r * u ^ 2 + A * u + l = 0
        linear_combination u * hA' - l * mul_inv_cancel₀ (hu u List.mem_cons_self)
    · obtain ⟨i, h1, h2, h3, h4, h5⟩ := ih (A + (l * u⁻¹ + r * u))
        (fun x hx => hu x (List.mem_cons_of_mem _ hx)) hA' ((add_assoc _ _ _).trans hend)
      have e : A + lrSum (List.take (i + 1) (l :: ls)) (List.take (i + 1) (r :: rs))
          (List.take (i + 1) (u :: us))
          = A + (l * u⁻¹ + r * u) + lrSum (ls.take i) (rs.take i) (us.take i) := (add_assoc _ _ _).symm
      refine ⟨i + 1, Nat.succ_lt_succ h1, Nat.succ_lt_succ h2, Nat.succ_lt_succ h3, ?_, ?_⟩
      · rw [e]; exact h4
      · rw [e]; exact h5

/-- a representation over `(G, h′, s)`: the element is `⟨x.G, G⟩ + x.h·h′ + x.s·s` -/
structure Rep3 (F : Type) where
  G : List F
  h : F
  s : F
  deriving DecidableEq, Repr

def rep3Val (G : List F) (h' s : F) (x : Rep3 F) : F := dot G x.G + h' * x.h + s * x.s

def Rep3.gh (x : Rep3 F) : List F × F := (x.G, x.h)

def Rep3.Nontrivial (x : Rep3 F) : Prop := (∃ i, x.G.getD i 0 ≠ 0) ∨ x.h ≠ 0 ∨ x.s ≠ 0

/-- how far a represented element is from "its `G`-part evaluated at `z` equals its `h′`-part"; the `s`-part
plays no role -/
def slack3 (z : F) (x : Rep3 F) : F := evalPoly x.G z - x.h

/-- the representation of `Σ (u⁻¹·L + u·R)` -/
def lrRep3 : List (Rep3 F) → List (Rep3 F) → List F → Rep3 F
  | L :: Ls, R :: Rs, u :: us =>
    ⟨padd (padd (pscale u⁻¹ L.G) (pscale u R.G)) (lrRep3 Ls Rs us).G,
     L.h * u⁻¹ + R.h * u + (lrRep3 Ls Rs us).h,
     L.s * u⁻¹ + R.s * u + (lrRep3 Ls Rs us).s⟩
  | _, _, _ => ⟨[], 0, 0⟩

/-- the element, the slack and the `s`-coefficient of `Σ (u⁻¹·L + u·R)` are all obtained this way -/
theorem lrRep3_linear (φ : Rep3 F → F) (h0 : φ ⟨[], 0, 0⟩ = 0)
    (hstep : ∀ (L R X : Rep3 F) (u : F),
      φ ⟨padd (padd (pscale u⁻¹ L.G) (pscale u R.G)) X.G, L.h * u⁻¹ + R.h * u + X.h,
          L.s * u⁻¹ + R.s * u + X.s⟩ = φ L * u⁻¹ + φ R * u + φ X)
    (Ls Rs : List (Rep3 F)) (us : List F) :
    φ (lrRep3 Ls Rs us) = lrSum (Ls.map φ) (Rs.map φ) us := by
  induction Ls generalizing Rs us with
  | nil => exact h0
  | cons L Ls ih =>
    cases Rs with
    | nil => exact h0
    | cons R Rs =>
      cases us with
      | nil => exact h0
      | cons u us =>
        simp only [lrRep3, lrSum, List.map_cons, hstep, ih Rs us]

theorem lrRep3_s (Ls Rs : List (Rep3 F)) (us : List F) :
    (lrRep3 Ls Rs us).s = lrSum (Ls.map Rep3.s) (Rs.map Rep3.s) us :=
  lrRep3_linear Rep3.s rfl (fun _ _ _ _ => rfl) Ls Rs us

theorem rep3Val_lrRep3 (G : List F) (h' s : F) (Ls Rs : List (Rep3 F)) (us : List F) :
    rep3Val G h' s (lrRep3 Ls Rs us)
      = lrSum (Ls.map (rep3Val G h' s)) (Rs.map (rep3Val G h' s)) us := by
  refine lrRep3_linear _ ?_ (fun L R X u => ?_) Ls Rs us
  · rw [rep3Val, dot_nil_right, mul_zero, mul_zero, add_zero, add_zero]
  · unfold rep3Val
    simp only [dot_padd_right, dot_pscale_right]
    ring

theorem slack3_lrRep3 (z : F) (Ls Rs : List (Rep3 F)) (us : List F) :
    slack3 z (lrRep3 Ls Rs us) = lrSum (Ls.map (slack3 z)) (Rs.map (slack3 z)) us := by
  refine lrRep3_linear _ ?_ (fun L R X u => ?_) Ls Rs us
  · exact sub_zero (0 : F)
  · unfold slack3
    simp only [eval_padd, eval_pscale]
    ring

/-- the coefficient vector of the verifier's equation over `(G, h′, s)` -/
def rel3 (P : Rep3 F) (V : F) (Ls Rs : List (Rep3 F)) (us : List F) (c z : F) : Rep3 F :=
  ⟨padd (padd P.G (lrRep3 Ls Rs us).G) (pscale (-c) (Succinct.computeCoeffs us)),
   P.h + V + (lrRep3 Ls Rs us).h - c * Succinct.evaluate us z,
   P.s + (lrRep3 Ls Rs us).s⟩

theorem rel3_val {vk : VK F} (z : F) (π : Proof F) {r : Run F} {P : Rep3 F} {Ls Rs : List (Rep3 F)}
    (hC : r.C = rep3Val vk.commKey (vk.h * r.ξ₀) vk.s P)
    (hlr : r.lr = rep3Val vk.commKey (vk.h * r.ξ₀) vk.s (lrRep3 Ls Rs r.us)) :
    rep3Val vk.commKey (vk.h * r.ξ₀) vk.s (rel3 P r.V Ls Rs r.us π.c z)
      = defect1 vk z π r - π.c * defect2 vk π r.us := by
  unfold defect1 defect2
  rw [hC, hlr]
  unfold rep3Val rel3
  simp only [dot_padd_right, dot_pscale_right]
  ring

/-- **Acceptance is one linear relation between the three generator families.** -/
theorem accept_relation3 {vk : VK F} {z : F} {π : Proof F} {r : Run F} {P : Rep3 F}
    {Ls Rs : List (Rep3 F)}
    (hC : r.C = rep3Val vk.commKey (vk.h * r.ξ₀) vk.s P)
    (hlr : r.lr = rep3Val vk.commKey (vk.h * r.ξ₀) vk.s (lrRep3 Ls Rs r.us))
    (h1 : defect1 vk z π r = 0) (h2 : defect2 vk π r.us = 0) :
    rep3Val vk.commKey (vk.h * r.ξ₀) vk.s (rel3 P r.V Ls Rs r.us π.c z) = 0 := by
  rw [rel3_val z π hC hlr, h1, h2, mul_zero, sub_zero]

/-- the slack of the relation vector is the running error after the last round; the check polynomial `h_u`
contributes none: its coefficient vector evaluates to `h_u(z)` -/
theorem slack3_rel3 (P : Rep3 F) (V : F) (Ls Rs : List (Rep3 F)) (us : List F) (c z : F) :
    slack3 z (rel3 P V Ls Rs us c z)
      = (slack3 z P - V) + lrSum (Ls.map (slack3 z)) (Rs.map (slack3 z)) us := by
  rw [← slack3_lrRep3]
  unfold slack3 rel3
  simp only [eval_padd, eval_pscale, ← Succinct.evaluate_eq_horner]
  ring

theorem evalPoly_eq_zero_of_coeffs (l : List F) (x : F) (h : ∀ i, l.getD i 0 = 0) : evalPoly l x = 0 := by
  induction l with
  | nil => rfl
  | cons a l ih => rw [evalPoly_cons, show a = 0 from h 0, ih fun i => h (i + 1), mul_zero, add_zero]

/-- **The trichotomy over `(G, h′, s)`.**  An accepted transcript whose combined commitment and round elements
are given by representations: a NON-TRIVIAL linear relation between the generators, or the combined claim is what
the `(G, h′)`-part of the combined commitment says (`A = slack3 z P − V` is zero), or some round challenge is a
root of a non-zero quadratic fixed before it was drawn.  The `s`-components never enter the last two branches: the
hiding generator can absorb nothing of the claim.  (`A` is a parameter so that a caller states the last two
branches in its own closed form of the claim error.) -/
theorem algebraic_trichotomy3 {vk : VK F} {z : F} {π : Proof F} {r : Run F} {P : Rep3 F}
    {Ls Rs : List (Rep3 F)}
    (hC : r.C = rep3Val vk.commKey (vk.h * r.ξ₀) vk.s P)
    (hlr : r.lr = rep3Val vk.commKey (vk.h * r.ξ₀) vk.s (lrRep3 Ls Rs r.us))
    (hus : ∀ u ∈ r.us, u ≠ 0)
    (h1 : defect1 vk z π r = 0) (h2 : defect2 vk π r.us = 0) (A : F) (hA : slack3 z P - r.V = A) :
    ((rel3 P r.V Ls Rs r.us π.c z).Nontrivial ∧
        rep3Val vk.commKey (vk.h * r.ξ₀) vk.s (rel3 P r.V Ls Rs r.us π.c z) = 0)
      ∨ A = 0
      ∨ ∃ i, i < r.us.length ∧ i < Ls.length ∧ i < Rs.length ∧
          A + lrSum ((Ls.map (slack3 z)).take i) ((Rs.map (slack3 z)).take i) (r.us.take i) ≠ 0 ∧
          (Rs.map (slack3 z)).getD i 0 * r.us.getD i 0 ^ 2
            + (A + lrSum ((Ls.map (slack3 z)).take i) ((Rs.map (slack3 z)).take i) (r.us.take i))
              * r.us.getD i 0
            + (Ls.map (slack3 z)).getD i 0 = 0 := by
  have hrel := accept_relation3 hC hlr h1 h2
  by_cases hG : ∀ i, (rel3 P r.V Ls Rs r.us π.c z).G.getD i 0 = 0
  · by_cases hH : (rel3 P r.V Ls Rs r.us π.c z).h = 0
    · -- the zero relation has slack zero, so the running error ends at zero
      have he : A + lrSum (Ls.map (slack3 z)) (Rs.map (slack3 z)) r.us = 0 := by
        rw [← hA, ← slack3_rel3 P r.V Ls Rs r.us π.c z]
        unfold slack3
        rw [evalPoly_eq_zero_of_coeffs _ z hG, hH, sub_zero]
      by_cases hA0 : A = 0
      · exact .inr (.inl hA0)
      · obtain ⟨i, a1, a2, a3, a4, a5⟩ := running_error_hits_root _ _ r.us _ hus hA0 he
        exact .inr (.inr ⟨i, a1, by rwa [List.length_map] at a2, by rwa [List.length_map] at a3, a4, a5⟩)
    · exact .inl ⟨.inr (.inl hH), hrel⟩
  · exact .inl ⟨.inl (not_forall.1 hG), hrel⟩

/-- the representation of one commitment over `(G, s)`: plain part `⟨p, G⟩ + ρ·s`, shifted part
`⟨q, G⟩ + ρ'·s` (`q`, `ρ'` are not looked at for a commitment without degree bound) -/
structure CRep (F : Type) where
  p : List F
  ρ : F
  q : List F
  ρ' : F
  deriving DecidableEq, Repr

def CommRep (G : List F) (s : F) (c : LComm F) (x : CRep F) : Prop :=
  c.comm.comm = dot G x.p + s * x.ρ ∧
    (c.comm.shifted = none ∨ c.comm.shifted = some (dot G x.q + s * x.ρ'))

def AllCommRep (G : List F) (s : F) : List (LComm F) → List (CRep F) → Prop
  | c :: cs, x :: xs => CommRep G s c x ∧ AllCommRep G s cs xs
  | [], [] => True
  | _, _ => False

theorem AllCommRep.length_eq (G : List F) (s : F) :
    ∀ (cs : List (LComm F)) (xs : List (CRep F)), AllCommRep G s cs xs → cs.length = xs.length := by
  intro cs xs
  fun_induction AllCommRep G s cs xs with
  | case1 c cs x xs ih => exact fun h => congrArg Nat.succ (ih h.2)
  | case2 => exact fun _ => rfl
  | case3 => exact False.elim

def stepG (c : LComm F) (x : CRep F) (ξ ξ' : F) : List F :=
  match c.bound with
  | some _ => padd (pscale ξ x.p) (pscale ξ' x.q)
  | none => pscale ξ x.p

def stepS (c : LComm F) (x : CRep F) (ξ ξ' : F) : F :=
  match c.bound with
  | some _ => ξ * x.ρ + ξ' * x.ρ'
  | none => ξ * x.ρ

/-- the error of one position's claim, weighted by its challenges -/
def stepClaim (vk : VK F) (z : F) (c : LComm F) (x : CRep F) (v ξ ξ' : F) : F :=
  match c.bound with
  | some b => ξ * (evalPoly x.p z - v) + ξ' * (evalPoly x.q z - v * fpow z (supportedDegree vk - b))
  | none => ξ * (evalPoly x.p z - v)

theorem stepClaim_eq (vk : VK F) (z : F) (c : LComm F) (x : CRep F) (v ξ ξ' : F) :
    stepClaim vk z c x v ξ ξ' = evalPoly (stepG c x ξ ξ') z - stepErr vk z c v ξ ξ' := by
  unfold stepClaim stepG stepErr
  cases c.bound with
  | none => simp only [eval_pscale]; ring
  | some b => simp only [eval_padd, eval_pscale]; ring

/-- the `G`-coefficients of the combined commitment: `Σⱼ ξⱼ·pⱼ + ξ′ⱼ·qⱼ` -/
def accG : List (LComm F) → List (CRep F) → List F → F → List F → List F
  | c :: cs, x :: xs, _ :: vs, cur, ξ' :: ξ'' :: rest => padd (stepG c x cur ξ') (accG cs xs vs ξ'' rest)
  | _, _, _, _, _ => []

/-- the `s`-coefficient of the combined commitment: `Σⱼ ξⱼ·ρⱼ + ξ′ⱼ·ρ′ⱼ` -/
def accS : List (LComm F) → List (CRep F) → List F → F → List F → F
  | c :: cs, x :: xs, _ :: vs, cur, ξ' :: ξ'' :: rest => stepS c x cur ξ' + accS cs xs vs ξ'' rest
  | _, _, _, _, _ => 0

/-- the combined claim error `Σⱼ ξⱼ·(pⱼ(z) − vⱼ) + ξ′ⱼ·(qⱼ(z) − vⱼ·z^{s−bⱼ})` -/
def accClaim (vk : VK F) (z : F) : List (LComm F) → List (CRep F) → List F → F → List F → F
  | c :: cs, x :: xs, v :: vs, cur, ξ' :: ξ'' :: rest =>
    stepClaim vk z c x v cur ξ' + accClaim vk z cs xs vs ξ'' rest
  | _, _, _, _, _ => 0

/-- `valueErr … vs`, applied to the claimed values themselves, is the verifier's combined value
`Σⱼ ξⱼ·vⱼ + ξ′ⱼ·vⱼ·z^{s−bⱼ}` -/
theorem accClaim_eq (vk : VK F) (z : F) :
    ∀ (cs : List (LComm F)) (xs : List (CRep F)) (vs : List F) (cur : F) (ξs : List F),
      cs.length = xs.length →
      accClaim vk z cs xs vs cur ξs = evalPoly (accG cs xs vs cur ξs) z - valueErr vk z cs vs cur ξs := by
  intro cs
  induction cs with
  | nil => intro xs vs cur ξs _; exact (sub_zero _).symm
  | cons c cs ih =>
    intro xs vs cur ξs hl
    cases xs with
    | nil => cases hl
    | cons x xs =>
      cases vs with
      | nil => exact (sub_zero _).symm
      | cons v vs =>
        match ξs with
        | [] => exact (sub_zero _).symm
        | [_] => exact (sub_zero _).symm
        | ξ' :: ξ'' :: rest =>
          simp only [accClaim, accG, valueErr, eval_padd, stepClaim_eq,
            ih xs vs ξ'' rest (Nat.succ.inj hl)]
          ring

/-- the coefficients with which the statement challenges enter the combined claim error, in the order in which
the challenges are squeezed: `pⱼ(z) − vⱼ`, then `qⱼ(z) − vⱼ·z^{s−bⱼ}` (`0` at a position without bound, whose
second challenge is squeezed and not used) -/
def claimCoeffs (vk : VK F) (z : F) : List (LComm F) → List (CRep F) → List F → List F
  | c :: cs, x :: xs, v :: vs =>
    stepClaim vk z c x v 1 0 :: stepClaim vk z c x v 0 1 :: claimCoeffs vk z cs xs vs
  | _, _, _ => []

theorem stepClaim_linear (vk : VK F) (z : F) (c : LComm F) (x : CRep F) (v ξ ξ' : F) :
    stepClaim vk z c x v ξ ξ' = stepClaim vk z c x v 1 0 * ξ + stepClaim vk z c x v 0 1 * ξ' := by
  unfold stepClaim
  cases c.bound with
  | none => simp only; ring
  | some b => simp only; ring

theorem stepClaim_one_zero (vk : VK F) (z : F) (c : LComm F) (x : CRep F) (v : F) :
    stepClaim vk z c x v 1 0 = evalPoly x.p z - v := by
  unfold stepClaim
  cases c.bound with
  | none => simp only; ring
  | some b => simp only; ring

theorem claimCoeffs_even (vk : VK F) (z : F) :
    ∀ (cs : List (LComm F)) (xs : List (CRep F)) (vs : List F) (j : Nat) (_ : j < cs.length)
      (h1 : j < xs.length) (h2 : j < vs.length),
      (claimCoeffs vk z cs xs vs).getD (2 * j) 0 = evalPoly xs[j].p z - vs[j] := by
  intro cs
  induction cs with
  | nil => intro xs vs j h0; exact absurd h0 (Nat.not_lt_zero j)
  | cons c cs ih =>
    intro xs vs j h0 h1 h2
    cases xs with
    | nil => exact absurd h1 (Nat.not_lt_zero j)
    | cons x xs =>
      cases vs with
      | nil => exact absurd h2 (Nat.not_lt_zero j)
      | cons v vs =>
        -- position `j + 1` has the entries `2j + 2`, `2j + 3`
        cases j with
        | zero => exact stepClaim_one_zero vk z c x v
        | succ j =>
          exact ih xs vs j (Nat.lt_of_succ_lt_succ h0) (Nat.lt_of_succ_lt_succ h1)
            (Nat.lt_of_succ_lt_succ h2)

theorem accStep_rep {vk : VK F} {z : F} {c : LComm F} {x : CRep F} {v ξ ξ' C V C1 V1 : F}
    (hx : CommRep vk.commKey vk.s c x)
    (h : accStep vk z c v ξ ξ' C V = .ok (C1, V1)) :
    C1 = C + (dot vk.commKey (stepG c x ξ ξ') + vk.s * stepS c x ξ ξ') ∧
      V1 = V + stepErr vk z c v ξ ξ' := by
  obtain ⟨hp, hq⟩ := hx
  unfold stepG stepS stepErr
  rcases accStep_ok h with ⟨hb, _, rfl, rfl⟩ | ⟨b, sc, hb, hsc, _, rfl, rfl⟩
  · rw [hb, hp, dot_pscale_right]
    exact ⟨by ring, rfl⟩
  · rcases hq with hq | hq
    · rw [hq] at hsc; cases hsc
    · rw [hq] at hsc
      cases hsc
      rw [hb, hp, dot_padd_right, dot_pscale_right, dot_pscale_right]
      exact ⟨by ring, by ring⟩

theorem accLoop_rep (vk : VK F) (z : F) :
    ∀ (cs : List (LComm F)) (xs : List (CRep F)) (vs : List F) (cur : F) (ξs : List F)
      (C V C' V' : F) (rest : List F), AllCommRep vk.commKey vk.s cs xs →
      accLoop vk z cs vs cur ξs C V = .ok ((C', V'), rest) →
      C' = C + (dot vk.commKey (accG cs xs vs cur ξs) + vk.s * accS cs xs vs cur ξs) ∧
        V' = V + valueErr vk z cs vs cur ξs := by
  intro cs
  induction cs with
  | nil =>
    intro xs vs cur ξs C V C' V' rest _ h
    cases h
    simp [accG, accS, valueErr]
  | cons c cs ih =>
    intro xs vs cur ξs C V C' V' rest hx h
    cases xs with
    | nil => exact hx.elim
    | cons x xs =>
      cases vs with
      | nil =>
        cases h
        simp [accG, accS, valueErr]
      | cons v vs =>
        obtain ⟨ξ', ξ'', rest', C1, V1, rfl, hstep, hrec⟩ := accLoop_cons_ok h
        obtain ⟨rfl, rfl⟩ := accStep_rep hx.1 hstep
        obtain ⟨rfl, rfl⟩ := ih xs vs ξ'' rest' _ _ C' V' rest hx.2 hrec
        simp only [accG, accS, valueErr, dot_padd_right]
        exact ⟨by ring, by ring⟩

/-- the hiding challenge `α` of a run (`0` when the proof carries no hiding commitment) -/
def hidChal (π : Proof F) (ros : List F) : F := if π.hidingComm.isSome then ros.headD 0 else 0

/-- the oracle outputs left after the hiding block -/
def hidRest (π : Proof F) (ros : List F) : List F := if π.hidingComm.isSome then ros.tail else ros

theorem hidChal_none {π : Proof F} (h : π.hidingComm = none) (ros : List F) : hidChal π ros = 0 := by
  rw [hidChal, h]; rfl

theorem hidChal_some {π : Proof F} {hc : F} (h : π.hidingComm = some hc) (α : F) (ros : List F) :
    hidChal π (α :: ros) = α := by
  rw [hidChal, h]; rfl

theorem hidRest_none {π : Proof F} (h : π.hidingComm = none) (ros : List F) : hidRest π ros = ros := by
  rw [hidRest, h]; rfl

theorem hidRest_some {π : Proof F} {hc : F} (h : π.hidingComm = some hc) (α : F) (ros : List F) :
    hidRest π (α :: ros) = ros := by
  rw [hidRest, h]; rfl

def HidRep (G : List F) (s : F) (π : Proof F) (hp : List F) (hρ : F) : Prop :=
  π.hidingComm = none ∨ π.hidingComm = some (dot G hp + s * hρ)

theorem hidingAdjust_rep {vk : VK F} {π : Proof F} {C : F} {ros : List F} {C' : F} {ros1 : List F}
    {hp : List F} {hρ : F} (hh : HidRep vk.commKey vk.s π hp hρ)
    (h : hidingAdjust vk π C ros = .ok (C', ros1)) :
    C' = C + (dot vk.commKey (pscale (hidChal π ros) hp)
              + vk.s * (hidChal π ros * hρ - π.rand.getD 0)) ∧
      ros1 = hidRest π ros := by
  rcases hidingAdjust_ok h with ⟨hc, hr, rfl, rfl⟩ | ⟨hc, r, α, hhc, hr, rfl, rfl⟩
  · rw [hidChal_none hc, hidRest_none hc, hr, Option.getD_none, dot_pscale_right]
    exact ⟨by ring, rfl⟩
  · rcases hh with hh | hh
    · rw [hh] at hhc; cases hhc
    · rw [hh] at hhc
      cases hhc
      rw [hidChal_some hh, hidRest_some hh, hr, Option.getD_some, dot_pscale_right]
      exact ⟨by ring, rfl⟩

/-- the representation over `(G, h′, s)` of the combined commitment of a run, after the hiding adjustment -/
def runRep (cs : List (LComm F)) (xs : List (CRep F)) (vs : List F) (π : Proof F) (hp : List F) (hρ : F)
    (cur : F) (ξs ros : List F) : Rep3 F :=
  ⟨padd (accG cs xs vs cur ξs) (pscale (hidChal π ros) hp), 0,
   accS cs xs vs cur ξs + (hidChal π ros * hρ - π.rand.getD 0)⟩

theorem succinctRun_rep {vk : VK F} {cs : List (LComm F)} {xs : List (CRep F)} {z : F} {vs : List F}
    {π : Proof F} {hp : List F} {hρ : F} {cur : F} {ξs ros : List F} {r : Run F} {ξr ror : List F}
    (hcs : AllCommRep vk.commKey vk.s cs xs) (hh : HidRep vk.commKey vk.s π hp hρ)
    (hr : succinctRun vk cs z vs π (cur :: ξs) ros = .ok (r, ξr, ror)) :
    r.C = rep3Val vk.commKey (vk.h * r.ξ₀) vk.s (runRep cs xs vs π hp hρ cur ξs ros) ∧
      r.V = valueErr vk z cs vs cur ξs ∧
      r.ξ₀ = (hidRest π ros).headD 0 ∧
      r.lr = lrSum π.lVec π.rVec r.us ∧ (∀ u ∈ r.us, u ≠ 0) := by
  obtain ⟨C, ros2, hacc, hadj, hvr⟩ := (succinctRun_ok_iff ..).1 hr
  obtain ⟨e1, e2⟩ := accLoop_rep vk z cs xs vs cur ξs 0 0 C r.V ξr hcs hacc
  obtain ⟨e3, e4⟩ := hidingAdjust_rep hh hadj
  obtain ⟨e5, e6⟩ := verifyRounds_sound hvr
  refine ⟨?_, e2.trans (zero_add _), by rw [← e4]; rfl, e5, e6⟩
  rw [e3, e1]
  unfold rep3Val runRep
  simp only [dot_padd_right]
  ring

theorem slack3_runRep (vk : VK F) (cs : List (LComm F)) (xs : List (CRep F)) (z : F) (vs : List F)
    (π : Proof F) (hp : List F) (hρ : F) (cur : F) (ξs ros : List F) (hl : cs.length = xs.length) :
    slack3 z (runRep cs xs vs π hp hρ cur ξs ros) - valueErr vk z cs vs cur ξs
      = accClaim vk z cs xs vs cur ξs + hidChal π ros * evalPoly hp z := by
  rw [accClaim_eq vk z cs xs vs cur ξs hl]
  unfold slack3 runRep
  simp only [eval_padd, eval_pscale]
  ring

def Rep3.add (x y : Rep3 F) : Rep3 F := ⟨padd x.G y.G, x.h + y.h, x.s + y.s⟩

def Rep3.smul (a : F) (x : Rep3 F) : Rep3 F := ⟨pscale a x.G, a * x.h, a * x.s⟩

theorem rep3Val_add (G : List F) (h s : F) (x y : Rep3 F) :
    rep3Val G h s (x.add y) = rep3Val G h s x + rep3Val G h s y := by
  unfold rep3Val Rep3.add
  simp only [dot_padd_right]
  ring

theorem rep3Val_smul (G : List F) (h s a : F) (x : Rep3 F) :
    rep3Val G h s (x.smul a) = a * rep3Val G h s x := by
  unfold rep3Val Rep3.smul
  simp only [dot_pscale_right]
  ring

/-- one proof of a batch with everything the analysis needs: the point, the proof, the verifier's run, and the
representations over `(G, h′ₖ, s)` (`h′ₖ = ξ₀ₖ·h`) of the combined commitment and of the `L`s and `R`s -/
structure BatchItem (F : Type) where
  z : F
  π : Proof F
  r : Run F
  P : Rep3 F
  Ls : List (Rep3 F)
  Rs : List (Rep3 F)
  deriving DecidableEq, Repr

def ItemRep (vk : VK F) (it : BatchItem F) : Prop :=
  it.r.C = rep3Val vk.commKey (vk.h * it.r.ξ₀) vk.s it.P ∧
    it.r.lr = rep3Val vk.commKey (vk.h * it.r.ξ₀) vk.s (lrRep3 it.Ls it.Rs it.r.us)

/-- the relation vector of one proof over the COMMON families `(G, h, s)`: `rel3` with its `h′ₖ`-coefficient
multiplied by `ξ₀ₖ` -/
def itemRel (it : BatchItem F) : Rep3 F :=
  ⟨(rel3 it.P it.r.V it.Ls it.Rs it.r.us it.π.c it.z).G,
   it.r.ξ₀ * (rel3 it.P it.r.V it.Ls it.Rs it.r.us it.π.c it.z).h,
   (rel3 it.P it.r.V it.Ls it.Rs it.r.us it.π.c it.z).s⟩

theorem itemRel_val {vk : VK F} {it : BatchItem F} (hrep : ItemRep vk it) :
    rep3Val vk.commKey vk.h vk.s (itemRel it)
      = defect1 vk it.z it.π it.r - it.π.c * defect2 vk it.π it.r.us := by
  rw [← rel3_val it.z it.π hrep.1 hrep.2]
  unfold rep3Val itemRel
  ring

/-- the relation vector of a batch, division-free: with `ρ₁ = 1, ρ₂, …` the randomizers of `batch_check` and
`cₖ` the final coefficient of proof `k`, the second component is `Σₖ ρₖ·(Πⱼ≠ₖ cⱼ)·itemRelₖ`; the first is `Πₖ cₖ`.
(Each proof's own equation `defect1ₖ = 0` contains `cₖ·Kₖ`, the batch equation contains `Σₖ ρₖ·Kₖ`; the weights
`ρₖ·Πⱼ≠ₖ cⱼ` are what eliminates the prover's `Kₖ = final_comm_key` from all of them at once.  When every `cₖ ≠ 0`
this is `Πₖ cₖ` times `Σₖ (ρₖ/cₖ)·itemRelₖ`.) -/
def batchRel : F → List F → List (BatchItem F) → F × Rep3 F
  | ρ, rs, it :: its =>
    (it.π.c * (batchRel (rs.headD 0) rs.tail its).1,
     ((itemRel it).smul (ρ * (batchRel (rs.headD 0) rs.tail its).1)).add
       ((batchRel (rs.headD 0) rs.tail its).2.smul it.π.c))
  | _, _, [] => (1, ⟨[], 0, 0⟩)

theorem batchRel_val (vk : VK F) :
    ∀ (its : List (BatchItem F)) (ρ : F) (rs : List F),
      (∀ it ∈ its, ItemRep vk it ∧ defect1 vk it.z it.π it.r = 0) →
      rep3Val vk.commKey vk.h vk.s (batchRel ρ rs its).2
        = -((batchRel ρ rs its).1
            * KZG.wsum ρ rs (its.map fun it => defect2 vk it.π it.r.us)) := by
  intro its
  induction its with
  | nil => intro ρ rs _; simp [batchRel, KZG.wsum, rep3Val]
  | cons it its ih =>
    intro ρ rs h
    obtain ⟨hrep, hd1⟩ := h it (by simp)
    have hrec := ih (rs.headD 0) rs.tail (fun x hx => h x (by simp [hx]))
    simp only [batchRel, List.map_cons, KZG.wsum, rep3Val_add, rep3Val_smul]
    rw [hrec, itemRel_val hrep, hd1]
    ring

/-- `its` lists, proof by proof, what the loop of `batch_check` computes: the point of the group, the proof, and
the run of `succinct_check` on the group's commitments and values, the sponge and the oracle being threaded
from one proof to the next -/
def BatchItems (vk : VK F) (comms : List (LComm F)) (evals : List ((Label × F) × F)) :
    List (Label × (F × List Label)) → List (Proof F) → List F → List F → List (BatchItem F) → Prop
  | g :: gs, π :: πs, ξs, ros, it :: its =>
    it.z = g.2.1 ∧ it.π = π ∧
      ∃ cs vs ξs' ros', gatherComms comms evals g.2.1 g.2.2 = .ok (cs, vs) ∧
        succinctRun vk cs g.2.1 vs π ξs ros = .ok (it.r, ξs', ros') ∧
        BatchItems vk comms evals gs πs ξs' ros' its
  | _ :: _, _ :: _, _, _, [] => False
  | _, _, _, _, its => its = []

theorem batchSuccinct_cons_run {vk : VK F} {comms : List (LComm F)} {evals : List ((Label × F) × F)}
    {g : Label × (F × List Label)} {gs : List (Label × (F × List Label))} {π : Proof F}
    {πs : List (Proof F)} {ξs ros : List F} {uss : List (List F)}
    (h : batchSuccinct vk comms evals (g :: gs) (π :: πs) ξs ros = .ok (some uss)) :
    ∃ cs vs r ξs' ros' uss', gatherComms comms evals g.2.1 g.2.2 = .ok (cs, vs) ∧
      succinctRun vk cs g.2.1 vs π ξs ros = .ok (r, ξs', ros') ∧ defect1 vk g.2.1 π r = 0 ∧
      batchSuccinct vk comms evals gs πs ξs' ros' = .ok (some uss') ∧ uss = r.us :: uss' := by
  obtain ⟨_, cs, vs, us, ξs', ros', uss', hg, hsc, hrec, rfl⟩ := batchSuccinct_cons_ok h
  obtain ⟨r, hrun, hd, rfl⟩ := (succinctCheck_some_iff ..).1 hsc
  exact ⟨cs, vs, r, ξs', ros', uss', hg, hrun, hd, hrec, rfl⟩

theorem batchSuccinct_items (vk : VK F) (comms : List (LComm F)) (evals : List ((Label × F) × F)) :
    ∀ (gs : List (Label × (F × List Label))) (πs : List (Proof F)) (ξs ros : List F)
      (its : List (BatchItem F)) (uss : List (List F)), πs.length = gs.length →
      BatchItems vk comms evals gs πs ξs ros its →
      batchSuccinct vk comms evals gs πs ξs ros = .ok (some uss) →
      (∀ it ∈ its, defect1 vk it.z it.π it.r = 0) ∧
        defect2s vk uss πs = its.map fun it => defect2 vk it.π it.r.us := by
  intro gs
  induction gs with
  | nil =>
    intro πs ξs ros its uss hl hits h
    cases List.eq_nil_of_length_eq_zero hl
    cases hits
    cases h
    exact ⟨fun _ hx => (nomatch hx), rfl⟩
  | cons g gs ih =>
    intro πs ξs ros its uss hl hits h
    cases πs with
    | nil => cases hl
    | cons π πs =>
      cases its with
      | nil => exact hits.elim
      | cons it its =>
        obtain ⟨hz, hπ, cs, vs, ξs', ros', hg, hrun, hrest⟩ := hits
        obtain ⟨cs', vs', r, ξs'', ros'', uss', hg', hrun', hd, hrec, rfl⟩ := batchSuccinct_cons_run h
        -- the items name the same gathering and the same run
        cases hg.symm.trans hg'
        cases hrun.symm.trans hrun'
        obtain ⟨i1, i2⟩ := ih πs ξs' ros' its uss' (Nat.succ.inj hl) hrest hrec
        constructor
        · intro x hx
          rcases List.mem_cons.1 hx with rfl | hx
          · rw [hz, hπ]; exact hd
          · exact i1 x hx
        · simp only [defect2s, List.map_cons, i2, hπ]

theorem batchCheck_accept {vk : VK F} {comms : List (LComm F)} {qs : List (Query F)}
    {evals : List ((Label × F) × F)} {πs : List (Proof F)} {ξs ros rs : List F}
    (h : batchCheck vk comms qs evals πs ξs ros rs = .ok true) :
    πs.length = (Marlin.groupQueries qs).length ∧
      ∃ uss, batchSuccinct vk comms evals (Marlin.groupQueries qs) πs ξs ros = .ok (some uss) ∧
        KZG.wsum 1 rs (defect2s vk uss πs) = 0 := by
  obtain ⟨hl, uss, hs, hd⟩ := batchCheck_ok_true h
  exact ⟨hl, uss, hs, (batchDefect_eq vk rs uss πs) ▸ hd⟩

/-- the items of an accepted batch exist (with any representations attached) -/
theorem batchSuccinct_items_exist (vk : VK F) (comms : List (LComm F)) (evals : List ((Label × F) × F)) :
    ∀ (gs : List (Label × (F × List Label))) (πs : List (Proof F)) (ξs ros : List F)
      (uss : List (List F)), πs.length = gs.length →
      batchSuccinct vk comms evals gs πs ξs ros = .ok (some uss) →
      ∃ its, BatchItems vk comms evals gs πs ξs ros its ∧ its.length = πs.length := by
  intro gs
  induction gs with
  | nil =>
    intro πs ξs ros uss hl _
    cases List.eq_nil_of_length_eq_zero hl
    exact ⟨[], rfl, rfl⟩
  | cons g gs ih =>
    intro πs ξs ros uss hl h
    cases πs with
    | nil => cases hl
    | cons π πs =>
      obtain ⟨cs, vs, r, ξs', ros', uss', hg, hrun, _, hrec, _⟩ := batchSuccinct_cons_run h
      obtain ⟨its, hits, hlen⟩ := ih πs ξs' ros' uss' (Nat.succ.inj hl) hrec
      exact ⟨⟨g.2.1, π, r, ⟨[], 0, 0⟩, [], []⟩ :: its,
        ⟨rfl, rfl, cs, vs, ξs', ros', hg, hrun, hits⟩, congrArg Nat.succ hlen⟩

end IPA
end PCV
