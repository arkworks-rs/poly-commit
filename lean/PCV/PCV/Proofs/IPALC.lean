/-
  PCV.Proofs.IPALC — IPA's own `open_combinations` / `check_combinations` (`PCV.Model.IPALC`).  A combination of
  committed polynomials is a committed polynomial, the verifier's loop builds the same commitments and subtracts the
  constants from the claimed values, and `construct_labeled_commitments` reads the flat vector back correctly: an
  opening of combinations is a `batch_open` / `batch_check` over committed polynomials (`lc_reduction`).  Also the
  degree-bound policy with the code's errors, what a perturbed statement does to acceptance, and the
  `InvalidCommitment` refusal of a commitment whose shifted part does not go with its degree bound (D26).

  Both term loops treat a polynomial term alike: look the label up, decide (`termPolicy`), accumulate.  The
  nest of `if`s is opened once per loop (`lcStepP_poly`, `lcStepV_poly`); everything else reasons from those.
-/
import PCV.Model.IPALC
import PCV.Proofs.IPABatch
import PCV.Proofs.IPABatchErr
import PCV.Proofs.PolyMore
import PCV.Proofs.Lookup
import PCV.Proofs.LC
import PCV.Proofs.MapOk

set_option linter.unusedSectionVars false

namespace PCV
namespace IPA
variable {F : Type} [Field F] [DecidableEq F]

theorem pnorm_idem (p : List F) : pnorm (pnorm p) = pnorm p := by
  induction p with
  | nil => rfl
  | cons c cs ih =>
    rw [pnorm_cons c cs]
    by_cases h : c = 0 ∧ pnorm cs = []
    · rw [if_pos h]; rfl
    · rw [if_neg h, pnorm_cons, ih, if_neg h]

theorem lcAddPoly_norm (acc : List F) (coeff : F) (p : List F) :
    pnorm (lcAddPoly acc coeff p) = lcAddPoly acc coeff p := pnorm_idem _

theorem eval_lcAddPoly (acc : List F) (coeff : F) (p : List F) (z : F) :
    evalPoly (lcAddPoly acc coeff p) z = evalPoly acc z + coeff * evalPoly p z := by
  unfold lcAddPoly; rw [eval_pnorm, eval_padd, eval_pscale]

theorem dot_lcAddPoly (G acc : List F) (coeff : F) (p : List F) :
    dot G (lcAddPoly acc coeff p) = dot G acc + coeff * dot G p := by
  unfold lcAddPoly
  rw [dot_pnorm_right, dot_padd_right, dot_pscale_right]

theorem lcAddPoly_len (acc : List F) (coeff : F) (p : List F) (n : Nat)
    (h1 : (pnorm acc).length ≤ n) (h2 : (pnorm p).length ≤ n) :
    (pnorm (lcAddPoly acc coeff p)).length ≤ n := by
  rw [lcAddPoly_norm]; unfold lcAddPoly
  exact pnorm_padd_le _ _ _ h1 (pnorm_pscale_le _ _ _ h2)

def LCAcc.lcomm (a : LCAcc F) : LComm F := ⟨a.label, ⟨a.comm, a.shifted⟩, a.bound⟩
/-- `lc_commitments` after `construct_labeled_commitments`, as the code means it -/
def lcComms (as : List (LCAcc F)) : List (LComm F) := as.map LCAcc.lcomm

/-- the verifier's view of the prover's per-combination variables -/
def LCAcc.toV (a : LCAcc F) : LCAccV F := ⟨a.label, a.bound, a.comm, a.shifted⟩

theorem lcInfoV_toV (as : List (LCAcc F)) : lcInfoV (as.map LCAcc.toV) = lcInfo as := by
  unfold lcInfoV lcInfo
  rw [List.map_map]
  rfl

theorem lcFlatV_toV (as : List (LCAcc F)) : lcFlatV (as.map LCAcc.toV) = lcFlat as := by
  induction as with
  | nil => rfl
  | cons a as ih => simp only [List.map_cons, lcFlatV, lcFlat, ih]; rfl

/-- when every combination has a shifted part exactly if it has a bound, the index walk of
`construct_labeled_commitments` returns each combination's own elements -/
theorem construct_aligned (as : List (LCAcc F))
    (h : ∀ a ∈ as, a.shifted.isSome = a.bound.isSome) :
    constructLabeledCommitments (lcInfo as) (lcFlat as) = .ok (lcComms as) := by
  induction as with
  | nil => rfl
  | cons a as ih =>
    have ha := h a List.mem_cons_self
    have ih' := ih (fun b hb => h b (List.mem_cons_of_mem _ hb))
    simp only [lcInfo, lcComms] at ih'
    rcases a with ⟨l, p, _ | d, hb, c, _ | s, r, sr⟩
    · simp only [lcInfo, lcFlat, lcComms, LCAcc.flat, List.map_cons, Option.toList_none,
        List.cons_append, List.nil_append, constructLabeledCommitments, ih']
      rfl
    · cases ha
    · cases ha
    · simp only [lcInfo, lcFlat, lcComms, LCAcc.flat, List.map_cons, Option.toList_some,
        List.cons_append, List.nil_append, constructLabeledCommitments, ih']
      rfl

/-- the refusals of one polynomial term, the same in both loops: a shifted part that does not go with the
degree bound, then the degree-bound policy.  `ok b`: the term is accumulated and the combination's bound
becomes `b` (the term's own bound for a single bounded term, the current one `cur` otherwise). -/
def termPolicy (k : Nat) (coeff : F) (bound : Option Nat) (shifted : Option F) (cur : Option Nat) :
    Except Err (Option Nat) :=
  if bound.isSome ≠ shifted.isSome then .error .invalidCommitment
  else if k = 1 ∧ bound.isSome then
    if coeff ≠ 1 then .error .abort else .ok bound
  else if bound.isSome then .error .equationHasDegreeBounds
  else .ok cur

/-- mapping the accepted bound through `f` commutes with the refusals: the shape both term loops have -/
theorem termPolicy_bind {α : Type} (k : Nat) (c : F) (bound : Option Nat) (shifted : Option F)
    (cur : Option Nat) (f : Option Nat → α) :
    (match termPolicy k c bound shifted cur with
      | .error e => (.error e : Except Err α)
      | .ok b => .ok (f b))
      = if bound.isSome ≠ shifted.isSome then .error .invalidCommitment
        else if k = 1 ∧ bound.isSome then
          if c ≠ 1 then .error .abort else .ok (f bound)
        else if bound.isSome then .error .equationHasDegreeBounds
        else .ok (f cur) := by
  unfold termPolicy
  by_cases h0 : bound.isSome ≠ shifted.isSome
  · rw [if_pos h0, if_pos h0]
  rw [if_neg h0, if_neg h0]
  by_cases h1 : k = 1 ∧ bound.isSome = true
  · rw [if_pos h1, if_pos h1]
    by_cases h2 : c ≠ 1
    · rw [if_pos h2, if_pos h2]
    · rw [if_neg h2, if_neg h2]
  rw [if_neg h1, if_neg h1]
  by_cases h3 : bound.isSome = true
  · rw [if_pos h3, if_pos h3]
  · rw [if_neg h3, if_neg h3]

theorem termPolicy_ok {k : Nat} {c : F} {b : Option Nat} {s : Option F} {cur b' : Option Nat}
    (h : termPolicy k c b s cur = .ok b') :
    (k = 1 ∧ b.isSome = true ∧ c = 1 ∧ b' = b) ∨ (b = none ∧ s = none ∧ b' = cur) := by
  unfold termPolicy at h
  by_cases h0 : b.isSome ≠ s.isSome
  · rw [if_pos h0] at h; cases h
  rw [if_neg h0] at h
  by_cases h1 : k = 1 ∧ b.isSome = true
  · rw [if_pos h1] at h
    by_cases h2 : c ≠ 1
    · rw [if_pos h2] at h; cases h
    · rw [if_neg h2] at h
      injection h with h
      exact .inl ⟨h1.1, h1.2, not_not.1 h2, h.symm⟩
  rw [if_neg h1] at h
  by_cases h3 : b.isSome = true
  · rw [if_pos h3] at h; cases h
  · rw [if_neg h3] at h
    injection h with h
    cases b with
    | some _ => exact absurd rfl h3
    | none =>
      cases s with
      | some _ => exact absurd (by simp) h0
      | none => exact .inr ⟨rfl, rfl, h.symm⟩

theorem lcStepP_one {trips : List (Trip F)} {k : Nat} {acc : LCAcc F} {term : F × LC.LCTerm}
    (ht : term.2 = .one) : lcStepP trips k acc term = .ok acc := by
  unfold lcStepP
  rw [ht]

theorem lcStepP_poly {trips : List (Trip F)} {k : Nat} {acc : LCAcc F} {term : F × LC.LCTerm}
    {l : Label} (ht : term.2 = .poly l) :
    lcStepP trips k acc term
      = match Marlin.lookupLast (fun (t : Trip F) => t.1.label) l trips with
        | none => .error .missingPolynomial
        | some t =>
          match termPolicy k term.1 t.1.bound t.2.2.comm.shifted acc.bound with
          | .error e => .error e
          | .ok b => .ok ({ acc with bound := b }.addTerm term.1 t) := by
  unfold lcStepP
  rw [ht]
  dsimp only
  cases Marlin.lookupLast (fun (t : Trip F) => t.1.label) l trips with
  | none => rfl
  | some t => exact (termPolicy_bind k term.1 _ _ _ fun b => { acc with bound := b }.addTerm term.1 t).symm

theorem lcStepV_one {comms : List (LComm F)} {k : Nat} {st : LCAccV F × List ((Label × F) × F)}
    {term : F × LC.LCTerm} (ht : term.2 = .one) :
    lcStepV comms k st term = .ok (st.1, subConstant st.1.label term.1 st.2) := by
  unfold lcStepV
  rw [ht]

theorem lcStepV_poly {comms : List (LComm F)} {k : Nat} {st : LCAccV F × List ((Label × F) × F)}
    {term : F × LC.LCTerm} {l : Label} (ht : term.2 = .poly l) :
    lcStepV comms k st term
      = match Marlin.lookupLast (fun (c : LComm F) => c.label) l comms with
        | none => .error .missingPolynomial
        | some c =>
          match termPolicy k term.1 c.bound c.comm.shifted st.1.bound with
          | .error e => .error e
          | .ok b => .ok ({ st.1 with bound := b }.addTerm term.1 c, st.2) := by
  unfold lcStepV
  rw [ht]
  dsimp only
  cases Marlin.lookupLast (fun (c : LComm F) => c.label) l comms with
  | none => rfl
  | some c =>
    exact (termPolicy_bind k term.1 _ _ _ fun b => ({ st.1 with bound := b }.addTerm term.1 c, st.2)).symm

/-- every entry of `label_poly_map` is an honest (polynomial, state, commitment) triple in normal
form -/
def TripsOK (ck : CK F) (trips : List (Trip F)) : Prop :=
  ∀ t ∈ trips, Committed ck t.1 t.2.2 t.2.1 ∧ pnorm t.1.poly = t.1.poly

theorem tripsOK_of_all (ck : CK F) :
    ∀ (polys : List (LPoly F)) (comms : List (LComm F)) (sts : List (Rand F)),
      AllCommitted ck polys comms sts → (∀ p ∈ polys, pnorm p.poly = p.poly) →
      TripsOK ck (polys.zip (sts.zip comms)) := by
  intro polys comms sts hall hnf
  -- `allCommitted_forall₂` relates every entry to its commitment; only the entry's side is kept
  have h := (allCommitted_forall₂ ck hall hnf).imp
    (S := fun x _ => (Committed ck x.1 x.2.2 x.2.1 ∧ pnorm x.1.poly = x.1.poly) ∧ True)
    fun x c h => ⟨⟨h.1 ▸ h.2.1, h.2.2⟩, trivial⟩
  exact ((List.forall₂_and_left _ _).1 h).1

def LCAcc.lpoly (a : LCAcc F) : LPoly F := ⟨a.label, a.poly, a.bound, a.hb⟩
def LCAcc.state (a : LCAcc F) : Rand F := ⟨a.rand, a.srand⟩

/-- the combination is an honest triple: `batch_open` / `batch_check` treat it like any committed
polynomial -/
def LCGood (ck : CK F) (a : LCAcc F) : Prop :=
  Committed ck a.lpoly a.lcomm a.state ∧ pnorm a.poly = a.poly

/-- invariant of the term loop while no bounded polynomial has been met -/
structure InvU (ck : CK F) (a : LCAcc F) : Prop where
  bound : a.bound = none
  shifted : a.shifted = none
  srand : a.srand = none
  comm : a.comm = dot ck.commKey a.poly + ck.s * a.rand
  norm : pnorm a.poly = a.poly
  len : (pnorm a.poly).length ≤ supportedDegree ck + 1
  hid : a.hb.isSome = false → a.rand = 0

theorem invU_init (ck : CK F) (l : Label) : InvU ck (LCAcc.init l : LCAcc F) := by
  refine ⟨rfl, rfl, rfl, ?_, rfl, ?_, fun _ => rfl⟩
  · exact (by rw [dot_nil_right, mul_zero, add_zero] : (0 : F) = dot ck.commKey [] + ck.s * 0)
  · exact Nat.zero_le _

theorem committed_aligned {ck : CK F} {p : LPoly F} {c : LComm F} {st : Rand F}
    (h : Committed ck p c st) : c.comm.shifted.isSome = p.bound.isSome := by
  rw [h.2.2.2.2.1, Option.isSome_map]

theorem maxHb_none (a b : Option Nat) (h : (maxHb a b).isSome = false) : a = none ∧ b = none := by
  cases a <;> cases b <;> simp [maxHb] at h ⊢

theorem committed_unbounded (ck : CK F) (t : Trip F) (hc : Committed ck t.1 t.2.2 t.2.1)
    (hb : t.1.bound = none) :
    t.2.1.shifted = none ∧ t.2.2.comm.shifted = none ∧
    t.2.2.comm.comm = dot ck.commKey t.1.poly + ck.s * t.2.1.rand ∧
    (pnorm t.1.poly).length ≤ supportedDegree ck + 1 ∧ (t.1.hb.isSome = false → t.2.1.rand = 0) := by
  obtain ⟨_, _, hadm, hcomm, hsh, hnh, hh⟩ := hc
  obtain ⟨hdeg, _⟩ := adm_spec _ _ _ hadm
  refine ⟨?_, ?_, hcomm, ?_, fun h => (hnh h).1⟩
  · cases hx : t.1.hb.isSome with
    | false => exact (hnh hx).2
    | true => exact Option.not_isSome_iff_eq_none.1 (by rw [hh hx, hb]; exact Bool.false_ne_true)
  · rw [hsh, hb]; rfl
  · exact (pdeg_succ_ge _).trans (Nat.succ_le_succ hdeg)

theorem addTerm_invU (ck : CK F) (a : LCAcc F) (coeff : F) (t : Trip F) (hi : InvU ck a)
    (hc : Committed ck t.1 t.2.2 t.2.1) (hb : t.1.bound = none) :
    InvU ck (a.addTerm coeff t) ∧ (a.addTerm coeff t).label = a.label ∧
      ∀ z, evalPoly (a.addTerm coeff t).poly z = evalPoly a.poly z + coeff * evalPoly t.1.poly z := by
  obtain ⟨h1, h2, h3, h4, h5⟩ := committed_unbounded ck t hc hb
  refine ⟨⟨hi.bound, ?_, ?_, ?_, ?_, ?_, ?_⟩, rfl, fun z => eval_lcAddPoly _ _ _ z⟩
  · simp only [LCAcc.addTerm, h2, combineShiftedComm]; exact hi.shifted
  · simp only [LCAcc.addTerm, h1, combineShiftedRand]; exact hi.srand
  · simp only [LCAcc.addTerm]
    rw [dot_lcAddPoly, hi.comm, h3]; ring
  · exact lcAddPoly_norm _ _ _
  · exact lcAddPoly_len _ _ _ _ hi.len h4
  · intro hh
    simp only [LCAcc.addTerm] at hh ⊢
    obtain ⟨ha, ht⟩ := maxHb_none _ _ hh
    rw [hi.hid (by rw [ha]; rfl), h5 (by rw [ht]; rfl), zero_mul, add_zero]

theorem invU_good (ck : CK F) (a : LCAcc F) (hi : InvU ck a) : LCGood ck a := by
  refine ⟨⟨rfl, rfl, ?_, ?_, ?_, ?_, ?_⟩, hi.norm⟩
  · simp only [LCAcc.lpoly]
    rw [checkDegreesAndBounds_ok_iff]
    refine ⟨?_, ?_⟩
    · exact Nat.sub_le_of_le_add hi.len
    · intro d hd; rw [hi.bound] at hd; cases hd
  · simp only [LCAcc.lcomm, LCAcc.lpoly, LCAcc.state]; exact hi.comm
  · simp only [LCAcc.lcomm, LCAcc.lpoly, hi.bound, hi.shifted]; rfl
  · intro hh
    simp only [LCAcc.lpoly] at hh
    simp only [LCAcc.state]
    exact ⟨hi.hid hh, hi.srand⟩
  · intro _
    simp only [LCAcc.state, LCAcc.lpoly, hi.srand, hi.bound]
    rfl

theorem combineShiftedComm_none_one (x : Option F) : combineShiftedComm none x 1 = x := by
  cases x with
  | none => rfl
  | some a => exact congrArg some (mul_one a)

theorem single_eq (l : Label) (t : Trip F) (hnf : pnorm t.1.poly = t.1.poly) :
    { (LCAcc.init l : LCAcc F) with bound := t.1.bound }.addTerm 1 t
      = ⟨l, t.1.poly, t.1.bound, t.1.hb, t.2.2.comm.comm, t.2.2.comm.shifted, t.2.1.rand, t.2.1.shifted⟩ := by
  have hp : lcAddPoly ([] : List F) 1 t.1.poly = t.1.poly := by
    rw [lcAddPoly, pscale_one, padd_nil_left, hnf]
  simp only [LCAcc.addTerm, LCAcc.init, hp, zero_add, mul_one, maxHb]
  congr 1
  · exact combineShiftedComm_none_one _
  · exact combineShiftedComm_none_one _  -- `combine_shifted_rand` has the same body

theorem single_good (ck : CK F) (l : Label) (t : Trip F) (hc : Committed ck t.1 t.2.2 t.2.1)
    (hnf : pnorm t.1.poly = t.1.poly) :
    LCGood ck ({ (LCAcc.init l : LCAcc F) with bound := t.1.bound }.addTerm 1 t) ∧
      ({ (LCAcc.init l : LCAcc F) with bound := t.1.bound }.addTerm 1 t).poly = t.1.poly := by
  rw [single_eq l t hnf]
  obtain ⟨_, _, h3, h4, h5, h6, h7⟩ := hc
  exact ⟨⟨⟨rfl, rfl, h3, h4, h5, h6, h7⟩, hnf⟩, rfl⟩

/-- the part of a combination's value contributed by its polynomial terms, at the point `z` (labels
resolve like in the code: last entry of `label_poly_map`) -/
def lcPolyValue (trips : List (Trip F)) (z : F) : List (F × LC.LCTerm) → F
  | [] => 0
  | t :: ts =>
    (match t.2 with
     | .one => 0
     | .poly l => match Marlin.lookupLast (fun (t : Trip F) => t.1.label) l trips with
       | none => 0
       | some x => t.1 * evalPoly x.1.poly z) + lcPolyValue trips z ts

theorem lcPolyValue_cons_one {trips : List (Trip F)} {z : F} {t : F × LC.LCTerm} (ht : t.2 = .one)
    (ts : List (F × LC.LCTerm)) : lcPolyValue trips z (t :: ts) = lcPolyValue trips z ts := by
  rw [lcPolyValue, ht]
  exact zero_add _

theorem lcPolyValue_cons_poly {trips : List (Trip F)} {z : F} {t : F × LC.LCTerm} {l : Label} {x : Trip F}
    (ht : t.2 = .poly l) (hl : Marlin.lookupLast (fun (t : Trip F) => t.1.label) l trips = some x)
    (ts : List (F × LC.LCTerm)) :
    lcPolyValue trips z (t :: ts) = t.1 * evalPoly x.1.poly z + lcPolyValue trips z ts := by
  rw [lcPolyValue, ht]
  dsimp only
  rw [hl]

theorem lcStepP_invU {ck : CK F} {trips : List (Trip F)} (hok : TripsOK ck trips) {k : Nat}
    {acc acc' : LCAcc F} {t : F × LC.LCTerm} (hi : InvU ck acc) (h : lcStepP trips k acc t = .ok acc') :
    (InvU ck acc' ∧ acc'.label = acc.label ∧
        ∀ z ts, evalPoly acc'.poly z + lcPolyValue trips z ts
          = evalPoly acc.poly z + lcPolyValue trips z (t :: ts)) ∨
      (k = 1 ∧ ∃ l x, t.2 = .poly l ∧ Marlin.lookupLast (fun (t : Trip F) => t.1.label) l trips = some x ∧
        t.1 = 1 ∧ acc' = { acc with bound := x.1.bound }.addTerm 1 x) := by
  cases ht : t.2 with
  | one =>
    rw [lcStepP_one ht] at h
    cases h
    exact .inl ⟨hi, rfl, fun z ts => by rw [lcPolyValue_cons_one ht]⟩
  | poly l =>
    rw [lcStepP_poly ht] at h
    cases hl : Marlin.lookupLast (fun (t : Trip F) => t.1.label) l trips with
    | none => rw [hl] at h; cases h
    | some x =>
      rw [hl] at h
      dsimp only at h
      cases hp : termPolicy k t.1 x.1.bound x.2.2.comm.shifted acc.bound with
      | error e => rw [hp] at h; cases h
      | ok b =>
        rw [hp] at h
        cases h
        rcases termPolicy_ok hp with ⟨hk, _, hc, rfl⟩ | ⟨hbn, _, rfl⟩
        · exact .inr ⟨hk, l, x, rfl, hl, hc, by rw [hc]⟩
        · obtain ⟨i1, i2, i3⟩ :=
            addTerm_invU ck acc t.1 x hi (hok x (Marlin.lookupLast_mem _ l trips x hl).1).1 hbn
          exact .inl ⟨i1, i2, fun z ts => by rw [i3 z, lcPolyValue_cons_poly ht hl, add_assoc]⟩

theorem lcLoopP_invU (ck : CK F) (trips : List (Trip F)) (hok : TripsOK ck trips) (k : Nat)
    (hk : k ≠ 1) :
    ∀ (ts : List (F × LC.LCTerm)) (acc acc' : LCAcc F), InvU ck acc →
      lcLoopP trips k acc ts = .ok acc' →
      InvU ck acc' ∧ acc'.label = acc.label ∧
        ∀ z, evalPoly acc'.poly z = evalPoly acc.poly z + lcPolyValue trips z ts := by
  intro ts
  induction ts with
  | nil =>
    intro acc acc' hi h
    cases h
    exact ⟨hi, rfl, fun z => (add_zero _).symm⟩
  | cons t ts ih =>
    intro acc acc' hi h
    simp only [lcLoopP] at h
    cases hs : lcStepP trips k acc t with
    | error e => rw [hs] at h; cases h
    | ok acc1 =>
      rw [hs] at h
      rcases lcStepP_invU hok hi hs with ⟨i1, i2, i3⟩ | ⟨h1, _⟩
      · obtain ⟨a, b, c⟩ := ih acc1 acc' i1 h
        exact ⟨a, b.trans i2, fun z => by rw [c z, i3 z ts]⟩
      · exact absurd h1 hk

/-- **a combination of committed polynomials is a committed polynomial** with the combination's
label, whose evaluation is the combination of the evaluations (constants excluded) -/
theorem combineOneP_good {ck : CK F} {trips : List (Trip F)} (hok : TripsOK ck trips)
    {lc : LC.LinComb F} {a : LCAcc F} (h : combineOneP trips lc = .ok a) :
    LCGood ck a ∧ a.label = lc.label ∧ ∀ z, evalPoly a.poly z = lcPolyValue trips z lc.terms := by
  unfold combineOneP at h
  by_cases hk : lc.terms.length = 1
  · obtain ⟨t, hts⟩ := List.length_eq_one_iff.1 hk
    rw [hk, hts] at h
    simp only [lcLoopP] at h
    cases hs : lcStepP trips 1 (LCAcc.init lc.label) t with
    | error e => rw [hs] at h; cases h
    | ok acc1 =>
      rw [hs] at h
      cases h
      rcases lcStepP_invU hok (invU_init ck lc.label) hs with
        ⟨i1, i2, i3⟩ | ⟨_, l, x, h1, hl, hc, rfl⟩
      · refine ⟨invU_good ck _ i1, i2, fun z => ?_⟩
        rw [hts]
        exact (add_zero _).symm.trans ((i3 z []).trans (zero_add _))
      · obtain ⟨hmem, _⟩ := Marlin.lookupLast_mem _ l trips x hl
        obtain ⟨g, hp⟩ := single_good ck lc.label x (hok x hmem).1 (hok x hmem).2
        refine ⟨g, rfl, fun z => ?_⟩
        rw [hp, hts, lcPolyValue_cons_poly h1 hl, hc, one_mul]
        exact (add_zero _).symm
  · obtain ⟨a1, a2, a3⟩ := lcLoopP_invU ck trips hok _ hk lc.terms _ a (invU_init ck lc.label) h
    exact ⟨invU_good ck a a1, a2, fun z => (a3 z).trans (zero_add _)⟩

def stepEvals (l : Label) (term : F × LC.LCTerm) (evals : List ((Label × F) × F)) :
    List ((Label × F) × F) :=
  match term.2 with
  | .one => subConstant l term.1 evals
  | .poly _ => evals

def adjustTerms (l : Label) : List (F × LC.LCTerm) → List ((Label × F) × F) → List ((Label × F) × F)
  | [], e => e
  | t :: ts, e => adjustTerms l ts (stepEvals l t e)

/-- what `check_combinations` does to the claimed values: every constant of every combination is
subtracted from every value carrying that combination's label -/
def adjustEvals : List (LC.LinComb F) → List ((Label × F) × F) → List ((Label × F) × F)
  | [], e => e
  | lc :: lcs, e => adjustEvals lcs (adjustTerms lc.label lc.terms e)

/-- the commitment part of one verifier step (it does not read the claimed values) -/
def stepAccV (comms : List (LComm F)) (k : Nat) (a : LCAccV F) (t : F × LC.LCTerm) :
    Except Err (LCAccV F) :=
  match lcStepV comms k (a, []) t with
  | .error e => .error e
  | .ok x => .ok x.1

theorem stepAccV_one {comms : List (LComm F)} {k : Nat} {a : LCAccV F} {t : F × LC.LCTerm}
    (ht : t.2 = .one) : stepAccV comms k a t = .ok a := by
  unfold stepAccV
  rw [lcStepV_one ht]

theorem stepAccV_poly {comms : List (LComm F)} {k : Nat} {a : LCAccV F} {t : F × LC.LCTerm}
    {l : Label} (ht : t.2 = .poly l) :
    stepAccV comms k a t
      = match Marlin.lookupLast (fun (c : LComm F) => c.label) l comms with
        | none => .error .missingPolynomial
        | some c =>
          match termPolicy k t.1 c.bound c.comm.shifted a.bound with
          | .error e => .error e
          | .ok b => .ok ({ a with bound := b }.addTerm t.1 c) := by
  unfold stepAccV
  rw [lcStepV_poly ht]
  cases Marlin.lookupLast (fun (c : LComm F) => c.label) l comms with
  | none => rfl
  | some c =>
    dsimp only
    cases termPolicy k t.1 c.bound c.comm.shifted a.bound <;> rfl

theorem lcStepV_factor (comms : List (LComm F)) (k : Nat) (a : LCAccV F) (e : List ((Label × F) × F))
    (t : F × LC.LCTerm) :
    lcStepV comms k (a, e) t
      = match stepAccV comms k a t with
        | .error x => .error x
        | .ok a' => .ok (a', stepEvals a.label t e) := by
  unfold stepEvals
  cases ht : t.2 with
  | one => rw [lcStepV_one ht, stepAccV_one ht]
  | poly l =>
    rw [lcStepV_poly ht, stepAccV_poly ht]
    cases Marlin.lookupLast (fun (c : LComm F) => c.label) l comms with
    | none => rfl
    | some c =>
      dsimp only
      cases termPolicy k t.1 c.bound c.comm.shifted a.bound <;> rfl

theorem stepAccV_label {comms : List (LComm F)} {k : Nat} {a a' : LCAccV F} {t : F × LC.LCTerm}
    (h : stepAccV comms k a t = .ok a') : a'.label = a.label := by
  cases ht : t.2 with
  | one =>
    rw [stepAccV_one ht] at h
    injection h with h
    rw [h]
  | poly l =>
    rw [stepAccV_poly ht] at h
    cases hl : Marlin.lookupLast (fun (c : LComm F) => c.label) l comms with
    | none => rw [hl] at h; cases h
    | some c =>
      rw [hl] at h
      dsimp only at h
      cases hp : termPolicy k t.1 c.bound c.comm.shifted a.bound with
      | error e => rw [hp] at h; cases h
      | ok b =>
        rw [hp] at h
        injection h with h
        rw [← h]
        rfl

def loopAccV (comms : List (LComm F)) (k : Nat) : LCAccV F → List (F × LC.LCTerm) → Except Err (LCAccV F)
  | a, [] => .ok a
  | a, t :: ts =>
    match stepAccV comms k a t with
    | .error e => .error e
    | .ok a' => loopAccV comms k a' ts

theorem loopAccV_label {comms : List (LComm F)} {k : Nat} {ts : List (F × LC.LCTerm)} {a a' : LCAccV F}
    (h : loopAccV comms k a ts = .ok a') : a'.label = a.label := by
  induction ts generalizing a with
  | nil => cases h; rfl
  | cons t ts ih =>
    simp only [loopAccV] at h
    cases hs : stepAccV comms k a t with
    | error e => rw [hs] at h; cases h
    | ok a1 =>
      rw [hs] at h
      rw [ih h, stepAccV_label hs]

theorem lcLoopV_factor (comms : List (LComm F)) (k : Nat) :
    ∀ (ts : List (F × LC.LCTerm)) (a : LCAccV F) (e : List ((Label × F) × F)),
      lcLoopV comms k (a, e) ts
        = match loopAccV comms k a ts with
          | .error x => .error x
          | .ok a' => .ok (a', adjustTerms a.label ts e) := by
  intro ts
  induction ts with
  | nil => intro a e; rfl
  | cons t ts ih =>
    intro a e
    simp only [lcLoopV, loopAccV, lcStepV_factor]
    cases hs : stepAccV comms k a t with
    | error x => rfl
    | ok a' =>
      simp only
      rw [ih, stepAccV_label hs]
      rfl

def combineAccV (comms : List (LComm F)) : List (LC.LinComb F) → Except Err (List (LCAccV F))
  | [] => .ok []
  | lc :: lcs =>
    match loopAccV comms lc.terms.length (LCAccV.init lc.label) lc.terms with
    | .error e => .error e
    | .ok a =>
      match combineAccV comms lcs with
      | .error e => .error e
      | .ok as => .ok (a :: as)

/-- **`check_combinations`' loop, factored**: the combined commitments do not depend on the claimed
values, and the values handed to `batch_check` are `adjustEvals` of the claimed ones -/
theorem combineAllV_factor (comms : List (LComm F)) :
    ∀ (lcs : List (LC.LinComb F)) (e : List ((Label × F) × F)),
      combineAllV comms lcs e
        = match combineAccV comms lcs with
          | .error x => .error x
          | .ok as => .ok (as, adjustEvals lcs e) := by
  intro lcs
  induction lcs with
  | nil => intro e; rfl
  | cons lc lcs ih =>
    intro e
    simp only [combineAllV, combineAccV, lcLoopV_factor]
    cases h1 : loopAccV comms lc.terms.length (LCAccV.init lc.label) lc.terms with
    | error x => rfl
    | ok a =>
      simp only
      rw [ih]
      cases h2 : combineAccV comms lcs with
      | error x => rfl
      | ok as => rfl

/-- the commitments `check_combinations` hands to `batch_check` -/
def verifierComms (comms : List (LComm F)) (lcs : List (LC.LinComb F)) : Except Err (List (LComm F)) :=
  match combineAccV comms lcs with
  | .error e => .error e
  | .ok as => constructLabeledCommitments (lcInfoV as) (lcFlatV as)

/-- **`check_combinations` is `batch_check`** on the combined commitments and the adjusted values -/
theorem checkCombinations_eq (vk : VK F) (lcs : List (LC.LinComb F)) (comms : List (LComm F))
    (qs : List (Query F)) (evals : List ((Label × F) × F)) (πs : List (Proof F)) (ξs ros rs : List F) :
    checkCombinations vk lcs comms qs evals πs ξs ros rs
      = match verifierComms comms lcs with
        | .error e => .error e
        | .ok lcC => batchCheck vk lcC qs (adjustEvals lcs evals) πs ξs ros rs := by
  unfold checkCombinations verifierComms
  rw [combineAllV_factor]
  cases combineAccV comms lcs with
  | error e => rfl
  | ok as =>
    simp only
    cases constructLabeledCommitments (lcInfoV as) (lcFlatV as) with
    | error e => rfl
    | ok c => rfl

/-- prover's and verifier's label lookups agree (the verifier reads the degree bound off the
labelled commitment) -/
def LookupAgree (trips : List (Trip F)) (comms : List (LComm F)) : Prop :=
  ∀ l, (Marlin.lookupLast (fun (t : Trip F) => t.1.label) l trips = none ∧
        Marlin.lookupLast (fun (c : LComm F) => c.label) l comms = none) ∨
    ∃ t, Marlin.lookupLast (fun (t : Trip F) => t.1.label) l trips = some t ∧
      Marlin.lookupLast (fun (c : LComm F) => c.label) l comms = some t.2.2 ∧ t.2.2.bound = t.1.bound

theorem lookupAgree_of_all {ck : CK F} {polys : List (LPoly F)} {comms : List (LComm F)}
    {sts : List (Rand F)} (hall : AllCommitted ck polys comms sts)
    (hnf : ∀ p ∈ polys, pnorm p.poly = p.poly) :
    LookupAgree (polys.zip (sts.zip comms)) comms := by
  intro l
  rcases lookup_agree ck l hall hnf with h | ⟨p, st, c, h1, h2, h3, _⟩
  · exact .inl h
  · exact .inr ⟨(p, st, c), h1, h2, h3.2.1⟩

theorem stepAccV_mirror (trips : List (Trip F)) (comms : List (LComm F)) (hag : LookupAgree trips comms)
    (k : Nat) (acc : LCAcc F) (t : F × LC.LCTerm) :
    stepAccV comms k acc.toV t
      = match lcStepP trips k acc t with
        | .error e => .error e
        | .ok acc' => .ok acc'.toV := by
  cases ht : t.2 with
  | one => rw [stepAccV_one ht, lcStepP_one ht]
  | poly l =>
    rw [stepAccV_poly ht, lcStepP_poly ht]
    rcases hag l with ⟨h1, h2⟩ | ⟨x, h1, h2, hb⟩
    · rw [h1, h2]
    · rw [h1, h2]
      simp only [LCAcc.toV, hb]
      cases termPolicy k t.1 x.1.bound x.2.2.comm.shifted acc.bound <;> rfl

theorem loopAccV_mirror (trips : List (Trip F)) (comms : List (LComm F)) (hag : LookupAgree trips comms)
    (k : Nat) :
    ∀ (ts : List (F × LC.LCTerm)) (acc : LCAcc F),
      loopAccV comms k acc.toV ts
        = match lcLoopP trips k acc ts with
          | .error e => .error e
          | .ok acc' => .ok acc'.toV := by
  intro ts
  induction ts with
  | nil => intro acc; rfl
  | cons t ts ih =>
    intro acc
    simp only [loopAccV, lcLoopP, stepAccV_mirror trips comms hag]
    cases lcStepP trips k acc t with
    | error e => rfl
    | ok acc1 => exact ih acc1

theorem combineAccV_mirror (trips : List (Trip F)) (comms : List (LComm F))
    (hag : LookupAgree trips comms) (lcs : List (LC.LinComb F)) :
    combineAccV comms lcs
      = match combineAllP trips lcs with
        | .error e => .error e
        | .ok as => .ok (as.map LCAcc.toV) := by
  induction lcs with
  | nil => rfl
  | cons lc lcs ih =>
    have e : (LCAccV.init lc.label : LCAccV F) = (LCAcc.init lc.label : LCAcc F).toV := rfl
    simp only [combineAccV, combineAllP, combineOneP, e, loopAccV_mirror trips comms hag, ih]
    cases lcLoopP trips lc.terms.length (LCAcc.init lc.label) lc.terms with
    | error e => rfl
    | ok a => cases combineAllP trips lcs <;> rfl

/-- **the verifier's combination loop is the prover's seen through `toV`**: the same refusals, the
same commitments, and the claimed values adjusted by the constants -/
theorem combineAllV_mirror (trips : List (Trip F)) (comms : List (LComm F))
    (hag : LookupAgree trips comms) (lcs : List (LC.LinComb F)) (evals : List ((Label × F) × F)) :
    combineAllV comms lcs evals
      = match combineAllP trips lcs with
        | .error e => .error e
        | .ok as => .ok (as.map LCAcc.toV, adjustEvals lcs evals) := by
  rw [combineAllV_factor, combineAccV_mirror trips comms hag]
  cases combineAllP trips lcs <;> rfl

def termsConstant : List (F × LC.LCTerm) → F
  | [] => 0
  | t :: ts => (match t.2 with | .one => t.1 | .poly _ => 0) + termsConstant ts

def lcConstant (lc : LC.LinComb F) : F := termsConstant lc.terms

/-- the constants of all combinations labelled `l` -/
def constSum : List (LC.LinComb F) → Label → F
  | [], _ => 0
  | lc :: lcs, l => (if lc.label = l then lcConstant lc else 0) + constSum lcs l

theorem bump_bump (e1 e2 : Label × F → F) (evals : List ((Label × F) × F)) :
    bump e2 (bump e1 evals) = bump (fun k => e1 k + e2 k) evals := by
  simp only [bump, List.map_map, Function.comp_def, add_assoc]

theorem bump_zero (evals : List ((Label × F) × F)) : bump (fun _ => 0) evals = evals := by
  simp only [bump, add_zero, List.map_id']

theorem bump_congr (e1 e2 : Label × F → F) (evals : List ((Label × F) × F)) (h : ∀ k, e1 k = e2 k) :
    bump e1 evals = bump e2 evals := by rw [funext h]

theorem termsConstant_eq (ts : List (F × LC.LCTerm)) : termsConstant ts = LC.constPart ts := by
  induction ts with
  | nil => rfl
  | cons t ts ih => rw [termsConstant, LC.constPart, ih]; cases t.2 <;> rfl

theorem constSum_eq (lcs : List (LC.LinComb F)) (l : Label) : constSum lcs l = LC.constAt lcs l := by
  induction lcs with
  | nil => rfl
  | cons lc lcs ih => rw [constSum, LC.constAt, ih, lcConstant, termsConstant_eq]

theorem adjustTerms_shift (l : Label) (ts : List (F × LC.LCTerm)) (evals : List ((Label × F) × F)) :
    adjustTerms l ts evals = LC.shift (fun k => if k = l then LC.constPart ts else 0) evals := by
  rw [← LC.foldl_subAt]
  induction ts generalizing evals with
  | nil => rfl
  | cons t ts ih => rw [adjustTerms, List.foldl_cons, ih, stepEvals]; cases t.2 <;> rfl

theorem adjustEvals_shift (lcs : List (LC.LinComb F)) (evals : List ((Label × F) × F)) :
    adjustEvals lcs evals = LC.shift (LC.constAt lcs) evals := by
  induction lcs generalizing evals with
  | nil => exact (LC.shift_zero evals).symm
  | cons lc lcs ih => rw [adjustEvals, ih, adjustTerms_shift, LC.shift_constAt_cons]

/-- **the values `batch_check` sees**: claimed value minus the constants of every combination with
that label -/
theorem adjustEvals_eq_bump :
    ∀ (lcs : List (LC.LinComb F)) (evals : List ((Label × F) × F)),
      adjustEvals lcs evals = bump (fun k => -constSum lcs k.1) evals := by
  intro lcs evals
  rw [adjustEvals_shift]
  simp only [LC.shift, bump, constSum_eq, sub_eq_add_neg]

theorem combineAllP_mapOk (trips : List (Trip F)) (lcs : List (LC.LinComb F)) :
    combineAllP trips lcs = mapOk (combineOneP trips) lcs :=
  mapOk_unique (combineAllP trips) rfl (fun lc lcs => by
    rw [combineAllP]
    cases combineOneP trips lc with
    | error e => rfl
    | ok a => cases combineAllP trips lcs <;> rfl) lcs

theorem combineAllP_forall (trips : List (Trip F)) :
    ∀ (lcs : List (LC.LinComb F)) (as : List (LCAcc F)), combineAllP trips lcs = .ok as →
      List.Forall₂ (fun lc a => combineOneP trips lc = .ok a) lcs as := by
  intro lcs as h
  rw [combineAllP_mapOk] at h
  exact mapOk_ok_iff.1 h

theorem allCommitted_of_good (ck : CK F) :
    ∀ (as : List (LCAcc F)), (∀ a ∈ as, LCGood ck a) →
      AllCommitted ck (lcPolys as) (lcComms as) (lcStates as) := by
  intro as
  induction as with
  | nil => intro _; trivial
  | cons a as ih =>
    intro h
    exact ⟨(h a (by simp)).1, ih (fun b hb => h b (by simp [hb]))⟩

theorem good_aligned (ck : CK F) (a : LCAcc F) (h : LCGood ck a) :
    a.shifted.isSome = a.bound.isSome :=
  committed_aligned h.1

/-- the assignment "label ↦ evaluation at `z` of the committed polynomial with that label" -/
def evalAssign (trips : List (Trip F)) (z : F) (l : Label) : F :=
  match Marlin.lookupLast (fun (t : Trip F) => t.1.label) l trips with
  | none => 0
  | some x => evalPoly x.1.poly z

theorem lcPolyValue_eq (trips : List (Trip F)) (z : F) (ts : List (F × LC.LCTerm)) :
    lcPolyValue trips z ts = LC.polyPart (evalAssign trips z) ts := by
  induction ts with
  | nil => rfl
  | cons t ts ih =>
    rw [lcPolyValue, LC.polyPart, ih]
    cases t.2 with
    | one => rfl
    | poly l =>
      simp only [evalAssign]
      cases Marlin.lookupLast (fun (t : Trip F) => t.1.label) l trips <;> simp only [mul_zero]

theorem lc_value_split (trips : List (Trip F)) (z : F) (lc : LC.LinComb F) :
    LC.value lc (evalAssign trips z) = lcPolyValue trips z lc.terms + lcConstant lc := by
  rw [lcPolyValue_eq, lcConstant, termsConstant_eq]
  exact LC.termsValue_split _ lc.terms

theorem constSum_distinct :
    ∀ (lcs : List (LC.LinComb F)), (lcs.map (·.label)).Nodup → ∀ (l : Label) (lc : LC.LinComb F),
      Marlin.lookupLast (fun (lc : LC.LinComb F) => lc.label) l lcs = some lc →
      constSum lcs l = lcConstant lc := by
  intro lcs hnd l lc hl
  obtain ⟨hmem, rfl⟩ := Marlin.lookupLast_mem _ l lcs lc hl
  rw [constSum_eq, LC.constAt_of_nodup hnd hmem, lcConstant, termsConstant_eq]

def coeffSum (m : Label) : List (F × LC.LCTerm) → F
  | [] => 0
  | t :: ts => (if t.2 = .poly m then t.1 else 0) + coeffSum m ts

def BoundedTerm (trips : List (Trip F)) (t : F × LC.LCTerm) : Prop :=
  ∃ l x, t.2 = .poly l ∧ Marlin.lookupLast (fun (t : Trip F) => t.1.label) l trips = some x ∧
    x.1.bound.isSome = true

def Resolves (trips : List (Trip F)) (t : F × LC.LCTerm) : Prop :=
  ∀ l, t.2 = .poly l → ∃ x, Marlin.lookupLast (fun (t : Trip F) => t.1.label) l trips = some x

/-- the entries of `label_poly_map` are well formed: the commitment carries a shifted part exactly
when the polynomial has a degree bound (what `open_combinations` tests before the degree-bound
policy, refusing with `InvalidCommitment` otherwise) -/
def TripsAligned (trips : List (Trip F)) : Prop :=
  ∀ t ∈ trips, t.1.bound.isSome = t.2.2.comm.shifted.isSome

theorem tripsAligned_of_ok {ck : CK F} {trips : List (Trip F)} (hok : TripsOK ck trips) :
    TripsAligned trips :=
  fun t ht => (committed_aligned (hok t ht).1).symm

/-- a term naming an entry whose commitment's shifted part does not go with the degree bound is
refused with `InvalidCommitment`, before the degree-bound policy is looked at -/
theorem lcStepP_malformed {trips : List (Trip F)} {k : Nat} {acc : LCAcc F} {term : F × LC.LCTerm}
    {l : Label} (ht : term.2 = .poly l) {x : Trip F}
    (hl : Marlin.lookupLast (fun (t : Trip F) => t.1.label) l trips = some x)
    (hbad : x.1.bound.isSome ≠ x.2.2.comm.shifted.isSome) :
    lcStepP trips k acc term = .error .invalidCommitment := by
  rw [lcStepP_poly ht, hl]
  simp only [termPolicy, if_pos hbad]

/-- in domain (label known, entry well formed) a step is decided by the policy alone: a term naming a
bounded polynomial is refused when `k ≠ 1` and passes when `k = 1` with coefficient one; every other
term passes -/
theorem lcStepP_domain (trips : List (Trip F)) (hwf : TripsAligned trips) (k : Nat) (acc : LCAcc F)
    (t : F × LC.LCTerm) (hres : Resolves trips t) :
    (BoundedTerm trips t ∧ (k ≠ 1 → lcStepP trips k acc t = .error .equationHasDegreeBounds) ∧
        (k = 1 → t.1 = 1 → ∃ a, lcStepP trips k acc t = .ok a)) ∨
      (¬ BoundedTerm trips t ∧ ∃ a, lcStepP trips k acc t = .ok a) := by
  cases ht : t.2 with
  | one =>
    refine .inr ⟨?_, acc, lcStepP_one ht⟩
    rintro ⟨l, x, h1, _⟩
    rw [ht] at h1
    cases h1
  | poly l =>
    obtain ⟨x, hl⟩ := hres l ht
    have hal := hwf x (Marlin.lookupLast_mem _ l trips x hl).1
    rw [lcStepP_poly ht, hl]
    by_cases hb : x.1.bound.isSome = true
    · refine .inl ⟨⟨l, x, ht, hl, hb⟩, fun hk => ?_,
        fun hk hc => ⟨{ acc with bound := x.1.bound }.addTerm t.1 x, ?_⟩⟩
      · simp only [termPolicy, if_neg (not_not.2 hal), if_neg (fun hx : k = 1 ∧ _ => hk hx.1), if_pos hb]
      · simp only [termPolicy, if_neg (not_not.2 hal), if_pos (And.intro hk hb), if_neg (not_not.2 hc)]
    · refine .inr ⟨?_, { acc with bound := acc.bound }.addTerm t.1 x, ?_⟩
      · rintro ⟨l', x', h1, h2, h3⟩
        cases ht.symm.trans h1
        cases hl.symm.trans h2
        exact hb h3
      · simp only [termPolicy, if_neg (not_not.2 hal), if_neg (fun hx : k = 1 ∧ _ => hb hx.2), if_neg hb]

theorem lcLoopP_mixed (trips : List (Trip F)) (hwf : TripsAligned trips) (k : Nat) (hk : k ≠ 1) :
    ∀ (ts : List (F × LC.LCTerm)) (acc : LCAcc F), (∀ t ∈ ts, Resolves trips t) →
      (∃ t ∈ ts, BoundedTerm trips t) →
      lcLoopP trips k acc ts = .error .equationHasDegreeBounds := by
  intro ts
  induction ts with
  | nil => intro acc _ ⟨t, ht, _⟩; cases ht
  | cons t ts ih =>
    intro acc hres hex
    simp only [lcLoopP]
    rcases lcStepP_domain trips hwf k acc t (hres t (by simp)) with ⟨_, he, _⟩ | ⟨hnb, a, ha⟩
    · rw [he hk]
    · rw [ha]
      obtain ⟨t', ht', hb⟩ := hex
      rcases List.mem_cons.1 ht' with rfl | ht'
      · exact absurd hb hnb
      · exact ih a (fun t' ht' => hres t' (by simp [ht'])) ⟨t', ht', hb⟩

theorem lcLoopP_outcomes (trips : List (Trip F)) (hwf : TripsAligned trips) (k : Nat) :
    ∀ (ts : List (F × LC.LCTerm)) (acc : LCAcc F), (∀ t ∈ ts, Resolves trips t) →
      (k = 1 → ∀ t ∈ ts, BoundedTerm trips t → t.1 = 1) →
      (∃ a, lcLoopP trips k acc ts = .ok a) ∨
        lcLoopP trips k acc ts = .error .equationHasDegreeBounds := by
  intro ts
  induction ts with
  | nil => intro acc _ _; exact Or.inl ⟨acc, rfl⟩
  | cons t ts ih =>
    intro acc hres hone
    simp only [lcLoopP]
    have hrest := fun a => ih a (fun t' ht' => hres t' (by simp [ht']))
      (fun hk t' ht' hb => hone hk t' (by simp [ht']) hb)
    rcases lcStepP_domain trips hwf k acc t (hres t (by simp)) with ⟨hb, he, hok⟩ | ⟨_, a, ha⟩
    · by_cases hk : k = 1
      · obtain ⟨a, ha⟩ := hok hk (hone hk t (by simp) hb)
        rw [ha]
        exact hrest a
      · rw [he hk]
        exact .inr rfl
    · rw [ha]
      exact hrest a

def Mixes (trips : List (Trip F)) (lc : LC.LinComb F) : Prop :=
  lc.terms.length ≠ 1 ∧ ∃ t ∈ lc.terms, BoundedTerm trips t

def LCDomain (trips : List (Trip F)) (lc : LC.LinComb F) : Prop :=
  (∀ t ∈ lc.terms, Resolves trips t) ∧
  (lc.terms.length = 1 → ∀ t ∈ lc.terms, BoundedTerm trips t → t.1 = 1)

theorem combineAllP_mixed (trips : List (Trip F)) (hwf : TripsAligned trips) :
    ∀ (lcs : List (LC.LinComb F)), (∀ lc ∈ lcs, LCDomain trips lc) → (∃ lc ∈ lcs, Mixes trips lc) →
      combineAllP trips lcs = .error .equationHasDegreeBounds := by
  intro lcs
  induction lcs with
  | nil => intro _ ⟨lc, hlc, _⟩; simp at hlc
  | cons lc lcs ih =>
    intro hdom hex
    simp only [combineAllP, combineOneP]
    by_cases hm : Mixes trips lc
    · rw [lcLoopP_mixed trips hwf _ hm.1 lc.terms _ (hdom lc (by simp)).1 hm.2]
    · have htail : ∃ lc' ∈ lcs, Mixes trips lc' := by
        obtain ⟨lc', h1, h2⟩ := hex
        rcases List.mem_cons.1 h1 with rfl | h1
        · exact absurd h2 hm
        · exact ⟨lc', h1, h2⟩
      have hrec := ih (fun x hx => hdom x (by simp [hx])) htail
      rcases lcLoopP_outcomes trips hwf lc.terms.length lc.terms (LCAcc.init lc.label)
          (hdom lc (by simp)).1 (hdom lc (by simp)).2 with ⟨a, ha⟩ | he
      · rw [ha]; simp only; rw [hrec]
      · rw [he]

/-- **master form of every perturbation.** Two statements (combination lists, commitments, claimed
values) whose combined commitments differ by `errC` (per combination label) and whose adjusted values
differ by `errV` (per key): if the first is accepted then — oracle outputs and randomizers held
fixed — the second is accepted iff the defect shift of every point label vanishes. -/
theorem checkCombinations_perturbed {vk : VK F} {lcs lcs' : List (LC.LinComb F)}
    {comms comms' : List (LComm F)} {qs : List (Query F)} {evals evals' : List ((Label × F) × F)}
    {πs : List (Proof F)} {ξs ros rs : List F} {lcC : List (LComm F)}
    {errC : Label → F} {errV : Label × F → F}
    (h1 : verifierComms comms lcs = .ok lcC)
    (h2 : verifierComms comms' lcs' = .ok (bumpComms errC lcC))
    (hV : adjustEvals lcs' evals' = bump errV (adjustEvals lcs evals))
    (hacc : checkCombinations vk lcs comms qs evals πs ξs ros rs = .ok true) :
    checkCombinations vk lcs' comms' qs evals' πs ξs ros rs
      = .ok (allZero (batchErrs vk lcC (adjustEvals lcs evals) errC errV (Marlin.groupQueries qs) πs ξs ros)) := by
  rw [checkCombinations_eq, h1] at hacc
  rw [checkCombinations_eq, h2, hV]
  exact batchCheck_bump vk lcC qs _ πs ξs ros rs errC errV hacc

/-- two combinations that differ only in the coefficients of their constant terms -/
def SameShape (lc lc' : LC.LinComb F) : Prop :=
  lc'.label = lc.label ∧
  List.Forall₂ (fun (t t' : F × LC.LCTerm) => t'.2 = t.2 ∧ (t.2 ≠ .one → t'.1 = t.1)) lc.terms lc'.terms

theorem stepAccV_shape (comms : List (LComm F)) (k : Nat) (a : LCAccV F) (t t' : F × LC.LCTerm)
    (h : t'.2 = t.2 ∧ (t.2 ≠ .one → t'.1 = t.1)) : stepAccV comms k a t' = stepAccV comms k a t := by
  obtain ⟨h1, h2⟩ := h
  cases ht : t.2 with
  | one => rw [stepAccV_one ht, stepAccV_one (h1.trans ht)]
  | poly l =>
    rw [stepAccV_poly ht, stepAccV_poly (h1.trans ht),
      h2 (by rw [ht]; exact fun h => nomatch h)]

theorem loopAccV_shape (comms : List (LComm F)) (k : Nat) :
    ∀ (ts ts' : List (F × LC.LCTerm)),
      List.Forall₂ (fun (t t' : F × LC.LCTerm) => t'.2 = t.2 ∧ (t.2 ≠ .one → t'.1 = t.1)) ts ts' →
      ∀ a, loopAccV comms k a ts' = loopAccV comms k a ts := by
  intro ts ts' h
  induction h with
  | nil => intro a; rfl
  | cons hd _ ih =>
    intro a
    simp only [loopAccV, stepAccV_shape comms k a _ _ hd]
    cases stepAccV comms k a _ with
    | error e => rfl
    | ok a' => exact ih a'

theorem combineAccV_shape (comms : List (LComm F)) :
    ∀ (lcs lcs' : List (LC.LinComb F)), List.Forall₂ SameShape lcs lcs' →
      combineAccV comms lcs' = combineAccV comms lcs := by
  intro lcs lcs' h
  induction h with
  | nil => rfl
  | cons hd _ ih =>
    obtain ⟨hl, ht⟩ := hd
    simp only [combineAccV, hl, ← ht.length_eq, loopAccV_shape comms _ _ _ ht, ih]

def LCAccV.shiftComm (a : LCAccV F) (e : F) : LCAccV F := { a with comm := a.comm + e }

theorem stepAccV_shiftComm (comms : List (LComm F)) (k : Nat) (a : LCAccV F) (e : F)
    (t : F × LC.LCTerm) :
    stepAccV comms k (a.shiftComm e) t
      = match stepAccV comms k a t with
        | .error x => .error x
        | .ok a' => .ok (a'.shiftComm e) := by
  cases ht : t.2 with
  | one => rw [stepAccV_one ht, stepAccV_one ht]
  | poly l =>
    rw [stepAccV_poly ht, stepAccV_poly ht]
    cases Marlin.lookupLast (fun (c : LComm F) => c.label) l comms with
    | none => rfl
    | some c =>
      simp only [LCAccV.shiftComm]
      cases termPolicy k t.1 c.bound c.comm.shifted a.bound with
      | error x => rfl
      | ok b =>
        simp only [LCAccV.addTerm]
        rw [add_right_comm]

theorem loopAccV_shiftComm (comms : List (LComm F)) (k : Nat) (e : F) :
    ∀ (ts : List (F × LC.LCTerm)) (a : LCAccV F),
      loopAccV comms k (a.shiftComm e) ts
        = match loopAccV comms k a ts with
          | .error x => .error x
          | .ok a' => .ok (a'.shiftComm e) := by
  intro ts
  induction ts with
  | nil => intro a; rfl
  | cons t ts ih =>
    intro a
    simp only [loopAccV, stepAccV_shiftComm]
    cases stepAccV comms k a t with
    | error x => rfl
    | ok a' => exact ih a'

/-- **a coefficient changed** by `δ` on a term naming the unbounded polynomial `m` (its commitment
`cm` has no shifted part): the combined commitment of that combination moves by `δ·cm` -/
theorem loopAccV_coeff {comms : List (LComm F)} {k : Nat} {m : Label} {cm : LComm F} (c δ : F)
    (hm : Marlin.lookupLast (fun (c : LComm F) => c.label) m comms = some cm)
    (hb : cm.bound = none) (hs : cm.comm.shifted = none) (t2 : List (F × LC.LCTerm)) :
    ∀ (t1 : List (F × LC.LCTerm)) (a : LCAccV F),
      loopAccV comms k a (t1 ++ (c + δ, .poly m) :: t2)
        = match loopAccV comms k a (t1 ++ (c, .poly m) :: t2) with
          | .error x => .error x
          | .ok a' => .ok (a'.shiftComm (cm.comm.comm * δ)) := by
  intro t1
  induction t1 with
  | nil =>
    intro a
    have hstep : ∀ (x : F), stepAccV comms k a (x, .poly m) = .ok (a.addTerm x cm) := by
      intro x
      rw [stepAccV_poly (t := (x, .poly m)) rfl, hm]
      simp only [termPolicy, hb, hs, Option.isSome_none, ne_eq, not_true_eq_false, Bool.false_eq_true,
        and_false, if_false]
    simp only [List.nil_append, loopAccV, hstep]
    have e : a.addTerm (c + δ) cm = (a.addTerm c cm).shiftComm (cm.comm.comm * δ) := by
      simp only [LCAccV.addTerm, LCAccV.shiftComm, hs, combineShiftedComm, mul_add, add_assoc]
    rw [e]
    exact loopAccV_shiftComm comms k _ t2 _
  | cons t t1 ih =>
    intro a
    simp only [List.cons_append, loopAccV]
    cases stepAccV comms k a t with
    | error x => rfl
    | ok a' => exact ih a'

theorem termsConstant_poly (t1 t2 : List (F × LC.LCTerm)) (m : Label) (x : F) :
    termsConstant (t1 ++ (x, LC.LCTerm.poly m) :: t2) = termsConstant t1 + termsConstant t2 := by
  simp only [termsConstant_eq, LC.constPart_append, LC.constPart, zero_add]

theorem construct_shiftComm_single (a : LCAccV F) (e : F) (lcC : List (LComm F))
    (h : constructLabeledCommitments (lcInfoV [a]) (lcFlatV [a]) = .ok lcC) :
    constructLabeledCommitments (lcInfoV [a.shiftComm e]) (lcFlatV [a.shiftComm e])
      = .ok (bumpComms (fun l' => if l' = a.label then e else 0) lcC) := by
  -- the four shapes of `a`: the walk refuses a bound without shifted part, and answers with `a`'s own elements otherwise
  rcases a with ⟨l, _ | d, c, _ | s⟩ <;> cases h <;>
    simp [lcInfoV, lcFlatV, LCAccV.flat, LCAccV.shiftComm, constructLabeledCommitments, bumpComms, bumpC]

/-- what `open_combinations` / `check_combinations` hand to `batch_open` / `batch_check`: honest
triples, the same commitments on both sides, and true (adjusted) values -/
theorem lc_reduction (ck : CK F) (polys : List (LPoly F)) (comms : List (LComm F)) (sts : List (Rand F))
    (hall : AllCommitted ck polys comms sts) (hnf : ∀ p ∈ polys, pnorm p.poly = p.poly)
    (lcs : List (LC.LinComb F)) (qs : List (Query F)) (evals : List ((Label × F) × F))
    (hev : ∀ g ∈ Marlin.groupQueries qs, ∀ l ∈ g.2.2, ∀ lc,
      Marlin.lookupLast (fun (lc : LC.LinComb F) => lc.label) l lcs = some lc →
      Marlin.lookupEval evals l g.2.1
        = some (lcPolyValue (polys.zip (sts.zip comms)) g.2.1 lc.terms + constSum lcs l))
    (ξs ros : List F) (rng : Bool) (draws : List F) (πs : List (Proof F)) (ξr ror dr : List F)
    (ho : openCombinations ck lcs polys comms sts qs ξs ros rng draws = .ok (πs, ξr, ror, dr)) :
    ∃ as, verifierComms comms lcs = .ok (lcComms as) ∧
      AllCommitted ck (lcPolys as) (lcComms as) (lcStates as) ∧
      (∀ p ∈ lcPolys as, pnorm p.poly = p.poly) ∧
      TrueEvals (lcPolys as) (lcComms as) (lcStates as) (adjustEvals lcs evals) (Marlin.groupQueries qs) ∧
      batchOpen ck (lcPolys as) (lcComms as) (lcStates as) qs ξs ros rng draws = .ok (πs, ξr, ror, dr) := by
  have hok := tripsOK_of_all ck polys comms sts hall hnf
  have hag := lookupAgree_of_all hall hnf
  unfold openCombinations at ho
  cases has : combineAllP (polys.zip (sts.zip comms)) lcs with
  | error e => rw [has] at ho; cases ho
  | ok as =>
    rw [has] at ho
    dsimp only at ho
    have hone := combineAllP_forall _ lcs as has
    have hgood : ∀ a ∈ as, LCGood ck a := by
      clear has ho hev
      induction hone with
      | nil => intro a ha; cases ha
      | cons hlc _ ih => exact List.forall_mem_cons.2 ⟨(combineOneP_good hok hlc).1, ih⟩
    have hcon := construct_aligned as fun a ha => good_aligned ck a (hgood a ha)
    rw [hcon] at ho
    refine ⟨as, ?_, allCommitted_of_good ck as hgood, ?_, ?_, ho⟩
    · unfold verifierComms
      rw [combineAccV_mirror _ comms hag, has]
      dsimp only
      rw [lcInfoV_toV, lcFlatV_toV]
      exact hcon
    · intro p hp
      obtain ⟨a, ha, rfl⟩ := List.mem_map.1 hp
      exact (hgood a ha).2
    · -- the polynomial found under `l` among the combined ones comes from the combination found under `l`
      intro g hg l hl p st c hlook
      unfold lcPolys lcComms lcStates at hlook
      rw [List.zip_map', List.zip_map',
        Marlin.lookupLast_map (fun (a : LCAcc F) => a.label) l (fun (t : Trip F) => t.1.label) _ as
          fun _ _ => rfl] at hlook
      obtain ⟨a, hla, ha⟩ := Option.map_eq_some_iff.1 hlook
      rcases Marlin.lookupLast_forall₂ (fun (lc : LC.LinComb F) => lc.label) l _ (fun (a : LCAcc F) => a.label)
        (fun _ _ h => (combineOneP_good hok h).2.1.symm) hone with ⟨_, hn⟩ | ⟨lc, a', hlc, ha', hlca⟩
      · rw [hn] at hla; cases hla
      · cases ha'.symm.trans hla
        cases ha
        rw [adjustEvals_eq_bump, lookupEval_bump, hev g hg l hl lc hlc]
        simp only [Option.map_some]
        rw [(combineOneP_good hok hlca).2.2 g.2.1, add_neg_cancel_right]

/-! ### a commitment whose shifted part does not go with its degree bound (D26)

A commitment WITHOUT degree bound that carries `shifted_comm = Some(_)` (or a bounded one without)
used to pass the term loop: the loop pushed a second element on the flat vector while
`construct_labeled_commitments` reads one element back per unbounded combination, so every later
combination was paired with the wrong element.  Both loops now refuse the term with
`InvalidCommitment`, after the label lookup and before the degree-bound policy. -/

theorem lcStepV_malformed {comms : List (LComm F)} {k : Nat} {st : LCAccV F × List ((Label × F) × F)}
    {term : F × LC.LCTerm} {l : Label} (ht : term.2 = .poly l) {c : LComm F}
    (hl : Marlin.lookupLast (fun (c : LComm F) => c.label) l comms = some c)
    (hbad : c.bound.isSome ≠ c.comm.shifted.isSome) :
    lcStepV comms k st term = .error .invalidCommitment := by
  rw [lcStepV_poly ht, hl]
  simp only [termPolicy, if_pos hbad]

theorem lcLoopP_eq_foldlM (trips : List (Trip F)) (k : Nat) (ts : List (F × LC.LCTerm)) (acc : LCAcc F) :
    lcLoopP trips k acc ts = ts.foldlM (lcStepP trips k) acc := by
  induction ts generalizing acc with
  | nil => rfl
  | cons t ts ih =>
    rw [lcLoopP, List.foldlM_cons]
    cases lcStepP trips k acc t with
    | error e => rfl
    | ok a => exact ih a

theorem lcLoopV_eq_foldlM (comms : List (LComm F)) (k : Nat) (ts : List (F × LC.LCTerm))
    (st : LCAccV F × List ((Label × F) × F)) :
    lcLoopV comms k st ts = ts.foldlM (lcStepV comms k) st := by
  induction ts generalizing st with
  | nil => rfl
  | cons t ts ih =>
    rw [lcLoopV, List.foldlM_cons]
    cases lcStepV comms k st t with
    | error e => rfl
    | ok st' => exact ih st'

theorem lcLoopP_append (trips : List (Trip F)) (k : Nat) (ts t1 : List (F × LC.LCTerm)) (acc : LCAcc F) :
    lcLoopP trips k acc (t1 ++ ts)
      = match lcLoopP trips k acc t1 with
        | .error e => .error e
        | .ok a => lcLoopP trips k a ts := by
  simp only [lcLoopP_eq_foldlM, List.foldlM_append]
  cases List.foldlM (lcStepP trips k) acc t1 <;> rfl

theorem lcLoopV_append (comms : List (LComm F)) (k : Nat) (ts t1 : List (F × LC.LCTerm))
    (st : LCAccV F × List ((Label × F) × F)) :
    lcLoopV comms k st (t1 ++ ts)
      = match lcLoopV comms k st t1 with
        | .error e => .error e
        | .ok st' => lcLoopV comms k st' ts := by
  simp only [lcLoopV_eq_foldlM, List.foldlM_append]
  cases List.foldlM (lcStepV comms k) st t1 <;> rfl

theorem foldlM_error_of_mem {σ τ ε : Type} (step : σ → τ → Except ε σ) (P : τ → Prop)
    (hP : ∀ s t, P t → ∃ e, step s t = .error e) (ts : List τ) (s : σ) (hex : ∃ t ∈ ts, P t) :
    ∃ e, ts.foldlM step s = .error e := by
  induction ts generalizing s with
  | nil => obtain ⟨_, ht, _⟩ := hex; cases ht
  | cons t ts ih =>
    rw [List.foldlM_cons]
    cases hs : step s t with
    | error e => exact ⟨e, rfl⟩
    | ok s' =>
      obtain ⟨t', ht', hb⟩ := hex
      rcases List.mem_cons.1 ht' with rfl | ht'
      · obtain ⟨e, he⟩ := hP s t' hb
        rw [he] at hs
        cases hs
      · exact ih s' ⟨t', ht', hb⟩

theorem combineAllP_append (trips : List (Trip F)) (pre rest : List (LC.LinComb F)) :
    combineAllP trips (pre ++ rest)
      = match combineAllP trips pre with
        | .error e => .error e
        | .ok as =>
          match combineAllP trips rest with
          | .error e => .error e
          | .ok bs => .ok (as ++ bs) := by
  simp only [combineAllP_mapOk, mapOk_append]
  cases mapOk (combineOneP trips) pre with
  | error e => rfl
  | ok as => cases mapOk (combineOneP trips) rest <;> rfl

theorem combineAllV_append (comms : List (LComm F)) (pre rest : List (LC.LinComb F))
    (evals : List ((Label × F) × F)) :
    combineAllV comms (pre ++ rest) evals
      = match combineAllV comms pre evals with
        | .error e => .error e
        | .ok (as, ev) =>
          match combineAllV comms rest ev with
          | .error e => .error e
          | .ok (bs, ev') => .ok (as ++ bs, ev') := by
  induction pre generalizing evals with
  | nil => cases h : combineAllV comms rest evals <;> simp only [List.nil_append, combineAllV, h]
  | cons x pre ih =>
    simp only [List.cons_append, combineAllV]
    cases lcLoopV comms x.terms.length (LCAccV.init x.label, evals) x.terms with
    | error e => rfl
    | ok st =>
      obtain ⟨a, ev⟩ := st
      simp only [ih ev]
      cases combineAllV comms pre ev with
      | error e => rfl
      | ok y =>
        obtain ⟨as, ev'⟩ := y
        dsimp only
        cases combineAllV comms rest ev' <;> rfl

def MalformedTermP (trips : List (Trip F)) (t : F × LC.LCTerm) : Prop :=
  ∃ l x, t.2 = .poly l ∧ Marlin.lookupLast (fun (t : Trip F) => t.1.label) l trips = some x ∧
    x.1.bound.isSome ≠ x.2.2.comm.shifted.isSome

def MalformedTermV (comms : List (LComm F)) (t : F × LC.LCTerm) : Prop :=
  ∃ l c, t.2 = .poly l ∧ Marlin.lookupLast (fun (c : LComm F) => c.label) l comms = some c ∧
    c.bound.isSome ≠ c.comm.shifted.isSome

theorem lcLoopP_malformed_err (trips : List (Trip F)) (k : Nat) (ts : List (F × LC.LCTerm)) (acc : LCAcc F)
    (hex : ∃ t ∈ ts, MalformedTermP trips t) : ∃ e, lcLoopP trips k acc ts = .error e := by
  rw [lcLoopP_eq_foldlM]
  exact foldlM_error_of_mem _ _ (fun _ _ ⟨_, _, h1, h2, h3⟩ => ⟨_, lcStepP_malformed h1 h2 h3⟩) ts acc hex

theorem lcLoopV_malformed_err (comms : List (LComm F)) (k : Nat) (ts : List (F × LC.LCTerm))
    (st : LCAccV F × List ((Label × F) × F)) (hex : ∃ t ∈ ts, MalformedTermV comms t) :
    ∃ e, lcLoopV comms k st ts = .error e := by
  rw [lcLoopV_eq_foldlM]
  exact foldlM_error_of_mem _ _ (fun _ _ ⟨_, _, h1, h2, h3⟩ => ⟨_, lcStepV_malformed h1 h2 h3⟩) ts st hex

end IPA
end PCV
