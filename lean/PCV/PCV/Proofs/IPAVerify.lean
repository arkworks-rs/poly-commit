/-
  PCV.Proofs.IPAVerify — verifier-side facts about the IPA model: exact acceptance conditions
  (`check ↔ defect1 = 0 ∧ defect2 = 0`), dependence of the defects on the statement and on the proof
  components that are not hashed, shape refusals, the randomized batch test, and that `commit` and
  `open` succeed only on polynomials that `check_degrees_and_bounds` admits.
-/
import PCV.Proofs.IPA

set_option linter.unusedSectionVars false

namespace PCV
namespace IPA
variable {F : Type} [Field F] [DecidableEq F]

theorem check_shape (vk : VK F) (cs : List (LComm F)) (z : F) (vs : List F) (π : Proof F)
    (ξs ros : List F) (hb : badShape vk π = true) :
    check vk cs z vs π ξs ros = .error .incorrectInputLength := by
  unfold check; rw [hb]; simp

theorem check_of_run {vk : VK F} {cs : List (LComm F)} {z : F} {vs : List F} (π : Proof F)
    {ξs ros : List F} {r : Run F} {ξr ror : List F} (hb : badShape vk π = false)
    (hr : succinctRun vk cs z vs π ξs ros = .ok (r, ξr, ror)) :
    check vk cs z vs π ξs ros
      = .ok (decide (defect1 vk z π r = 0) && decide (defect2 vk π r.us = 0)) := by
  unfold check succinctCheck
  rw [hb, hr]
  by_cases h1 : defect1 vk z π r = 0 <;> simp [h1, finalKeyOk]

theorem check_iff (vk : VK F) (cs : List (LComm F)) (z : F) (vs : List F) (π : Proof F)
    (ξs ros : List F) :
    check vk cs z vs π ξs ros = .ok true ↔
      badShape vk π = false ∧ ∃ r ξr ror, succinctRun vk cs z vs π ξs ros = .ok (r, ξr, ror) ∧
        defect1 vk z π r = 0 ∧ defect2 vk π r.us = 0 := by
  constructor
  · intro h
    cases hb : badShape vk π with
    | true => rw [check_shape _ _ _ _ _ _ _ hb] at h; cases h
    | false =>
      cases hr : succinctRun vk cs z vs π ξs ros with
      | error e => unfold check succinctCheck at h; rw [hb, hr] at h; cases h
      | ok x =>
        obtain ⟨r, ξr, ror⟩ := x
        rw [check_of_run π hb hr] at h
        have h' := Except.ok.inj h
        rw [Bool.and_eq_true, decide_eq_true_iff, decide_eq_true_iff] at h'
        exact ⟨rfl, r, ξr, ror, rfl, h'⟩
  · rintro ⟨hb, r, ξr, ror, hr, h1, h2⟩
    rw [check_of_run π hb hr, decide_eq_true h1, decide_eq_true h2]
    rfl

theorem check_accept_run {vk : VK F} {cs : List (LComm F)} {z : F} {vs : List F} {π : Proof F}
    {ξs ros : List F} {r : Run F} {ξr ror : List F}
    (hacc : check vk cs z vs π ξs ros = .ok true)
    (hr : succinctRun vk cs z vs π ξs ros = .ok (r, ξr, ror)) :
    badShape vk π = false ∧ defect1 vk z π r = 0 ∧ defect2 vk π r.us = 0 := by
  obtain ⟨hb, r', _, _, hr', h1, h2⟩ := (check_iff ..).1 hacc
  rw [hr] at hr'
  cases hr'
  exact ⟨hb, h1, h2⟩

/-- with a run, `check` answers `Ok(b)`: not accepted means rejected -/
theorem check_false_of_run {vk : VK F} {cs : List (LComm F)} {z : F} {vs : List F} (π : Proof F)
    {ξs ros : List F} {r : Run F} {ξr ror : List F} (hb : badShape vk π = false)
    (hr : succinctRun vk cs z vs π ξs ros = .ok (r, ξr, ror))
    (h : check vk cs z vs π ξs ros ≠ .ok true) : check vk cs z vs π ξs ros = .ok false := by
  rw [check_of_run π hb hr] at h ⊢
  exact congrArg _ (Bool.eq_false_iff.2 fun e => h (congrArg _ e))

theorem badShape_iff (vk : VK F) (π : Proof F) :
    badShape vk π = true ↔
      (π.lVec.length ≠ π.rVec.length ∨ π.lVec.length ≠ clog2 (supportedDegree vk + 1)) := by
  unfold badShape; simp

/-- `succinct_check` reads only `l_vec`, `r_vec`, `hiding_comm`, `rand` of the proof -/
theorem succinctRun_irrel (vk : VK F) (cs : List (LComm F)) (z : F) (vs : List F) (π : Proof F)
    (ξs ros : List F) (K c : F) :
    succinctRun vk cs z vs ⟨π.lVec, π.rVec, K, c, π.hidingComm, π.rand⟩ ξs ros
      = succinctRun vk cs z vs π ξs ros := rfl

theorem accLoop_cons_ok {vk : VK F} {z : F} {c : LComm F} {cs : List (LComm F)} {v : F}
    {vs : List F} {cur : F} {ξs : List F} {C V : F} {out : (F × F) × List F}
    (h : accLoop vk z (c :: cs) (v :: vs) cur ξs C V = .ok out) :
    ∃ ξ' ξ'' rest C1 V1, ξs = ξ' :: ξ'' :: rest ∧ accStep vk z c v cur ξ' C V = .ok (C1, V1) ∧
      accLoop vk z cs vs ξ'' rest C1 V1 = .ok out := by
  simp only [accLoop] at h
  split at h
  · rename_i ξ' ξ'' rest
    split at h
    · cases h
    · rename_i C1 V1 hs
      exact ⟨ξ', ξ'', rest, C1, V1, rfl, hs, h⟩
  · cases h

theorem accLoop_single (vk : VK F) (z : F) (c : LComm F) (v cur ξ' ξ'' : F) (rest : List F) (C V : F) :
    accLoop vk z [c] [v] cur (ξ' :: ξ'' :: rest) C V
      = match accStep vk z c v cur ξ' C V with
        | .error e => .error e
        | .ok x => .ok (x, rest) := by
  simp only [accLoop]
  cases accStep vk z c v cur ξ' C V with
  | error e => rfl
  | ok x => rfl

theorem accLoop_single_none (vk : VK F) (z : F) (c : LComm F) (v cur ξ' ξ'' : F) (rest : List F)
    (hb : c.bound = none) (hs : c.comm.shifted = none) :
    accLoop vk z [c] [v] cur (ξ' :: ξ'' :: rest) 0 0
      = .ok ((c.comm.comm * cur, cur * v), rest) := by
  rw [accLoop_single, accStep_none vk z c v cur ξ' 0 0 hb hs, zero_add, zero_add]

theorem accLoop_single_some (vk : VK F) (z : F) (c : LComm F) (b : Nat) (sc v cur ξ' ξ'' : F)
    (rest : List F) (hb : c.bound = some b) (hs : c.comm.shifted = some sc)
    (hle : b ≤ supportedDegree vk) :
    accLoop vk z [c] [v] cur (ξ' :: ξ'' :: rest) 0 0
      = .ok ((c.comm.comm * cur + sc * ξ',
          cur * v + ξ' * v * fpow z (supportedDegree vk - b)), rest) := by
  rw [accLoop_single, accStep_some vk z c b sc v cur ξ' 0 0 hb hs, if_neg (Nat.not_lt.2 hle),
    zero_add, zero_add]

def addVec : List F → List F → List F
  | v :: vs, d :: ds => (v + d) :: addVec vs ds
  | vs, _ => vs

/-- what an error `d` on the claimed value of one commitment adds to the combined value -/
def stepErr (vk : VK F) (z : F) (c : LComm F) (d ξ ξ' : F) : F :=
  match c.bound with
  | some b => ξ * d + ξ' * d * fpow z (supportedDegree vk - b)
  | none => ξ * d

/-- the change of the combined value caused by the error vector `ds` on the claimed values -/
def valueErr (vk : VK F) (z : F) : List (LComm F) → List F → F → List F → F
  | c :: cs, d :: ds, cur, ξ' :: ξ'' :: rest => stepErr vk z c d cur ξ' + valueErr vk z cs ds ξ'' rest
  | _, _, _, _ => 0

def bumpC (errC : Label → F) (c : LComm F) : LComm F :=
  ⟨c.label, ⟨c.comm.comm + errC c.label, c.comm.shifted⟩, c.bound⟩

/-- the change of the combined commitment caused by the commitment errors -/
def commErr (errC : Label → F) : List (LComm F) → List F → F → List F → F
  | c :: cs, _ :: vs, cur, _ :: ξ'' :: rest => errC c.label * cur + commErr errC cs vs ξ'' rest
  | _, _, _, _ => 0

theorem bumpC_zero (c : LComm F) : bumpC (fun _ => 0) c = c := by
  simp [bumpC]

theorem commErr_zero (cs : List (LComm F)) (vs : List F) (cur : F) (ξs : List F) :
    commErr (fun _ => 0) cs vs cur ξs = 0 := by
  fun_induction commErr (fun _ => (0 : F)) cs vs cur ξs <;> simp [*]

/-- one iteration is affine in the accumulators, in the value and in the unshifted commitment -/
theorem accStep_bump (vk : VK F) (z : F) (errC : Label → F) (c : LComm F)
    (v d ξ ξ' C V eC eV C1 V1 : F) (h : accStep vk z c v ξ ξ' C V = .ok (C1, V1)) :
    accStep vk z (bumpC errC c) (v + d) ξ ξ' (C + eC) (V + eV)
      = .ok (C1 + (eC + errC c.label * ξ), V1 + (eV + stepErr vk z c d ξ ξ')) := by
  unfold stepErr
  rcases accStep_ok h with ⟨hb, hs, rfl, rfl⟩ | ⟨b, sc, hb, hs, hle, rfl, rfl⟩
  · rw [accStep_none vk z (bumpC errC c) _ ξ ξ' _ _ hb hs, hb]
    show Except.ok (C + eC + (c.comm.comm + errC c.label) * ξ, V + eV + ξ * (v + d)) = _
    rw [add_mul, mul_add, add_add_add_comm C, add_add_add_comm V]
  · rw [accStep_some vk z (bumpC errC c) b sc _ ξ ξ' _ _ hb hs, if_neg (Nat.not_lt.2 hle), hb]
    show Except.ok (C + eC + (c.comm.comm + errC c.label) * ξ + sc * ξ', _) = _
    rw [add_mul, add_add_add_comm C, add_right_comm, mul_add, mul_add, add_mul, add_add_add_comm V,
      add_add_add_comm (V + ξ * v), add_assoc eV]

/-- the loop is affine in the same quantities, the squeezes `ξs` being held fixed -/
theorem accLoop_bump (vk : VK F) (z : F) (errC : Label → F) :
    ∀ (cs : List (LComm F)) (vs ds : List F) (cur : F) (ξs : List F) (C V eC eV C' V' : F)
      (rest : List F), accLoop vk z cs vs cur ξs C V = .ok ((C', V'), rest) →
      ds.length = vs.length →
      accLoop vk z (cs.map (bumpC errC)) (addVec vs ds) cur ξs (C + eC) (V + eV)
        = .ok ((C' + (eC + commErr errC cs (addVec vs ds) cur ξs),
                V' + (eV + valueErr vk z cs ds cur ξs)), rest)
  | c :: cs, v :: vs, d :: ds, cur, ξs, C, V, eC, eV, C', V', rest, h, hl => by
    obtain ⟨ξ', ξ'', rest', C1, V1, rfl, hstep, hrec⟩ := accLoop_cons_ok h
    rw [List.map_cons, addVec, accLoop, accStep_bump vk z errC c v d cur ξ' C V eC eV C1 V1 hstep]
    refine (accLoop_bump vk z errC cs vs ds ξ'' rest' C1 V1 _ _ C' V' rest hrec
      (Nat.succ.inj hl)).trans ?_
    rw [commErr, valueErr, add_assoc eC, add_assoc eV]
  | [], _, _, _, ξs, C, V, eC, eV, _, _, _, h, _
  | _ :: _, [], [], _, ξs, C, V, eC, eV, _, _, _, h, _ => by
    cases h
    show Except.ok ((C + eC, V + eV), ξs) = Except.ok ((C + (eC + 0), V + (eV + 0)), ξs)
    rw [add_zero, add_zero]

theorem hidingAdjust_add (vk : VK F) (π : Proof F) (C e : F) (ros : List F) (C' : F) (ros1 : List F)
    (h : hidingAdjust vk π C ros = .ok (C', ros1)) :
    hidingAdjust vk π (C + e) ros = .ok (C' + e, ros1) := by
  rcases hidingAdjust_ok h with ⟨hc, hr, rfl, rfl⟩ | ⟨hc, r, α, hhc, hr, rfl, rfl⟩
  · exact hidingAdjust_none vk _ _ hc hr
  · rw [hidingAdjust_some vk _ α ros1 hhc hr, add_right_comm]

theorem succinctRun_ok_iff (vk : VK F) (cs : List (LComm F)) (z : F) (vs : List F) (π : Proof F)
    (cur : F) (ξs ros : List F) (r : Run F) (ξr ror : List F) :
    succinctRun vk cs z vs π (cur :: ξs) ros = .ok (r, ξr, ror) ↔
      ∃ C ros2, accLoop vk z cs vs cur ξs 0 0 = .ok ((C, r.V), ξr) ∧
        hidingAdjust vk π C ros = .ok (r.C, r.ξ₀ :: ros2) ∧
        verifyRounds π.lVec π.rVec ros2 = .ok (r.us, r.lr, ror) := by
  constructor
  · intro hr
    unfold succinctRun at hr
    simp only at hr
    split at hr
    · cases hr
    · rename_i C V ξrest hacc
      split at hr
      · cases hr
      · rename_i C' ros1 hadj
        split at hr
        · cases hr
        · split at hr
          · cases hr
          · rename_i hvr
            cases hr
            exact ⟨C, _, hacc, hadj, hvr⟩
  · rintro ⟨C, ros2, h1, h2, h3⟩
    simp only [succinctRun, h1, h2, h3]

/-- a statement / sponge position whose loop ends in `(Ĉ + eC, v̂ + eV)` gives — with the
random-oracle outputs held fixed — the same run with `C`, `V` shifted by `eC`, `eV` -/
theorem succinctRun_congr {vk : VK F} {cs cs' : List (LComm F)} {z : F} {vs vs' : List F}
    {π : Proof F} {cur cur' : F} {ξs ξs' ros : List F} {C V eC eV : F} {rest rest' : List F}
    (h1 : accLoop vk z cs vs cur ξs 0 0 = .ok ((C, V), rest))
    (h2 : accLoop vk z cs' vs' cur' ξs' 0 0 = .ok ((C + eC, V + eV), rest'))
    {r : Run F} {ξr ror : List F}
    (hr : succinctRun vk cs z vs π (cur :: ξs) ros = .ok (r, ξr, ror)) :
    succinctRun vk cs' z vs' π (cur' :: ξs') ros
      = .ok (⟨r.C + eC, r.V + eV, r.ξ₀, r.us, r.lr⟩, rest', ror) := by
  obtain ⟨C0, ros2, hacc, hadj, hvr⟩ := (succinctRun_ok_iff ..).1 hr
  rw [h1] at hacc
  cases hacc
  exact (succinctRun_ok_iff ..).2 ⟨_, ros2, h2, hidingAdjust_add vk π C eC ros _ _ hadj, hvr⟩

theorem succinctRun_bump {vk : VK F} (errC : Label → F) {cs : List (LComm F)} {z : F}
    {vs ds : List F} {π : Proof F} {cur : F} {ξs ros : List F} {r : Run F} {ξr ror : List F}
    (hr : succinctRun vk cs z vs π (cur :: ξs) ros = .ok (r, ξr, ror)) (hl : ds.length = vs.length) :
    succinctRun vk (cs.map (bumpC errC)) z (addVec vs ds) π (cur :: ξs) ros
      = .ok (⟨r.C + commErr errC cs (addVec vs ds) cur ξs, r.V + valueErr vk z cs ds cur ξs,
              r.ξ₀, r.us, r.lr⟩, ξr, ror) := by
  obtain ⟨C, _, hacc, _, _⟩ := (succinctRun_ok_iff ..).1 hr
  have h2 := accLoop_bump vk z errC cs vs ds cur ξs 0 0 0 0 C r.V ξr hacc hl
  simp only [zero_add] at h2
  exact succinctRun_congr hacc h2 hr

theorem succinctRun_value {vk : VK F} {cs : List (LComm F)} {z : F} {vs ds : List F} {π : Proof F}
    {cur : F} {ξs ros : List F} {r : Run F} {ξr ror : List F}
    (hr : succinctRun vk cs z vs π (cur :: ξs) ros = .ok (r, ξr, ror))
    (hl : ds.length = vs.length) :
    succinctRun vk cs z (addVec vs ds) π (cur :: ξs) ros
      = .ok (⟨r.C, r.V + valueErr vk z cs ds cur ξs, r.ξ₀, r.us, r.lr⟩, ξr, ror) := by
  have := succinctRun_bump (fun _ => 0) hr hl
  rwa [List.map_congr_left (fun c _ => bumpC_zero c), List.map_id', commErr_zero, add_zero] at this

theorem defect1_shift (vk : VK F) (z : F) (π : Proof F) (r : Run F) (eC eV : F) :
    defect1 vk z π ⟨r.C + eC, r.V + eV, r.ξ₀, r.us, r.lr⟩
      = defect1 vk z π r + (eC + vk.h * r.ξ₀ * eV) := by
  unfold defect1; simp only; ring

/-- the decision on a statement / sponge position from a run on another one (random-oracle outputs
held fixed): `defect1` moves by the difference of the two results of the combining loop -/
theorem check_congr {vk : VK F} {cs cs' : List (LComm F)} {z : F} {vs vs' : List F}
    {π : Proof F} {cur cur' : F} {ξs ξs' ros : List F} {C V C' V' : F} {rest rest' : List F}
    (hb : badShape vk π = false)
    (h1 : accLoop vk z cs vs cur ξs 0 0 = .ok ((C, V), rest))
    (h2 : accLoop vk z cs' vs' cur' ξs' 0 0 = .ok ((C', V'), rest'))
    {r : Run F} {ξr ror : List F}
    (hr : succinctRun vk cs z vs π (cur :: ξs) ros = .ok (r, ξr, ror)) :
    check vk cs' z vs' π (cur' :: ξs') ros
      = .ok (decide (defect1 vk z π r + (C' - C + vk.h * r.ξ₀ * (V' - V)) = 0)
             && decide (defect2 vk π r.us = 0)) := by
  rw [← add_sub_cancel C C', ← add_sub_cancel V V'] at h2
  rw [check_of_run π hb (succinctRun_congr h1 h2 hr), defect1_shift]

theorem defect1_value (vk : VK F) (z : F) (π : Proof F) (r : Run F) (e : F) :
    defect1 vk z π ⟨r.C, r.V + e, r.ξ₀, r.us, r.lr⟩ = defect1 vk z π r + vk.h * r.ξ₀ * e := by
  have := defect1_shift vk z π r 0 e
  rwa [add_zero, zero_add] at this

theorem defect1_comm (vk : VK F) (z : F) (π : Proof F) (r : Run F) (e : F) :
    defect1 vk z π ⟨r.C + e, r.V, r.ξ₀, r.us, r.lr⟩ = defect1 vk z π r + e := by
  have := defect1_shift vk z π r e 0
  rwa [add_zero, mul_zero, add_zero] at this

theorem defect1_c (vk : VK F) (z : F) (π : Proof F) (r : Run F) (K c : F) :
    defect1 vk z ⟨π.lVec, π.rVec, K, c, π.hidingComm, π.rand⟩ r
      = (r.C + vk.h * r.ξ₀ * r.V + r.lr) - c * (K + vk.h * r.ξ₀ * Succinct.evaluate r.us z) := by
  unfold defect1; simp only; ring

theorem defect1_eq_zero_iff (vk : VK F) (z : F) (π : Proof F) (r : Run F) :
    defect1 vk z π r = 0 ↔
      r.C + vk.h * r.ξ₀ * r.V + r.lr
        = π.c * (π.finalCommKey + vk.h * r.ξ₀ * Succinct.evaluate r.us z) := by
  rw [show defect1 vk z π r = _ from defect1_c vk z π r π.finalCommKey π.c, sub_eq_zero]

def defect2s (vk : VK F) : List (List F) → List (Proof F) → List F
  | us :: uss, π :: πs => defect2 vk π us :: defect2s vk uss πs
  | _, _ => []

theorem combine_defect (vk : VK F) (uss : List (List F)) (πs : List (Proof F)) (r : F)
    (rs : List F) :
    dot vk.commKey (combine r rs uss πs).1 - (combine r rs uss πs).2
      = KZG.wsum r rs (defect2s vk uss πs) := by
  fun_induction combine r rs uss πs with
  | case1 r rs us uss π πs pk ih =>
    simp only [defect2s, KZG.wsum]
    rw [← ih, dot_padd_right, dot_pscale_right]
    unfold defect2
    ring
  | case2 uss r rs πs h =>
    rw [defect2s.eq_2 vk uss πs h]
    simp [KZG.wsum]

/-- **the batch test is the randomizer-weighted sum of the individual final-key defects** -/
theorem batchDefect_eq (vk : VK F) (rs : List F) (uss : List (List F)) (πs : List (Proof F)) :
    batchDefect vk rs uss πs = KZG.wsum 1 rs (defect2s vk uss πs) := by
  unfold batchDefect; exact combine_defect vk uss πs 1 rs

theorem batchCheck_of_loop {vk : VK F} {comms : List (LComm F)} {qs : List (Query F)}
    {evals : List ((Label × F) × F)} {πs : List (Proof F)} {ξs ros : List F} (rs : List F)
    {o : Option (List (List F))} (hl : πs.length = (Marlin.groupQueries qs).length)
    (hs : batchSuccinct vk comms evals (Marlin.groupQueries qs) πs ξs ros = .ok o) :
    batchCheck vk comms qs evals πs ξs ros rs = .ok (batchDecide vk rs πs o) := by
  unfold batchCheck
  rw [if_neg (not_not.2 hl), hs]

theorem batchCheck_of_succinct {vk : VK F} {comms : List (LComm F)} {qs : List (Query F)}
    {evals : List ((Label × F) × F)} {πs : List (Proof F)} {ξs ros : List F} (rs : List F)
    {uss : List (List F)} (hl : πs.length = (Marlin.groupQueries qs).length)
    (hs : batchSuccinct vk comms evals (Marlin.groupQueries qs) πs ξs ros = .ok (some uss)) :
    batchCheck vk comms qs evals πs ξs ros rs
      = .ok (decide (KZG.wsum 1 rs (defect2s vk uss πs) = 0)) := by
  rw [batchCheck_of_loop rs hl hs, ← batchDefect_eq]
  rfl

theorem batchCheck_ok_true {vk : VK F} {comms : List (LComm F)} {qs : List (Query F)}
    {evals : List ((Label × F) × F)} {πs : List (Proof F)} {ξs ros rs : List F}
    (h : batchCheck vk comms qs evals πs ξs ros rs = .ok true) :
    πs.length = (Marlin.groupQueries qs).length ∧
      ∃ uss, batchSuccinct vk comms evals (Marlin.groupQueries qs) πs ξs ros = .ok (some uss) ∧
        batchDefect vk rs uss πs = 0 := by
  unfold batchCheck at h
  split at h
  · cases h
  · rename_i hl
    cases hs : batchSuccinct vk comms evals (Marlin.groupQueries qs) πs ξs ros with
    | error e => rw [hs] at h; cases h
    | ok o =>
      rw [hs] at h
      cases o with
      | none => cases h
      | some uss => exact ⟨not_not.1 hl, uss, rfl, of_decide_eq_true (Except.ok.inj h)⟩

theorem batchSuccinct_cons_ok {vk : VK F} {comms : List (LComm F)} {evals : List ((Label × F) × F)}
    {g : Label × (F × List Label)} {gs : List (Label × (F × List Label))} {π : Proof F}
    {πs : List (Proof F)} {ξs ros : List F} {uss : List (List F)}
    (h : batchSuccinct vk comms evals (g :: gs) (π :: πs) ξs ros = .ok (some uss)) :
    badShape vk π = false ∧ ∃ cs vs us ξs' ros' uss',
      gatherComms comms evals g.2.1 g.2.2 = .ok (cs, vs) ∧
      succinctCheck vk cs g.2.1 vs π ξs ros = .ok (some us, ξs', ros') ∧
      batchSuccinct vk comms evals gs πs ξs' ros' = .ok (some uss') ∧ uss = us :: uss' := by
  simp only [batchSuccinct] at h
  split at h
  · cases h
  · rename_i hb
    split at h
    · cases h
    · rename_i cs vs hg
      split at h
      · cases h
      · cases h
      · rename_i us ξs' ros' hsc
        split at h
        · cases h
        · cases h
        · rename_i uss' hrec
          cases h
          exact ⟨by simpa using hb, cs, vs, us, ξs', ros', uss', hg, hsc, hrec, rfl⟩

theorem batchSuccinct_shapes (vk : VK F) (comms : List (LComm F)) (evals : List ((Label × F) × F)) :
    ∀ (gs : List (Label × (F × List Label))) (πs : List (Proof F)) (ξs ros : List F)
      (uss : List (List F)), πs.length = gs.length →
      batchSuccinct vk comms evals gs πs ξs ros = .ok (some uss) →
      ∀ π ∈ πs, badShape vk π = false := by
  intro gs
  induction gs with
  | nil =>
    intro πs ξs ros uss hl _ π hπ
    cases List.eq_nil_of_length_eq_zero hl
    cases hπ
  | cons g gs ih =>
    intro πs ξs ros uss hl h π hπ
    cases πs with
    | nil => cases hπ
    | cons π0 πs =>
      obtain ⟨hb, _, _, _, ξs', ros', uss', _, _, hrec, _⟩ := batchSuccinct_cons_ok h
      rcases List.mem_cons.1 hπ with rfl | hπ
      · exact hb
      · exact ih πs ξs' ros' uss' (Nat.succ.inj hl) hrec π hπ

/-- **shape refusal in `batch_check`**: a batch containing a proof with a wrong number of rounds
(or `|l_vec| ≠ |r_vec|`) is never accepted -/
theorem batchCheck_shape (vk : VK F) (comms : List (LComm F)) (qs : List (Query F))
    (evals : List ((Label × F) × F)) (πs : List (Proof F)) (ξs ros rs : List F)
    (π : Proof F) (hπ : π ∈ πs) (hb : badShape vk π = true) :
    batchCheck vk comms qs evals πs ξs ros rs ≠ .ok true := by
  intro h
  obtain ⟨hl, uss, hs, _⟩ := batchCheck_ok_true h
  rw [batchSuccinct_shapes vk comms evals _ πs ξs ros uss hl hs π hπ] at hb
  cases hb

/-- the first proof of a batch is examined first: a malformed one is refused with the same error
as in `check` -/
theorem batchCheck_shape_first (vk : VK F) (comms : List (LComm F)) (qs : List (Query F))
    (evals : List ((Label × F) × F)) (π : Proof F) (πs : List (Proof F)) (ξs ros rs : List F)
    (hl : (π :: πs).length = (Marlin.groupQueries qs).length) (hb : badShape vk π = true) :
    batchCheck vk comms qs evals (π :: πs) ξs ros rs = .error .incorrectInputLength := by
  unfold batchCheck
  rw [if_neg (not_not.2 hl)]
  cases hg : Marlin.groupQueries qs with
  | nil => rw [hg] at hl; cases hl
  | cons g gs => simp [batchSuccinct, hb]

theorem commitOne_admission (ck : CK F) (p : LPoly F) (rng : Bool) (draws : List F) (e : Err)
    (h : checkDegreesAndBounds (supportedDegree ck) p.poly p.bound = .error e) :
    commitOne ck p rng draws = .error e := by
  unfold commitOne; rw [h]

theorem openStep_admission (ck : CK F) (p : LPoly F) (c : LComm F) (st : Rand F) (ξ ξ' : F)
    (acc : OpenAcc F) (e : Err)
    (h : checkDegreesAndBounds (supportedDegree ck) p.poly p.bound = .error e) :
    ∃ e', openStep ck p c st ξ ξ' acc = .error e' := by
  cases hs : openStep ck p c st ξ ξ' acc with
  | error e' => exact ⟨e', rfl⟩
  | ok acc1 => rw [(openStep_inv hs).2.1] at h; cases h

theorem commit_admission (ck : CK F) (rng : Bool) :
    ∀ (polys : List (LPoly F)) (draws : List F) x, commit ck polys rng draws = .ok x →
      ∀ p ∈ polys, checkDegreesAndBounds (supportedDegree ck) p.poly p.bound = .ok () := by
  intro polys
  induction polys with
  | nil => intro _ _ _ p hp; cases hp
  | cons q qs ih =>
    intro draws x h p hp
    obtain ⟨c, st, draws', cs, sts, h1, h2, _, _⟩ := commit_cons_ok h
    rcases List.mem_cons.1 hp with rfl | hp
    · exact ((commitOne_ok_iff ..).1 h1).1
    · exact ih draws' _ h2 p hp

theorem openLoop_admission (ck : CK F) :
    ∀ (polys : List (LPoly F)) (comms : List (LComm F)) (sts : List (Rand F)) (cur : F)
      (ξs : List F) (acc : OpenAcc F) x, polys.length ≤ comms.length → polys.length ≤ sts.length →
      openLoop ck polys comms sts cur ξs acc = .ok x →
      ∀ p ∈ polys, checkDegreesAndBounds (supportedDegree ck) p.poly p.bound = .ok () := by
  intro polys
  induction polys with
  | nil => intro _ _ _ _ _ _ _ _ _ p hp; cases hp
  | cons q qs ih =>
    intro comms sts cur ξs acc x hl1 hl2 h p hp
    match comms, sts, hl1, hl2 with
    | c :: cs, st :: sts, hl1, hl2 =>
      obtain ⟨ξ', ξ'', rest, acc1, rfl, hstep, hrec⟩ := openLoop_cons_ok h
      rcases List.mem_cons.1 hp with rfl | hp
      · exact (openStep_inv hstep).2.1
      · exact ih cs sts ξ'' rest acc1 x (Nat.le_of_succ_le_succ hl1) (Nat.le_of_succ_le_succ hl2) hrec p hp

end IPA
end PCV
