/-
  PCV.Proofs.Interp — the simulator's step of the hiding argument: for any targets at `n` distinct
  points there is a coefficient list of length `n` (a polynomial of degree < n) taking them.
-/
import PCV.Proofs.Roots
import Mathlib.LinearAlgebra.Lagrange

namespace PCV
namespace Interp
open Polynomial
variable {F : Type} [Field F]

noncomputable def coeffList (p : F[X]) (n : Nat) : List F := (List.range n).map p.coeff

theorem coeffList_length (p : F[X]) (n : Nat) : (coeffList p n).length = n := by
  simp [coeffList]

theorem toPoly_coeffList (p : F[X]) (n : Nat) (h : p.degree < n) :
    Roots.toPoly (coeffList p n) = p := by
  ext i
  rw [Roots.coeff_toPoly, coeffList, List.getD_eq_getElem?_getD]
  by_cases hi : i < n
  · simp [hi]
  · rw [List.getElem?_eq_none (by simpa using hi),
      coeff_eq_zero_of_degree_lt (h.trans_le (Nat.cast_le.2 (Nat.not_lt.1 hi)))]
    rfl

theorem evalPoly_coeffList (p : F[X]) (n : Nat) (h : p.degree < n) (x : F) :
    evalPoly (coeffList p n) x = p.eval x := by
  rw [← Roots.eval_toPoly, toPoly_coeffList p n h]

theorem exists_poly_through (pts vals : Fin n → F) (hinj : Function.Injective pts) :
    ∃ r : List F, r.length = n ∧ ∀ i, evalPoly r (pts i) = vals i := by
  classical
  let p := Lagrange.interpolate Finset.univ pts vals
  have hdeg : p.degree < n := by
    have := Lagrange.degree_interpolate_lt (s := Finset.univ) vals hinj.injOn
    rwa [Finset.card_univ, Fintype.card_fin] at this
  refine ⟨coeffList p n, coeffList_length p n, fun i => ?_⟩
  rw [evalPoly_coeffList p n hdeg]
  exact Lagrange.eval_interpolate_at_node _ hinj.injOn (Finset.mem_univ i)

end Interp
end PCV
