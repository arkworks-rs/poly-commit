/-
  PCV.Proofs.KZG10 — algebra of the KZG10 model: commitments are the key-defined linear map,
  honest openings satisfy the pairing equation, the defect is affine in every component of the
  transcript (`defect_sub` and its five slopes, which the Marlin and Sonic proofs read as well), so the
  defect of any changed statement is explicit, and the batch verifier's defect is the
  randomizer-weighted sum of the single ones.
-/
import PCV.Model.KZG10
import PCV.Proofs.Poly

set_option linter.unusedSectionVars false

namespace PCV

/-- A vanishing defect moved by `s` vanishes iff `s` does: with a lemma `D' = D + s` (a slope of the
defect) this is the whole of "an accepted transcript, changed, is accepted iff …". -/
theorem moved_iff {F : Type} [AddGroup F] {D D' s : F} (h0 : D = 0) (he : D' = D + s) :
    D' = 0 ↔ s = 0 := by
  rw [he, h0, zero_add]

namespace KZG
variable {F : Type} [Field F] [DecidableEq F]

/-- A key made by `setup` from the trapdoor `β` with generators `g, γ` (scalars). -/
def wfPowers (g γ β : F) (n m : Nat) : Powers F := ⟨powers g β n, powers γ β m⟩
/-- the matching verifier key, `h` arbitrary -/
def wfVK (g γ β h : F) : VK F := ⟨g, γ, h, β * h⟩

theorem msmSkip_eq (b p : List F) : msmSkip b p = dot b p := by
  unfold msmSkip
  exact dot_skipLowZeros p b

theorem msmSkip_powers (p : List F) (g β : F) (n : Nat) (h : (pnorm p).length ≤ n) :
    msmSkip (powers g β n) p = g * evalPoly p β := by
  rw [msmSkip_eq, dot_comm, dot_powers' p g β n h]

/-- `pdeg p + 1 ≤ n` (the code's `check_degree_is_too_large`) bounds the normalised length. -/
theorem pnorm_len_of_deg (p : List F) (n : Nat) (h : ¬ (pdeg p + 1 > n)) : (pnorm p).length ≤ n :=
  Nat.le_of_pred_lt (Nat.lt_of_succ_le (Nat.not_lt.1 h))

theorem checkDegree_ok (d n : Nat) :
    checkDegreeIsTooLarge d n = .ok () ↔ ¬ (d + 1 > n) := by
  unfold checkDegreeIsTooLarge; split_ifs with h <;> simp [h]

theorem checkHidingBound_ok (d n : Nat) :
    checkHidingBound d n = .ok () ↔ d ≠ 0 ∧ d < n := by
  unfold checkHidingBound
  split_ifs with h1 h2
  · exact ⟨fun h => (nomatch h), fun h => absurd h1 h.1⟩
  · exact ⟨fun h => (nomatch h), fun h => absurd h.2 (Nat.not_lt.2 h2)⟩
  · exact ⟨fun _ => ⟨h1, Nat.not_le.1 h2⟩, fun _ => rfl⟩

theorem commit_tooLarge (pw : Powers F) (p : List F) (hb : Option Nat) (rng : Bool) (draws : List F)
    (h : pdeg p + 1 > pw.g.length) : commit pw p hb rng draws = .error .tooManyCoefficients := by
  unfold commit checkDegreeIsTooLarge
  rw [if_pos h]

theorem commit_none (pw : Powers F) (p : List F) (rng : Bool) (draws : List F)
    (h : ¬ pdeg p + 1 > pw.g.length) :
    commit pw p none rng draws = .ok (msmSkip pw.g p, [], draws) := by
  unfold commit checkDegreeIsTooLarge
  rw [if_neg h]

theorem commit_ok_fits {pw : Powers F} {p : List F} {hb : Option Nat} {rng : Bool}
    {draws : List F} {x : F × List F × List F} (h : commit pw p hb rng draws = .ok x) :
    ¬ pdeg p + 1 > pw.g.length :=
  fun hd => nomatch (commit_tooLarge pw p hb rng draws hd).symm.trans h

theorem commit_some_ok_iff {pw : Powers F} {p : List F} {b : Nat} {rng : Bool} {draws : List F}
    {c : F} {r rest : List F} (hd : ¬ pdeg p + 1 > pw.g.length) :
    commit pw p (some b) rng draws = .ok (c, r, rest) ↔
      rng = true ∧ randPoly (b + 1) draws = some (r, rest) ∧
        checkHidingBound (pdeg r) pw.gg.length = .ok () ∧ c = msmSkip pw.g p + dot pw.gg r := by
  unfold commit checkDegreeIsTooLarge
  rw [if_neg hd]
  cases rng with
  | false => exact ⟨fun h => (nomatch h), fun h => nomatch h.1⟩
  | true =>
    simp only [Bool.not_true, Bool.false_eq_true, if_false]
    constructor
    · intro h
      split at h
      · cases h
      · rename_i hr
        split at h
        · cases h
        · rename_i hchk
          cases h
          exact ⟨trivial, hr, hchk, rfl⟩
    · rintro ⟨-, hr, hchk, rfl⟩
      simp only [hr, hchk]

/-- **C08 (KZG10).** Whatever `commit` returns is the key-defined linear map of the polynomial
plus the blinding term: `c = g·p(β) + γ·r(β)`; without a hiding bound `r = []`. -/
theorem commit_spec (g γ β : F) (n m : Nat) (p : List F) (hb : Option Nat) (rng : Bool)
    (draws : List F) (c : F) (r rest : List F)
    (h : commit (wfPowers g γ β n m) p hb rng draws = .ok (c, r, rest)) :
    c = g * evalPoly p β + γ * evalPoly r β ∧ (pnorm p).length ≤ n ∧ (pnorm r).length ≤ m
      ∧ (hb = none → r = []) := by
  have hfit := commit_ok_fits h
  have hlen : (pnorm p).length ≤ n := by
    rw [wfPowers, powers_length] at hfit
    exact pnorm_len_of_deg p n hfit
  cases hb with
  | none =>
    rw [commit_none _ p rng draws hfit] at h
    cases h
    refine ⟨?_, hlen, Nat.zero_le m, fun _ => rfl⟩
    rw [wfPowers, msmSkip_powers p g β n hlen, evalPoly_nil, mul_zero, add_zero]
  | some b =>
    obtain ⟨-, -, hchk, hc⟩ := (commit_some_ok_iff hfit).1 h
    have hrlen : (pnorm r).length ≤ m := by
      have := ((checkHidingBound_ok _ _).1 hchk).2
      rw [wfPowers, powers_length] at this
      exact Nat.le_of_pred_lt this
    refine ⟨?_, hlen, hrlen, fun hn => nomatch hn⟩
    rw [hc, wfPowers, msmSkip_powers p g β n hlen, dot_comm, dot_powers' r γ β m hrlen]

theorem open_refuses (pw : Powers F) (p r : List F) (z : F) (h : pdeg p + 1 > pw.g.length) :
    KZG.open pw p z r = .error .tooManyCoefficients := by
  unfold KZG.open checkDegreeIsTooLarge
  rw [if_pos h]

theorem open_eq (pw : Powers F) (p r : List F) (z : F) (h : ¬ pdeg p + 1 > pw.g.length) :
    KZG.open pw p z r = .ok (if isZeroPoly r then ⟨msmSkip pw.g (divLin p z).1, none⟩
      else ⟨msmSkip pw.g (divLin p z).1 + dot pw.gg (divLin r z).1, some (evalPoly r z)⟩) := by
  have hq : ¬ pdeg (divLin p z).1 + 1 > pw.g.length := fun hq =>
    h (Nat.lt_of_lt_of_le hq (Nat.succ_le_succ (Nat.sub_le_sub_right (pnorm_divLin_le p z) 1)))
  unfold KZG.open witness openWith checkDegreeIsTooLarge
  simp only [if_neg h, if_neg hq]
  split_ifs <;> rfl

theorem open_ok_fits {pw : Powers F} {p r : List F} {z : F} {π : Proof F}
    (h : KZG.open pw p z r = .ok π) : ¬ pdeg p + 1 > pw.g.length :=
  fun hd => nomatch (open_refuses pw p r z hd).symm.trans h

/-- `open` returns `W = g·w(β) + γ·w_r(β)`; `random_v` is `Some(r(z))`, or `None` when `r = 0` (and then
`r(z) = 0`), so read as a field element it is `r(z)` in both cases. -/
theorem open_spec (g γ β : F) (n m : Nat) (p r : List F) (z : F) (π : Proof F)
    (hr : (pnorm r).length ≤ m)
    (h : KZG.open (wfPowers g γ β n m) p z r = .ok π) :
    π.w = g * evalPoly (divLin p z).1 β + γ * evalPoly (divLin r z).1 β ∧
    rvVal π.rv = evalPoly r z := by
  have hd := open_ok_fits h
  rw [open_eq _ p r z hd] at h
  cases h
  rw [wfPowers, powers_length] at hd
  have hw := msmSkip_powers _ g β n
    ((pnorm_divLin_le p z).trans (pnorm_len_of_deg p n hd))
  split_ifs with hz
  · have hz' : pnorm r = [] := List.isEmpty_iff.1 hz
    rw [eval_of_pnorm_nil _ β (divLin_of_pnorm_nil r z hz').1, eval_of_pnorm_nil r z hz', mul_zero,
      add_zero]
    exact ⟨hw, rfl⟩
  · refine ⟨?_, rfl⟩
    show msmSkip (powers g β n) _ + dot (powers γ β m) _ = _
    rw [hw, dot_comm, dot_powers' _ γ β m ((pnorm_divLin_le r z).trans hr)]

theorem open_ok (pw : Powers F) (p r : List F) (z : F) (hp : ¬ (pdeg p + 1 > pw.g.length)) :
    ∃ π, KZG.open pw p z r = .ok π :=
  ⟨_, open_eq pw p r z hp⟩

theorem open_rv_some (pw : Powers F) (p : List F) (z : F) (r : List F) (π : Proof F)
    (h : KZG.open pw p z r = .ok π) (hr : isZeroPoly r = false) : ∃ v, π.rv = some v := by
  rw [open_eq pw p r z (open_ok_fits h), hr] at h
  cases h
  exact ⟨_, rfl⟩

theorem check_iff_defect (vk : VK F) (c z v : F) (π : Proof F) :
    check vk c z v π = true ↔ defect vk c z v π = 0 := by
  unfold check; exact decide_eq_true_iff

theorem check_eq_false_iff (vk : VK F) (c z v : F) (π : Proof F) :
    check vk c z v π = false ↔ defect vk c z v π ≠ 0 := by
  unfold check; exact decide_eq_false_iff_not

/-- **The defect is affine in every component of the transcript**: the difference of two defects
under one key.  `MarlinKZG10::check` and `SonicKZG10::check` test the same defect on a derived
statement, so how their decisions move is read off this identity too. -/
theorem defect_sub (vk : VK F) (c z v c' z' v' : F) (π π' : Proof F) :
    defect vk c' z' v' π' - defect vk c z v π
      = ((c' - c) - (v' - v) * vk.g - (rvVal π'.rv - rvVal π.rv) * vk.gammaG) * vk.h
        + (π'.w * z' - π.w * z) * vk.h - (π'.w - π.w) * vk.betaH := by
  unfold defect
  ring

/-! the slope of the defect in each component, read off `defect_sub` -/
section Slopes
variable (vk : VK F) (c z v d : F) (π : Proof F) (w rv : F) (o : Option F)

theorem defect_add_comm : defect vk (c + d) z v π = defect vk c z v π + d * vk.h := by
  linear_combination defect_sub vk c z v (c + d) z v π π

theorem defect_add_value : defect vk c z (v + d) π = defect vk c z v π + -(d * vk.g) * vk.h := by
  linear_combination defect_sub vk c z v c z (v + d) π π

theorem defect_add_point : defect vk c (z + d) v π = defect vk c z v π + π.w * d * vk.h := by
  linear_combination defect_sub vk c z v c (z + d) v π π

theorem defect_add_witness :
    defect vk c z v ⟨w + d, o⟩ = defect vk c z v ⟨w, o⟩ + -(d * (vk.betaH - z * vk.h)) := by
  linear_combination defect_sub vk c z v c z v ⟨w, o⟩ ⟨w + d, o⟩

theorem defect_add_rv :
    defect vk c z v ⟨w, some (rv + d)⟩ = defect vk c z v ⟨w, some rv⟩ + -(d * vk.gammaG) * vk.h := by
  have h := defect_sub vk c z v c z v ⟨w, some rv⟩ ⟨w, some (rv + d)⟩
  simp only [rvVal] at h
  linear_combination h

end Slopes

/-- an accepted transcript whose defect is moved by `s ≠ 0` is rejected -/
theorem rejected_of_moved {vk : VK F} {c z v c' z' v' s : F} {π π' : Proof F}
    (hacc : check vk c z v π = true) (he : defect vk c' z' v' π' = defect vk c z v π + s)
    (hs : s ≠ 0) : check vk c' z' v' π' = false :=
  (check_eq_false_iff ..).2 (mt (moved_iff ((check_iff_defect ..).1 hacc) he).1 hs)

/-- For a statement and `random_v`, at most one witness element has a given defect (so at most one
is accepted), on any key with `βH ≠ z·H`. -/
theorem witness_unique {vk : VK F} {c z v w₁ w₂ : F} {rv : Option F} (hne : vk.betaH - z * vk.h ≠ 0)
    (h : defect vk c z v ⟨w₁, rv⟩ = defect vk c z v ⟨w₂, rv⟩) : w₁ = w₂ := by
  have e := defect_add_witness vk c z v (w₂ - w₁) w₁ rv
  rw [add_sub_cancel, ← h, left_eq_add, neg_eq_zero, mul_eq_zero, or_iff_left hne, sub_eq_zero] at e
  exact e.symm

theorem defect_wfVK (g γ β h c z v : F) (π : Proof F) :
    defect (wfVK g γ β h) c z v π = h * (c - v * g - rvVal π.rv * γ - π.w * (β - z)) := by
  unfold defect wfVK
  ring

/-- **An algebraic transcript on a key of trapdoor `β`**: commitment `g·P + γ·R`, witness
`g·A + γ·B`, for any field elements `P, R, A, B` (for a forger, the values at `β` of polynomials it
knows).  Acceptance is one relation between the two generators. -/
theorem defect_algebraic (g γ β h P R A B z v : F) (rv : Option F) :
    defect (wfVK g γ β h) (g * P + γ * R) z v ⟨g * A + γ * B, rv⟩
      = h * (g * (P - v - A * (β - z)) + γ * (R - rvVal rv - B * (β - z))) := by
  rw [defect_wfVK]
  ring

/-- the non-hiding case: acceptance is `P − v − A·(β − z) = 0` -/
theorem algebraic_accept {g γ β h P A z v : F} (hg : g ≠ 0) (hh : h ≠ 0)
    (h0 : defect (wfVK g γ β h) (g * P) z v ⟨g * A, none⟩ = 0) : P - v - A * (β - z) = 0 := by
  have e := defect_algebraic g γ β h P 0 A 0 z v none
  simp only [mul_zero, add_zero, rvVal, sub_self, zero_mul] at e
  rw [e] at h0
  exact (mul_eq_zero.1 ((mul_eq_zero.1 h0).resolve_left hh)).resolve_left hg

section Honest
variable (g γ β h : F) (n m : Nat) (p r : List F) (z : F) (π : Proof F)
  (hr : (pnorm r).length ≤ m) (ho : KZG.open (wfPowers g γ β n m) p z r = .ok π)
include hr ho

/-- **Completeness of `open` → `check`**: with `c = g·p(β)+γ·r(β)`, the honest proof for
`(p, r, z)` is accepted for the true value. -/
theorem open_check_complete :
    check (wfVK g γ β h) (g * evalPoly p β + γ * evalPoly r β) z (evalPoly p z) π = true := by
  obtain ⟨hw, hrv⟩ := open_spec g γ β n m p r z π hr ho
  -- substitute `p(β) = (β − z)·w(β) + p(z)`, likewise for `r`
  rw [check_iff_defect, defect_wfVK, hrv, hw, eq_add_of_sub_eq (divLin_quot p z β),
    eq_add_of_sub_eq (divLin_quot r z β)]
  ring

/-- **The defect of an arbitrary statement against an honest opening** (C02's acceptance condition):
on the statement `(c + dc, z + dz, p(z) + dv)` it is `h·(dc − dv·g + W·dz)`, by completeness and the
three slopes. -/
theorem honest_defect (dc dz dv : F) :
    defect (wfVK g γ β h) (g * evalPoly p β + γ * evalPoly r β + dc) (z + dz)
        (evalPoly p z + dv) π
      = h * (dc - dv * g + π.w * dz) := by
  rw [defect_add_comm, defect_add_point, defect_add_value,
    (check_iff_defect ..).1 (open_check_complete g γ β h n m p r z π hr ho)]
  show 0 + -(dv * g) * h + π.w * dz * h + dc * h = _
  ring

end Honest

/-- the per-claim defects, with the zip-truncation of the code -/
def defects (vk : VK F) : List F → List F → List F → List (Proof F) → List F
  | c :: cs, z :: zs, v :: vs, π :: πs => defect vk c z v π :: defects vk cs zs vs πs
  | _, _, _, _ => []

/-- `Σ ρᵢ·dᵢ` with `ρ₀ = r`, later randomizers taken from `rs` (missing ones read as 0) -/
def wsum : F → List F → List F → F
  | r, rs, d :: ds => r * d + wsum (rs.headD 0) rs.tail ds
  | _, _, [] => 0

theorem wsum_eq_dot (r : F) (rs ds : List F) : wsum r rs ds = dot (r :: rs) ds := by
  induction ds generalizing r rs with
  | nil => rfl
  | cons d ds ih =>
    rw [wsum, ih, dot_cons]
    cases rs with
    | nil => rw [List.headD_nil, List.tail_nil, dot_nil_left]; cases ds <;> simp
    | cons a t => rfl

theorem batchAcc_defect (vk : VK F) (cs zs vs : List F) (πs : List (Proof F)) (rs : List F) (r : F) :
    let a := batchAcc cs zs vs πs rs r
    (-a.2.1) * vk.betaH + (a.1 - a.2.2.1 * vk.g - a.2.2.2 * vk.gammaG) * vk.h
      = wsum r rs (defects vk cs zs vs πs) := by
  fun_induction defects vk cs zs vs πs generalizing rs r with
  | case1 c cs z zs v vs π πs ih =>
    rw [wsum, ← ih rs.tail (rs.headD 0), batchAcc]
    generalize batchAcc cs zs vs πs rs.tail (rs.headD 0) = t
    unfold defect
    ring
  | case2 cs zs vs πs h =>
    rw [batchAcc.eq_2 _ _ _ _ _ _ h]
    simp [wsum]

/-- **C05 (KZG10).** The batch verifier's defect is the randomizer-weighted sum of the
individual defects, for an arbitrary verifier key and arbitrary inputs. -/
theorem batchDefect_eq (vk : VK F) (cs zs vs : List F) (πs : List (Proof F)) (rs : List F) :
    batchDefect vk cs zs vs πs rs = wsum 1 rs (defects vk cs zs vs πs) := by
  unfold batchDefect
  exact batchAcc_defect vk cs zs vs πs rs 1

theorem wsum_zero (r : F) (rs ds : List F) (h : ∀ d ∈ ds, d = 0) : wsum r rs ds = 0 := by
  rw [wsum_eq_dot, dot_eq_zero_of_right _ _ h]

theorem batchCheck_ok (vk : VK F) (cs zs vs : List F) (πs : List (Proof F)) (rs : List F)
    (hl : cs.length = zs.length ∧ cs.length = vs.length ∧ cs.length = πs.length) :
    batchCheck vk cs zs vs πs rs = .ok (decide (batchDefect vk cs zs vs πs rs = 0)) := by
  unfold batchCheck
  rw [if_neg]
  rintro (h | h | h)
  exacts [h hl.1, h hl.2.1, h hl.2.2]

theorem batchCheck_shape (vk : VK F) (cs zs vs : List F) (πs : List (Proof F)) (rs : List F)
    (hl : ¬ (cs.length = zs.length ∧ cs.length = vs.length ∧ cs.length = πs.length)) :
    batchCheck vk cs zs vs πs rs = .error .incorrectInputLength := by
  unfold batchCheck
  rw [if_pos ((not_and_or.1 hl).imp_right not_and_or.1)]

theorem batchCheck_true {vk : VK F} {cs zs vs : List F} {πs : List (Proof F)} {rs : List F}
    (h : batchCheck vk cs zs vs πs rs = .ok true) : wsum 1 rs (defects vk cs zs vs πs) = 0 := by
  unfold batchCheck at h
  split at h
  · cases h
  · rw [← batchDefect_eq]
    exact of_decide_eq_true (Except.ok.inj h)

theorem wsum_single (r : F) (rs ds : List F) (j : Nat) (hj : j < ds.length)
    (hz : ∀ i (hi : i < ds.length), i ≠ j → ds[i] = 0)
    (hne : ds[j] ≠ 0)
    (hr : (r :: rs).getD j 0 ≠ 0) : wsum r rs ds ≠ 0 := by
  -- `ds` is `ds` with entry `j` reset to itself, and with entry `j` zeroed it is the zero list
  have h0 : dot (ds.set j 0) (r :: rs) = 0 := by
    rw [dot_comm]
    refine dot_eq_zero_of_right _ _ fun e he => ?_
    obtain ⟨i, hi, rfl⟩ := List.getElem_of_mem he
    rw [List.getElem_set]
    split_ifs with hij
    · rfl
    · exact hz i (by simpa using hi) (Ne.symm hij)
  have h := dot_set_sub ds (r :: rs) j hj ds[j] 0
  rw [List.set_getElem_self, h0, sub_zero, sub_zero] at h
  rw [wsum_eq_dot, dot_comm, h]
  exact mul_ne_zero hne hr

/-- additivity of the commitment map: C08 homomorphism for KZG10 (non-hiding part) -/
theorem msmSkip_add (b p q : List F) : msmSkip b (padd p q) = msmSkip b p + msmSkip b q := by
  rw [msmSkip_eq, msmSkip_eq, msmSkip_eq, dot_padd_right]

theorem msmSkip_scale (b p : List F) (c : F) : msmSkip b (pscale c p) = c * msmSkip b p := by
  rw [msmSkip_eq, msmSkip_eq, dot_pscale_right]

theorem firstNonzero_ne_zero {l : List F} {x : F} {rest : List F}
    (h : firstNonzero l = some (x, rest)) : x ≠ 0 := by
  induction l with
  | nil => cases h
  | cons y ys ih =>
    rw [firstNonzero] at h
    split_ifs at h with hy
    · exact ih h
    · cases h; exact hy

theorem randPoly_length (d : Nat) (draws r rest : List F) (h : randPoly d draws = some (r, rest)) :
    r.length = d + 1 ∧ r.getLast? ≠ some 0 ∧ r.take d = draws.take d := by
  unfold randPoly at h
  split_ifs at h with hlen
  split at h
  · cases h
  · rename_i lead rest' hf
    cases h
    have hd : (draws.take d).length = d := List.length_take_of_le (Nat.not_lt.1 hlen)
    refine ⟨by rw [List.length_append, hd]; rfl, ?_, ?_⟩
    · rw [List.getLast?_append, List.getLast?_singleton]
      exact fun e => firstNonzero_ne_zero hf (Option.some.inj e)
    · rw [List.take_append_of_le_length (Nat.le_of_eq hd.symm), List.take_take, Nat.min_self]

end KZG
end PCV
