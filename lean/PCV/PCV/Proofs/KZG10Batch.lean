/-
  PCV.Proofs.KZG10Batch — the randomizers of `KZG10::batch_check`: the batch defect `Σ ρᵢ·Δᵢ` is an
  affine function of each single randomizer with slope `Δᵢ`, so a batch containing a false claim at
  position `i ≥ 1` is accepted for AT MOST ONE value of `ρᵢ` (whatever the other randomizers are).
-/
import PCV.Proofs.KZG10

namespace PCV
namespace KZG

variable {F : Type} [Field F] [DecidableEq F]

theorem wsum_zero_unique (r : F) (rs ds : List F) (j : Nat) (hj : j < rs.length)
    (hd : ds.getD (j + 1) 0 ≠ 0) (x y : F)
    (hx : wsum r (rs.set j x) ds = 0) (hy : wsum r (rs.set j y) ds = 0) : x = y := by
  have h := dot_set_sub (r :: rs) ds (j + 1) (Nat.succ_lt_succ hj) x y
  rw [List.set_cons_succ, List.set_cons_succ, ← wsum_eq_dot, ← wsum_eq_dot, hx, hy, sub_zero] at h
  exact sub_eq_zero.1 ((mul_eq_zero.1 h.symm).resolve_right hd)

/-- the first claim carries the fixed weight `ρ₀ = 1`: if it is the only false one the batch is
rejected whatever the randomizers are -/
theorem wsum_first_only (rs : List F) {d : F} {ds : List F} (hd : d ≠ 0) (hz : ∀ e ∈ ds, e = 0) :
    wsum 1 rs (d :: ds) ≠ 0 := by
  rw [wsum, one_mul, wsum_zero _ _ _ hz, add_zero]
  exact hd

end KZG
end PCV
