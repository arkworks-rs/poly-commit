/-
  PCV.Proofs.KZG10Domain — the domain of `KZG10::commit`: the predicate, and that `commit` answers only
  inside it (C17 states refusal outside and success inside).
-/
import PCV.Proofs.KZG10

namespace PCV
namespace KZG
variable {F : Type} [Field F] [DecidableEq F]

/-- `DensePolynomial::rand(d)` has degree exactly `d` -/
theorem randPoly_pdeg {d : Nat} {draws r rest : List F} (h : randPoly d draws = some (r, rest)) :
    pdeg r = d := by
  obtain ⟨hlen, hlast, -⟩ := randPoly_length d draws r rest h
  rw [pdeg, pnorm_of_last_ne_zero hlast, hlen]
  rfl

def InDomainCommit (pw : Powers F) (p : List F) (hb : Option Nat) (rng : Bool) : Prop :=
  pdeg p + 1 ≤ pw.g.length ∧ (∀ h, hb = some h → rng = true ∧ h + 1 < pw.gg.length)

instance (pw : Powers F) (p : List F) (hb : Option Nat) (rng : Bool) :
    Decidable (InDomainCommit pw p hb rng) := by
  unfold InDomainCommit
  cases hb with
  | none => exact decidable_of_iff (pdeg p + 1 ≤ pw.g.length) (by simp)
  | some h =>
    exact decidable_of_iff (pdeg p + 1 ≤ pw.g.length ∧ (rng = true ∧ h + 1 < pw.gg.length))
      (by constructor
          · intro ⟨a, b⟩; exact ⟨a, fun h' e => by cases e; exact b⟩
          · intro ⟨a, b⟩; exact ⟨a, b h rfl⟩)

theorem commit_ok_imp_inDomain {pw : Powers F} {p : List F} {hb : Option Nat} {rng : Bool}
    {draws : List F} {x : F × List F × List F} (h : commit pw p hb rng draws = .ok x) :
    InDomainCommit pw p hb rng := by
  have hfit := commit_ok_fits h
  refine ⟨Nat.not_lt.1 hfit, fun b e => ?_⟩
  subst e
  obtain ⟨c, r, rest⟩ := x
  obtain ⟨hrng, hr, hchk, -⟩ := (commit_some_ok_iff hfit).1 h
  rw [randPoly_pdeg hr] at hchk
  exact ⟨hrng, ((checkHidingBound_ok _ _).1 hchk).2⟩

end KZG
end PCV
