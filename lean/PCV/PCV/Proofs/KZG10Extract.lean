/-
  PCV.Proofs.KZG10Extract — what an ALGEBRAIC forger against KZG10 gives away.  A forger that outputs
  its witness element as a linear combination `W = ⟨a, powers_of_g⟩ + ⟨b, powers_of_gamma_g⟩` of the
  published key elements (the algebraic-group-model adversary; every attack in the library's own
  vocabulary — MSMs over the key — is of this kind) and gets a FALSE value accepted has written down a
  non-zero polynomial of known coefficients and degree ≤ n that vanishes at the trapdoor: it has solved
  the scheme's hardness problem.  Conversely, for all but ≤ n trapdoors no such forgery is accepted
  (`C03.kzg10_algebraic_forgery_exceptional_set`).
-/
import PCV.Proofs.KZG10
import PCV.Proofs.Roots

namespace PCV
namespace KZG

variable {F : Type} [Field F]

/-- `a(X)·(X − z)` as a coefficient list -/
def mulLin (a : List F) (z : F) : List F := padd (pshift 1 a) (pscale (-z) a)

theorem eval_mulLin (a : List F) (z x : F) : evalPoly (mulLin a z) x = evalPoly a x * (x - z) := by
  unfold mulLin
  rw [eval_padd, eval_pshift, eval_pscale]
  simp only [fpow_succ, fpow_zero]
  ring

theorem mulLin_length (a : List F) (z : F) : (mulLin a z).length = a.length + 1 := by
  rw [mulLin, padd_len, pshift_len, pscale_len, Nat.add_comm, Nat.max_eq_left (Nat.le_succ _)]

/-- the extraction polynomial of a non-hiding forgery: `p(X) − v − a(X)(X − z)` -/
def extractPoly (p a : List F) (z v : F) : List F :=
  padd (padd p [-v]) (pscale (-1) (mulLin a z))

theorem eval_extractPoly (p a : List F) (z v x : F) :
    evalPoly (extractPoly p a z v) x = evalPoly p x - v - evalPoly a x * (x - z) := by
  show evalPoly (psub (padd p [-v]) (mulLin a z)) x = _
  rw [eval_psub, eval_padd, eval_mulLin, evalPoly_cons, evalPoly_nil, mul_zero, add_zero,
    ← sub_eq_add_neg]

theorem extractPoly_length (p a : List F) (z v : F) :
    (extractPoly p a z v).length ≤ max (max p.length 1) (a.length + 1) := by
  rw [extractPoly, padd_len, padd_len, pscale_len, mulLin_length, List.length_singleton]

theorem eval_extractPoly_self (p a : List F) (z v : F) :
    evalPoly (extractPoly p a z v) z = evalPoly p z - v := by
  rw [eval_extractPoly, sub_self, mul_zero, sub_zero]

variable [DecidableEq F]

/-- **Extraction (non-hiding).** Honest commitment `C = g·p(β)`; an algebraic witness
`W = g·a(β)` accepted for the value `v` at `z` makes the trapdoor a root of `extractPoly`
(for `g, h ≠ 0`), and if `v ≠ p(z)` that polynomial is not the zero polynomial: it takes the value
`p(z) − v ≠ 0` at `z`. -/
theorem forgery_gives_root {g γ β h : F} {p a : List F} {z v : F} (hg : g ≠ 0) (hh : h ≠ 0)
    (hacc : check (wfVK g γ β h) (g * evalPoly p β) z v ⟨g * evalPoly a β, none⟩ = true) :
    evalPoly (extractPoly p a z v) β = 0 ∧
      evalPoly (extractPoly p a z v) z = evalPoly p z - v :=
  ⟨(eval_extractPoly ..).trans (algebraic_accept hg hh ((check_iff_defect ..).1 hacc)),
    eval_extractPoly_self p a z v⟩

/-- **Extraction (hiding).** Honest hiding commitment `C = g·p(β) + γ·r(β)`, algebraic witness
`W = g·a(β) + γ·b(β)`, any `random_v = rv`: acceptance is the single relation
`g·Q_g(β) + γ·Q_γ(β) = 0` between the two generators, with `Q_g = p − v − a·(X−z)` and
`Q_γ = r − rv − b·(X−z)`.  So an accepted false value (`Q_g(z) = p(z) − v ≠ 0`) means: either the
trapdoor is a root of the non-zero polynomial `Q_g` (and of `γ·Q_γ`), or the forger has expressed the
hiding generator through the plain one, `γ = −g·Q_g(β)/Q_γ(β)` — the discrete logarithm the
scheme's hiding generator is assumed to hide. -/
theorem forgery_hiding_dichotomy {g γ β h : F} {p r a b : List F} {z v rv : F}
    (hg : g ≠ 0) (hh : h ≠ 0)
    (hacc : check (wfVK g γ β h) (g * evalPoly p β + γ * evalPoly r β) z v
      ⟨g * evalPoly a β + γ * evalPoly b β, some rv⟩ = true) :
    g * evalPoly (extractPoly p a z v) β + γ * evalPoly (extractPoly r b z rv) β = 0 ∧
    evalPoly (extractPoly p a z v) z = evalPoly p z - v ∧
    ((evalPoly (extractPoly p a z v) β = 0 ∧ γ * evalPoly (extractPoly r b z rv) β = 0) ∨
     (evalPoly (extractPoly r b z rv) β ≠ 0 ∧
      γ = -(g * evalPoly (extractPoly p a z v) β) / evalPoly (extractPoly r b z rv) β)) := by
  have hrel : g * evalPoly (extractPoly p a z v) β + γ * evalPoly (extractPoly r b z rv) β = 0 := by
    rw [check_iff_defect, defect_algebraic] at hacc
    rw [eval_extractPoly, eval_extractPoly]
    exact (mul_eq_zero.1 hacc).resolve_left hh
  refine ⟨hrel, eval_extractPoly_self p a z v, ?_⟩
  by_cases hq : evalPoly (extractPoly r b z rv) β = 0
  · left
    rw [hq, mul_zero, add_zero] at hrel
    exact ⟨(mul_eq_zero.1 hrel).resolve_left hg, by rw [hq, mul_zero]⟩
  · right
    refine ⟨hq, ?_⟩
    rw [eq_div_iff hq]
    exact eq_neg_of_add_eq_zero_right hrel

end KZG
end PCV
