/-
  PCV.Proofs.LC — the value of a linear combination under every operator of
  `data_structures.rs`, and under operation sequences.  Then what every scheme's
  `open_combinations` / `check_combinations` uses of a combination, whatever the scheme commits to:
  its value is the polynomial terms' share plus its constants (`termsValue_split`), and the verifier
  subtracts from a value claimed for a label the constants of all combinations carrying that label
  (`constAt`, `shift`).  Each scheme spells these out for itself; its lemmas on them are the ones here,
  through one bridge lemma per spelling.
-/
import PCV.Model.LC
import PCV.Proofs.Poly

namespace PCV
namespace LC
variable {F : Type} [Field F]

@[simp] theorem termsValue_nil (σ : Label → F) : termsValue σ ([] : List (F × LCTerm)) = 0 := rfl

@[simp] theorem termsValue_cons (σ : Label → F) (ct : F × LCTerm) (r : List (F × LCTerm)) :
    termsValue σ (ct :: r) = ct.1 * termVal σ ct.2 + termsValue σ r := rfl

theorem termsValue_append (σ : Label → F) (a b : List (F × LCTerm)) :
    termsValue σ (a ++ b) = termsValue σ a + termsValue σ b := by
  induction a with
  | nil => exact (zero_add _).symm
  | cons ct r ih => rw [List.cons_append, termsValue_cons, termsValue_cons, ih, add_assoc]

theorem termsValue_replace (σ : Label → F) (pre post : List (F × LCTerm)) (c c' : F) (t : LCTerm) :
    termsValue σ (pre ++ (c', t) :: post) =
      termsValue σ (pre ++ (c, t) :: post) + (c' - c) * termVal σ t := by
  rw [termsValue_append, termsValue_append, termsValue_cons, termsValue_cons, add_assoc,
    add_right_comm, ← add_mul, add_sub_cancel]

theorem termsValue_congr {σ τ : Label → F} {terms : List (F × LCTerm)}
    (h : ∀ c l, (c, LCTerm.poly l) ∈ terms → σ l = τ l) :
    termsValue σ terms = termsValue τ terms := by
  induction terms with
  | nil => rfl
  | cons ct rest ih =>
    obtain ⟨c, t⟩ := ct
    rw [termsValue_cons, termsValue_cons, ih fun c' l' hm => h c' l' (List.mem_cons_of_mem _ hm)]
    cases t with
    | one => rfl
    | poly l => exact congrArg (c * · + _) (h c l List.mem_cons_self)

theorem termsValue_map_coeff (σ : Label → F) (f : F → F) (k : F) (hf : ∀ c, f c = k * c)
    (b : List (F × LCTerm)) :
    termsValue σ (b.map fun ct => (f ct.1, ct.2)) = k * termsValue σ b := by
  induction b with
  | nil => exact (mul_zero k).symm
  | cons ct r ih => rw [List.map_cons, termsValue_cons, termsValue_cons, ih, hf, mul_add, mul_assoc]

theorem termsValue_map_scale (σ : Label → F) (c : F) (b : List (F × LCTerm)) :
    termsValue σ (b.map (scaleTerm c)) = c * termsValue σ b :=
  termsValue_map_coeff σ (c * ·) c (fun _ => rfl) b

theorem termsValue_map_neg (σ : Label → F) (b : List (F × LCTerm)) :
    termsValue σ (b.map negTerm) = - termsValue σ b :=
  (termsValue_map_coeff σ (- ·) (-1) (fun c => (neg_one_mul c).symm) b).trans (neg_one_mul _)

theorem termsValue_map_mul (σ : Label → F) (c : F) (b : List (F × LCTerm)) :
    termsValue σ (b.map (mulTerm c)) = termsValue σ b * c :=
  (termsValue_map_coeff σ (· * c) c (fun c' => mul_comm c' c) b).trans (mul_comm _ _)

theorem value_empty (l : Label) (σ : Label → F) : value (empty l : LinComb F) σ = 0 := rfl

theorem value_new (l : Label) (ts : List (F × LCTerm)) (σ : Label → F) :
    value (new l ts) σ = termsValue σ ts := rfl

theorem value_push (a : LinComb F) (c : F) (t : LCTerm) (σ : Label → F) :
    value (push a (c, t)) σ = value a σ + c * termVal σ t :=
  (termsValue_append σ a.terms [(c, t)]).trans (congrArg (value a σ + ·) (add_zero _))

theorem value_addScaled (a b : LinComb F) (c : F) (σ : Label → F) :
    value (addScaled a c b) σ = value a σ + c * value b σ :=
  (termsValue_append σ a.terms _).trans (congrArg (value a σ + ·) (termsValue_map_scale σ c b.terms))

theorem value_subScaled (a b : LinComb F) (c : F) (σ : Label → F) :
    value (subScaled a c b) σ = value a σ - c * value b σ := by
  rw [sub_eq_add_neg, ← neg_mul]; exact value_addScaled a b (-c) σ

theorem value_addLC (a b : LinComb F) (σ : Label → F) :
    value (addLC a b) σ = value a σ + value b σ :=
  termsValue_append σ a.terms b.terms

theorem value_subLC (a b : LinComb F) (σ : Label → F) :
    value (subLC a b) σ = value a σ - value b σ :=
  (termsValue_append σ a.terms _).trans
    ((congrArg (value a σ + ·) (termsValue_map_neg σ b.terms)).trans (sub_eq_add_neg _ _).symm)

theorem value_addConst (a : LinComb F) (c : F) (σ : Label → F) :
    value (addConst a c) σ = value a σ + c :=
  (value_push a c .one σ).trans (congrArg (value a σ + ·) (mul_one c))

theorem value_subConst (a : LinComb F) (c : F) (σ : Label → F) :
    value (subConst a c) σ = value a σ - c := by
  rw [sub_eq_add_neg]; exact value_addConst a (-c) σ

theorem value_mulConst (a : LinComb F) (c : F) (σ : Label → F) :
    value (mulConst a c) σ = value a σ * c :=
  termsValue_map_mul σ c a.terms

theorem value_applyOp (a : LinComb F) (op : Op F) (σ : Label → F) :
    value (applyOp a op) σ = specOp σ (value a σ) op := by
  cases op with
  | addScaled c b => exact value_addScaled a b c σ
  | subScaled c b => exact value_subScaled a b c σ
  | addLC b => exact value_addLC a b σ
  | subLC b => exact value_subLC a b σ
  | addConst c => exact value_addConst a c σ
  | subConst c => exact value_subConst a c σ
  | mulConst c => exact value_mulConst a c σ
  | push c t => exact value_push a c t σ

theorem value_applyOps (a : LinComb F) (ops : List (Op F)) (σ : Label → F) :
    value (applyOps a ops) σ = specOps σ (value a σ) ops := by
  induction ops generalizing a with
  | nil => rfl
  | cons op ops ih => simp only [applyOps, specOps, ih, value_applyOp]

theorem label_applyOps (a : LinComb F) (ops : List (Op F)) : (applyOps a ops).label = a.label := by
  induction ops generalizing a with
  | nil => rfl
  | cons op ops ih =>
    simp only [applyOps, ih]
    cases op <;> rfl

/-- no operator other than `*=` touches the existing terms: they stay a prefix (no merging) -/
theorem terms_prefix_applyOp (a : LinComb F) (op : Op F) (h : ∀ c, op ≠ .mulConst c) :
    ∃ ext, (applyOp a op).terms = a.terms ++ ext := by
  cases op with
  | mulConst c => exact absurd rfl (h c)
  | _ => exact ⟨_, rfl⟩

theorem mulConst_labels (a : LinComb F) (c : F) :
    (mulConst a c).terms.map Prod.snd = a.terms.map Prod.snd :=
  List.map_map

/-- `Σ c·σ(l)` over the polynomial terms -/
def polyPart (σ : Label → F) : List (F × LCTerm) → F
  | [] => 0
  | t :: ts => (match t.2 with | .one => 0 | .poly l => t.1 * σ l) + polyPart σ ts

/-- `Σ c` over the constant terms -/
def constPart : List (F × LCTerm) → F
  | [] => 0
  | t :: ts => (match t.2 with | .one => t.1 | .poly _ => 0) + constPart ts

theorem termsValue_split (σ : Label → F) (ts : List (F × LCTerm)) :
    termsValue σ ts = polyPart σ ts + constPart ts := by
  induction ts with
  | nil => exact (add_zero 0).symm
  | cons t ts ih =>
    rw [termsValue_cons, polyPart, constPart, ih, add_add_add_comm]
    cases t.2 with
    | one => rw [termVal, mul_one, zero_add]
    | poly l => rw [termVal, add_zero]

theorem constPart_append (a b : List (F × LCTerm)) : constPart (a ++ b) = constPart a + constPart b := by
  induction a with
  | nil => exact (zero_add _).symm
  | cons t a ih => rw [List.cons_append, constPart, constPart, ih, add_assoc]

/-- the constants of ALL combinations labelled `l`: what a verifier subtracts from a value claimed for `l` -/
def constAt : List (LinComb F) → Label → F
  | [], _ => 0
  | lc :: lcs, l => (if lc.label = l then constPart lc.terms else 0) + constAt lcs l

theorem constAt_append (a b : List (LinComb F)) (l : Label) : constAt (a ++ b) l = constAt a l + constAt b l := by
  induction a with
  | nil => exact (zero_add _).symm
  | cons x a ih => rw [List.cons_append, constAt, constAt, ih, add_assoc]

theorem constAt_of_not_mem {lcs : List (LinComb F)} {l : Label} (h : l ∉ lcs.map (·.label)) :
    constAt lcs l = 0 := by
  induction lcs with
  | nil => rfl
  | cons x xs ih =>
    rw [List.map_cons, List.mem_cons, not_or] at h
    rw [constAt, if_neg fun e => h.1 e.symm, ih h.2, add_zero]

/-- distinct labels: the constants of a label are those of its one combination -/
theorem constAt_of_nodup {lcs : List (LinComb F)} (hnd : (lcs.map (·.label)).Nodup) {lc : LinComb F}
    (hm : lc ∈ lcs) : constAt lcs lc.label = constPart lc.terms := by
  obtain ⟨pre, post, rfl⟩ := List.append_of_mem hm
  rw [List.map_append, List.map_cons, List.nodup_append, List.nodup_cons] at hnd
  obtain ⟨_, ⟨hpost, _⟩, hpre⟩ := hnd
  rw [constAt_append, constAt, if_pos rfl, constAt_of_not_mem hpost,
    constAt_of_not_mem fun h => hpre _ h _ List.mem_cons_self rfl, zero_add, add_zero]

section Evals
variable {P : Type}

/-- `for (&(ref label, _), ref mut eval) in evaluations.iter_mut() { if label == &lc_label { **eval -= c } }`,
for any type of points: each model's `subConst` is this at its own -/
def subAt (lbl : Label) (c : F) (evals : List ((Label × P) × F)) : List ((Label × P) × F) :=
  evals.map fun e => if e.1.1 = lbl then (e.1, e.2 - c) else e

/-- every claimed value moved by a function of its label -/
def shift (f : Label → F) (evals : List ((Label × P) × F)) : List ((Label × P) × F) :=
  evals.map fun e => (e.1, e.2 - f e.1.1)

theorem subAt_eq_shift (lbl : Label) (c : F) (evals : List ((Label × P) × F)) :
    subAt lbl c evals = shift (fun l => if l = lbl then c else 0) evals :=
  List.map_congr_left fun e _ => by
    by_cases h : e.1.1 = lbl
    · simp only [h, if_true]
    · simp only [h, if_false, sub_zero]

theorem shift_shift (f g : Label → F) (evals : List ((Label × P) × F)) :
    shift f (shift g evals) = shift (fun l => g l + f l) evals := by
  simp only [shift, List.map_map, Function.comp_def, sub_sub]

theorem shift_congr {f g : Label → F} (h : ∀ l, f l = g l) (evals : List ((Label × P) × F)) :
    shift f evals = shift g evals := by rw [funext h]

theorem shift_zero (evals : List ((Label × P) × F)) : shift (fun _ => (0 : F)) evals = evals := by
  simp only [shift, sub_zero, List.map_id']

/-- the constants of one combination, subtracted term by term, come to one subtraction of their sum -/
theorem foldl_subAt (lbl : Label) (ts : List (F × LCTerm)) (evals : List ((Label × P) × F)) :
    ts.foldl (fun ev t => match t.2 with | .one => subAt lbl t.1 ev | .poly _ => ev) evals
      = shift (fun l => if l = lbl then constPart ts else 0) evals := by
  induction ts generalizing evals with
  | nil => exact ((shift_congr (fun l => ite_self 0) evals).trans (shift_zero evals)).symm
  | cons t ts ih =>
    rw [List.foldl_cons, ih, constPart]
    cases t.2 with
    | one =>
      rw [subAt_eq_shift, shift_shift]
      exact shift_congr (fun l => by rw [← ite_add_zero]) evals
    | poly _ => exact shift_congr (fun l => by rw [zero_add]) evals

/-- one more combination in front: its constants join `constAt` -/
theorem shift_constAt_cons (lc : LinComb F) (lcs : List (LinComb F)) (evals : List ((Label × P) × F)) :
    shift (constAt lcs) (shift (fun l => if l = lc.label then constPart lc.terms else 0) evals)
      = shift (constAt (lc :: lcs)) evals := by
  rw [shift_shift]
  exact shift_congr (fun l => by rw [constAt]; simp only [eq_comm]) evals

end Evals

end LC
end PCV
