/-
  PCV.Proofs.LinCode — algebra of the linear-code PCS: row combinations commute with a linear
  encoder (`col_inner_product`), the univariate and multilinear `tensor` identities
  `p(z) = bᵀ·M·a` (both are `dot_flatten_kron` of `PCV.Proofs.MLE`; `fixVar_eq`, `evalMLE_eq`, `tensorVec_eq`:
  this model's `fix_variables`, `evaluate` and `tensor_vec` are those of `Model/MLPC`), the shape of the coefficient matrix, and the lengths of the vectors `tensor`
  returns (`PointFits`).
-/
import PCV.Model.LinCode
import PCV.Proofs.MLE
import PCV.Proofs.Merkle

namespace PCV
namespace LinCode
open Merkle
variable {F : Type} [Field F]

def vadd (x y : List F) : List F := List.zipWith (· + ·) x y
def vscale (c : F) (x : List F) : List F := x.map (c * ·)

/-- **Linear encoder** for messages of length `m` with codewords of length `k`. -/
structure IsLinear (E : List F → List F) (m k : Nat) : Prop where
  add : ∀ x y, x.length = m → y.length = m → E (vadd x y) = vadd (E x) (E y)
  smul : ∀ c x, x.length = m → E (vscale c x) = vscale c (E x)
  len : ∀ x, x.length = m → (E x).length = k

@[simp] theorem vadd_length (x y : List F) : (vadd x y).length = min x.length y.length := by
  simp [vadd]
@[simp] theorem vscale_length (c : F) (x : List F) : (vscale c x).length = x.length := by
  simp [vscale]

theorem vscale_zero (x : List F) : vscale 0 x = List.replicate x.length 0 := by
  induction x with
  | nil => rfl
  | cons a x ih => simp [vscale, List.replicate_succ] at ih ⊢; exact ih

theorem IsLinear.map_zero {E : List F → List F} {m k : Nat} (h : IsLinear E m k) :
    E (List.replicate m 0) = List.replicate k 0 := by
  have h1 := h.smul 0 (List.replicate m 0) (by simp)
  rw [vscale_zero, vscale_zero, List.length_replicate, h.len _ (by simp)] at h1
  exact h1

theorem dot_vscale (c : F) (x a : List F) : dot (vscale c x) a = c * dot x a :=
  dot_pscale_left x a c

theorem dot_vadd (x y a : List F) (h : x.length = y.length) :
    dot (vadd x y) a = dot x a + dot y a := by
  rw [vadd, zipWith_add_eq_padd h, dot_padd_left]

theorem getD'_vadd (x y : List F) (j : Nat) (hx : j < x.length) (hy : j < y.length) :
    getD' (vadd x y) j 0 = getD' x j 0 + getD' y j 0 := by
  simp [getD', vadd, List.getElem?_zipWith, List.getElem?_eq_getElem hx, List.getElem?_eq_getElem hy]

theorem getD'_vscale (c : F) (x : List F) (j : Nat) :
    getD' (vscale c x) j 0 = c * getD' x j 0 := by
  unfold getD' vscale
  rw [List.getElem?_map]
  cases x[j]? <;> simp

theorem range_map_getD' (r : List F) : (List.range r.length).map (fun j => getD' r j 0) = r :=
  map_getD'_range r 0

theorem vecMat_length (b : List F) (rows : List (List F)) (m : Nat) :
    (vecMat b rows m).length = m := by simp [vecMat]

theorem getD'_vecMat (b : List F) (rows : List (List F)) (m j : Nat) (hj : j < m) :
    getD' (vecMat b rows m) j 0 = dot b (colOf rows j) := by
  simp [getD', vecMat, hj]

theorem vecMat_nil_left (rows : List (List F)) (m : Nat) :
    vecMat ([] : List F) rows m = List.replicate m 0 := by
  unfold vecMat
  apply List.ext_getElem <;> simp

theorem vecMat_nil_right (b : List F) (m : Nat) :
    vecMat b ([] : List (List F)) m = List.replicate m 0 := by
  unfold vecMat
  apply List.ext_getElem <;> simp [colOf]

theorem vecMat_cons (x : F) (b : List F) (r : List F) (rs : List (List F)) (m : Nat)
    (hm : r.length = m) :
    vecMat (x :: b) (r :: rs) m = vadd (vscale x r) (vecMat b rs m) := by
  subst hm
  unfold vecMat vadd vscale colOf
  apply List.ext_getElem
  · simp
  · intro i h1 h2
    simp at h1
    simp [getD', h1]

theorem encode_vecMat {E : List F → List F} {m k : Nat} (hE : IsLinear E m k) (b : List F)
    (rows : List (List F)) (hr : ∀ r ∈ rows, r.length = m) :
    E (vecMat b rows m) = vecMat b (rows.map E) k := by
  induction b generalizing rows with
  | nil => rw [vecMat_nil_left, vecMat_nil_left, hE.map_zero]
  | cons x b ih => cases rows with
    | nil => rw [vecMat_nil_right, List.map_nil, vecMat_nil_right, hE.map_zero]
    | cons r rs =>
      have hm : r.length = m := hr r List.mem_cons_self
      rw [vecMat_cons x b r rs m hm, List.map_cons, vecMat_cons x b (E r) _ k (hE.len r hm),
        hE.add _ _ (by rw [vscale_length, hm]) (vecMat_length b rs m), hE.smul x r hm,
        ih rs (fun r' h' => hr r' (List.mem_cons_of_mem _ h'))]

/-- **`col_inner_product`.**  `⟨b, col_j(E∘rows M)⟩ = E(b·M)[j]`: what `check_inner_product` in
`check` tests on an opened column holds for the honest `v = b·M`, `w = E(v)`. -/
theorem col_inner_product {E : List F → List F} {m k : Nat} (hE : IsLinear E m k) (b : List F)
    (rows : List (List F)) (hr : ∀ r ∈ rows, r.length = m) (j : Nat) (hj : j < k) :
    dot b (colOf (rows.map E) j) = getD' (E (vecMat b rows m)) j 0 := by
  rw [encode_vecMat hE b rows hr, getD'_vecMat _ _ _ _ hj]

theorem dot_vecMat (b a : List F) (rows : List (List F)) (m : Nat)
    (hr : ∀ r ∈ rows, r.length = m) :
    dot (vecMat b rows m) a = dot b (rows.map (fun r => dot r a)) := by
  induction b generalizing rows with
  | nil => rw [vecMat_nil_left, dot_replicate_zero_left, dot_nil_left]
  | cons x b ih => cases rows with
    | nil => rw [vecMat_nil_right, dot_replicate_zero_left, List.map_nil, dot_nil_right]
    | cons r rs =>
      have hm : r.length = m := hr r List.mem_cons_self
      rw [vecMat_cons x b r rs m hm, List.map_cons, dot_cons,
        dot_vadd _ _ _ (by rw [vscale_length, hm, vecMat_length]), dot_vscale,
        ih rs (fun r' h' => hr r' (List.mem_cons_of_mem _ h'))]

omit [Field F] in
theorem chunks_length (m n : Nat) (flat : List F) : (chunks m n flat).length = n := by
  induction n generalizing flat with
  | zero => rfl
  | succ n ih => simp [chunks, ih]

theorem length_take_drop_chunk {α : Type} {m n : Nat} {flat : List α}
    (h : flat.length = (n + 1) * m) : (flat.take m).length = m ∧ (flat.drop m).length = n * m := by
  rw [Nat.succ_mul] at h
  rw [List.length_take, List.length_drop, h, Nat.add_sub_cancel]
  exact ⟨Nat.min_eq_left (Nat.le_add_left _ _), rfl⟩

omit [Field F] in
theorem chunks_row_length (m n : Nat) (flat : List F) (h : flat.length = n * m) :
    ∀ r ∈ chunks m n flat, r.length = m := by
  induction n generalizing flat with
  | zero => exact fun _ hr => nomatch hr
  | succ n ih =>
    intro r hr
    obtain ⟨ht, hd⟩ := length_take_drop_chunk h
    rcases List.mem_cons.1 hr with rfl | hr
    · exact ht
    · exact ih _ hd r hr

theorem resize_length (k : Nat) (l : List F) : (resize k l).length = k := by
  simp only [resize, List.length_append, List.length_take, List.length_replicate]; omega

theorem coeffMat_n (dims : Nat → Nat × Nat) (coeffs : List F) :
    (coeffMat dims coeffs).n = (dims (coeffsOrZero coeffs).length).1 := rfl
theorem coeffMat_m (dims : Nat → Nat × Nat) (coeffs : List F) :
    (coeffMat dims coeffs).m = (dims (coeffsOrZero coeffs).length).2 := rfl

theorem coeffMat_rows_length (dims : Nat → Nat × Nat) (coeffs : List F) :
    (coeffMat dims coeffs).rows.length = (coeffMat dims coeffs).n := by
  simp [coeffMat, Mat.ofFlat, chunks_length]

theorem coeffMat_row_length (dims : Nat → Nat × Nat) (coeffs : List F) :
    ∀ r ∈ (coeffMat dims coeffs).rows, r.length = (coeffMat dims coeffs).m := by
  simp only [coeffMat, Mat.ofFlat]
  exact chunks_row_length _ _ _ (resize_length _ _)

theorem evalPoly_resize (k : Nat) (l : List F) (z : F) (h : l.length ≤ k) :
    evalPoly (resize k l) z = evalPoly l z := by
  unfold resize
  rw [List.take_of_length_le h, evalPoly_append, evalPoly_replicate_zero, mul_zero, add_zero]

theorem evalPoly_coeffsOrZero (coeffs : List F) (z : F) :
    evalPoly (coeffsOrZero coeffs) z = evalPoly coeffs z := by
  unfold coeffsOrZero
  cases coeffs <;> simp

omit [Field F] in
theorem chunks_flatten (m n : Nat) (flat : List F) (h : flat.length = n * m) :
    (chunks m n flat).flatten = flat := by
  induction n generalizing flat with
  | zero => exact (List.length_eq_zero_iff.1 (h.trans (Nat.zero_mul m))).symm
  | succ n ih =>
    rw [chunks, List.flatten_cons, ih _ (length_take_drop_chunk h).2, List.take_append_drop]

/-- **`univariate_tensor_eval`.**  For every coefficient list and every `n × m` shape that holds it
(zero padded, row-major), with `(a, b) = tensor(z, m, n)`:  `p(z) = ⟨b·M, a⟩ = bᵀ·M·a`. -/
theorem univariate_tensor_eval (coeffs : List F) (n m : Nat) (z : F) (h : coeffs.length ≤ n * m) :
    dot (vecMat (tensorUni z m n).2 (Mat.ofFlat n m (resize (n * m) coeffs)).rows m)
      (tensorUni z m n).1 = evalPoly coeffs z := by
  have hl := resize_length (n * m) coeffs
  have hrow := chunks_row_length m n _ hl
  simp only [Mat.ofFlat, tensorUni]
  -- `(1, z, …, z^(nm−1)) = a ⊗ b`, so `⟨b·M, a⟩` is the dot product of the flat list with the powers
  rw [dot_vecMat _ _ _ m hrow, ← dot_flatten_kron _ _ _ (by rwa [powers_length]), ← powers_kron,
    chunks_flatten m n _ hl, dot_powers _ 1 z _ hl.le, one_mul, evalPoly_resize _ _ _ h]

theorem fixVar_eq (r : F) : ∀ e : List F, fixVar r e = MLPC.fixVar r e
  | [] | [_] => rfl
  | a :: b :: t => by rw [fixVar, MLPC.fixVar, fixVar_eq r t]

theorem evalMLE_eq (e pt : List F) : evalMLE e pt = MLPC.mleEval e pt := by
  unfold evalMLE
  induction pt generalizing e with
  | nil => rfl
  | cons r rest ih => rw [List.foldl_cons, ih, fixVar_eq, MLPC.mleEval]

theorem tensorStep_length (layer : List F) (v : F) :
    (tensorStep layer v).length = 2 * layer.length := by
  rw [tensorStep, List.length_append, List.length_map, List.length_map, Nat.two_mul]

/-- running `tensor_vec` on from the tensor of `p` gives the tensor of the longer point -/
theorem foldl_tensorStep (p : List F) : ∀ vals : List F,
    vals.foldl tensorStep (MLPC.eqTable p) = MLPC.eqTable (p ++ vals)
  | [] => by rw [List.foldl_nil, List.append_nil]
  | v :: vs => by
    rw [List.foldl_cons, tensorStep, ← MLPC.eqTable_snoc, foldl_tensorStep (p ++ [v]) vs,
      List.append_assoc, List.singleton_append]

theorem tensorVec_eq (pt : List F) : tensorVec pt = MLPC.eqTable pt := foldl_tensorStep [] pt

theorem tensorVec_cons (x : F) (xs : List F) : tensorVec (x :: xs) = MLPC.weave x (tensorVec xs) := by
  rw [tensorVec_eq, tensorVec_eq, MLPC.eqTable]

theorem tensorVec_length (vals : List F) : (tensorVec vals).length = 2 ^ vals.length := by
  rw [tensorVec_eq, MLPC.eqTable_length]

theorem fixVar_length (r : F) (evals : List F) : (fixVar r evals).length = evals.length / 2 := by
  rw [fixVar_eq, MLPC.fixVar_length]

/-- `MultilinearExtension::evaluate` is the inner product with `tensor_vec(point)` -/
theorem evalMLE_eq_dot (evals pt : List F) (h : evals.length = 2 ^ pt.length) :
    evalMLE evals pt = dot evals (tensorVec pt) := by
  rw [evalMLE_eq, tensorVec_eq, dot_comm, MLPC.dot_eqTable pt evals h]

theorem tensorVec_append (l r : List F) : tensorVec (l ++ r) = kron (tensorVec l) (tensorVec r) := by
  simp only [tensorVec_eq, MLPC.eqTable_append]

/-- **Multilinear tensor identity.**  For hypercube evaluations of a polynomial in `|pt|`
variables arranged row-major in `2^(|pt|−k)` rows of `2^k` entries, `a = tensor_vec(pt[..k])`,
`b = tensor_vec(pt[k..])`:  `f(pt) = ⟨b·M, a⟩ = bᵀ·M·a`. -/
theorem multilinear_tensor_eval (evals pt : List F) (k : Nat) (hk : k ≤ pt.length)
    (h : evals.length = 2 ^ pt.length) :
    dot (vecMat (tensorVec (pt.drop k)) (chunks (2 ^ k) (2 ^ (pt.length - k)) evals) (2 ^ k))
      (tensorVec (pt.take k)) = evalMLE evals pt := by
  have hflat : evals.length = 2 ^ (pt.length - k) * 2 ^ k := by
    rw [h, ← Nat.pow_add, Nat.sub_add_cancel hk]
  have hrow := chunks_row_length _ _ _ hflat
  have := MLPC.mleEval_eq_rows pt k (chunks (2 ^ k) (2 ^ (pt.length - k)) evals)
    (by rwa [Nat.min_eq_left hk]) (by rw [chunks_flatten _ _ _ hflat, h])
  rw [chunks_flatten _ _ _ hflat] at this
  rw [dot_vecMat _ _ _ _ hrow, evalMLE_eq, tensorVec_eq, tensorVec_eq, this]

theorem tensor_uni_lengths (z : F) (nCols nRows : Nat) (a b : List F)
    (h : tensor (Point.uni z) nCols nRows = .ok (a, b)) : a.length = nCols ∧ b.length = nRows := by
  simp only [tensor, tensorUni, Except.ok.injEq, Prod.mk.injEq] at h
  obtain ⟨rfl, rfl⟩ := h
  exact ⟨powers_length _ _ _, powers_length _ _ _⟩

theorem tensor_ml_lengths (pt : List F) (nCols nRows : Nat) (a b : List F)
    (h : tensor (Point.ml pt) nCols nRows = .ok (a, b)) :
    ceilLog2 nCols ≤ pt.length ∧ a.length = 2 ^ ceilLog2 nCols ∧
      b.length = 2 ^ (pt.length - ceilLog2 nCols) := by
  simp only [tensor, tensorML] at h
  split at h
  · rename_i hs
    simp only [Except.ok.injEq, Prod.mk.injEq] at h
    obtain ⟨rfl, rfl⟩ := h
    refine ⟨hs, ?_, ?_⟩
    · rw [tensorVec_length, List.length_take, Nat.min_eq_left hs]
    · rw [tensorVec_length, List.length_drop]
  · cases h

theorem tensor_ml_lengths_fit (pt : List F) (k : Nat) (a b : List F)
    (h : tensor (Point.ml pt) (2 ^ k) (2 ^ (pt.length - k)) = .ok (a, b)) :
    a.length = 2 ^ k ∧ b.length = 2 ^ (pt.length - k) := by
  obtain ⟨_, ha, hb⟩ := tensor_ml_lengths pt _ _ a b h
  rw [ceilLog2_two_pow] at ha hb
  exact ⟨ha, hb⟩

/-- **The point has the number of coordinates the matrix width asks for**: whenever `tensor` answers,
its `a` has one entry per column.  `open` never looks at `a`, `check` (fix D23) refuses unless it has
`n_cols` entries — so this is what an answered `open` needs to be accepted.  Always true for a
univariate point; for a multilinear point it says the width is a power of two (or the point too short
for `tensor` to answer): `pointFits_ml_iff`. -/
def PointFits (point : Point F) (nCols nRows : Nat) : Prop :=
  ∀ a b, tensor point nCols nRows = .ok (a, b) → a.length = nCols

theorem pointFits_uni (z : F) (nCols nRows : Nat) : PointFits (Point.uni z) nCols nRows :=
  fun a b h => (tensor_uni_lengths z nCols nRows a b h).1

theorem pointFits_ml_iff (pt : List F) (nCols nRows : Nat) :
    PointFits (Point.ml pt) nCols nRows ↔ pt.length < ceilLog2 nCols ∨ 2 ^ ceilLog2 nCols = nCols := by
  constructor
  · intro h
    by_cases hs : ceilLog2 nCols ≤ pt.length
    · right
      have := h (tensorVec (pt.take (ceilLog2 nCols))) (tensorVec (pt.drop (ceilLog2 nCols)))
        (by simp [tensor, tensorML, hs])
      rw [tensorVec_length, List.length_take, Nat.min_eq_left hs] at this
      exact this
    · exact Or.inl (Nat.lt_of_not_le hs)
  · rintro (h | h) a b hab
    · exact absurd (tensor_ml_lengths pt nCols nRows a b hab).1 (Nat.not_le_of_lt h)
    · obtain ⟨_, ha, _⟩ := tensor_ml_lengths pt nCols nRows a b hab
      rw [ha, h]

theorem pointFits_of_pow2 (point : Point F) (nCols nRows : Nat) (h : 2 ^ ceilLog2 nCols = nCols) :
    PointFits point nCols nRows := by
  cases point with
  | uni z => exact pointFits_uni z nCols nRows
  | ml pt => exact (pointFits_ml_iff pt nCols nRows).2 (Or.inr h)

end LinCode
end PCV
