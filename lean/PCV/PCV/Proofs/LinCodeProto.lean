/-
  PCV.Proofs.LinCodeProto — the protocol-level facts about the linear-code PCS model:
  what `commit` and `open` compute (`commit_ok`, `openOne_ok_iff`) and return for an honest prover,
  the exact acceptance condition of `check` (`checkPre_ok_iff`, `checkOne_eq_ok_iff`), and the verdict
  on the honest proof at any point and under any coefficients (`checkOne_honestProof_iff`).
-/
import PCV.Proofs.LinCode
import Mathlib.Data.List.Forall2

namespace PCV
namespace LinCode
open Merkle
variable {F : Type} [Field F] [DecidableEq F] {D : Type} [DecidableEq D]
set_option linter.unusedSectionVars false

theorem encodeRows_ok_iff {enc : List F → Except Err (List F)} {rows ws : List (List F)} :
    encodeRows enc rows = .ok ws ↔ List.Forall₂ (fun r w => enc r = .ok w) rows ws := by
  induction rows generalizing ws with
  | nil => simp only [encodeRows, Except.ok.injEq, List.forall₂_nil_left_iff]; exact eq_comm
  | cons r rs ih =>
    simp only [encodeRows, List.forall₂_cons_left_iff]
    split
    · rename_i h; simp only [h, reduceCtorEq, false_and, exists_false]
    · rename_i w h
      split
      · rename_i h'
        simp only [h, Except.ok.injEq, reduceCtorEq, false_iff, not_exists, not_and, ← ih, h',
          false_imp_iff, implies_true]
      · rename_i rest h'
        simp only [h, Except.ok.injEq, ← ih, h', exists_and_left, exists_eq_left', eq_comm (a := ws)]

theorem encodeRows_eq {enc : List F → Except Err (List F)} (E : List F → List F)
    {rows : List (List F)} (h : ∀ r ∈ rows, enc r = .ok (E r)) :
    encodeRows enc rows = .ok (rows.map E) :=
  encodeRows_ok_iff.2 (List.forall₂_map_right_iff.2 (List.forall₂_same.2 h))

theorem ofRows_ok {rows : List (List F)} {M : Mat F} (h : Mat.ofRows rows = .ok M) :
    M.rows = rows := by
  unfold Mat.ofRows at h
  split at h
  · cases h
  · split at h
    · cases h; rfl
    · cases h

theorem ofRows_map (E : List F → List F) (rows : List (List F)) (k : Nat) (hn : 0 < rows.length)
    (hk : ∀ r ∈ rows, (E r).length = k) :
    Mat.ofRows (rows.map E) = .ok ⟨rows.length, k, rows.map E⟩ := by
  match rows, hn with
  | r0 :: rest, _ =>
    simp only [List.map_cons, Mat.ofRows]
    have : (rest.map E).all (fun r => r.length == (E r0).length) = true := by
      simp only [List.all_eq_true, List.mem_map, beq_iff_eq]
      rintro r ⟨r', hr', rfl⟩
      rw [hk r' (by simp [hr']), hk r0 (by simp)]
    rw [this, hk r0 (by simp)]
    simp

/-- The hypotheses under which a polynomial is in the domain of the scheme, for an encoder that is
linear on messages of the matrix width: `pp.enc` computes a linear `E` (codeword length `k ≥ 2`) on
rows, and the matrix has at least one row. -/
structure Encodes (pp : Params F D) (coeffs : List F) (E : List F → List F) (k : Nat) : Prop where
  lin : IsLinear E (coeffMat pp.dims coeffs).m k
  enc : ∀ x, x.length = (coeffMat pp.dims coeffs).m → pp.enc x = .ok (E x)
  rows : 0 < (coeffMat pp.dims coeffs).n
  two : 2 ≤ k
  /-- the coefficient vector fits the matrix (in domain: not larger than the key was made for) -/
  fits : fitsDims pp.dims coeffs = true

/-- the encoded matrix of an honest commitment -/
def extOf (pp : Params F D) (coeffs : List F) (E : List F → List F) (k : Nat) : Mat F :=
  ⟨(coeffMat pp.dims coeffs).n, k, (coeffMat pp.dims coeffs).rows.map E⟩

/-- the commitment `commit` returns for `coeffs` (see `commit_eq`) -/
def commitC (pp : Params F D) (coeffs : List F) (E : List F → List F) (k : Nat) : Comm D :=
  ⟨(coeffMat pp.dims coeffs).n, (coeffMat pp.dims coeffs).m, k,
    merkleRoot pp.hs (leavesOf pp (extOf pp coeffs E k))⟩

/-- the state `commit` returns for `coeffs` -/
def commitSt (pp : Params F D) (coeffs : List F) (E : List F → List F) (k : Nat) : State F D :=
  ⟨coeffMat pp.dims coeffs, extOf pp coeffs E k, leavesOf pp (extOf pp coeffs E k)⟩

theorem leavesOf_length (pp : Params F D) (ext : Mat F) : (leavesOf pp ext).length = ext.m := by
  simp [leavesOf, Mat.cols]

theorem leavesOf_get (pp : Params F D) (ext : Mat F) (i : Nat) (h : i < ext.m) :
    (leavesOf pp ext)[i]? = some (pp.colHash (colOf ext.rows i)) := by
  simp [leavesOf, Mat.cols, h]

theorem honest_depth {pp : Params F D} {coeffs : List F} {E : List F → List F} {k : Nat}
    (h : Encodes pp coeffs E k) : 1 ≤ depth (leavesOf pp (extOf pp coeffs E k)) := by
  unfold depth
  rw [leavesOf_length]
  exact ceilLog2_pos h.two

theorem fitsDims_iff (dims : Nat → Nat × Nat) (coeffs : List F) :
    fitsDims dims coeffs = true ↔
      (coeffsOrZero coeffs).length
          ≤ (dims (coeffsOrZero coeffs).length).1 * (dims (coeffsOrZero coeffs).length).2 ∧
        ceilDiv (coeffsOrZero coeffs).length (dims (coeffsOrZero coeffs).length).1
          = (dims (coeffsOrZero coeffs).length).2 := by
  unfold fitsDims
  exact decide_eq_true_iff

theorem le_mul_ceilDiv (len n : Nat) (hn : 0 < n) : len ≤ n * ceilDiv len n := by
  unfold ceilDiv
  have h1 := Nat.div_add_mod (len + n - 1) n
  have h2 := Nat.mod_lt (len + n - 1) hn
  omega

/-- a shape law with `n > 0` and `m = ⌈len / n⌉` (Ligero's `compute_dimensions`) fits every
coefficient vector -/
theorem fitsDims_of_ceilDiv (dims : Nat → Nat × Nat) (coeffs : List F)
    (h : ∀ len, 0 < (dims len).1 ∧ (dims len).2 = ceilDiv len (dims len).1) :
    fitsDims dims coeffs = true := by
  rw [fitsDims_iff]
  obtain ⟨hn, hm⟩ := h (coeffsOrZero coeffs).length
  rw [hm]
  exact ⟨le_mul_ceilDiv _ _ hn, rfl⟩

theorem computeMatrices_oversize {pp : Params F D} {coeffs : List F}
    (h : fitsDims pp.dims coeffs = false) : computeMatrices pp coeffs = .error .abort := by
  unfold computeMatrices; rw [if_pos h]

theorem computeMatrices_eq {pp : Params F D} {coeffs : List F} {E : List F → List F} {k : Nat}
    (h : Encodes pp coeffs E k) :
    computeMatrices pp coeffs = .ok (coeffMat pp.dims coeffs, extOf pp coeffs E k) := by
  have hrl := coeffMat_row_length pp.dims coeffs
  unfold computeMatrices
  rw [if_neg (by rw [h.fits]; exact Bool.noConfusion)]
  simp only [computeMatricesCore, encodeRows_eq E fun r hr => h.enc r (hrl r hr),
    ofRows_map E (coeffMat pp.dims coeffs).rows k (by rw [coeffMat_rows_length]; exact h.rows)
      fun r hr => h.lin.len r (hrl r hr),
    extOf, coeffMat_rows_length]

theorem commit_eq (pp : Params F D) (coeffs : List F) (E : List F → List F) (k : Nat)
    (h : Encodes pp coeffs E k) :
    commit pp coeffs = .ok
      (⟨(coeffMat pp.dims coeffs).n, (coeffMat pp.dims coeffs).m, k,
          merkleRoot pp.hs (leavesOf pp (extOf pp coeffs E k))⟩,
       ⟨coeffMat pp.dims coeffs, extOf pp coeffs E k, leavesOf pp (extOf pp coeffs E k)⟩) := by
  unfold commit
  rw [computeMatrices_eq h]
  simp only
  rw [if_neg (Nat.pos_iff_ne_zero.1 (honest_depth h))]
  rfl

/-- **What an answered `commit` computed**, for any encoder (`depth st.leaves ≠ 0`: the tree has at
least two leaves). -/
theorem commit_ok {pp : Params F D} {coeffs : List F} {c : Comm D} {st : State F D}
    (h : commit pp coeffs = .ok (c, st)) :
    fitsDims pp.dims coeffs = true ∧ st.mat = coeffMat pp.dims coeffs ∧
    encodeRows pp.enc st.mat.rows = .ok st.extMat.rows ∧
    st.leaves = leavesOf pp st.extMat ∧ depth st.leaves ≠ 0 ∧
    c = ⟨st.mat.n, st.mat.m, st.extMat.m, merkleRoot pp.hs st.leaves⟩ := by
  unfold commit at h
  split at h
  · cases h
  rename_i mat ext hm
  simp only at h
  split at h
  · cases h
  rename_i hd
  cases h
  unfold computeMatrices at hm
  split at hm
  · cases hm
  rename_i hf
  unfold computeMatricesCore at hm
  simp only at hm
  split at hm
  · cases hm
  rename_i ws hws
  split at hm
  · cases hm
  rename_i ext' hext
  cases hm
  exact ⟨by simpa using hf, rfl, by rw [ofRows_ok hext]; exact hws, rfl, hd, rfl⟩

theorem commitAll_ok_iff {pp : Params F D} {polys : List (List F)}
    {css : List (Comm D × State F D)} :
    commitAll pp polys = .ok css ↔ List.Forall₂ (fun p cs => commit pp p = .ok cs) polys css := by
  induction polys generalizing css with
  | nil => simp only [commitAll, Except.ok.injEq, List.forall₂_nil_left_iff]; exact eq_comm
  | cons p ps ih =>
    simp only [commitAll, List.forall₂_cons_left_iff]
    split
    · rename_i h; simp only [h, reduceCtorEq, false_and, exists_false]
    · rename_i cs h
      split
      · rename_i h'
        simp only [h, Except.ok.injEq, reduceCtorEq, false_iff, not_exists, not_and, ← ih, h',
          false_imp_iff, implies_true]
      · rename_i rest h'
        simp only [h, Except.ok.injEq, ← ih, h', exists_and_left, exists_eq_left', eq_comm (a := css)]

theorem rowMul_ok_iff {M : Mat F} {v w : List F} :
    M.rowMul v = .ok w ↔ v.length = M.n ∧ w = vecMat v M.rows M.m := by
  unfold Mat.rowMul
  split <;> simp [*, eq_comm (a := w)]

theorem wfVector_ok_iff {checkWf : Bool} {M : Mat F} {r : List F} {wf : Option (List F)} :
    wfVector checkWf M r = .ok wf ↔
      (checkWf = true → r.length = M.n) ∧
        wf = if checkWf then some (vecMat r M.rows M.m) else none := by
  unfold wfVector Mat.rowMul
  cases checkWf
  · simp [eq_comm]
  · by_cases h : r.length = M.n <;> simp [h, eq_comm]

theorem openColumns_ok_iff {hs : Hashes D} {ext : Mat F} {leaves : List D} {idx : List Nat}
    {cp : List (List F) × List (Path D)} :
    openColumns hs ext leaves idx = .ok cp ↔
      (∀ i ∈ idx, i < ext.m ∧ sibIdx i < 2 ^ depth leaves) ∧
        cp = (idx.map (colOf ext.rows), idx.map (merklePath hs leaves)) := by
  induction idx generalizing cp with
  | nil =>
    simp only [openColumns, Except.ok.injEq, List.not_mem_nil, false_imp_iff, implies_true, true_and,
      List.map_nil]
    exact eq_comm
  | cons i is ih =>
    simp only [openColumns, List.forall_mem_cons, List.map_cons]
    split
    · rename_i h
      split
      · rename_i h'
        have := fun cp => (ih (cp := cp)).not.1 (by rw [h']; exact fun hh => nomatch hh)
        simp only [reduceCtorEq, false_iff, not_and]
        exact fun hh heq => this _ ⟨hh.2, rfl⟩
      · rename_i cols paths h'
        obtain ⟨h1, h2⟩ := ih.1 h'
        cases h2
        simp only [Except.ok.injEq, h, true_and, and_iff_right h1, eq_comm (a := cp)]
    · rename_i h
      simp only [reduceCtorEq, h, false_and]

/-- **When `open` answers, and with what**: the proof is `b·M`, the opened columns with their paths,
and `r·M` when well-formedness is checked. -/
theorem openOne_ok_iff {pp : Params F D} {point : Point F} {c : Comm D} {st : State F D}
    {o : Oracle F} {π : Proof F D} :
    openOne pp point c st o = .ok π ↔
      depth st.leaves ≠ 0 ∧ ∃ ab, tensor point c.nCols c.nRows = .ok ab ∧
        (pp.checkWf = true → o.r.length = st.mat.n) ∧ ab.2.length = st.mat.n ∧
        (∀ i ∈ o.indices, i < st.extMat.m ∧ sibIdx i < 2 ^ depth st.leaves) ∧
        π = ⟨⟨o.indices.map (merklePath pp.hs st.leaves), vecMat ab.2 st.mat.rows st.mat.m,
              o.indices.map (colOf st.extMat.rows)⟩,
             if pp.checkWf then some (vecMat o.r st.mat.rows st.mat.m) else none⟩ := by
  constructor
  · intro h
    unfold openOne at h
    split at h
    · cases h
    rename_i hd
    split at h
    · cases h
    rename_i ab hab
    split at h
    · cases h
    rename_i wf hwf
    split at h
    · cases h
    rename_i v hv
    split at h
    · cases h
    rename_i cp hcp
    cases h
    obtain ⟨hr, rfl⟩ := wfVector_ok_iff.1 hwf
    obtain ⟨hb, rfl⟩ := rowMul_ok_iff.1 hv
    obtain ⟨hi, rfl⟩ := openColumns_ok_iff.1 hcp
    exact ⟨hd, ab, hab, hr, hb, hi, rfl⟩
  · rintro ⟨hd, ab, ht, hr, hb, hi, rfl⟩
    unfold openOne
    rw [if_neg hd]
    simp only [ht, wfVector_ok_iff.2 ⟨hr, rfl⟩, rowMul_ok_iff.2 ⟨hb, rfl⟩,
      openColumns_ok_iff.2 ⟨hi, rfl⟩]

/-- the proof an honest prover sends -/
def honestProof (pp : Params F D) (coeffs : List F) (E : List F → List F) (k : Nat) (b : List F)
    (o : Oracle F) : Proof F D :=
  let M := coeffMat pp.dims coeffs
  ⟨⟨o.indices.map (merklePath pp.hs (leavesOf pp (extOf pp coeffs E k))),
    vecMat b M.rows M.m,
    o.indices.map (colOf (extOf pp coeffs E k).rows)⟩,
   if pp.checkWf then some (vecMat o.r M.rows M.m) else none⟩

theorem honest_position {pp : Params F D} {coeffs : List F} {E : List F → List F} {k : Nat}
    (h : Encodes pp coeffs E k) {i : Nat} (hi : i < k) :
    i < (extOf pp coeffs E k).m ∧ sibIdx i < 2 ^ depth (leavesOf pp (extOf pp coeffs E k)) := by
  refine ⟨hi, ?_⟩
  have hk : k ≤ 2 ^ depth (leavesOf pp (extOf pp coeffs E k)) := by
    unfold depth
    rw [leavesOf_length]
    exact ceilLog2_spec k
  obtain ⟨d, hd⟩ : ∃ d, depth (leavesOf pp (extOf pp coeffs E k)) = d + 1 :=
    ⟨_, (Nat.sub_add_cancel (honest_depth h)).symm⟩
  rw [hd, Nat.pow_succ, Nat.mul_comm] at hk ⊢
  exact sibIdx_lt (Nat.lt_of_lt_of_le hi hk)

/-- **What `open` returns** for the commitment and state of `commit_eq`. -/
theorem openOne_eq {pp : Params F D} {point : Point F} {coeffs : List F} {E : List F → List F}
    {k : Nat} (h : Encodes pp coeffs E k) {a b : List F} (o : Oracle F)
    (ht : tensor point (coeffMat pp.dims coeffs).m (coeffMat pp.dims coeffs).n = .ok (a, b))
    (hb : b.length = (coeffMat pp.dims coeffs).n)
    (hr : pp.checkWf = true → o.r.length = (coeffMat pp.dims coeffs).n)
    (hi : ∀ i ∈ o.indices, i < k) :
    openOne pp point (commitC pp coeffs E k) (commitSt pp coeffs E k) o
      = .ok (honestProof pp coeffs E k b o) :=
  openOne_ok_iff.2 ⟨Nat.pos_iff_ne_zero.1 (honest_depth h), (a, b), ht, hr, hb,
    fun i hi' => honest_position h (hi i hi'), rfl⟩

/-- the induction step of the positionwise characterisations of the loops of `check` -/
theorem forall_getElem?_cons {α : Type} (a : α) (l : List α) (P : Nat → α → Prop) :
    (∀ j x, (a :: l)[j]? = some x → P j x) ↔ P 0 a ∧ ∀ j x, l[j]? = some x → P (j + 1) x := by
  constructor
  · exact fun h => ⟨h 0 a rfl, fun j x hx => h (j + 1) x hx⟩
  · rintro ⟨h0, hs⟩ j x hx
    cases j with
    | zero => cases hx; exact h0
    | succ j => exact hs j x hx

theorem forall_getElem?_cons₂ {α β : Type} (a : α) (l : List α) (b : β) (m : List β)
    (P : Nat → α → β → Prop) :
    (∀ j x y, (a :: l)[j]? = some x → (b :: m)[j]? = some y → P j x y) ↔
      P 0 a b ∧ ∀ j x y, l[j]? = some x → m[j]? = some y → P (j + 1) x y := by
  constructor
  · exact fun h => ⟨h 0 a b rfl rfl, fun j x y hx hy => h (j + 1) x y hx hy⟩
  · rintro ⟨h0, hs⟩ j x y hx hy
    cases j with
    | zero => cases hx; cases hy; exact h0
    | succ j => exact hs j x y hx hy

theorem checkPaths_ok_iff {pp : Params F D} {root : D} {cols : List (List F)} {qs : List Nat}
    {ps : List (Path D)} :
    checkPaths pp root cols qs ps = .ok () ↔
      ∀ (j : Nat) col q, cols[j]? = some col → qs[j]? = some q →
        ∃ p, ps[j]? = some p ∧ p.leafIndex = q ∧ recomputeRoot pp.hs (pp.colHash col) p = root := by
  induction cols generalizing qs ps with
  | nil => exact ⟨fun _ _ _ _ hc => (nomatch hc), fun _ => rfl⟩
  | cons col cols ih =>
    cases qs with
    | nil => exact ⟨fun _ _ _ _ _ hq => (nomatch hq), fun _ => rfl⟩
    | cons q qs =>
      rw [forall_getElem?_cons₂]
      cases ps with
      | nil => exact ⟨fun h => (nomatch h), fun ⟨⟨_, h, _⟩, _⟩ => (nomatch h)⟩
      | cons p ps =>
        simp only [checkPaths, List.getElem?_cons_zero, List.getElem?_cons_succ, Option.some.injEq,
          exists_eq_left', ← verifyPath_iff]
        split
        · rename_i h
          simp only [reduceCtorEq, false_iff, not_and]
          exact fun hh => absurd hh.1 h
        · rename_i h1
          split
          · rename_i h2
            simp only [reduceCtorEq, h2, Bool.false_eq_true, and_false, false_and]
          · rename_i h2
            simp only [ih, ← verifyPath_iff, not_not.1 h1, Bool.not_eq_false] at h2 ⊢
            simp only [h2, and_self, true_and]

theorem checkEntry_ok_iff {a col w : List F} {idx : Nat} :
    checkEntry a col w idx = .ok () ↔ ∃ x, w[idx]? = some x ∧ dot a col = x := by
  unfold checkEntry
  cases hw : w[idx]? with
  | none => simp
  | some x =>
    simp only [Option.some.injEq, exists_eq_left']
    by_cases h : dot a col = x <;> simp [h]

theorem checkCols_ok_iff {rw : Option (List F × List F)} {b w : List F} {qs : List Nat}
    {cols : List (List F)} :
    checkCols rw b w qs cols = .ok () ↔
      ∀ (j : Nat) q, qs[j]? = some q → ∃ col, cols[j]? = some col ∧
        checkWfEntry rw col q = .ok () ∧ checkEntry b col w q = .ok () := by
  induction qs generalizing cols with
  | nil => exact ⟨fun _ _ _ hq => (nomatch hq), fun _ => rfl⟩
  | cons q qs ih =>
    rw [forall_getElem?_cons]
    cases cols with
    | nil => exact ⟨fun h => (nomatch h), fun ⟨⟨_, h, _⟩, _⟩ => (nomatch h)⟩
    | cons col cols =>
      simp only [checkCols, List.getElem?_cons_zero, List.getElem?_cons_succ, Option.some.injEq,
        exists_eq_left']
      split
      · rename_i h; simp only [h, reduceCtorEq, false_and]
      · rename_i h
        split
        · rename_i h'; simp only [h', reduceCtorEq, and_false, false_and]
        · rename_i h'; simp only [h, h', ih, true_and]

theorem checkCols_none_ok_iff {b w : List F} {qs : List Nat} {cols : List (List F)} :
    checkCols none b w qs cols = .ok () ↔
      ∀ (j : Nat) q, qs[j]? = some q → ∃ col x, cols[j]? = some col ∧ w[q]? = some x ∧
        dot b col = x := by
  simp only [checkCols_ok_iff, checkWfEntry, checkEntry_ok_iff, true_and, exists_and_left]

theorem checkCols_some_ok_iff {r ww b w : List F} {qs : List Nat} {cols : List (List F)} :
    checkCols (some (r, ww)) b w qs cols = .ok () ↔
      (∀ (j : Nat) q, qs[j]? = some q → ∃ col x, cols[j]? = some col ∧ w[q]? = some x ∧
        dot b col = x) ∧
      ∀ (j : Nat) q, qs[j]? = some q → ∃ col y, cols[j]? = some col ∧ ww[q]? = some y ∧
        dot r col = y := by
  simp only [checkCols_ok_iff, checkWfEntry, checkEntry_ok_iff]
  constructor
  · intro h
    constructor
    · intro j q hq
      obtain ⟨col, hc, _, x, hx⟩ := h j q hq
      exact ⟨col, x, hc, hx⟩
    · intro j q hq
      obtain ⟨col, hc, ⟨y, hy⟩, _⟩ := h j q hq
      exact ⟨col, y, hc, hy⟩
  · rintro ⟨h1, h2⟩ j q hq
    obtain ⟨col, x, hc, hx⟩ := h1 j q hq
    obtain ⟨col', y, hc', hy⟩ := h2 j q hq
    rw [hc] at hc'
    cases hc'
    exact ⟨col, hc, ⟨y, hy⟩, x, hx⟩

theorem readWf_ok_iff {checkWf : Bool} {nCols : Nat} {wf res : Option (List F)} :
    readWf checkWf nCols wf = .ok res ↔
      (checkWf = true ∧ ∃ w, wf = some w ∧ w.length = nCols ∧ res = some w) ∨
      (checkWf = false ∧ res = none) := by
  unfold readWf
  cases checkWf with
  | false => simp [eq_comm]
  | true =>
    cases wf with
    | none => simp
    | some w =>
      by_cases h : w.length = nCols
      · simp [h, eq_comm]
      · simp [h]

theorem encodeWf_none_ok_iff {enc : List F → Except Err (List F)} {r : List F}
    {res : Option (List F × List F)} : encodeWf enc r none = .ok res ↔ res = none := by
  simp [encodeWf, eq_comm]

theorem encodeWf_some_ok_iff {enc : List F → Except Err (List F)} {r w : List F}
    {res : Option (List F × List F)} :
    encodeWf enc r (some w) = .ok res ↔ ∃ ww, enc w = .ok ww ∧ res = some (r, ww) := by
  simp only [encodeWf]
  cases enc w with
  | error e => simp
  | ok ww => simp [eq_comm]

/-- **The published relation** of one opening: what `check` tests before the value, stated with
positions: lengths (of `v`, of the well-formedness vector, of the encoding of `v` against the
codeword length the commitment announces, and — fix D23 — of the two vectors of `tensor` against the
announced matrix shape: a point with the wrong number of coordinates is refused); for every opened
column, a Merkle path with the transcript's leaf position that recomputes the root; the opened
columns agree with the encodings of `v` (and, when well-formedness is checked, of the
well-formedness vector under the coefficients `r`) at the transcript positions.
`a` is the vector of `tensor`. -/
def PreRelation (pp : Params F D) (point : Point F) (c : Comm D) (π : Proof F D) (o : Oracle F)
    (a : List F) : Prop :=
  π.opening.v.length = c.nCols ∧
  (pp.checkWf = true → ∃ w, π.wf = some w ∧ w.length = c.nCols) ∧
  (∀ (j : Nat) col q, π.opening.columns[j]? = some col → o.indices[j]? = some q →
    ∃ p, π.opening.paths[j]? = some p ∧ p.leafIndex = q ∧
      recomputeRoot pp.hs (pp.colHash col) p = c.root) ∧
  ∃ w b, pp.enc π.opening.v = .ok w ∧ w.length = c.nExtCols ∧
    tensor point c.nCols c.nRows = .ok (a, b) ∧ a.length = c.nCols ∧ b.length = c.nRows ∧
    (∀ (j : Nat) q, o.indices[j]? = some q → ∃ col x, π.opening.columns[j]? = some col ∧
      w[q]? = some x ∧ dot b col = x) ∧
    (pp.checkWf = true → ∃ wf ww, π.wf = some wf ∧ pp.enc wf = .ok ww ∧
      ∀ (j : Nat) q, o.indices[j]? = some q → ∃ col y, π.opening.columns[j]? = some col ∧
        ww[q]? = some y ∧ dot o.r col = y)

theorem checkPre_ok_iff_steps {pp : Params F D} {point : Point F} {c : Comm D} {π : Proof F D}
    {o : Oracle F} {a : List F} :
    checkPre pp point c π o = .ok a ↔
      π.opening.v.length = c.nCols ∧
      ∃ wf, readWf pp.checkWf c.nCols π.wf = .ok wf ∧
      checkPaths pp c.root π.opening.columns o.indices π.opening.paths = .ok () ∧
      ∃ w, pp.enc π.opening.v = .ok w ∧ w.length = c.nExtCols ∧
      ∃ ab, tensor point c.nCols c.nRows = .ok ab ∧ ab.1.length = c.nCols ∧ ab.2.length = c.nRows ∧
      ∃ rw, encodeWf pp.enc o.r wf = .ok rw ∧
        checkCols rw ab.2 w o.indices π.opening.columns = .ok () ∧ ab.1 = a := by
  constructor
  · intro h
    unfold checkPre at h
    split at h
    · cases h
    rename_i hv
    split at h
    · cases h
    rename_i wf hwf
    split at h
    · cases h
    rename_i hp
    split at h
    · cases h
    rename_i w hw
    split at h
    · cases h
    rename_i hl
    split at h
    · cases h
    rename_i ab hab
    split at h
    · cases h
    rename_i hlen
    split at h
    · cases h
    rename_i rw hrw
    split at h
    · cases h
    rename_i hc
    cases h
    exact ⟨not_not.1 hv, wf, hwf, hp, w, hw, not_not.1 hl, ab, hab, not_not.1 (not_or.1 hlen).1,
      not_not.1 (not_or.1 hlen).2, rw, hrw, hc, rfl⟩
  · rintro ⟨hv, wf, hwf, hp, w, hw, hl, ab, hab, hla, hlb, rw, hrw, hc, rfl⟩
    unfold checkPre
    simp only [hv, hwf, hp, hw, hl, hab, hla, hlb, hrw, hc, ne_eq, not_true_eq_false, if_false,
      or_self]

/-- **`check` accepts the pre-value part exactly on the published relation.** -/
theorem checkPre_ok_iff {pp : Params F D} {point : Point F} {c : Comm D} {π : Proof F D}
    {o : Oracle F} {a : List F} :
    checkPre pp point c π o = .ok a ↔ PreRelation pp point c π o a := by
  rw [checkPre_ok_iff_steps]
  unfold PreRelation
  constructor
  · rintro ⟨hv, wf, hwf, hp, w, hw, hl, ab, ht, la, lb, rw, hrw, hc, rfl⟩
    rcases readWf_ok_iff.1 hwf with ⟨_, w0, hw0, hl0, rfl⟩ | ⟨hf, rfl⟩
    · -- flag on: `rw = some (r, E(wf))`, both column tests
      obtain ⟨ww, hww, rfl⟩ := encodeWf_some_ok_iff.1 hrw
      obtain ⟨h5, h6⟩ := checkCols_some_ok_iff.1 hc
      exact ⟨hv, fun _ => ⟨w0, hw0, hl0⟩, checkPaths_ok_iff.1 hp, w, ab.2, hw, hl, ht, la, lb, h5,
        fun _ => ⟨w0, ww, hw0, hww, h6⟩⟩
    · -- flag off: `rw = none`, the test against `E(v)` only
      have hoff : ¬ pp.checkWf = true := fun hon => Bool.false_ne_true (hf.symm.trans hon)
      cases encodeWf_none_ok_iff.1 hrw
      exact ⟨hv, fun hon => absurd hon hoff, checkPaths_ok_iff.1 hp, w, ab.2, hw, hl, ht, la, lb,
        checkCols_none_ok_iff.1 hc, fun hon => absurd hon hoff⟩
  · rintro ⟨hv, hwf, hp, w, b, hw, hl, ht, la, lb, h5, h6⟩
    cases hflag : pp.checkWf with
    | false =>
      exact ⟨hv, none, readWf_ok_iff.2 (Or.inr ⟨rfl, rfl⟩),
        checkPaths_ok_iff.2 hp, w, hw, hl, (a, b), ht, la, lb, none,
        encodeWf_none_ok_iff.2 rfl, checkCols_none_ok_iff.2 h5, rfl⟩
    | true =>
      obtain ⟨w0, hw0, hl0⟩ := hwf hflag
      obtain ⟨w1, ww, hw1, hww, h6'⟩ := h6 hflag
      cases hw0.symm.trans hw1
      exact ⟨hv, some w0, readWf_ok_iff.2 (Or.inl ⟨rfl, w0, hw0, hl0, rfl⟩),
        checkPaths_ok_iff.2 hp, w, hw, hl, (a, b), ht, la, lb, some (o.r, ww),
        encodeWf_some_ok_iff.2 ⟨ww, hww, rfl⟩,
        checkCols_some_ok_iff.2 ⟨h5, h6'⟩, rfl⟩

/-- **The answers of `check` on one opening**: it answers a `bool` exactly on the pre-value relation,
and the `bool` is the value test. -/
theorem checkOne_eq_ok_iff {pp : Params F D} {point : Point F} {c : Comm D} {value : F}
    {π : Proof F D} {o : Oracle F} {b : Bool} :
    checkOne pp point c value π o = .ok b ↔
      ∃ a, PreRelation pp point c π o a ∧ decide (dot π.opening.v a = value) = b := by
  unfold checkOne
  simp only [← checkPre_ok_iff]
  cases checkPre pp point c π o <;> simp

theorem checkOne_ok_true_iff {pp : Params F D} {point : Point F} {c : Comm D} {value : F}
    {π : Proof F D} {o : Oracle F} :
    checkOne pp point c value π o = .ok true ↔
      ∃ a, PreRelation pp point c π o a ∧ dot π.opening.v a = value := by
  simp only [checkOne_eq_ok_iff, decide_eq_true_eq]

theorem checkOne_error_of_not_pre {pp : Params F D} {point : Point F} {c : Comm D} {value : F}
    {π : Proof F D} {o : Oracle F} (h : ∀ a, ¬ PreRelation pp point c π o a) :
    ∃ e, checkOne pp point c value π o = .error e := by
  cases hk : checkOne pp point c value π o with
  | error e => exact ⟨e, rfl⟩
  | ok b =>
    obtain ⟨a, ha, _⟩ := checkOne_eq_ok_iff.1 hk
    exact absurd ha (h a)

theorem checkOne_value {pp : Params F D} {point : Point F} {c : Comm D} {value value' : F}
    {π : Proof F D} {o : Oracle F} (h : checkOne pp point c value π o = .ok true) :
    checkOne pp point c value' π o = .ok (decide (value' = value)) := by
  obtain ⟨a, ha, hv⟩ := checkOne_ok_true_iff.1 h
  exact checkOne_eq_ok_iff.2 ⟨a, ha, hv ▸ decide_eq_decide.2 eq_comm⟩

theorem checkOne_readWf_error {pp : Params F D} {point : Point F} {c : Comm D} {value : F}
    {π : Proof F D} {o : Oracle F}
    (h : readWf pp.checkWf c.nCols π.wf = .error .invalidCommitment) :
    checkOne pp point c value π o = .error .invalidCommitment := by
  unfold checkOne checkPre
  by_cases hv : π.opening.v.length ≠ c.nCols
  · rw [if_pos hv]
  · rw [if_neg hv, h]

theorem honest_path_recomputes {pp : Params F D} {coeffs : List F} {E : List F → List F} {k : Nat}
    (h : Encodes pp coeffs E k) {q : Nat} (hq : q < k) :
    recomputeRoot pp.hs (pp.colHash (colOf (extOf pp coeffs E k).rows q))
        (merklePath pp.hs (leavesOf pp (extOf pp coeffs E k)) q)
      = merkleRoot pp.hs (leavesOf pp (extOf pp coeffs E k)) :=
  (verifyPath_iff _ _ _ _).1 (merkle_verify_path pp.hs _ q _ (honest_depth h)
    (leavesOf_get pp (extOf pp coeffs E k) q hq))

theorem encode_vecMat_getElem? {E : List F → List F} {m k : Nat} (hE : IsLinear E m k) (v : List F)
    {rows : List (List F)} (hr : ∀ r ∈ rows, r.length = m) {q : Nat} (hq : q < k) :
    (E (vecMat v rows m))[q]? = some (dot v (colOf (rows.map E) q)) := by
  have hl : q < (E (vecMat v rows m)).length := by
    rw [hE.len _ (vecMat_length _ _ _)]; exact hq
  rw [List.getElem?_eq_getElem hl, col_inner_product hE v _ hr q hq, getD',
    List.getElem?_eq_getElem hl, Option.getD_some]

theorem colOf_length (rows : List (List F)) (j : Nat) : (colOf rows j).length = rows.length := by
  simp [colOf]

/-- The column tests of `check` on the columns of the encoded matrix against `E(v·M)` under `v'` say
that `v'` and `v` combine every opened column to the same entry. -/
theorem encoded_cols_iff {E : List F → List F} {m k : Nat} (hE : IsLinear E m k) (v v' : List F)
    {rows : List (List F)} (hr : ∀ r ∈ rows, r.length = m) {idx : List Nat}
    (hi : ∀ i ∈ idx, i < k) :
    (∀ (j q : Nat), idx[j]? = some q → ∃ col x,
        (idx.map (colOf (rows.map E)))[j]? = some col ∧ (E (vecMat v rows m))[q]? = some x ∧
        dot v' col = x) ↔
      ∀ q ∈ idx, dot v' (colOf (rows.map E) q) = dot v (colOf (rows.map E) q) := by
  constructor
  · intro hv q hq
    obtain ⟨j, hj⟩ := List.mem_iff_getElem?.1 hq
    obtain ⟨col, x, hc, hx, hd⟩ := hv j q hj
    rw [List.getElem?_map, hj] at hc
    cases hc
    cases (encode_vecMat_getElem? hE v hr (hi q hq)).symm.trans hx
    exact hd
  · intro hv j q hj
    have hq := List.mem_of_getElem? hj
    exact ⟨_, _, by rw [List.getElem?_map, hj]; rfl, encode_vecMat_getElem? hE v hr (hi q hq),
      hv q hq⟩

/-- **The honest proof under another point and other coefficients: exact condition.**  The proof
made for the row combination `b` and well-formedness coefficients `r`, checked at a point with
`tensor = (a', b')` under coefficients `r'` and the same positions, passes the pre-value tests iff
`a'`, `b'` have the lengths of the matrix (fix D23), `(b' − b)·M_ext[:, q] = 0` at every opened
position `q` and, when well-formedness is checked, `(r' − r)·M_ext[:, q] = 0` as well. -/
theorem honest_preRelation_iff {pp : Params F D} {point' : Point F} {coeffs : List F}
    {E : List F → List F} {k : Nat} (h : Encodes pp coeffs E k) {a' b b' a'' r r' : List F}
    {idx : List Nat}
    (ht : tensor point' (coeffMat pp.dims coeffs).m (coeffMat pp.dims coeffs).n = .ok (a', b'))
    (hi : ∀ i ∈ idx, i < k) :
    PreRelation pp point'
      (commitC pp coeffs E k)
      (honestProof pp coeffs E k b ⟨r, idx⟩) ⟨r', idx⟩ a'' ↔
    a'' = a' ∧ a'.length = (coeffMat pp.dims coeffs).m ∧ b'.length = (coeffMat pp.dims coeffs).n ∧
      (∀ q ∈ idx, dot b' (colOf (extOf pp coeffs E k).rows q)
        = dot b (colOf (extOf pp coeffs E k).rows q)) ∧
      (pp.checkWf = true → ∀ q ∈ idx, dot r' (colOf (extOf pp coeffs E k).rows q)
        = dot r (colOf (extOf pp coeffs E k).rows q)) := by
  have hrow := coeffMat_row_length pp.dims coeffs
  have henc (v : List F) := h.enc (vecMat v (coeffMat pp.dims coeffs).rows _) (vecMat_length _ _ _)
  have hwf (hc : pp.checkWf = true) : (honestProof pp coeffs E k b ⟨r, idx⟩).wf
      = some (vecMat r (coeffMat pp.dims coeffs).rows (coeffMat pp.dims coeffs).m) := by
    simp only [honestProof, hc, if_true]
  constructor
  · rintro ⟨_, _, _, w, b2, hw, _, ht2, hla, hlb, hcols, hwfc⟩
    cases ht.symm.trans ht2
    cases (henc b).symm.trans hw
    refine ⟨rfl, hla, hlb, (encoded_cols_iff h.lin b b' hrow hi).1 hcols, fun hc => ?_⟩
    obtain ⟨wf, ww, h1, h2, h3⟩ := hwfc hc
    cases (hwf hc).symm.trans h1
    cases (henc r).symm.trans h2
    exact (encoded_cols_iff h.lin r r' hrow hi).1 h3
  · rintro ⟨rfl, hla, hlb, hbb, hrr⟩
    refine ⟨vecMat_length _ _ _, fun hc => ⟨_, hwf hc, vecMat_length _ _ _⟩, ?_, _, b', henc b,
      h.lin.len _ (vecMat_length _ _ _), ht, hla, hlb, (encoded_cols_iff h.lin b b' hrow hi).2 hbb,
      fun hc => ⟨_, _, hwf hc, henc r, (encoded_cols_iff h.lin r r' hrow hi).2 (hrr hc)⟩⟩
    intro j col q hcj hqj
    simp only [honestProof, List.getElem?_map, hqj, Option.map_some, Option.some.injEq] at hcj ⊢
    subst hcj
    exact ⟨_, rfl, rfl, honest_path_recomputes h (hi q (List.mem_of_getElem? hqj))⟩

/-- **The verdict on the honest proof under another point and other coefficients**:
`honest_preRelation_iff` and the value test. -/
theorem checkOne_honestProof_iff {pp : Params F D} {point' : Point F} {coeffs : List F}
    {E : List F → List F} {k : Nat} (h : Encodes pp coeffs E k) {a' b b' r r' : List F}
    {idx : List Nat} {value : F}
    (ht : tensor point' (coeffMat pp.dims coeffs).m (coeffMat pp.dims coeffs).n = .ok (a', b'))
    (hi : ∀ i ∈ idx, i < k) :
    checkOne pp point'
      (commitC pp coeffs E k)
      value (honestProof pp coeffs E k b ⟨r, idx⟩) ⟨r', idx⟩ = .ok true ↔
    a'.length = (coeffMat pp.dims coeffs).m ∧ b'.length = (coeffMat pp.dims coeffs).n ∧
      (∀ q ∈ idx, dot b' (colOf (extOf pp coeffs E k).rows q)
        = dot b (colOf (extOf pp coeffs E k).rows q)) ∧
      (pp.checkWf = true → ∀ q ∈ idx, dot r' (colOf (extOf pp coeffs E k).rows q)
        = dot r (colOf (extOf pp coeffs E k).rows q)) ∧
      dot (vecMat b (coeffMat pp.dims coeffs).rows (coeffMat pp.dims coeffs).m) a' = value := by
  simp only [checkOne_ok_true_iff, honest_preRelation_iff h ht hi, and_assoc, exists_eq_left]
  rfl

/-- `ha`, `hb`: the vectors of `tensor` have the lengths of the matrix, which `check` tests (fix
D23); automatic for a univariate point, `tensor_uni_lengths`, and for a multilinear point on a
power-of-two shape, `tensor_ml_lengths_fit`. -/
theorem honest_preRelation {pp : Params F D} {point : Point F} {coeffs : List F}
    {E : List F → List F} {k : Nat} (h : Encodes pp coeffs E k) {a b : List F} (o : Oracle F)
    (ht : tensor point (coeffMat pp.dims coeffs).m (coeffMat pp.dims coeffs).n = .ok (a, b))
    (ha : a.length = (coeffMat pp.dims coeffs).m) (hb : b.length = (coeffMat pp.dims coeffs).n)
    (hi : ∀ i ∈ o.indices, i < k) :
    PreRelation pp point
      (commitC pp coeffs E k)
      (honestProof pp coeffs E k b o) o a :=
  (honest_preRelation_iff h ht hi).2
    ⟨rfl, ha, hb, fun _ _ => rfl, fun _ _ _ => rfl⟩

/-- `check` on one honest opening continues with `true` for the value `⟨b·M, a⟩`. -/
theorem checkOne_honest {pp : Params F D} {point : Point F} {coeffs : List F}
    {E : List F → List F} {k : Nat} (h : Encodes pp coeffs E k) {a b : List F} (o : Oracle F)
    (ht : tensor point (coeffMat pp.dims coeffs).m (coeffMat pp.dims coeffs).n = .ok (a, b))
    (ha : a.length = (coeffMat pp.dims coeffs).m) (hb : b.length = (coeffMat pp.dims coeffs).n)
    (hi : ∀ i ∈ o.indices, i < k) :
    checkOne pp point
      (commitC pp coeffs E k)
      (dot (vecMat b (coeffMat pp.dims coeffs).rows (coeffMat pp.dims coeffs).m) a)
      (honestProof pp coeffs E k b o) o = .ok true :=
  (checkOne_honestProof_iff h ht hi).2 ⟨ha, hb, fun _ _ => rfl, fun _ _ _ => rfl, rfl⟩

/-- the value the honest prover claims: `⟨b·M, a⟩` for `(a, b) = tensor(point)` -/
def claimed (pp : Params F D) (point : Point F) (coeffs : List F) : F :=
  match tensor point (coeffMat pp.dims coeffs).m (coeffMat pp.dims coeffs).n with
  | .ok ab => dot (vecMat ab.2 (coeffMat pp.dims coeffs).rows (coeffMat pp.dims coeffs).m) ab.1
  | .error _ => 0

/-- One polynomial and the sponge outputs of its opening are in the domain of the scheme:
the encoder is linear on the rows, `tensor` produces an `a` with one entry per column and a `b` with
one entry per row (a point with the right number of coordinates: `check` refuses any other, fix
D23), the sponge returned `n_rows` coefficients and positions inside the codeword. -/
structure HonestRun (pp : Params F D) (point : Point F) (coeffs : List F) (o : Oracle F) : Prop where
  enc : ∃ E k, Encodes pp coeffs E k ∧ ∀ i ∈ o.indices, i < k
  tens : ∃ a b, tensor point (coeffMat pp.dims coeffs).m (coeffMat pp.dims coeffs).n = .ok (a, b) ∧
    a.length = (coeffMat pp.dims coeffs).m ∧ b.length = (coeffMat pp.dims coeffs).n
  rlen : o.r.length = (coeffMat pp.dims coeffs).n

theorem openAll_length {pp : Params F D} {point : Point F} {cs : List (Comm D)}
    {sts : List (State F D)} {os : List (Oracle F)} {πs : List (Proof F D)}
    (h : openAll pp point cs sts os = .ok πs) :
    πs.length = (cs.zip (sts.zip os)).length := by
  induction cs generalizing sts os πs with
  | nil => cases h; rfl
  | cons c cs ih =>
    cases sts with
    | nil => cases h; rfl
    | cons st sts =>
      cases os with
      | nil => cases h; rfl
      | cons o os =>
        simp only [openAll] at h
        split at h
        · cases h
        · split at h
          · cases h
          · rename_i πs' hπs
            cases h
            simp only [List.zip_cons_cons, List.length_cons, ih hπs]

theorem checkAll_ok_true_iff {pp : Params F D} {point : Point F} {cs : List (Comm D)}
    {vals : List F} {πs : List (Proof F D)} {os : List (Oracle F)} :
    checkAll pp point cs vals πs os = .ok true ↔
      ∀ (i : Nat) c val, cs[i]? = some c → vals[i]? = some val →
        ∃ π o, πs[i]? = some π ∧ os[i]? = some o ∧ checkOne pp point c val π o = .ok true := by
  induction cs generalizing vals πs os with
  | nil => exact ⟨fun _ _ _ _ hc => (nomatch hc), fun _ => rfl⟩
  | cons c cs ih =>
    cases vals with
    | nil => exact ⟨fun _ _ _ _ _ hv => (nomatch hv), fun _ => rfl⟩
    | cons val vals =>
      rw [forall_getElem?_cons₂]
      cases πs with
      | nil => exact ⟨fun h => (nomatch h), fun ⟨⟨_, _, h, _⟩, _⟩ => (nomatch h)⟩
      | cons π πs =>
        cases os with
        | nil => exact ⟨fun h => (nomatch h), fun ⟨⟨_, _, _, h, _⟩, _⟩ => (nomatch h)⟩
        | cons o os =>
          simp only [checkAll, List.getElem?_cons_zero, List.getElem?_cons_succ, Option.some.injEq,
            exists_and_left, exists_eq_left']
          split
          · rename_i h; simp only [h, reduceCtorEq, false_and]
          · rename_i h; simp only [h, Except.ok.injEq, Bool.false_eq_true, false_and]
          · rename_i h; simp only [h, true_and, ih, exists_and_left]

end LinCode
end PCV
