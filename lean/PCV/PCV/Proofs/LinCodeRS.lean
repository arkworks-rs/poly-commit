/-
  PCV.Proofs.LinCodeRS — a map that commutes with linear combinations (`Lin`; the Reed–Solomon and
  Brakedown encoders: `lin_evalAt`, `lin_encodeCore` in `Proofs/BrakedownEnc.lean`) satisfies the
  `IsLinear` hypothesis under which the linear-code PCS theorems are stated.
-/
import PCV.Proofs.LinCodeProto
import PCV.Proofs.BrakedownEnc

namespace PCV
namespace LinCode
variable {F : Type} [Field F]

theorem vadd_eq_lc (x y : List F) : vadd x y = lc 1 x 1 y := by
  simp [vadd, lc]

theorem vscale_eq_lc (c : F) (x : List F) : vscale c x = lc c x 0 x := by
  induction x with
  | nil => simp [vscale]
  | cons a x ih => simp only [vscale, List.map_cons, lc_cons] at ih ⊢; rw [ih]; simp

theorem isLinear_of_lin {f : List F → List F} (hf : Lin f) (m k : Nat)
    (hl : ∀ x, x.length = m → (f x).length = k) : IsLinear f m k where
  add x y hx hy := by
    rw [vadd_eq_lc, vadd_eq_lc, (hf 1 1 x y (by rw [hx, hy])).1]
  smul c x hx := by
    rw [vscale_eq_lc, vscale_eq_lc, (hf c 0 x x rfl).1]
  len := hl

end LinCode
end PCV
