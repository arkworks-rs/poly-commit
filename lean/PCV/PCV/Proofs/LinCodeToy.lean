/-
  PCV.Proofs.LinCodeToy — a tiny concrete instance of the linear-code PCS over `K = ZMod 101` for the
  non-vacuity examples: the repetition code `x ↦ x ++ x`, a toy column hash and toy Merkle hashes
  into `ℕ`, a coefficient matrix of two rows (`2 × 2` for three or four coefficients), and the same
  with the shape frozen at `2 × 2` (`toyFixedPP`, the Brakedown situation).
-/
import PCV.Proofs.LinCodeProto
import PCV.Props.Examples

namespace PCV
namespace LinCode
open Merkle

theorem rep_isLinear {F : Type} [Field F] (m : Nat) : IsLinear (fun x : List F => x ++ x) m (2 * m) where
  add x y hx hy := by
    simp only [vadd]
    rw [List.zipWith_append (by rw [hx, hy])]
  smul c x _ := by simp [vscale]
  len x hx := by rw [List.length_append, hx, Nat.two_mul]

def toyE (x : List K) : List K := x ++ x

def toyHashes : Hashes Nat :=
  ⟨fun d => d + 1, fun a b => 2 * a + 3 * b + 1, fun a b => 5 * a + 7 * b + 2, 0⟩

/-- two rows and, as in Ligero's `compute_dimensions`, `m = ⌈len / 2⌉` columns (`2 × 2` matrices for
three or four coefficients, 4 extended columns; `2 × 1` for the zero polynomial `[0]`), repetition
code, well-formedness flag `wf` -/
def toyPP (wf : Bool) : Params K Nat :=
  { enc := fun x => .ok (toyE x)
    dims := fun len => (2, ceilDiv len 2)
    colHash := fun col => col.foldr (fun x acc => x.val + 101 * acc) 1
    hs := toyHashes
    checkWf := wf }

/-- the same code with the shape frozen at `2 × 2` whatever the polynomial (Brakedown's
`compute_dimensions`: the shape is a constant of the parameters, made for three or four coefficients) -/
def toyFixedPP (wf : Bool) : Params K Nat := { toyPP wf with dims := fun _ => (2, 2) }

theorem toy_width (coeffs : List K) (hfit : 3 ≤ coeffs.length ∧ coeffs.length ≤ 4) :
    ceilDiv (coeffsOrZero coeffs).length 2 = 2 := by
  have hl : (coeffsOrZero coeffs).length = coeffs.length := by
    unfold coeffsOrZero
    cases coeffs with
    | nil => exact absurd hfit.1 (by decide)
    | cons x xs => rfl
  rw [hl]
  exact Nat.div_eq_of_lt_le (Nat.succ_le_succ hfit.1) (Nat.succ_lt_succ (Nat.lt_succ_of_le hfit.2))

/-- three or four coefficients: the matrix is `2 × 2`, the codewords have length 4 (the width of the
matrix is `⌈len / 2⌉`, fix D25, so shorter vectors get a `2 × 1` matrix and codewords of length 2) -/
theorem toy_encodes (wf : Bool) (coeffs : List K) (hfit : 3 ≤ coeffs.length ∧ coeffs.length ≤ 4) :
    Encodes (toyPP wf) coeffs toyE 4 where
  lin := by
    have : (coeffMat (toyPP wf).dims coeffs).m = 2 := by
      rw [coeffMat_m]; exact toy_width coeffs hfit
    rw [this]; exact rep_isLinear 2
  enc _ _ := rfl
  rows := by simp [coeffMat_n, toyPP]
  two := by omega
  fits := fitsDims_of_ceilDiv _ _ (fun _ => ⟨by simp [toyPP], rfl⟩)

/-- run `commit`, `open`, `check` of the model on one polynomial -/
def toyRun (wf : Bool) (point : Point K) (coeffs : List K) (o : Oracle K) (value : K) :
    Except Err Bool :=
  match commit (toyPP wf) coeffs with
  | .error e => .error e
  | .ok (c, st) =>
    match openOne (toyPP wf) point c st o with
    | .error e => .error e
    | .ok π => checkOne (toyPP wf) point c value π o

/-- the same run with the proof transformed before it reaches the verifier -/
def toyRunWith (wf : Bool) (point : Point K) (coeffs : List K) (o : Oracle K) (value : K)
    (f : Proof K Nat → Proof K Nat) : Except Err Bool :=
  match commit (toyPP wf) coeffs with
  | .error e => .error e
  | .ok (c, st) =>
    match openOne (toyPP wf) point c st o with
    | .error e => .error e
    | .ok π => checkOne (toyPP wf) point c value (f π) o

example : toyRun true (.uni 5) [1, 2, 3] ⟨[7, 9], [2, 0, 3]⟩ (evalPoly [1, 2, 3] 5) = .ok true := by
  decide +kernel

end LinCode
end PCV
