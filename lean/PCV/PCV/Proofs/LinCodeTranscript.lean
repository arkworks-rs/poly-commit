/-
  PCV.Proofs.LinCodeTranscript — lemmas about the transcript view of the linear-code PCS
  (`Model/LinCodeTranscript.lean`): prover and verifier both run `transcriptOne` (a function of what
  is absorbed), projection to the oracle-list model (`Model/LinCode.lean`), lock-step.
-/
import PCV.Proofs.LinCodeProto
import PCV.Model.LinCodeTranscript

set_option linter.unusedSectionVars false

namespace PCV
namespace LinCode
open Merkle
variable {F : Type} [Field F] {D : Type}

/-- the events of `get_indices_from_sponge`: `t` pairs (squeeze `get_num_bytes(n)` bytes, absorb
them), and `t` positions below `n` -/
theorem getIndicesT_spec {ro : TRO F D} {n t : Nat} {s : TLog F D} {idx : List Nat} {s' : TLog F D}
    (h : getIndicesT ro n t s = .ok (idx, s')) :
    idx.length = t ∧ s'.length = s.length + 2 * t ∧ (∀ i ∈ idx, i < n) := by
  induction t generalizing s idx s' with
  | zero =>
    cases h
    simp
  | succ t ih =>
    simp only [getIndicesT] at h
    split at h
    · cases h
    rename_i hn
    split at h
    · cases h
    rename_i rest s2 hr
    cases h
    obtain ⟨i1, i2, i3⟩ := ih hr
    refine ⟨by rw [List.length_cons, i1], ?_, ?_⟩
    · rw [i2]
      simp only [Sponge.absorb, Sponge.squeezeBytes, List.length_append, List.length_cons,
        List.length_nil]
      omega
    · intro i hi
      rcases List.mem_cons.1 hi with rfl | hi
      · exact Nat.mod_lt _ (Nat.pos_of_ne_zero hn)
      · exact i3 i hi

theorem getIndicesT_total (ro : TRO F D) (n t : Nat) (hn : n ≠ 0) (s : TLog F D) :
    ∃ idx s', getIndicesT ro n t s = .ok (idx, s') := by
  induction t generalizing s with
  | zero => exact ⟨[], s, rfl⟩
  | succ t ih =>
    obtain ⟨idx, s', h⟩ := ih (Sponge.absorb (Sponge.squeezeBytes ro s (getNumBytes n)).2
      (.idxBytes (Sponge.squeezeBytes ro s (getNumBytes n)).1))
    exact ⟨indexOfBytes n (Sponge.squeezeBytes ro s (getNumBytes n)).1 :: idx, s',
      by simp only [getIndicesT, if_neg hn, h]⟩

variable [DecidableEq F] [DecidableEq D]

theorem proverWf_ok_iff {ro : TRO F D} {checkWf : Bool} {nRows : Nat} {mat : Mat F} {s : TLog F D}
    {r : List F} {wf : Option (List F)} {s' : TLog F D} :
    proverWf ro checkWf nRows mat s = .ok (r, wf, s') ↔
      wfVector checkWf mat r = .ok wf ∧ verifierWf ro wf nRows s = (r, s') := by
  unfold proverWf
  rw [wfVector_ok_iff]
  cases checkWf with
  | false =>
    simp only [Bool.false_eq_true, if_false, Except.ok.injEq, Prod.mk.injEq, false_imp_iff, true_and]
    constructor
    · rintro ⟨rfl, rfl, rfl⟩; exact ⟨rfl, rfl⟩
    · rintro ⟨rfl, h⟩; cases h; exact ⟨rfl, rfl, rfl⟩
  | true =>
    simp only [if_true, true_imp_iff]
    constructor
    · intro h
      split at h
      · cases h
      · rename_i v hv
        cases h
        obtain ⟨hl, rfl⟩ := rowMul_ok_iff.1 hv
        exact ⟨⟨hl, rfl⟩, rfl⟩
    · rintro ⟨⟨hl, rfl⟩, h⟩
      cases h
      rw [rowMul_ok_iff.2 ⟨hl, rfl⟩]

theorem proverWf_total (ro : TRO F D) (checkWf : Bool) (mat : Mat F) (s : TLog F D) :
    ∃ r wf s', proverWf ro checkWf mat.n mat s = .ok (r, wf, s') ∧
      (checkWf = true → r.length = mat.n) := by
  unfold proverWf
  cases checkWf with
  | false => exact ⟨[], none, s, rfl, fun h => nomatch h⟩
  | true =>
    exact ⟨_, _, _, by simp only [if_true, Mat.rowMul, Sponge.squeezeField, List.length_map,
      List.length_range]; rfl, fun _ => by simp⟩

/-- `verifierWf` is the well-formedness block of `transcriptOne` -/
theorem transcriptOne_eq (ro : TRO F D) (nRows nExt t : Nat) (root : D) (wf : Option (List F))
    (pointVec v : List F) (s : TLog F D) :
    transcriptOne ro nRows nExt t root wf pointVec v s =
      match getIndicesT ro nExt t
          (Sponge.absorb (Sponge.absorb (verifierWf ro wf nRows (Sponge.absorb s (.root root))).2
            (.pointVec pointVec)) (.openVec v)) with
      | .error e => .error e
      | .ok (indices, s5) =>
        .ok ((verifierWf ro wf nRows (Sponge.absorb s (.root root))).1, indices, s5) := by
  unfold transcriptOne verifierWf
  cases wf <;> rfl

/-- **`open` on a sponge = `open` on the oracle outputs it squeezes**, and its transcript is
`transcriptOne` of what it absorbs: the root, the vectors it then SENDS (`π.wf`, `π.opening.v`) and
the point. -/
theorem openOneT_spec {ro : TRO F D} {tp : TParams F D} {point : Point F} {c : Comm D}
    {st : State F D} {s : TLog F D} {π : Proof F D} {s' : TLog F D}
    (h : openOneT ro tp point c st s = .ok (π, s')) :
    ∃ t r idx, tp.tOf st.extMat.m = .ok t ∧ openOne tp.pp point c st ⟨r, idx⟩ = .ok π ∧
      transcriptOne ro c.nRows st.extMat.m t c.root π.wf point.toVec π.opening.v s
        = .ok (r, idx, s') := by
  simp only [openOneT] at h
  split at h
  · cases h
  split at h
  · cases h
  rename_i ab hab
  split at h
  · cases h
  rename_i r wf s2 hwf
  split at h
  · cases h
  rename_i t ht
  split at h
  · cases h
  rename_i v hv
  split at h
  · cases h
  rename_i idx s5 hgi
  split at h
  · cases h
  rename_i π' ho
  cases h
  refine ⟨t, r, idx, ht, ho, ?_⟩
  -- the vectors absorbed are the ones of the proof
  obtain ⟨hwf1, hwf2⟩ := proverWf_ok_iff.1 hwf
  obtain ⟨_, ab', hab', _, _, _, rfl⟩ := openOne_ok_iff.1 ho
  cases hab.symm.trans hab'
  obtain ⟨_, rfl⟩ := rowMul_ok_iff.1 hv
  obtain ⟨_, rfl⟩ := wfVector_ok_iff.1 hwf1
  rw [transcriptOne_eq, hwf2, hgi]

section Dec

theorem readWf_usedWf {checkWf : Bool} {nCols : Nat} {wf res : Option (List F)}
    (h : readWf checkWf nCols wf = .ok res) : res = usedWf checkWf wf := by
  rcases readWf_ok_iff.1 h with ⟨rfl, w, rfl, _, rfl⟩ | ⟨rfl, rfl⟩ <;> rfl

/-- `check` answers only when the tests that precede the transcript in `check` on a sponge pass -/
theorem checkOne_ok_readWf {pp : Params F D} {point : Point F} {c : Comm D} {value : F}
    {π : Proof F D} {o : Oracle F} {b : Bool} (h : checkOne pp point c value π o = .ok b) :
    π.opening.v.length = c.nCols ∧
      readWf pp.checkWf c.nCols π.wf = .ok (usedWf pp.checkWf π.wf) := by
  unfold checkOne at h
  split at h
  · cases h
  rename_i a ha
  obtain ⟨hv, wf, hwf, _⟩ := checkPre_ok_iff_steps.1 ha
  exact ⟨hv, readWf_usedWf hwf ▸ hwf⟩

/-- **`check` on a sponge = `check` on the oracle outputs it squeezes**; its transcript is
`transcriptOne` of the root, the point and the vectors `wf` (when the flag is on) and `v` it read in
the proof. -/
theorem checkOneT_ok_iff {ro : TRO F D} {tp : TParams F D} {point : Point F} {c : Comm D}
    {value : F} {π : Proof F D} {s : TLog F D} {b : Bool} {s' : TLog F D} :
    checkOneT ro tp point c value π s = .ok (b, s') ↔
      ∃ t r idx, tp.tOf c.nExtCols = .ok t ∧
        transcriptOne ro c.nRows c.nExtCols t c.root (usedWf tp.pp.checkWf π.wf) point.toVec
          π.opening.v s = .ok (r, idx, s') ∧
        checkOne tp.pp point c value π ⟨r, idx⟩ = .ok b := by
  simp only [transcriptOne_eq]
  constructor
  · intro h
    unfold checkOneT at h
    split at h
    · cases h
    rename_i t ht
    split at h
    · cases h
    split at h
    · cases h
    rename_i wf hwf
    cases readWf_usedWf hwf
    simp only at h
    split at h
    · cases h
    rename_i idx s5 hgi
    split at h
    · cases h
    rename_i b' hk
    cases h
    exact ⟨t, _, idx, ht, by rw [hgi], hk⟩
  · rintro ⟨t, r, idx, ht, htr, hk⟩
    obtain ⟨hv, hwf⟩ := checkOne_ok_readWf hk
    split at htr
    · cases htr
    rename_i idx' s5 hgi
    cases htr
    unfold checkOneT
    simp only [ht, hv, ne_eq, not_true_eq_false, if_false, hwf, hgi, hk]

theorem transcriptOne_lt {ro : TRO F D} {nRows nExt t : Nat} {root : D} {wf : Option (List F)}
    {pointVec v : List F} {s : TLog F D} {r : List F} {idx : List Nat} {s' : TLog F D}
    (h : transcriptOne ro nRows nExt t root wf pointVec v s = .ok (r, idx, s')) :
    ∀ i ∈ idx, i < nExt := by
  rw [transcriptOne_eq] at h
  split at h
  · cases h
  · rename_i hgi
    cases h
    exact (getIndicesT_spec hgi).2.2

/-- **What an answered honest `open` on a sponge returned**: the honest proof for the oracle
outputs `(r, idx)` that `transcriptOne` squeezes. -/
theorem openOneT_honest {ro : TRO F D} {tp : TParams F D} {point : Point F} {coeffs : List F}
    {E : List F → List F} {k : Nat} {s : TLog F D} {π : Proof F D} {s' : TLog F D}
    (ho : openOneT ro tp point (commitC tp.pp coeffs E k) (commitSt tp.pp coeffs E k) s = .ok (π, s')) :
    ∃ t r idx ab, tp.tOf k = .ok t ∧
      tensor point (coeffMat tp.pp.dims coeffs).m (coeffMat tp.pp.dims coeffs).n = .ok ab ∧
      ab.2.length = (coeffMat tp.pp.dims coeffs).n ∧
      π = honestProof tp.pp coeffs E k ab.2 ⟨r, idx⟩ ∧ (∀ i ∈ idx, i < k) ∧
      transcriptOne ro (coeffMat tp.pp.dims coeffs).n k t
        (merkleRoot tp.pp.hs (leavesOf tp.pp (extOf tp.pp coeffs E k))) π.wf point.toVec
        π.opening.v s = .ok (r, idx, s') ∧
      usedWf tp.pp.checkWf π.wf = π.wf := by
  obtain ⟨t, r, idx, ht, hop, htr⟩ := openOneT_spec ho
  obtain ⟨_, ab, hten, _, hbl, _, hπ⟩ := openOne_ok_iff.1 hop
  refine ⟨t, r, idx, ab, ht, hten, hbl, hπ, transcriptOne_lt htr, htr, ?_⟩
  rw [hπ]
  unfold usedWf
  cases tp.pp.checkWf <;> rfl

/-- **Lock-step of one opening.**  For a polynomial in the domain (linear row encoder) and a point
with the number of coordinates the matrix width asks for (`PointFits`: automatic for a univariate
point and for a power-of-two width; fix D23 — `open` does not look at the vector `a` of
`tensor`, `check` refuses when its length is not `n_cols`): if `open` answers on a sponge, `check` on
the same prior history accepts the claimed value and ends with EXACTLY the prover's sponge. -/
theorem oneT_lockstep {ro : TRO F D} {tp : TParams F D} {point : Point F} {coeffs : List F}
    {E : List F → List F} {k : Nat} (h : Encodes tp.pp coeffs E k)
    (hfit : PointFits point (coeffMat tp.pp.dims coeffs).m (coeffMat tp.pp.dims coeffs).n)
    {s : TLog F D} {π : Proof F D} {s' : TLog F D}
    (ho : openOneT ro tp point (commitC tp.pp coeffs E k) (commitSt tp.pp coeffs E k) s = .ok (π, s')) :
    checkOneT ro tp point (commitC tp.pp coeffs E k) (claimed tp.pp point coeffs) π s
      = .ok (true, s') := by
  obtain ⟨t, r, idx, ab, ht, hten, hbl, hπ, hidx, htr, hu⟩ := openOneT_honest ho
  have hcl : claimed tp.pp point coeffs
      = dot (vecMat ab.2 (coeffMat tp.pp.dims coeffs).rows (coeffMat tp.pp.dims coeffs).m) ab.1 := by
    simp only [claimed, hten]
  rw [checkOneT_ok_iff]
  refine ⟨t, r, idx, ht, hu.symm ▸ htr, ?_⟩
  rw [hcl, hπ]
  exact checkOne_honest h ⟨r, idx⟩ hten (hfit ab.1 ab.2 hten) hbl hidx

/-- the polynomial is in the domain, and the commitment and state are the ones `commit` returns for it -/
def HonestTriple (pp : Params F D) (coeffs : List F) (c : Comm D) (st : State F D) : Prop :=
  ∃ E k, Encodes pp coeffs E k ∧ c = commitC pp coeffs E k ∧ st = commitSt pp coeffs E k

/-- **Lock-step of `open` / `check`** over a list of (polynomial, commitment, state) triples, at a
point that fits the width of every matrix (`PointFits`, see `oneT_lockstep`). -/
theorem allT_lockstep (ro : TRO F D) (tp : TParams F D) (point : Point F)
    (ts : List (List F × Comm D × State F D))
    (hh : ∀ t ∈ ts, HonestTriple tp.pp t.1 t.2.1 t.2.2)
    (hfit : ∀ t ∈ ts, PointFits point (coeffMat tp.pp.dims t.1).m (coeffMat tp.pp.dims t.1).n) :
    ∀ (s : TLog F D) (πs : List (Proof F D)) (s' : TLog F D),
      openAllT ro tp point (ts.map (·.2.1)) (ts.map (·.2.2)) s = .ok (πs, s') →
      checkAllT ro tp point (ts.map (·.2.1)) (ts.map fun t => claimed tp.pp point t.1) πs s
        = .ok (true, s') := by
  induction ts with
  | nil =>
    intro s πs s' h
    cases h
    rfl
  | cons t ts ih =>
    intro s πs s' h
    obtain ⟨coeffs, c, st⟩ := t
    simp only [List.map_cons, openAllT] at h
    split at h
    · cases h
    rename_i π s1 ho
    split at h
    · cases h
    rename_i πs' s2 hr
    cases h
    obtain ⟨E, k, hE, hc, hst⟩ := hh (coeffs, c, st) List.mem_cons_self
    simp only at hc hst
    subst hc hst
    simp only [List.map_cons, checkAllT,
      oneT_lockstep hE (hfit (coeffs, _, _) List.mem_cons_self) ho]
    exact ih (fun t' ht' => hh t' (List.mem_cons_of_mem _ ht'))
      (fun t' ht' => hfit t' (List.mem_cons_of_mem _ ht')) s1 πs' _ hr

end Dec

end LinCode
end PCV
