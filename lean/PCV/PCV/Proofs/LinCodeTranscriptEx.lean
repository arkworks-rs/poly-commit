/-
  PCV.Proofs.LinCodeTranscriptEx — a concrete linear-code history over `ZMod 101` for the non-vacuity
  examples of `Props/C11_LinCode.lean`: the toy instance of `Proofs/LinCodeToy.lean` (`2 × 2` matrices,
  repetition code), `t = 3` opened columns, an oracle that depends on the length of the history, two
  committed univariate polynomials, three operations on one sponge.
-/
import PCV.Proofs.LinCodeHistory
import PCV.Proofs.LinCodeToy

namespace PCV
namespace LinCode
namespace TEx
open TraitDefault Merkle

def ro : TRO K Nat :=
  ⟨fun h i => ((h.length * 7 + i + 3 : Nat) : K), fun h i => (h.length * 5 + i) % 256⟩
/-- toy parameters with `calculate_t = min 3 n` -/
def tp (wf : Bool) : TParams K Nat := ⟨toyPP wf, fun n => .ok (min 3 n)⟩
def polys : List (LPoly K) := [⟨[97], [1, 2, 3]⟩, ⟨[98], [4, 0, 0, 5]⟩]
def sts (wf : Bool) : List (State K Nat) := polys.map fun p => commitSt (toyPP wf) p.coeffs toyE 4
def comms (wf : Bool) : List (LComm Nat) :=
  polys.map fun p => ⟨p.label, commitC (toyPP wf) p.coeffs toyE 4⟩
def trips (wf : Bool) := polyStComm polys (sts wf) (comms wf)

/-- an order of the point type: univariate points before multilinear ones, then canonical
representatives lexicographically -/
def encPt : Point K → List Nat
  | .uni z => [0, z.val]
  | .ml pt => 1 :: pt.map ZMod.val
def ltPt (a b : Point K) : Bool := decide (encPt a < encPt b)

theorem encPt_inj : Function.Injective encPt := by
  intro a b h
  cases a with
  | uni x =>
    cases b with
    | uni y =>
      simp only [encPt, List.cons.injEq, true_and, and_true] at h
      rw [ZMod.val_injective 101 h]
    | ml q => simp [encPt] at h
  | ml p =>
    cases b with
    | uni y => simp [encPt] at h
    | ml q =>
      simp only [encPt, List.cons.injEq, true_and] at h
      rw [List.map_injective_iff.2 (ZMod.val_injective 101) h]

theorem ltPt_strict : QS.StrictTotal ltPt := by
  constructor
  · intro a b c h1 h2
    simp only [ltPt, decide_eq_true_eq] at h1 h2 ⊢
    exact lt_trans h1 h2
  · intro a b hne h
    simp only [ltPt, decide_eq_true_eq, decide_eq_false_iff_not] at h ⊢
    rcases lt_trichotomy (encPt a) (encPt b) with h' | h' | h'
    · exact absurd h' h
    · exact absurd (encPt_inj h') hne
    · exact h'

theorem ltPt_irrefl : ∀ a, ltPt a a = false := by
  intro a; simp [ltPt]

def ops : List (TrHistory.Op (Point K) K (LPoly K) (State K Nat) (LComm Nat)) :=
  [.single ((trips true).take 1) (.uni 5),
   .batch [([97], ([120], .uni 5)), ([98], ([120], .uni 5)), ([98], ([121], .uni 6))],
   .combo [⟨[101], [(2, .poly [97]), (5, .poly [98]), (1, .one)]⟩] [([101], ([122], .uni 4))]]

def vops : List (TrHistory.VOp (Point K) K (LComm Nat)) :=
  [.single ((comms true).take 1) (.uni 5) [evalPoly [1, 2, 3] 5],
   .batch [([97], ([120], .uni 5)), ([98], ([120], .uni 5)), ([98], ([121], .uni 6))]
     [(([97], .uni 5), evalPoly [1, 2, 3] 5), (([98], .uni 5), evalPoly [4, 0, 0, 5] 5),
      (([98], .uni 6), evalPoly [4, 0, 0, 5] 6)],
   .combo [⟨[101], [(2, .poly [97]), (5, .poly [98]), (1, .one)]⟩] [([101], ([122], .uni 4))]
     [(([101], .uni 4), 2 * evalPoly [1, 2, 3] 4 + 5 * evalPoly [4, 0, 0, 5] 4 + 1)]]

def proverOut := TrHistory.proverRun ltPt (fun (p : LPoly K) => p.label) (evalLP (toyPP true))
  (openF ro (tp true)) polys (sts true) (comms true) ops []
def histProofs : List (TrHistory.OpProof K (List (Proof K Nat))) :=
  match proverOut with | .ok (πs, _) => πs | .error _ => []
def histLog : TLog K Nat := match proverOut with | .ok (_, s) => s | .error _ => []

/-- `ι = id`: every point, univariate or multilinear, fits the `2 × 2` matrices (the width `2` is a
power of two) -/
theorem good (wf : Bool) : GoodTrips (toyPP wf) (id : Point K → Point K) (trips wf) :=
  goodTrips_of_pow2 _ _ _
    (List.forall_mem_cons.2 ⟨⟨toyE, 4, toy_encodes wf _ (by simp), rfl, rfl⟩,
      List.forall_mem_cons.2 ⟨⟨toyE, 4, toy_encodes wf _ (by simp), rfl, rfl⟩,
        fun _ h => nomatch h⟩⟩)
    (List.forall_mem_cons.2 ⟨by cases wf <;> decide +kernel,
      List.forall_mem_cons.2 ⟨by cases wf <;> decide +kernel, fun _ h => nomatch h⟩⟩)

theorem prover_eq : proverOut = .ok (histProofs, histLog) := by decide +kernel

/-- the claims of `vops` are the true ones for `ops` -/
theorem truthful : List.Forall₂ (TrHistory.Truthful ltPt (fun (p : LPoly K) => p.label) (evalLP (toyPP true))
    (GoodTrips (toyPP true) (id : Point K → Point K)) polys (sts true) (comms true)) ops vops :=
  .cons ⟨fun t ht => good true t (List.mem_of_mem_take ht), by decide +kernel, rfl, by decide +kernel⟩
    (.cons (by decide +kernel) (.cons (by decide +kernel) .nil))

/-- not evaluated: on a truthful history the verifier's run is what `history_lockstep` says it is -/
theorem verifier_eq : TrHistory.verifierRun ltPt (fun (c : LComm Nat) => c.label) (checkF ro (tp true))
    (comms true) vops histProofs [] = .ok (true, histLog) := by
  obtain ⟨sv', hv, hR⟩ := TrHistory.history_lockstep ltPt (fun (p : LPoly K) => p.label)
    (fun (c : LComm Nat) => c.label) (evalLP (toyPP true)) (GoodTrips (toyPP true) id)
    polys (sts true) (comms true) (comms true) ltPt_strict ltPt_irrefl
    (openF ro (tp true)) (checkF ro (tp true)) (fun sp sv => sp = sv)
    (openF_checkF_complete ro (tp true) id) (TrHistory.htrip_of_length _ polys _ _ rfl rfl)
    (fun ls ts h t ht => good true t (TrHistory.gatherOpen_mem _ _ ls ts h t ht))
    (TrHistory.hcm_of_labels _ _ polys _ _ rfl rfl (by decide +kernel))
    ops vops truthful [] [] histProofs histLog rfl prover_eq
  rw [hv, hR]

theorem histLog_length : histLog.length = 66 := by decide +kernel

end TEx
end LinCode
end PCV
