/-
  PCV.Proofs.Lookup — the two last-write-wins lookups every scheme shares (`Marlin.lookupLast`: the
  label-keyed `BTreeMap` that `collect` builds from a list of labelled items; `Marlin.lookupEval`:
  the `Evaluations` map read at `(label, point)`).  Both are left folds that overwrite their answer;
  `lookupLast_cons` / `lookupEval_cons` turn them into recursions on the list, and everything else
  on them follows from those two equations.
-/
import PCV.Model.Marlin
import Mathlib.Data.List.Forall2
import Mathlib.Data.List.Perm.Basic

namespace PCV
namespace Marlin

theorem foldl_overwrite {α β : Type} (p : α → Prop) [DecidablePred p] (v : α → β) (xs : List α)
    (acc : Option β) :
    xs.foldl (fun a x => if p x then some (v x) else a) acc
      = (xs.foldl (fun a x => if p x then some (v x) else a) none).or acc := by
  induction xs generalizing acc with
  | nil => rfl
  | cons y ys ih =>
    rw [List.foldl_cons, List.foldl_cons, ih (if p y then some (v y) else acc),
      ih (if p y then some (v y) else none)]
    cases ys.foldl (fun a x => if p x then some (v x) else a) none with
    | some _ => rfl
    | none =>
      by_cases h : p y
      · rw [if_pos h, if_pos h]; rfl
      · rw [if_neg h, if_neg h]; rfl

section LookupLast
variable {α β : Type} (lbl : α → Label) (l : Label)

theorem lookupLast_nil : lookupLast lbl l [] = none := rfl

theorem lookupLast_cons (x : α) (xs : List α) :
    lookupLast lbl l (x :: xs) = (lookupLast lbl l xs).or (if lbl x = l then some x else none) :=
  foldl_overwrite (fun x => lbl x = l) id xs _

theorem lookupLast_append (xs ys : List α) :
    lookupLast lbl l (xs ++ ys) = (lookupLast lbl l ys).or (lookupLast lbl l xs) := by
  rw [lookupLast, List.foldl_append]
  exact foldl_overwrite (fun x => lbl x = l) id ys _

theorem lookupLast_eq_none_iff (xs : List α) : lookupLast lbl l xs = none ↔ l ∉ xs.map lbl := by
  induction xs with
  | nil => exact ⟨fun _ h => (nomatch h), fun _ => rfl⟩
  | cons y ys ih =>
    rw [lookupLast_cons, Option.or_eq_none_iff, ih, List.map_cons, List.mem_cons, not_or, and_comm]
    refine and_congr_left fun _ => ?_
    by_cases h : lbl y = l
    · rw [if_pos h]; exact ⟨fun hs => (nomatch hs), fun hn => absurd h.symm hn⟩
    · rw [if_neg h]; exact ⟨fun _ hl => h hl.symm, fun _ => rfl⟩

theorem lookupLast_some_of_mem (xs : List α) (h : l ∈ xs.map lbl) :
    ∃ x, lookupLast lbl l xs = some x :=
  Option.ne_none_iff_exists'.1 fun hn => (lookupLast_eq_none_iff lbl l xs).1 hn h

theorem lookupLast_mem (xs : List α) (x : α) (h : lookupLast lbl l xs = some x) :
    x ∈ xs ∧ lbl x = l := by
  induction xs with
  | nil => cases h
  | cons y ys ih =>
    rw [lookupLast_cons] at h
    cases h' : lookupLast lbl l ys with
    | some z =>
      rw [h'] at h
      cases h
      exact ⟨List.mem_cons_of_mem _ (ih h').1, (ih h').2⟩
    | none =>
      rw [h', Option.none_or] at h
      by_cases hy : lbl y = l
      · rw [if_pos hy] at h
        cases h
        exact ⟨List.mem_cons_self, hy⟩
      · rw [if_neg hy] at h; cases h

theorem lookupLast_append_cons (pre post : List α) (x : α) (h : lbl x ∉ post.map lbl) :
    lookupLast lbl (lbl x) (pre ++ x :: post) = some x := by
  rw [lookupLast_append, lookupLast_cons, (lookupLast_eq_none_iff lbl _ post).2 h, if_pos rfl]
  rfl

theorem lookupLast_of_nodup {xs : List α} {x : α} (hnd : (xs.map lbl).Nodup) (hx : x ∈ xs) :
    lookupLast lbl (lbl x) xs = some x := by
  obtain ⟨pre, post, rfl⟩ := List.append_of_mem hx
  rw [List.map_append, List.map_cons] at hnd
  exact lookupLast_append_cons lbl pre post x (List.nodup_cons.1 (List.nodup_append.1 hnd).2.1).1

theorem lookupLast_perm {xs ys : List α} (hp : xs.Perm ys) (hnd : (xs.map lbl).Nodup) :
    lookupLast lbl l xs = lookupLast lbl l ys := by
  cases h : lookupLast lbl l xs with
  | none =>
    rw [lookupLast_eq_none_iff] at h
    exact ((lookupLast_eq_none_iff lbl l ys).2 fun hl => h ((hp.map lbl).mem_iff.2 hl)).symm
  | some x =>
    obtain ⟨hx, rfl⟩ := lookupLast_mem lbl l xs x h
    exact (lookupLast_of_nodup lbl ((hp.map lbl).nodup_iff.1 hnd) (hp.mem_iff.1 hx)).symm

theorem lookupLast_map (lb : β → Label) (f : α → β) (xs : List α)
    (h : ∀ x ∈ xs, lb (f x) = lbl x) :
    lookupLast lb l (xs.map f) = (lookupLast lbl l xs).map f := by
  induction xs with
  | nil => rfl
  | cons x xs ih =>
    rw [List.forall_mem_cons] at h
    rw [List.map_cons, lookupLast_cons, lookupLast_cons, ih h.2, h.1]
    cases lookupLast lbl l xs with
    | some _ => rfl
    | none => by_cases hc : lbl x = l <;> simp only [hc, if_true, if_false, Option.none_or, Option.map]

theorem lookupLast_forall₂ (R : α → β → Prop) (lb : β → Label) (hR : ∀ a b, R a b → lbl a = lb b)
    {xs : List α} {ys : List β} (h : List.Forall₂ R xs ys) :
    (lookupLast lbl l xs = none ∧ lookupLast lb l ys = none)
      ∨ ∃ a b, lookupLast lbl l xs = some a ∧ lookupLast lb l ys = some b ∧ R a b := by
  induction h with
  | nil => exact Or.inl ⟨rfl, rfl⟩
  | @cons a b xs' ys' hab _ ih =>
    rw [lookupLast_cons, lookupLast_cons, hR a b hab]
    rcases ih with ⟨h1, h2⟩ | ⟨a', b', h1, h2, hr⟩
    · rw [h1, h2]
      by_cases hl : lb b = l
      · rw [if_pos hl, if_pos hl]; exact Or.inr ⟨a, b, rfl, rfl, hab⟩
      · rw [if_neg hl, if_neg hl]; exact Or.inl ⟨rfl, rfl⟩
    · rw [h1, h2]; exact Or.inr ⟨a', b', rfl, rfl, hr⟩

end LookupLast

section LookupEval
variable {F : Type} [DecidableEq F] (l : Label) (z : F)

theorem lookupEval_cons (e : (Label × F) × F) (es : List ((Label × F) × F)) :
    lookupEval (e :: es) l z = (lookupEval es l z).or (if e.1 = (l, z) then some e.2 else none) :=
  foldl_overwrite (fun e : (Label × F) × F => e.1 = (l, z)) (·.2) es _

theorem lookupEval_map (f : Label × F → F → F) (es : List ((Label × F) × F)) :
    lookupEval (es.map fun e => (e.1, f e.1 e.2)) l z = (lookupEval es l z).map (f (l, z)) := by
  induction es with
  | nil => rfl
  | cons e es ih =>
    rw [List.map_cons, lookupEval_cons, lookupEval_cons, ih]
    cases lookupEval es l z with
    | some _ => rfl
    | none =>
      by_cases he : e.1 = (l, z)
      · simp only [he, if_true, Option.none_or, Option.map]
      · simp only [he, if_false, Option.none_or, Option.map]

end LookupEval

end Marlin
end PCV
