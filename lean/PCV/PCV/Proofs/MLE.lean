/-
  PCV.Proofs.MLE — ark-poly's `DenseMultilinearExtension::evaluate` and the `eq`-tensor, once.
  The model has the evaluation three times (`MLPC.fixVar/mleEval`, `Hyrax.fixFirst/mleEval`,
  `LinCode.fixVar/evalMLE`) and the tensor three times (`MLPC.eqTable`, `LinCode.tensorVec`, a left fold;
  `Hyrax.tensorPrime`, the same fold from the right).  The copy of `Model/MLPC` is the one reasoned
  about; the scheme libraries prove theirs equal to it (`eqTable_snoc` is what both folds need).
  `f̃(z) = ⟨evals, eq(z)⟩`; `eq(z₁ ++ z₂) = eq(z₁) ⊗ eq(z₂)`; hence for ANY arrangement of the evaluations
  as rows of `2^k` entries: `f̃(z) = bᵀ·M·a`, `a = eq(z[..k])`, `b = eq(z[k..])` (`mleEval_eq_rows`).
  Hyrax's column-major matrix is the transpose of the row-major one of the linear-code schemes.
-/
import PCV.Model.MLPC
import PCV.Proofs.Poly

namespace PCV
variable {F : Type} [Field F]

/-- Kronecker product with `A` on the fast index -/
def kron (A B : List F) : List F := B.flatMap fun c => A.map (· * c)

theorem kron_cons (A : List F) (c : F) (B : List F) :
    kron A (c :: B) = A.map (· * c) ++ kron A B := List.flatMap_cons

theorem one_kron : ∀ B : List F, kron [1] B = B
  | [] => rfl
  | c :: B => by rw [kron_cons, one_kron B, List.map_singleton, one_mul, List.singleton_append]

/-- `⟨flat, A ⊗ B⟩ = Bᵀ·M·A` for the matrix whose rows, `|A|` entries each, concatenate to `flat` -/
theorem dot_flatten_kron (A : List F) : ∀ (B : List F) (rows : List (List F)),
    (∀ r ∈ rows, r.length = A.length) →
    dot rows.flatten (kron A B) = dot B (rows.map (dot · A))
  | [], _, _ => (dot_nil_right _).trans (dot_nil_left _).symm
  | _ :: _, [], _ => (dot_nil_left _).trans (dot_nil_right _).symm
  | c :: B, r :: rows, h => by
    have hr := h r List.mem_cons_self
    rw [List.flatten_cons, kron_cons, List.map_cons, dot_cons,
      dot_append _ _ _ _ (hr.trans (List.length_map _).symm), dot_map_mul_right, mul_comm]
    exact congrArg _ (dot_flatten_kron A B rows fun r' h' => h r' (List.mem_cons_of_mem _ h'))

/-- the powers of `z` are the Kronecker product of the first `m` with the powers of `z^m` -/
theorem powers_kron (z : F) (m : Nat) : ∀ (n : Nat) (g : F),
    powers g z (n * m) = kron (powers 1 z m) (powers g (fpow z m) n)
  | 0, _ => by rw [Nat.zero_mul]; rfl
  | n + 1, g => by
    rw [Nat.succ_mul, Nat.add_comm, powers_append, powers_kron z m n, powers, kron_cons,
      powers_map_mul, one_mul]

namespace MLPC

@[simp] theorem weave_length (a : F) (E : List F) : (weave a E).length = 2 * E.length := by
  induction E with
  | nil => rfl
  | cons e es ih => simp only [weave, List.length_cons, ih, Nat.mul_succ]

@[simp] theorem eqTable_length (t : List F) : (eqTable t).length = 2 ^ t.length := by
  induction t with
  | nil => rfl
  | cons a ts ih => simp only [eqTable, weave_length, ih, List.length_cons, pow_succ']

theorem fixVar_length (z : F) : ∀ r : List F, (fixVar z r).length = r.length / 2
  | [] => (Nat.zero_div 2).symm
  | [_] => (Nat.div_eq_of_lt Nat.one_lt_two).symm
  | _ :: _ :: rest => by
    rw [fixVar, List.length_cons, fixVar_length z rest]
    exact (Nat.add_div_right rest.length Nat.two_pos).symm

theorem fixVar_length_pow (z : F) {r : List F} {n : Nat} (hr : r.length = 2 ^ (n + 1)) :
    (fixVar z r).length = 2 ^ n := by
  rw [fixVar_length, hr, pow_succ, Nat.mul_div_cancel _ Nat.two_pos]

theorem dot_weave_fixVar (a : F) (E r : List F) (h : r.length = 2 * E.length) :
    dot (weave a E) r = dot E (fixVar a r) := by
  induction E generalizing r with
  | nil => simp only [weave, dot_nil_left]
  | cons e es ih =>
    match r, h with
    | x :: y :: rest, h =>
      simp only [weave, fixVar, dot_cons, ih rest (Nat.add_right_cancel (m := 2) h)]
      ring

/-- **eq-tensor identity.** The dot product of the `2^n` hypercube evaluations with the `eq`-tensor
of `t` is the multilinear extension evaluated at `t` (ark-poly's variable order). -/
theorem dot_eqTable (t evals : List F) (h : evals.length = 2 ^ t.length) :
    dot (eqTable t) evals = mleEval evals t := by
  induction t generalizing evals with
  | nil =>
    match evals, h with
    | [e], _ => simp only [eqTable, mleEval, dot_cons, dot_nil_left, List.headD_cons, one_mul, add_zero]
  | cons a ts ih =>
    rw [eqTable, mleEval, dot_weave_fixVar a _ evals (by rw [eqTable_length, h, List.length_cons, pow_succ']),
      ih _ (fixVar_length_pow a h)]

theorem weave_append (r : F) : ∀ A B : List F, weave r (A ++ B) = weave r A ++ weave r B
  | [], _ => rfl
  | a :: A, B => by simp only [List.cons_append, weave, weave_append r A B]

theorem weave_map_mul (r c : F) : ∀ T : List F, weave r (T.map (· * c)) = (weave r T).map (· * c)
  | [] => rfl
  | t :: T => by simp only [List.map_cons, weave, weave_map_mul r c T, mul_assoc]

/-- one more coordinate at the END of the point is one step of `tensor_vec` / `tensor_prime` -/
theorem eqTable_snoc (r : F) : ∀ vs : List F,
    eqTable (vs ++ [r]) = (eqTable vs).map (· * (1 - r)) ++ (eqTable vs).map (· * r)
  | [] => by simp [eqTable, weave]
  | v :: vs => by
    simp only [List.cons_append, eqTable, eqTable_snoc r vs, weave_append, weave_map_mul]

theorem weave_kron (r : F) (A : List F) : ∀ B : List F, weave r (kron A B) = kron (weave r A) B
  | [] => rfl
  | c :: B => by rw [kron_cons, kron_cons, weave_append, weave_map_mul, weave_kron r A B]

theorem eqTable_append (p2 : List F) : ∀ p1 : List F,
    eqTable (p1 ++ p2) = kron (eqTable p1) (eqTable p2)
  | [] => (one_kron _).symm
  | r :: p1 => by rw [List.cons_append, eqTable, eqTable_append p2 p1, weave_kron, eqTable]

/-- **`f̃(z) = bᵀ·M·a`** for every split `k` of the point and every list of rows of `2^k` entries that
concatenate to the evaluations. -/
theorem mleEval_eq_rows (pt : List F) (k : Nat) (rows : List (List F))
    (hr : ∀ r ∈ rows, r.length = 2 ^ min k pt.length) (h : rows.flatten.length = 2 ^ pt.length) :
    mleEval rows.flatten pt
      = dot (eqTable (pt.drop k)) (rows.map (dot · (eqTable (pt.take k)))) := by
  rw [← dot_eqTable pt _ h, dot_comm]
  conv_lhs => rw [← List.take_append_drop k pt, eqTable_append]
  exact dot_flatten_kron _ _ rows (by rwa [eqTable_length, List.length_take])

end MLPC
end PCV
