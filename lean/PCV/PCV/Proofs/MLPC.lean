/-
  PCV.Proofs.MLPC — the multilinear PST model (`PCV.Model.MLPC`), on arbitrary keys and on the key of a
  trapdoor `t`: over the `eq`-tensor identity `⟨evals, eqTable t⟩ = f̃(t)` of `PCV.Proofs.MLE`, the quotient
  identity `f̃(t) − f̃(z) = Σᵢ (tᵢ − zᵢ)·q̃ᵢ(t_{>i})` behind the `r/q` recursion of `open`, for every number of
  variables; what `trim`, `commit`, `open` return on the key of `t`, the defect of `check` there in closed
  form and the verdict on the honest proof against any neighbouring statement; what an accepted algebraic
  forgery says about the trapdoor.  That `setup` produces the key of its trapdoor is `PCV.Proofs.MLPCSetup`.
-/
import PCV.Model.MLPC
import PCV.Proofs.MLE

namespace PCV
namespace MLPC
variable {F : Type} [Field F]

@[simp] theorem batchMul_length (c : F) (l : List F) : (batchMul c l).length = l.length :=
  List.length_map ..

@[simp] theorem tables_length (c : F) (t : List F) : (tables c t).length = t.length := by
  induction t with
  | nil => rfl
  | cons a ts ih => simp only [tables, List.length_cons, ih]

/-- the remainder `r'` of one round of `open` is `fix_variables` in the lowest variable -/
theorem foldStep_snd (z : F) : ∀ r : List F, (foldStep z r).2 = fixVar z r
  | [] | [_] => rfl
  | a :: b :: rest => congrArg₂ List.cons (by ring) (foldStep_snd z rest)

theorem foldStep_length (z : F) : ∀ r : List F,
    (foldStep z r).1.length = r.length / 2 ∧ (foldStep z r).2.length = r.length / 2
  | [] | [_] => by simp [foldStep]
  | _ :: _ :: rest => by
    simp only [foldStep, List.length_cons, foldStep_length z rest, Nat.add_assoc,
      Nat.add_div_right _ Nat.two_pos, and_self]

theorem foldStep_lengths (z : F) {r : List F} {n : Nat} (hr : r.length = 2 ^ (n + 1)) :
    (foldStep z r).1.length = 2 ^ n ∧ (foldStep z r).2.length = 2 ^ n := by
  rw [(foldStep_length z r).1, (foldStep_length z r).2, hr, pow_succ, Nat.mul_div_cancel _ Nat.two_pos]
  exact ⟨rfl, rfl⟩

theorem batchMul_weave (c a : F) (E : List F) :
    batchMul c (weave a E) = weave a (batchMul c E) := by
  induction E with
  | nil => rfl
  | cons e es ih =>
    simp only [weave, batchMul, List.map_cons, mul_left_comm c] at ih ⊢
    rw [ih]

theorem dot_batchMul (c : F) (l m : List F) : dot (batchMul c l) m = c * dot l m :=
  dot_pscale_left l m c

theorem dot_set {l m : List F} (i : Nat) (x : F) (hl : i < l.length) (hm : i < m.length) :
    dot l (m.set i x) = dot l m + l[i] * (x - m[i]) := by
  have h := dot_set_sub m l i hm x m[i]
  rw [List.set_getElem_self, ← List.getElem_eq_getD 0, sub_eq_iff_eq_add'] at h
  rw [dot_comm, h, dot_comm, mul_comm]

theorem dot_unit (n i : Nat) (d : F) (l : List F) (hi : i < n) (hl : i < l.length) :
    dot ((List.replicate n (0 : F)).set i d) l = d * l[i] := by
  rw [dot_comm, dot_set i d hl (by rw [List.length_replicate]; exact hi),
    dot_replicate_zero_right, List.getElem_replicate,
    sub_zero, zero_add, mul_comm]

theorem dot_fixVar_split (E r : List F) (a b : F) :
    dot E (fixVar a r) = dot E (foldStep b r).2 + (a - b) * dot E (foldStep b r).1 := by
  induction E generalizing r with
  | nil => simp only [dot_nil_left, mul_zero, add_zero]
  | cons e es ih =>
    match r with
    | [] | [_] => simp only [fixVar, foldStep, dot_nil_right, mul_zero, add_zero]
    | x :: y :: rest =>
      simp only [fixVar, foldStep, dot_cons, ih rest]
      ring

theorem dot_weave_dup (a : F) (E q : List F) : dot (weave a E) (dup q) = dot E q := by
  induction E generalizing q with
  | nil => simp only [weave, dot_nil_left]
  | cons e es ih =>
    cases q with
    | nil => simp only [dup, dot_nil_right]
    | cons x xs =>
      simp only [weave, dup, dot_cons, ih xs]
      ring

/-- the quotient evaluation vectors `q_nv, q_{nv−1}, …` that `open` computes -/
def quotients : List F → List F → List (List F)
  | [], _ => []
  | b :: zs, r => (foldStep b r).1 :: quotients zs (foldStep b r).2

def quotSum : List F → List F → List (List F) → F
  | a :: ts, b :: zs, q :: qs => (a - b) * mleEval q ts + quotSum ts zs qs
  | _, _, _ => 0

/-- **Quotient identity** of the `r/q` recursion of `MultilinearPC::open`, for every number of
variables: `f̃(t) − f̃(z) = Σᵢ (tᵢ − zᵢ)·q̃ᵢ(t_{>i})`. -/
theorem quot_identity {t z r : List F} (hz : z.length = t.length) (hr : r.length = 2 ^ t.length) :
    mleEval r t - mleEval r z = quotSum t z (quotients z r) := by
  induction t generalizing z r with
  | nil =>
    match z, hz with
    | [], _ => simp only [mleEval, quotSum, sub_self]
  | cons a ts ih =>
    match z, hz with
    | b :: zs, hz =>
      obtain ⟨hlen1, hlen2⟩ := foldStep_lengths b hr
      simp only [mleEval, quotients, quotSum]
      -- the eq-tensor turns `mleEval · ts` into a dot product, which is linear in the table
      rw [← ih (Nat.succ.inj hz) hlen2, ← dot_eqTable ts _ (fixVar_length_pow a hr),
        dot_fixVar_split _ r a b, dot_eqTable ts _ hlen2, dot_eqTable ts _ hlen1, ← foldStep_snd b r,
        add_comm, add_sub_assoc]

theorem open_eq (ck : CK F) (nv : Nat) (evals z : List F) :
    MLPC.open ck nv evals z =
      if nv = ck.nv ∧ z.length = ck.nv ∧ evals.length = 2 ^ nv
      then openLoop nv ck.powersOfH evals z else .error .abort := by
  unfold MLPC.open
  simp only [ne_eq, ite_not, ite_and]

theorem openLoop_length {n : Nat} {hs : List (List F)} {r z ps : List F}
    (h : openLoop n hs r z = .ok ps) : ps.length = n := by
  induction n generalizing hs r z ps with
  | zero => cases h; rfl
  | succ n ih =>
    match z, hs with
    | [], _ | _ :: _, [] => cases h
    | b :: zs, hi :: hs' =>
      simp only [openLoop] at h
      split at h
      · cases h
      · next ps' hrec => cases h; rw [List.length_cons, ih hrec]

theorem openLoop_short (hs : List (List F)) (n : Nat) (z r : List F) (hz : z.length < n) :
    openLoop n hs r z = .error .abort := by
  induction n generalizing hs z r with
  | zero => exact absurd hz (Nat.not_lt_zero _)
  | succ n ih =>
    match z, hs with
    | [], _ | _ :: _, [] => rfl
    | b :: zs, hi :: hs' =>
      simp only [openLoop]
      rw [ih hs' zs _ (Nat.lt_of_succ_lt_succ hz)]

theorem check_eq [DecidableEq F] (vk : VK F) (c : Commitment F) (z : List F) (v : F) (πs : List F) :
    check vk c z v πs =
      if z.length = vk.nv ∧ vk.nv ≤ vk.gMaskRandom.length ∧ πs.length = vk.nv
      then .ok (decide (defect vk c z v πs = 0)) else .error .abort := by
  unfold check
  simp only [ne_eq, ite_not, ite_and, ← not_le]

theorem check_iff_defect [DecidableEq F] (vk : VK F) (c : Commitment F) (z : List F) (v : F)
    (πs : List F) (h1 : z.length = vk.nv) (h2 : vk.nv ≤ vk.gMaskRandom.length)
    (h3 : πs.length = vk.nv) :
    check vk c z v πs = .ok true ↔ defect vk c z v πs = 0 := by
  rw [check_eq, if_pos ⟨h1, h2, h3⟩, Except.ok.injEq, decide_eq_true_eq]

theorem check_proof_length [DecidableEq F] {vk : VK F} {c : Commitment F} {z : List F} {v : F}
    {πs : List F} (h : πs.length ≠ vk.nv) : check vk c z v πs = .error .abort := by
  rw [check_eq, if_neg fun h' => h h'.2.2]

theorem pairingLefts_length (vk : VK F) (z : List F) (h1 : z.length = vk.nv)
    (h2 : vk.nv ≤ vk.gMaskRandom.length) : (pairingLefts vk z).length = vk.nv := by
  unfold pairingLefts
  rw [List.length_zipWith, List.length_take, List.length_take, batchMul_length, h1, Nat.min_self,
    Nat.min_eq_left h2, Nat.min_self]

theorem defect_set {vk : VK F} {c : Commitment F} {z : List F} {v : F} {πs : List F} {i : Nat}
    {x : F} (hi : i < (pairingLefts vk z).length) (hp : i < πs.length) :
    defect vk c z v (πs.set i x)
      = defect vk c z v πs - (pairingLefts vk z)[i] * (x - πs[i]) := by
  unfold defect
  rw [dot_set i x hi hp, sub_add_eq_sub_sub]

theorem defect_add (vk : VK F) (c : Commitment F) (z : List F) (v : F) (πs : List F) (dc dv : F) :
    defect vk ⟨c.nv, c.gProduct + dc⟩ z (v + dv) πs
      = defect vk c z v πs + (dc - vk.g * dv) * vk.h := by
  unfold defect; ring

theorem zipWith_getElem_sub (l m : List F) (i : Nat) (h : i < (List.zipWith (· - ·) l m).length) :
    (List.zipWith (· - ·) l m)[i] = l[i]'(by simp at h; omega) - m[i]'(by simp at h; omega) :=
  List.getElem_zipWith

/-- `Σᵢ (g_mask[i] − zᵢ·g)·πᵢ` over three lists read in lock-step -/
def relSum (g : F) : List F → List F → List F → F
  | m :: ms, zi :: zs, p :: ps => (m - zi * g) * p + relSum g ms zs ps
  | _, _, _ => 0

theorem dot_lefts_relSum (g : F) (m z πs : List F) :
    dot (List.zipWith (· - ·) m (batchMul g z)) πs = relSum g m z πs := by
  induction m generalizing z πs with
  | nil => simp only [List.zipWith_nil_left, dot_nil_left, relSum]
  | cons a as ih =>
    match z, πs with
    | [], _ => simp only [batchMul, List.map_nil, List.zipWith_nil_right, dot_nil_left, relSum]
    | _ :: _, [] => simp only [dot_nil_right, relSum]
    | b :: bs, p :: ps =>
      simp only [batchMul, List.map_cons, List.zipWith_cons_cons, dot_cons, relSum, ← ih bs ps,
        mul_comm g b]

theorem defect_eq_rel (vk : VK F) (c : Commitment F) (z : List F) (v : F) (πs : List F) :
    defect vk c z v πs
      = (c.gProduct - v * vk.g) * vk.h - relSum vk.g (vk.gMaskRandom.take vk.nv) (z.take vk.nv) πs := by
  unfold defect pairingLefts
  rw [show (batchMul vk.g z).take vk.nv = batchMul vk.g (z.take vk.nv) from List.map_take.symm,
    dot_lefts_relSum, mul_comm v]

theorem commit_ok {ck : CK F} {nv : Nat} {evals : List F} {c : Commitment F}
    (h : commit ck nv evals = .ok c) :
    nv = ck.nv ∧ c = ⟨nv, dot (ck.powersOfG.headD []) evals⟩ := by
  unfold commit at h
  split at h
  · cases h
  · next hnv =>
    split at h
    · cases h
    · next p0 _ hp => cases h; rw [hp]; exact ⟨not_not.1 hnv, rfl⟩

/-- the verifier key of trapdoor `t` -/
def wfVK (g h : F) (t : List F) : VK F := ⟨t.length, g, h, batchMul g t⟩
/-- the committer key of trapdoor `t` -/
def wfCK (g h : F) (t : List F) : CK F := ⟨t.length, tables g t, tables h t, g, h⟩

theorem tables_drop (c : F) (t : List F) (m : Nat) : (tables c t).drop m = tables c (t.drop m) := by
  induction t generalizing m with
  | nil => simp only [tables, List.drop_nil]
  | cons a ts ih =>
    cases m with
    | zero => rfl
    | succ m => simp only [tables, List.drop_succ_cons, ih]

/-- **trim** of well-formed parameters is the well-formed key pair of the trapdoor suffix. -/
theorem trim_wf (g h : F) (t : List F) (s : Nat) (hs : s ≤ t.length) :
    trim (wfParams g h t) s
      = .ok (wfCK g h (t.drop (t.length - s)), wfVK g h (t.drop (t.length - s))) := by
  unfold trim wfParams wfCK wfVK
  simp only [tables_length, batchMul_length, or_self]
  rw [if_neg (not_not.2 hs), if_neg (Nat.not_lt.2 (Nat.sub_le _ _))]
  simp only [tables_drop, batchMul, List.map_drop, List.length_drop, Nat.sub_sub_self hs]

omit [Field F] in
theorem trim_refuses {pp : UParams F} {s : Nat} (hs : pp.numVars < s) :
    trim pp s = .error .abort := by
  unfold trim
  rw [if_pos (Nat.not_le.2 hs)]

theorem commit_wf {g h : F} {t evals : List F} (ht : t ≠ []) (he : evals.length = 2 ^ t.length) :
    commit (wfCK g h t) t.length evals = .ok ⟨t.length, g * mleEval evals t⟩ := by
  match t, ht with
  | a :: ts, _ =>
    unfold commit wfCK
    simp only [tables, ne_eq, not_true_eq_false, if_false, dot_batchMul,
      dot_eqTable (a :: ts) evals he]

/-- what `open` returns on the key of trapdoor `t`: `πᵢ = h·q̃ᵢ(t_{>i})` -/
def proofSpec (h : F) : List F → List F → List F → List F
  | _ :: ts, b :: zs, r => h * mleEval (foldStep b r).1 ts :: proofSpec h ts zs (foldStep b r).2
  | _, _, _ => []

theorem proofSpec_length (h : F) (t z r : List F) (hz : t.length ≤ z.length) :
    (proofSpec h t z r).length = t.length := by
  induction t generalizing z r with
  | nil => rfl
  | cons a ts ih =>
    match z, hz with
    | b :: zs, hz =>
      rw [proofSpec, List.length_cons, ih zs _ (Nat.le_of_succ_le_succ hz), List.length_cons]

/-- The prover loop on the tables of trapdoor `t` (surplus point coordinates are ignored). -/
theorem openLoop_wf (h : F) (t z r : List F) (hz : t.length ≤ z.length)
    (hr : r.length = 2 ^ t.length) :
    openLoop t.length (tables h t) r z = .ok (proofSpec h t z r) := by
  induction t generalizing z r with
  | nil => rfl
  | cons a ts ih =>
    match z, hz with
    | b :: zs, hz =>
      obtain ⟨hlen1, hlen2⟩ := foldStep_lengths b hr
      simp only [List.length_cons, openLoop, tables, proofSpec,
        ih zs _ (Nat.le_of_succ_le_succ hz) hlen2, eqTable, dot_batchMul, dot_weave_dup,
        dot_eqTable ts _ hlen1]

theorem open_wf {g h : F} {t evals z : List F} (hz : z.length = t.length)
    (he : evals.length = 2 ^ t.length) :
    MLPC.open (wfCK g h t) t.length evals z = .ok (proofSpec h t z evals) := by
  rw [open_eq, if_pos ⟨rfl, hz, he⟩]
  exact openLoop_wf h t z evals hz.ge he

theorem pairingLefts_wf (g h : F) (t z : List F) :
    pairingLefts (wfVK g h t) z = batchMul g (List.zipWith (· - ·) t z) := by
  show List.zipWith (· - ·) ((batchMul g t).take t.length) ((batchMul g z).take t.length) = _
  rw [← List.take_zipWith, List.take_of_length_le
    (by rw [List.length_zipWith, batchMul_length]; exact Nat.min_le_left _ _)]
  simp only [batchMul, List.zipWith_map, List.map_zipWith, mul_sub]

theorem check_wfVK [DecidableEq F] {g h : F} {t : List F} {c : Commitment F} {z : List F} {v : F}
    {πs : List F} (hz : z.length = t.length) (hp : πs.length = t.length) :
    check (wfVK g h t) c z v πs
      = .ok (decide ((c.gProduct - g * v) * h - g * dot (List.zipWith (· - ·) t z) πs = 0)) := by
  rw [check_eq, if_pos ⟨hz, (batchMul_length g t).ge, hp⟩, defect, pairingLefts_wf, dot_batchMul]
  rfl

/-- `right` of the pairing equation on the honest proof, without the factor `g` -/
theorem dot_sub_proofSpec (h : F) (t z r : List F) :
    dot (List.zipWith (· - ·) t z) (proofSpec h t z r) = h * quotSum t z (quotients z r) := by
  induction t generalizing z r with
  | nil => simp only [List.zipWith_nil_left, dot_nil_left, quotSum, mul_zero]
  | cons a ts ih =>
    cases z with
    | nil => simp only [List.zipWith_nil_right, dot_nil_left, quotSum, mul_zero]
    | cons b zs =>
      simp only [List.zipWith_cons_cons, proofSpec, dot_cons, quotients, quotSum, ih zs, mul_add,
        mul_left_comm (a - b) h]

/-- **the pairing identity of the scheme**: `⟨t − z, π⟩ = h·(f̃(t) − f̃(z))` for the honest proof -/
theorem dot_sub_honest (h : F) {t z evals : List F} (hz : z.length = t.length)
    (he : evals.length = 2 ^ t.length) :
    dot (List.zipWith (· - ·) t z) (proofSpec h t z evals)
      = h * (mleEval evals t - mleEval evals z) := by
  rw [dot_sub_proofSpec, quot_identity hz he]

theorem dot_sub_add {t z dz : List F} (πs : List F) (hz : z.length = t.length)
    (hdz : dz.length = t.length) :
    dot (List.zipWith (· - ·) t (List.zipWith (· + ·) z dz)) πs
      = dot (List.zipWith (· - ·) t z) πs - dot dz πs := by
  induction t generalizing z dz πs with
  | nil =>
    match dz, hdz with
    | [], _ => simp only [List.zipWith_nil_left, dot_nil_left, sub_self]
  | cons a ts ih =>
    match z, hz, dz, hdz, πs with
    | _ :: _, _, _ :: _, _, [] => simp only [dot_nil_right, sub_self]
    | b :: zs, hz, d :: ds, hdz, p :: ps =>
      simp only [List.zipWith_cons_cons, dot_cons, ih ps (Nat.succ.inj hz) (Nat.succ.inj hdz)]
      ring

/-- **The honest proof at its own point**, against any commitment `C` and value `v`: the defect is
`Δ = h·((C − g·f̃(t)) − g·(v − f̃(z)))`.  The commitment's `nv` field is irrelevant. -/
theorem honest_check_at [DecidableEq F] {g h : F} {t z evals : List F} {C v : F} {n' : Nat}
    (hz : z.length = t.length) (he : evals.length = 2 ^ t.length) :
    check (wfVK g h t) ⟨n', C⟩ z v (proofSpec h t z evals)
      = .ok (decide (h * ((C - g * mleEval evals t) - g * (v - mleEval evals z)) = 0)) := by
  rw [check_wfVK hz (proofSpec_length h t z evals hz.ge), dot_sub_honest h hz he]
  -- both sides are `.ok (decide (Δ = 0))`; the two forms of `Δ` agree
  congr 3
  ring

/-- **The honest proof against any statement**: commitment `g·f̃(t) + dc`, point `z + dz`, value
`f̃(z) + dv`; the defect is `Δ = h·(dc − g·dv) + g·⟨dz, π⟩`. -/
theorem honest_check [DecidableEq F] {g h : F} {t z dz evals : List F} {dc dv : F} {n' : Nat}
    (hz : z.length = t.length) (hdz : dz.length = t.length) (he : evals.length = 2 ^ t.length) :
    check (wfVK g h t) ⟨n', g * mleEval evals t + dc⟩ (List.zipWith (· + ·) z dz)
        (mleEval evals z + dv) (proofSpec h t z evals)
      = .ok (decide (h * (dc - g * dv) + g * dot dz (proofSpec h t z evals) = 0)) := by
  rw [check_wfVK (by rw [List.length_zipWith, hz, hdz, Nat.min_self])
      (proofSpec_length h t z evals hz.ge), dot_sub_add _ hz hdz,
    dot_sub_honest h hz he]
  congr 3
  ring

theorem honest_check_moved [DecidableEq F] {g h : F} {t z dz evals : List F} {n' : Nat}
    (hz : z.length = t.length) (hdz : dz.length = t.length) (he : evals.length = 2 ^ t.length) :
    check (wfVK g h t) ⟨n', g * mleEval evals t⟩ (List.zipWith (· + ·) z dz) (mleEval evals z)
        (proofSpec h t z evals)
      = .ok (decide (g * dot dz (proofSpec h t z evals) = 0)) := by
  simpa only [add_zero, mul_zero, sub_zero, zero_add]
    using honest_check (g := g) (dc := 0) (dv := 0) (n' := n') hz hdz he

/-- **Completeness on a well-formed key**, together with the exact defect of every neighbouring
statement. -/
theorem check_honest_iff [DecidableEq F] (g h : F) (t z dz evals : List F) (dc dv : F) (n' : Nat)
    (hz : z.length = t.length) (hdz : dz.length = t.length) (he : evals.length = 2 ^ t.length) :
    check (wfVK g h t) ⟨n', g * mleEval evals t + dc⟩ (List.zipWith (· + ·) z dz)
        (mleEval evals z + dv) (proofSpec h t z evals) = .ok true
      ↔ h * (dc - g * dv) + g * dot dz (proofSpec h t z evals) = 0 := by
  rw [honest_check hz hdz he, Except.ok.injEq, decide_eq_true_eq]

theorem check_honest [DecidableEq F] {g h : F} {t z evals : List F} {n' : Nat}
    (hz : z.length = t.length) (he : evals.length = 2 ^ t.length) :
    check (wfVK g h t) ⟨n', g * mleEval evals t⟩ z (mleEval evals z) (proofSpec h t z evals)
      = .ok true := by
  rw [honest_check_at hz he]
  simp only [sub_self, mul_zero, decide_true]

/-! ### what an algebraic forger gives away

With proof elements `πᵢ = h·aᵢ(t)` (any functions `aᵢ` of the trapdoor the forger can express over
the published `powers_of_h`) an accepted claim `(C = g·p(t), z, v)` is the identity
`p(t) − v − Σᵢ (tᵢ − zᵢ)·aᵢ(t) = 0` at the trapdoor, while the same expression at `z` is `p(z) − v`. -/

section Extraction
variable [DecidableEq F]

def linSum : List F → List F → List F → F
  | x :: xs, z :: zs, a :: as => (x - z) * a + linSum xs zs as
  | _, _, _ => 0

omit [DecidableEq F] in
theorem linSum_eq_dot (x z as : List F) : linSum x z as = dot (List.zipWith (· - ·) x z) as := by
  induction x generalizing z as with
  | nil => simp only [linSum, List.zipWith_nil_left, dot_nil_left]
  | cons x xs ih =>
    match z, as with
    | [], _ => simp only [linSum, List.zipWith_nil_right, dot_nil_left]
    | _ :: _, [] => simp only [linSum, dot_nil_right]
    | y :: ys, a :: as => simp only [linSum, List.zipWith_cons_cons, dot_cons, ih ys as]

omit [DecidableEq F] in
theorem linSum_self (z as : List F) : linSum z z as = 0 := by
  induction z generalizing as with
  | nil => simp only [linSum]
  | cons x xs ih =>
    cases as with
    | nil => simp only [linSum]
    | cons a as => simp only [linSum, ih, sub_self, zero_mul, add_zero]

/-- **Extraction.** Key of trapdoor `t`; commitment `g·P` (`P = p(t)`), proof elements `h·aᵢ`
(`aᵢ = aᵢ(t)`), claimed value `v` at `z`: acceptance is `P − v − Σ (tᵢ − zᵢ)·aᵢ = 0` (for `g, h ≠ 0`). -/
theorem forgery_identity (g h : F) (t z as : List F) (nv : Nat) (P v : F)
    (hz : z.length = t.length) (has : as.length = t.length) (hg : g ≠ 0) (hh : h ≠ 0)
    (hacc : check (wfVK g h t) ⟨nv, g * P⟩ z v (as.map (h * ·)) = .ok true) :
    P - v - linSum t z as = 0 := by
  rw [check_wfVK hz ((List.length_map _).trans has), Except.ok.injEq, decide_eq_true_eq,
    ← pscale, dot_pscale_right, ← linSum_eq_dot] at hacc
  have : g * h * (P - v - linSum t z as) = 0 := by linear_combination hacc
  exact (mul_eq_zero.1 this).resolve_left (mul_ne_zero hg hh)

end Extraction

end MLPC
end PCV
