/-
  PCV.Proofs.MLPCSetup — `MultilinearPC::setup` builds the `eq`-tensor tables of its trapdoor:
  `setup nv g h t = .ok (wfParams g h t)` (`setup_eq`), and with it the honest run from `setup` to
  `check` (`honest_run`).  The proof follows the code: the rows of `eq_extension`, the running product
  `base` of the reversed loop, `remove_dummy_variable` (`x ↦ x << pad`), the flattening into
  `pp_powers` and the re-slicing after `batch_mul`.  Entry `x` of every table is read off the bits of
  `x` (`eqAt`); the two list loops are specified for any list of tables of the right lengths.
-/
import PCV.Proofs.MLPC

namespace PCV
namespace MLPC
variable {F : Type} [Field F]

/-- entry `x` of the `eq`-tensor of `s`: `∏ₖ eq(sₖ, bitₖ(x))` (in the multiplication order of the
loop `base = base * mul`) -/
def eqAt : List F → Nat → F
  | [], _ => 1
  | a :: r, x => eqAt r (x / 2) * eqEntry a (x.testBit 0)

/-- the running product `base` when the loop index is `i` and `s = t[i..]` -/
def bfun (n : Nat) (s : List F) (i : Nat) : List F :=
  (List.range (2 ^ n)).map fun x => eqAt s (x >>> i)

theorem eqEntry_false (a : F) : eqEntry a false = 1 - a := by
  simp only [eqEntry, Bool.false_eq_true, if_false]; ring
theorem eqEntry_true (a : F) : eqEntry a true = a := by
  simp only [eqEntry, if_true]; ring

theorem eqAt_shiftRight (a : F) (s : List F) (x i : Nat) :
    eqAt (a :: s) (x >>> i) = eqAt s (x >>> (i + 1)) * eqEntry a (x.testBit i) := by
  rw [eqAt, Nat.testBit_shiftRight, Nat.add_zero, Nat.shiftRight_succ]

theorem range_double (a : F) (f g : Nat → F) (N : Nat)
    (h0 : ∀ b, f (2 * b) = (1 - a) * g b) (h1 : ∀ b, f (2 * b + 1) = a * g b) :
    (List.range (2 * N)).map f = weave a ((List.range N).map g) := by
  induction N with
  | zero => rfl
  | succ N ih =>
    rw [show 2 * (N + 1) = 2 * N + 1 + 1 from rfl, List.range_succ, List.range_succ,
      List.range_succ (n := N)]
    simp only [List.map_append, List.map_cons, List.map_nil, weave_append, weave, ih, h0, h1,
      List.append_assoc, List.cons_append, List.nil_append]

theorem eqTable_eq_map (s : List F) : eqTable s = (List.range (2 ^ s.length)).map (eqAt s) := by
  induction s with
  | nil => rfl
  | cons a r ih =>
    rw [eqTable, ih, List.length_cons, pow_succ']
    refine (range_double a _ _ _ (fun b => ?_) (fun b => ?_)).symm
    · have h2 : (2 * b).testBit 0 = false := by rw [Nat.testBit_zero, Nat.mul_mod_right]; rfl
      rw [eqAt, Nat.mul_div_cancel_left b Nat.two_pos, h2, eqEntry_false, mul_comm]
    · have h1 : (2 * b + 1) / 2 = b := by rw [Nat.mul_add_div Nat.two_pos]; rfl
      have h2 : (2 * b + 1).testBit 0 = true := by
        rw [Nat.testBit_zero, Nat.mul_add_mod, decide_eq_true rfl]
      rw [eqAt, h1, h2, eqEntry_true, mul_comm]

theorem eqExtensionFrom_append (n i : Nat) (p q : List F) :
    eqExtensionFrom n i (p ++ q) = eqExtensionFrom n i p ++ eqExtensionFrom n (i + p.length) q := by
  induction p generalizing i with
  | nil => rfl
  | cons a p ih =>
    simp only [List.cons_append, eqExtensionFrom, ih, List.length_cons]
    rw [show i + 1 + p.length = i + (p.length + 1) from Nat.add_right_comm i 1 p.length]

/-- `pop_back` on the rows of `p ++ [b]` yields row `|p|` -/
theorem rows_concat (n : Nat) (p : List F) (b : F) :
    (eqExtensionFrom n 0 (p ++ [b])).reverse
      = eqRow n p.length b :: (eqExtensionFrom n 0 p).reverse := by
  rw [eqExtensionFrom_append, List.reverse_append, Nat.zero_add]
  rfl

theorem zip_step (n i : Nat) (a : F) (s : List F) :
    List.zipWith (· * ·) (bfun n s (i + 1)) (eqRow n i a) = bfun n (a :: s) i := by
  unfold bfun eqRow
  rw [List.zipWith_map, List.zipWith_self]
  simp only [eqAt_shiftRight]

theorem eqRow_eq_bfun (n i : Nat) (a : F) : eqRow n i a = bfun n [a] i := by
  unfold eqRow bfun
  simp only [eqAt, one_mul, Nat.testBit_shiftRight, Nat.add_zero]

theorem removeDummy_map_range (f : Nat → F) (n i : Nat) (hi : i ≤ n) :
    removeDummyVariable ((List.range (2 ^ n)).map f) i
      = .ok ((List.range (2 ^ (n - i))).map fun x => f (x <<< i)) := by
  unfold removeDummyVariable
  by_cases h0 : i = 0
  · subst h0; rw [if_pos rfl]; rfl
  · rw [if_neg h0, List.length_map, List.length_range, Nat.log2_two_pow, if_neg (not_not.2 rfl),
      if_neg (Nat.not_lt.2 hi)]
    refine congrArg Except.ok (List.map_congr_left fun x hx => ?_)
    have hlt : x <<< i < 2 ^ n := by
      rw [Nat.shiftLeft_eq, ← Nat.sub_add_cancel hi, pow_add]
      exact Nat.mul_lt_mul_of_lt_of_le (List.mem_range.1 hx) le_rfl (Nat.two_pow_pos i)
    exact getD'_map_range hlt

theorem removeDummy_bfun (n i : Nat) (s : List F) (hn : n = i + s.length) :
    removeDummyVariable (bfun n s i) i = .ok (eqTable s) := by
  rw [bfun, removeDummy_map_range _ n i (hn ▸ Nat.le_add_right i _),
    show n - i = s.length by rw [hn, Nat.add_sub_cancel_left], eqTable_eq_map]
  simp only [Nat.shiftLeft_shiftRight]

theorem batchMul_one (l : List F) : batchMul 1 l = l :=
  pscale_one l

/-- The reversed loop of `setup` builds the tables of the trapdoor, without the generator: with the
rows of the reversed prefix `pr` still to pop and `base` the product over `a :: s`. -/
theorem eqArrLoop_spec (n : Nat) (pr : List F) (a : F) (s : List F)
    (hn : n = pr.length + (s.length + 1)) :
    eqArrLoop (pr.length + 1) (eqExtensionFrom n 0 pr.reverse).reverse (bfun n (a :: s) pr.length)
        (tables 1 s)
      = .ok (tables 1 (pr.reverse ++ a :: s)) := by
  have hcons : ∀ (a : F) s, eqTable (a :: s) :: tables 1 s = tables 1 (a :: s) := fun a s => by
    rw [tables, batchMul_one]
  induction pr generalizing a s with
  | nil =>
    rw [List.length_nil, eqArrLoop, removeDummy_bfun n 0 (a :: s) hn]
    simp only [if_neg (not_not.2 rfl), eqArrLoop, hcons, List.reverse_nil, List.nil_append]
  | cons b p ih =>
    rw [List.length_cons, List.reverse_cons, rows_concat, List.length_reverse, eqArrLoop,
      removeDummy_bfun n (p.length + 1) (a :: s) hn]
    simp only [if_pos (Nat.succ_ne_zero _)]
    rw [zip_step n p.length b (a :: s), hcons,
      ih b (a :: s) (hn.trans (Nat.succ_add_eq_add_succ p.length (s.length + 1))),
      List.append_assoc, List.singleton_append]

theorem tables_lengths (c : F) (s : List F) (n i : Nat) (hn : i + s.length = n) :
    (tables c s).map List.length = (List.range' i s.length).map fun j => 2 ^ (n - j) := by
  induction s generalizing i with
  | nil => rfl
  | cons a s ih =>
    rw [tables, List.map_cons, batchMul_length, eqTable_length, List.length_cons, List.range'_succ,
      List.map_cons, ih (i + 1) ((Nat.add_right_comm i 1 s.length).trans hn),
      show n - i = s.length + 1 by rw [← hn, Nat.add_sub_cancel_left]; rfl]

/-- the loop filling `pp_powers` concatenates tables of lengths `2^(n−i), 2^(n−i−1), …` -/
theorem flattenLoop_spec (n : Nat) (L : List (List F)) (cnt i : Nat)
    (hL : L.map List.length = (List.range' i cnt).map fun j => 2 ^ (n - j)) :
    flattenLoop n cnt i L = .ok L.flatten := by
  induction cnt generalizing L i with
  | zero =>
    cases List.map_eq_nil_iff.1 hL
    rfl
  | succ cnt ih =>
    match L, hL with
    | l :: L, hL =>
      rw [List.range'_succ, List.map_cons, List.map_cons, List.cons.injEq] at hL
      simp only [flattenLoop, ← hL.1, Nat.lt_irrefl, if_false, ih L (i + 1) hL.2, List.flatten_cons,
        map_getD'_range]

omit [Field F] in
theorem slice_mid (pre tb post : List F) :
    slice (pre ++ tb ++ post) pre.length (pre.length + tb.length) = tb := by
  unfold slice
  rw [List.append_assoc, List.drop_left, Nat.add_sub_cancel_left, List.take_left]

omit [Field F] in
/-- the loop cutting `pp` back into tables inverts the concatenation -/
theorem resliceLoop_spec (n : Nat) (L : List (List F)) (pre : List F) (cnt i : Nat)
    (hL : L.map List.length = (List.range' i cnt).map fun j => 2 ^ (n - j)) :
    resliceLoop n (pre ++ L.flatten) cnt i pre.length = .ok L := by
  induction cnt generalizing L pre i with
  | zero =>
    cases List.map_eq_nil_iff.1 hL
    rfl
  | succ cnt ih =>
    match L, hL with
    | l :: L, hL =>
      rw [List.range'_succ, List.map_cons, List.map_cons, List.cons.injEq] at hL
      have hrec := ih L (pre ++ l) (i + 1) hL.2
      rw [List.length_append, List.append_assoc] at hrec
      rw [List.flatten_cons, resliceLoop, ← hL.1, hrec, if_neg (Nat.not_lt.2 (by
          rw [← List.append_assoc, List.length_append, List.length_append]
          exact Nat.le_add_right _ _)),
        ← List.append_assoc, slice_mid]

theorem batchMul_flatten_tables (c : F) (t : List F) :
    batchMul c (tables 1 t).flatten = (tables c t).flatten := by
  induction t with
  | nil => rfl
  | cons a s ih =>
    rw [tables, tables, List.flatten_cons, List.flatten_cons, ← ih]
    simp only [batchMul, List.map_append, List.map_map, Function.comp_def, one_mul]

/-- **`setup` makes well-formed parameters.**  For every number of variables `nv ≥ 1`, generators
`g, h` and trapdoor `t ∈ F^nv`, the model of `MultilinearPC::setup` returns exactly
`powers_of_g[i] = g·eqTable(t[i..])`, `powers_of_h[i] = h·eqTable(t[i..])`, `g_mask = g·t`. -/
theorem setup_eq {nv : Nat} {g h : F} {t : List F} (hnv : nv ≠ 0) (ht : t.length = nv) :
    setup nv g h t = .ok (wfParams g h t) := by
  obtain ⟨p, a, rfl⟩ : ∃ p a, t = p ++ [a] := by
    rcases List.eq_nil_or_concat t with rfl | ⟨p, a, rfl⟩
    · exact absurd ht.symm hnv
    · exact ⟨p, a, List.concat_eq_append⟩
  have hlen : (p ++ [a]).length = p.length + 1 := List.length_append
  rw [hlen] at ht
  subst ht
  have hshape := fun c => tables_lengths c (p ++ [a]) (p.length + 1) 0 (by rw [hlen, Nat.zero_add])
  rw [hlen] at hshape
  have hloop := eqArrLoop_spec (p.length + 1) p.reverse a [] (by rw [List.length_reverse]; rfl)
  rw [List.length_reverse, List.reverse_reverse, tables] at hloop
  have hreslice : ∀ c : F, resliceLoop (p.length + 1) (tables c (p ++ [a])).flatten (p.length + 1) 0 0
      = .ok (tables c (p ++ [a])) := fun c => resliceLoop_spec _ _ [] _ _ (hshape c)
  unfold setup
  rw [if_neg hnv, if_neg (not_not.2 hlen), eqExtension, hlen, rows_concat]
  -- each `match` of `setup` is decided by the specification of its loop
  simp only [eqRow_eq_bfun, hloop, flattenLoop_spec _ _ _ _ (hshape 1), batchMul_flatten_tables,
    hreslice, wfParams, hlen]

/-- `setup → trim → commit → open → check` for every `nv ≥ s ≥ 1`, every trapdoor, generators,
evaluation vector of length `2^s` and point of length `s`: nothing refuses and the verifier accepts.
(The values are those of `setup_eq`, `trim_wf`, `commit_wf`, `open_wf`.) -/
theorem honest_run [DecidableEq F] {nv s : Nat} (g h : F) {t evals z : List F}
    (ht : t.length = nv) (hs1 : 1 ≤ s) (hs : s ≤ nv) (he : evals.length = 2 ^ s)
    (hz : z.length = s) :
    ∃ pp ck vk c πs, setup nv g h t = .ok pp ∧ trim pp s = .ok (ck, vk)
      ∧ commit ck s evals = .ok c ∧ MLPC.open ck s evals z = .ok πs
      ∧ check vk c z (mleEval evals z) πs = .ok true := by
  subst ht
  have htrim := trim_wf g h t s hs
  have hl : (t.drop (t.length - s)).length = s := by rw [List.length_drop, Nat.sub_sub_self hs]
  generalize t.drop (t.length - s) = t' at hl htrim
  subst hl
  exact ⟨_, _, _, _, _, setup_eq (Nat.lt_of_lt_of_le hs1 hs).ne' rfl, htrim,
    commit_wf (List.ne_nil_of_length_pos hs1) he, open_wf hz he, check_honest hz he⟩

end MLPC
end PCV
