/-
  PCV.Proofs.MVPoly — algebra of the sparse multivariate polynomial model: `SparseTerm::new` keeps
  the monomial function and is the identity on `Term.wf` terms, on which `cmp = Equal` means equal;
  the linear functional `Σ coeff · f(term)` (evaluation is the case `f = monomial at x`) is invariant
  under `from_coefficients_vec` and additive for `+=`; the terms of a result come from the terms of
  the inputs.
-/
import PCV.Model.MVPoly
import PCV.Proofs.Poly

set_option linter.unusedSectionVars false

namespace PCV
variable {F : Type} [Field F]

namespace MV

@[simp] theorem evalTerm_nil (x : List F) : evalTerm ([] : Term) x = 1 := rfl
@[simp] theorem evalTerm_cons (q : Nat × Nat) (t : Term) (x : List F) :
    evalTerm (q :: t) x = fpow (getD' x q.1 0) q.2 * evalTerm t x := rfl

theorem evalTerm_retainNonzero (t : Term) (x : List F) :
    evalTerm (Term.retainNonzero t) x = evalTerm t x := by
  induction t with
  | nil => rfl
  | cons q t ih =>
    unfold Term.retainNonzero at ih ⊢
    rw [List.filter_cons]
    by_cases h : q.2 = 0
    · simp [h, ih]
    · simp [h, ih]

theorem evalTerm_insertVar (a : Nat × Nat) (t : Term) (x : List F) :
    evalTerm (Term.insertVar a t) x = fpow (getD' x a.1 0) a.2 * evalTerm t x := by
  induction t with
  | nil => rfl
  | cons b t ih =>
    simp only [Term.insertVar]
    split
    · simp only [evalTerm_cons, ih]; ring
    · simp only [evalTerm_cons]

theorem evalTerm_sortVars (t : Term) (x : List F) : evalTerm (Term.sortVars t) x = evalTerm t x := by
  induction t with
  | nil => rfl
  | cons a t ih => simp only [Term.sortVars, evalTerm_insertVar, ih, evalTerm_cons]

theorem evalTerm_combineAux (prev : Nat × Nat) (t : Term) (x : List F) :
    evalTerm (Term.combineAux prev t) x = fpow (getD' x prev.1 0) prev.2 * evalTerm t x := by
  induction t generalizing prev with
  | nil => simp [Term.combineAux]
  | cons q t ih =>
    simp only [Term.combineAux]
    split
    · rename_i h
      rw [ih]; simp only [evalTerm_cons, fpow_add, h]; ring
    · simp only [evalTerm_cons, ih]

theorem evalTerm_combine (t : Term) (x : List F) : evalTerm (Term.combine t) x = evalTerm t x := by
  cases t with
  | nil => rfl
  | cons q t => simp only [Term.combine, evalTerm_combineAux, evalTerm_cons]

theorem evalTerm_new (t : Term) (x : List F) : evalTerm (Term.new t) x = evalTerm t x := by
  unfold Term.new
  simp only
  split
  · rw [evalTerm_combine, evalTerm_sortVars, evalTerm_retainNonzero]
  · rw [evalTerm_retainNonzero]

theorem _root_.PCV.PST.Term.wf_iff (t : Term) :
    Term.wf t = true ↔ (∀ q ∈ t, q.2 ≠ 0) ∧ t.Pairwise (fun a b => a.1 < b.1) := by
  induction t with
  | nil => exact ⟨fun _ => ⟨fun _ h => (nomatch h), List.Pairwise.nil⟩, fun _ => rfl⟩
  | cons a t ih =>
    cases t with
    | nil => simp [Term.wf]
    | cons r t =>
      simp only [Term.wf, Bool.and_eq_true, bne_iff_ne, decide_eq_true_eq, ih]
      rw [List.forall_mem_cons (a := a), List.pairwise_cons (a := a)]
      constructor
      · rintro ⟨⟨ha, hlt⟩, hpos, hpw⟩
        refine ⟨⟨ha, hpos⟩, fun b hb => ?_, hpw⟩
        rcases List.mem_cons.1 hb with rfl | hb
        · exact hlt
        · exact Nat.lt_trans hlt ((List.pairwise_cons.1 hpw).1 b hb)
      · rintro ⟨⟨ha, hpos⟩, hlt, hpw⟩
        exact ⟨⟨ha, hlt r List.mem_cons_self⟩, hpos, hpw⟩

theorem Term.wf_tail {q : Nat × Nat} {t : Term} (h : Term.wf (q :: t) = true) : Term.wf t = true :=
  (PST.Term.wf_iff t).2 ⟨fun r hr => ((PST.Term.wf_iff _).1 h).1 r (List.mem_cons_of_mem _ hr),
    (List.pairwise_cons.1 ((PST.Term.wf_iff _).1 h).2).2⟩

theorem Term.wf_pos {t : Term} (h : Term.wf t = true) : ∀ q ∈ t, q.2 ≠ 0 := ((PST.Term.wf_iff t).1 h).1

theorem Term.wf_head_pos {q : Nat × Nat} {t : Term} (h : Term.wf (q :: t) = true) : q.2 ≠ 0 :=
  Term.wf_pos h q List.mem_cons_self

theorem Term.wf_head_lt {q : Nat × Nat} {t : Term} (h : Term.wf (q :: t) = true) :
    ∀ r ∈ t, q.1 < r.1 := (List.pairwise_cons.1 ((PST.Term.wf_iff _).1 h).2).1

theorem Term.wf_cons {q : Nat × Nat} {t : Term} (hq : q.2 ≠ 0) (ht : Term.wf t = true)
    (hlt : ∀ r ∈ t, q.1 < r.1) : Term.wf (q :: t) = true :=
  (PST.Term.wf_iff _).2 ⟨List.forall_mem_cons.2 ⟨hq, Term.wf_pos ht⟩,
    List.pairwise_cons.2 ⟨hlt, ((PST.Term.wf_iff t).1 ht).2⟩⟩

theorem Term.retainNonzero_of_wf {t : Term} (h : Term.wf t = true) : Term.retainNonzero t = t := by
  unfold Term.retainNonzero
  rw [List.filter_eq_self]
  intro q hq
  simpa using Term.wf_pos h q hq

theorem Term.insertVar_of_lt {a : Nat × Nat} {t : Term} (h : ∀ r ∈ t, a.1 < r.1) :
    Term.insertVar a t = a :: t := by
  cases t with
  | nil => rfl
  | cons b t =>
    exact if_neg (Nat.lt_asymm (h b List.mem_cons_self))

theorem Term.sortVars_of_wf {t : Term} (h : Term.wf t = true) : Term.sortVars t = t := by
  induction t with
  | nil => rfl
  | cons a t ih =>
    simp only [Term.sortVars, ih (Term.wf_tail h)]
    exact Term.insertVar_of_lt (Term.wf_head_lt h)

theorem Term.combineAux_of_wf {a : Nat × Nat} {t : Term} (h : Term.wf (a :: t) = true) :
    Term.combineAux a t = a :: t := by
  induction t generalizing a with
  | nil => rfl
  | cons b t ih =>
    rw [Term.combineAux, if_neg (Nat.ne_of_lt (Term.wf_head_lt h b List.mem_cons_self)),
      ih (Term.wf_tail h)]

theorem Term.new_of_wf {t : Term} (h : Term.wf t = true) : Term.new t = t := by
  unfold Term.new
  simp only [Term.retainNonzero_of_wf h]
  split
  · rw [Term.sortVars_of_wf h]
    cases t with
    | nil => rfl
    | cons a t => exact Term.combineAux_of_wf h
  · rfl

theorem Term.isConstant_eval {t : Term} (h : Term.isConstant t = true) (x : List F) :
    evalTerm t x = 1 := by
  induction t with
  | nil => rfl
  | cons q t ih =>
    simp only [Term.isConstant, List.isEmpty_cons, Bool.false_or, beq_iff_eq, Term.degree] at h
    have h1 : q.2 = 0 := Nat.eq_zero_of_add_eq_zero_right h
    have h2 : Term.degree t = 0 := Nat.eq_zero_of_add_eq_zero_left h
    simp only [evalTerm_cons, h1, fpow_zero, one_mul]
    apply ih
    simp [Term.isConstant, h2]

theorem Term.cmpPairs_eq {a b : Term} (ha : Term.wf a = true) (hb : Term.wf b = true)
    (hd : Term.degree a = Term.degree b) (h : Term.cmpPairs a b = .eq) : a = b := by
  fun_induction Term.cmpPairs a b with
  | case1 c t1 o t2 hv hp => exact absurd (Nat.compare_eq_eq.1 h) hp
  | case2 c t1 o t2 hv hp ih =>
    have hp : c.2 = o.2 := not_not.1 hp
    have hd' : c.2 + Term.degree t1 = c.2 + Term.degree t2 := hd.trans (by rw [Term.degree, hp])
    rw [ih (Term.wf_tail ha) (Term.wf_tail hb) (Nat.add_left_cancel hd') h, Prod.ext hv.symm hp]
  | case3 c t1 o t2 hv => exact absurd (Nat.compare_eq_eq.1 h) hv
  | case4 a b hno =>
    -- one of the two is exhausted; with equal degrees and positive powers so is the other
    cases a with
    | nil =>
      cases b with
      | nil => rfl
      | cons o t2 => exact absurd (Nat.eq_zero_of_add_eq_zero_right hd.symm) (Term.wf_head_pos hb)
    | cons c t1 =>
      cases b with
      | nil => exact absurd (Nat.eq_zero_of_add_eq_zero_right hd) (Term.wf_head_pos ha)
      | cons o t2 => exact (hno c t1 o t2 rfl rfl).elim

theorem Term.cmp_eq {a b : Term} (ha : Term.wf a = true) (hb : Term.wf b = true)
    (h : Term.cmp a b = .eq) : a = b := by
  unfold Term.cmp at h
  split at h
  · rename_i hd
    rw [Nat.compare_eq_eq] at h; exact absurd h hd
  · rename_i hd
    exact Term.cmpPairs_eq ha hb (by simpa using hd) h

theorem Term.cmpPairs_self (a : Term) : Term.cmpPairs a a = .eq := by
  induction a with
  | nil => rfl
  | cons c t ih => rw [Term.cmpPairs, if_pos rfl, if_neg (not_not.2 rfl), ih]

theorem Term.cmp_self (a : Term) : Term.cmp a a = .eq := by
  rw [Term.cmp, if_neg (not_not.2 rfl), Term.cmpPairs_self]

def termsOf (p : MVPoly F) : List Term := p.map (·.2)

@[simp] theorem termsOf_nil : termsOf ([] : MVPoly F) = [] := rfl
@[simp] theorem termsOf_cons (a : F × Term) (p : MVPoly F) : termsOf (a :: p) = a.2 :: termsOf p := rfl

theorem forall_mem_termsOf_cons {P : Term → Prop} {a : F × Term} {p : MVPoly F} :
    (∀ t ∈ termsOf (a :: p), P t) ↔ P a.2 ∧ ∀ t ∈ termsOf p, P t := List.forall_mem_cons

theorem forall_mem_termsOf_nil {P : Term → Prop} : ∀ t ∈ termsOf ([] : MVPoly F), P t :=
  fun _ h => nomatch h

theorem mem_termsOf_cons {t : Term} {a : F × Term} {p : MVPoly F} :
    t ∈ termsOf (a :: p) ↔ t = a.2 ∨ t ∈ termsOf p := List.mem_cons

theorem mem_termsOf {p : MVPoly F} {a : F × Term} (h : a ∈ p) : a.2 ∈ termsOf p :=
  List.mem_map_of_mem h

theorem termsOf_scaleMV (f : F) (p : MVPoly F) : termsOf (scaleMV f p) = termsOf p := by
  simp only [termsOf, scaleMV, List.map_map, Function.comp_def]

theorem termsOf_append (p q : MVPoly F) : termsOf (p ++ q) = termsOf p ++ termsOf q :=
  List.map_append

theorem polyWf_iff (p : MVPoly F) : polyWf p = true ↔ ∀ t ∈ termsOf p, Term.wf t = true := by
  simp only [polyWf, termsOf, List.all_eq_true, List.forall_mem_map]

theorem polyVarsBelow_iff (nv : Nat) (p : MVPoly F) :
    polyVarsBelow nv p = true ↔ ∀ t ∈ termsOf p, Term.varsBelow nv t = true := by
  simp only [polyVarsBelow, termsOf, List.all_eq_true, List.forall_mem_map]

theorem insertTerm_perm (a : F × Term) (l : MVPoly F) : (insertTerm a l).Perm (a :: l) := by
  induction l with
  | nil => exact List.Perm.refl _
  | cons b l ih =>
    simp only [insertTerm]
    split
    · exact (ih.cons b).trans (List.Perm.swap a b l)
    · exact List.Perm.refl _

theorem sortTerms_perm (l : MVPoly F) : (sortTerms l).Perm l := by
  induction l with
  | nil => exact List.Perm.refl _
  | cons a l ih => exact (insertTerm_perm a _).trans (ih.cons a)

theorem degree_le_degreeMV (p : MVPoly F) : ∀ t ∈ termsOf p, Term.degree t ≤ degreeMV p := by
  induction p with
  | nil => intro t ht; cases ht
  | cons a p ih =>
    exact forall_mem_termsOf_cons.2 ⟨Nat.le_max_left _ _, fun t ht => Nat.le_trans (ih t ht) (Nat.le_max_right _ _)⟩

end MV

/-! ### the linear functional `Σ coeff · f(term)`

Evaluation at a point, the MSM of `commit` over a committer key, and the commitment as a function of
the trapdoor are all of this form; what the library's normalisations (`from_coefficients_vec`, `+=`)
preserve is proved once, for every `f`. -/

namespace PST
open MV

/-- `Σ coeff · f(term)`: with `f` the lookup in the committer key this is the MSM of `commit` -/
def keySum (f : Term → F) : MVPoly F → F
  | [] => 0
  | ct :: p => ct.1 * f ct.2 + keySum f p

@[simp] theorem keySum_nil (f : Term → F) : keySum f ([] : MVPoly F) = 0 := rfl
@[simp] theorem keySum_cons (f : Term → F) (ct : F × Term) (p : MVPoly F) :
    keySum f (ct :: p) = ct.1 * f ct.2 + keySum f p := rfl

theorem keySum_append (f : Term → F) (p q : MVPoly F) :
    keySum f (p ++ q) = keySum f p + keySum f q := by
  induction p with
  | nil => rw [List.nil_append, keySum_nil, zero_add]
  | cons a p ih => rw [List.cons_append, keySum_cons, keySum_cons, ih, add_assoc]

theorem keySum_scaleMV (f : Term → F) (a : F) (p : MVPoly F) :
    keySum f (scaleMV a p) = a * keySum f p := by
  induction p with
  | nil => exact (mul_zero a).symm
  | cons ct p ih =>
    have : scaleMV a (ct :: p) = (ct.1 * a, ct.2) :: scaleMV a p := rfl
    rw [this, keySum_cons, keySum_cons, ih]; ring

theorem keySum_mul_left (g : F) (f : Term → F) (p : MVPoly F) :
    keySum (fun t => g * f t) p = g * keySum f p := by
  induction p with
  | nil => exact (mul_zero g).symm
  | cons ct p ih => rw [keySum_cons, keySum_cons, ih]; ring

theorem keySum_congr {f g : Term → F} {p : MVPoly F} (h : ∀ t ∈ termsOf p, f t = g t) :
    keySum f p = keySum g p := by
  induction p with
  | nil => rfl
  | cons ct p ih =>
    obtain ⟨h1, h2⟩ := forall_mem_termsOf_cons.1 h
    rw [keySum_cons, keySum_cons, h1, ih h2]

theorem keySum_perm (f : Term → F) (p q : MVPoly F) (h : p.Perm q) : keySum f p = keySum f q := by
  induction h with
  | nil => rfl
  | cons x _ ih => rw [keySum_cons, keySum_cons, ih]
  | swap x y l => simp only [keySum_cons]; ring
  | trans _ _ ih1 ih2 => rw [ih1, ih2]

theorem keySum_all_zero (f : Term → F) (p : MVPoly F) (h : ∀ ct ∈ p, ct.1 = 0) : keySum f p = 0 := by
  induction p with
  | nil => rfl
  | cons a p ih =>
    obtain ⟨h1, h2⟩ := List.forall_mem_cons.1 h
    rw [keySum_cons, h1, ih h2, zero_mul, zero_add]

theorem keySum_sortTerms (f : Term → F) (l : MVPoly F) : keySum f (sortTerms l) = keySum f l :=
  keySum_perm f _ _ (sortTerms_perm l)

theorem keySum_combineTermsAux (f : Term → F) (prev : F × Term) (l : MVPoly F) :
    keySum f (combineTermsAux prev l) = prev.1 * f prev.2 + keySum f l := by
  induction l generalizing prev with
  | nil => rfl
  | cons q l ih =>
    simp only [combineTermsAux]
    split
    · rename_i h
      rw [ih, keySum_cons, h]; ring
    · rw [keySum_cons, ih, keySum_cons]

theorem keySum_combineTerms (f : Term → F) (l : MVPoly F) :
    keySum f (combineTerms l) = keySum f l := by
  cases l with
  | nil => rfl
  | cons q l => rw [combineTerms, keySum_combineTermsAux, keySum_cons]

theorem keySum_removeZeros [DecidableEq F] (f : Term → F) (p : MVPoly F) :
    keySum f (removeZeros p) = keySum f p := by
  induction p with
  | nil => rfl
  | cons a p ih =>
    unfold removeZeros at ih ⊢
    rw [List.filter_cons]
    by_cases h : a.1 = 0
    · rw [if_neg (by simpa using h), ih, keySum_cons, h, zero_mul, zero_add]
    · rw [if_pos (by simpa using h), keySum_cons, ih, keySum_cons]

theorem keySum_fromCoeffs [DecidableEq F] (f : Term → F) (l : MVPoly F) :
    keySum f (fromCoeffs l) = keySum f l := by
  rw [fromCoeffs, keySum_removeZeros, keySum_combineTerms, keySum_sortTerms]

/-- the merge loop adds: equal monomials (`cmp = Equal` on `SparseTerm::new` results) are the same
monomial, so their coefficients may be added -/
theorem keySum_mergeMV [DecidableEq F] (f : Term → F) (n : Nat) (p q : MVPoly F)
    (hp : ∀ t ∈ termsOf p, Term.wf t = true) (hq : ∀ t ∈ termsOf q, Term.wf t = true)
    (h : p.length + q.length < n) :
    keySum f (mergeMV n p q) = keySum f p + keySum f q := by
  fun_induction mergeMV n p q with
  | case1 => exact absurd h (Nat.not_lt_zero _)
  | case2 => exact (zero_add _).symm
  | case3 => exact (add_zero _).symm
  | case4 n a p b q _ ih =>
    -- `h : |a :: p| + |b :: q| < n + 1`: what is left after a step fits the fuel `n`
    rw [keySum_cons, ih (forall_mem_termsOf_cons.1 hp).2 hq
      (Nat.lt_of_succ_lt_succ (Nat.succ_add .. ▸ h)), keySum_cons f a p, add_assoc]
  | case5 n a p b q _ heq ih =>
    obtain ⟨ha, hp'⟩ := forall_mem_termsOf_cons.1 hp
    obtain ⟨hb, hq'⟩ := forall_mem_termsOf_cons.1 hq
    have h' : p.length + (q.length + 1) < n := Nat.lt_of_succ_lt_succ (Nat.succ_add .. ▸ h)
    rw [keySum_cons, ih hp' hq' (Nat.lt_of_succ_lt h'), keySum_cons f a p, keySum_cons f b q,
      ← Term.cmp_eq ha hb heq, add_mul, add_add_add_comm]
  | case6 n a p b q _ _ ih =>
    rw [keySum_cons, ih hp (forall_mem_termsOf_cons.1 hq).2 (Nat.lt_of_succ_lt_succ h),
      keySum_cons f b q, add_left_comm]

theorem keySum_addScaledMV [DecidableEq F] (f : Term → F) (p q : MVPoly F) (a : F)
    (hp : ∀ t ∈ termsOf p, Term.wf t = true) (hq : ∀ t ∈ termsOf q, Term.wf t = true) :
    keySum f (addScaledMV p a q) = keySum f p + a * keySum f q := by
  unfold addScaledMV addMV
  rw [keySum_removeZeros, keySum_mergeMV f _ _ _ hp (by rw [termsOf_scaleMV]; exact hq)
    (Nat.lt_succ_self _),
    keySum_scaleMV]

end PST

namespace MV

@[simp] theorem evalMV_nil (x : List F) : evalMV ([] : MVPoly F) x = 0 := rfl
@[simp] theorem evalMV_cons (ct : F × Term) (p : MVPoly F) (x : List F) :
    evalMV (ct :: p) x = ct.1 * evalTerm ct.2 x + evalMV p x := rfl

theorem evalMV_eq_keySum (p : MVPoly F) (x : List F) :
    evalMV p x = PST.keySum (fun t => evalTerm t x) p := by
  induction p with
  | nil => rfl
  | cons a p ih => rw [evalMV_cons, PST.keySum_cons, ih]

theorem _root_.PCV.PST.keySum_eval (g : F) (β : List F) (p : MVPoly F) :
    PST.keySum (fun t => g * evalTerm t β) p = g * evalMV p β := by
  rw [PST.keySum_mul_left, evalMV_eq_keySum]

theorem evalMV_append (p q : MVPoly F) (x : List F) :
    evalMV (p ++ q) x = evalMV p x + evalMV q x := by
  simp only [evalMV_eq_keySum, PST.keySum_append]

theorem evalMV_scaleMV (f : F) (p : MVPoly F) (x : List F) :
    evalMV (scaleMV f p) x = f * evalMV p x := by
  simp only [evalMV_eq_keySum, PST.keySum_scaleMV]

theorem evalMV_removeZeros [DecidableEq F] (p : MVPoly F) (x : List F) :
    evalMV (removeZeros p) x = evalMV p x := by
  simp only [evalMV_eq_keySum, PST.keySum_removeZeros]

theorem evalMV_fromCoeffs [DecidableEq F] (l : MVPoly F) (x : List F) :
    evalMV (fromCoeffs l) x = evalMV l x := by
  simp only [evalMV_eq_keySum, PST.keySum_fromCoeffs]

theorem evalMV_addScaledMV [DecidableEq F] (p q : MVPoly F) (f : F) (x : List F)
    (hp : ∀ t ∈ termsOf p, Term.wf t = true) (hq : ∀ t ∈ termsOf q, Term.wf t = true) :
    evalMV (addScaledMV p f q) x = evalMV p x + f * evalMV q x := by
  simp only [evalMV_eq_keySum, PST.keySum_addScaledMV _ _ _ _ hp hq]

theorem evalMV_of_isZero [DecidableEq F] (p : MVPoly F) (h : isZeroMV p = true) (x : List F) :
    evalMV p x = 0 := by
  rw [evalMV_eq_keySum]
  refine PST.keySum_all_zero _ p (fun ct hct => ?_)
  cases p with
  | nil => cases hct
  | cons a p =>
    have h' : (a :: p).all (fun ct => decide (ct.1 = 0)) = true := h
    exact of_decide_eq_true (List.all_eq_true.1 h' ct hct)

theorem mem_sortTerms_term (l : MVPoly F) {t : Term} : t ∈ termsOf (sortTerms l) → t ∈ termsOf l :=
  fun h => ((sortTerms_perm l).map _).subset h

theorem mem_combineTermsAux_term (prev : F × Term) (l : MVPoly F) {t : Term} :
    t ∈ termsOf (combineTermsAux prev l) → t = prev.2 ∨ t ∈ termsOf l := by
  induction l generalizing prev with
  | nil => exact List.mem_cons.1
  | cons q l ih =>
    simp only [combineTermsAux]
    split
    · exact fun h => (ih _ h).imp_right (List.mem_cons_of_mem _)
    · simp only [termsOf_cons, List.mem_cons]
      rintro (h | h)
      · exact Or.inl h
      · exact Or.inr (ih _ h)

theorem mem_combineTerms_term (l : MVPoly F) {t : Term} :
    t ∈ termsOf (combineTerms l) → t ∈ termsOf l := by
  cases l with
  | nil => exact id
  | cons q l => exact fun h => List.mem_cons.2 (mem_combineTermsAux_term q l h)

theorem mem_removeZeros_term [DecidableEq F] (p : MVPoly F) {t : Term} :
    t ∈ termsOf (removeZeros p) → t ∈ termsOf p :=
  fun h => List.map_subset _ (List.filter_sublist).subset h

theorem mem_fromCoeffs_term [DecidableEq F] (l : MVPoly F) {t : Term} :
    t ∈ termsOf (fromCoeffs l) → t ∈ termsOf l := fun h =>
  mem_sortTerms_term l (mem_combineTerms_term _ (mem_removeZeros_term _ h))

theorem mem_mergeMV_term [DecidableEq F] (n : Nat) (p q : MVPoly F) {t : Term} :
    t ∈ termsOf (mergeMV n p q) → t ∈ termsOf p ∨ t ∈ termsOf q := by
  fun_induction mergeMV n p q with
  | case1 => exact fun h => nomatch h
  | case2 => exact Or.inr
  | case3 => exact Or.inl
  | case4 n a p b q _ ih =>
    exact fun h => (mem_termsOf_cons.1 h).elim (fun e => Or.inl (mem_termsOf_cons.2 (Or.inl e)))
      (fun h => (ih h).imp_left (List.mem_cons_of_mem _))
  | case5 n a p b q _ _ ih =>
    exact fun h => (mem_termsOf_cons.1 h).elim (fun e => Or.inl (mem_termsOf_cons.2 (Or.inl e)))
      (fun h => (ih h).imp (List.mem_cons_of_mem _) (List.mem_cons_of_mem _))
  | case6 n a p b q _ _ ih =>
    exact fun h => (mem_termsOf_cons.1 h).elim (fun e => Or.inr (mem_termsOf_cons.2 (Or.inl e)))
      (fun h => (ih h).imp_right (List.mem_cons_of_mem _))

theorem mem_addScaledMV_term [DecidableEq F] (p q : MVPoly F) (f : F) (t : Term) :
    t ∈ termsOf (addScaledMV p f q) → t ∈ termsOf p ∨ t ∈ termsOf q := by
  intro h
  unfold addScaledMV addMV at h
  have := mem_mergeMV_term _ _ _ (mem_removeZeros_term _ h)
  rwa [termsOf_scaleMV] at this

theorem forall_mem_termsOf_addScaledMV [DecidableEq F] {P : Term → Prop} {p q : MVPoly F} (f : F)
    (hp : ∀ t ∈ termsOf p, P t) (hq : ∀ t ∈ termsOf q, P t) :
    ∀ t ∈ termsOf (addScaledMV p f q), P t :=
  fun t ht => (mem_addScaledMV_term p q f t ht).elim (hp t) (hq t)

end MV
end PCV
