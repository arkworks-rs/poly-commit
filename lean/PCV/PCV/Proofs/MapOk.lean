/-
  PCV.Proofs.MapOk — the loop `for lc in linear_combinations { … ? … push }` that every scheme's
  `open_combinations` / `check_combinations` writes out as its own recursion (`combineAll*`): run `f` on each
  element, stop at the first error.  A scheme states once that its recursion is `mapOk` (`mapOk_unique`);
  what it needs of the loop is then here.
-/
import Mathlib.Data.List.Forall2

namespace PCV

def mapOk {α β ε : Type} (f : α → Except ε β) : List α → Except ε (List β)
  | [] => .ok []
  | x :: xs =>
    match f x with
    | .error e => .error e
    | .ok y =>
      match mapOk f xs with
      | .error e => .error e
      | .ok ys => .ok (y :: ys)

variable {α β γ ε : Type} {f : α → Except ε β}

/-- a loop written out with the equations of `mapOk` is `mapOk` -/
theorem mapOk_unique (L : List α → Except ε (List β)) (h0 : L [] = .ok [])
    (h1 : ∀ x xs, L (x :: xs) = (f x).bind fun y => (L xs).map (y :: ·)) (xs : List α) :
    L xs = mapOk f xs := by
  induction xs with
  | nil => exact h0
  | cons x xs ih =>
    rw [h1, ih, mapOk]
    cases f x with
    | error e => rfl
    | ok y => cases mapOk f xs <;> rfl

theorem mapOk_ok_iff {xs : List α} {ys : List β} :
    mapOk f xs = .ok ys ↔ List.Forall₂ (fun x y => f x = .ok y) xs ys := by
  induction xs generalizing ys with
  | nil => exact ⟨fun h => by cases h; exact .nil, fun h => by cases h; rfl⟩
  | cons x xs ih =>
    rw [mapOk]
    cases hx : f x with
    | error e => exact ⟨nofun, fun h => by cases h with | cons h1 _ => exact nomatch hx.symm.trans h1⟩
    | ok y =>
      cases hxs : mapOk f xs with
      | error e =>
        refine ⟨nofun, fun h => ?_⟩
        cases h with | cons _ h2 => exact nomatch hxs.symm.trans (ih.2 h2)
      | ok ys' =>
        refine ⟨fun h => by cases h; exact .cons hx (ih.1 hxs), fun h => ?_⟩
        cases h with
        | cons h1 h2 => cases hx.symm.trans h1; cases hxs.symm.trans (ih.2 h2); rfl

theorem mapOk_mem {xs : List α} {ys : List β} (h : mapOk f xs = .ok ys) {y : β} (hy : y ∈ ys) :
    ∃ x ∈ xs, f x = .ok y := by
  have hf := mapOk_ok_iff.1 h
  clear h
  induction hf with
  | nil => cases hy
  | cons h1 _ ih =>
    rcases List.mem_cons.1 hy with rfl | hy
    · exact ⟨_, List.mem_cons_self, h1⟩
    · obtain ⟨x, hx, hfx⟩ := ih hy
      exact ⟨x, List.mem_cons_of_mem _ hx, hfx⟩

/-- a projection of the results commutes with the loop -/
theorem mapOk_map {g : α → Except ε γ} (π : β → γ) (h : ∀ x, g x = (f x).map π) (xs : List α) :
    mapOk g xs = (mapOk f xs).map (List.map π) := by
  induction xs with
  | nil => rfl
  | cons x xs ih =>
    rw [mapOk, mapOk, h, ih]
    cases f x with
    | error e => rfl
    | ok y => cases mapOk f xs <;> rfl

theorem mapOk_append (pre post : List α) :
    mapOk f (pre ++ post) = (mapOk f pre).bind fun ys => (mapOk f post).map (ys ++ ·) := by
  induction pre with
  | nil => rw [List.nil_append]; cases mapOk f post <;> rfl
  | cons x pre ih =>
    rw [List.cons_append, mapOk, mapOk, ih]
    cases f x with
    | error e => rfl
    | ok y =>
      cases mapOk f pre with
      | error e => rfl
      | ok ys => cases mapOk f post <;> rfl

end PCV
