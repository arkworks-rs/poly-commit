/-
  PCV.Proofs.Marlin — algebra of the MarlinKZG10 model: the prover's loop and the verifier's
  accumulation stay in lock-step (same challenges consumed, matching combined commitment/value),
  hence completeness with degree bounds and hiding for any number of polynomials.
-/
import PCV.Model.Marlin
import PCV.Proofs.KZG10
import PCV.Proofs.PolyMore
set_option linter.unusedSectionVars false

namespace PCV
namespace Marlin
variable {F : Type} [Field F] [DecidableEq F]

/-- Keys as `trim` makes them from parameters with trapdoor `β` (proved for `trim` in `trim_wf`). -/
structure WF (ck : CK F) (vk : VK F) (g γ β h : F) (D n m : Nat) : Prop where
  hpowers : ck.powers = powers g β n
  hgamma : ck.gammaPowers = powers γ β m
  vkeq : vk.vk = KZG.wfVK g γ β h
  maxD : ck.maxDegree = D
  shifted : ∀ bs, ck.bounds = some bs → bs ≠ [] →
      ck.shiftedPowers = some (powers (g * fpow β (D - bs.getLastD 0)) β (bs.getLastD 0 + 1)) ∧
      (∀ d ∈ bs, d ≤ bs.getLastD 0) ∧ bs.getLastD 0 ≤ D
  shifts : ∀ bs, ck.bounds = some bs → ∀ d ∈ bs, vk.shiftPower d = some (g * fpow β (D - d))

theorem WF.wfPowers {ck : CK F} {vk : VK F} {g γ β h : F} {D n m : Nat}
    (hwf : WF ck vk g γ β h D n m) :
    (⟨ck.powers, ck.gammaPowers⟩ : KZG.Powers F) = KZG.wfPowers g γ β n m := by
  unfold KZG.wfPowers; rw [hwf.hpowers, hwf.hgamma]

/-- polynomial, its commitment state, its commitment -/
abbrev Trip (F : Type) := LPoly F × Rand F × LComm F

/-- the commitment is the honest one for the polynomial and state -/
def Honest (g γ β : F) (D : Nat) (t : Trip F) : Prop :=
  t.2.2.bound = t.1.bound ∧
  t.2.2.comm.comm = g * evalPoly t.1.poly β + γ * evalPoly t.2.1.rand β ∧
  (t.1.bound.isSome = t.2.1.shifted.isSome) ∧ (t.1.bound.isSome = t.2.2.comm.shifted.isSome) ∧
  ∀ d rs s, t.1.bound = some d → t.2.1.shifted = some rs → t.2.2.comm.shifted = some s →
    s = g * fpow β (D - d) * evalPoly t.1.poly β + γ * evalPoly rs β

/-- the largest enforced bound (0 if none) -/
def maxBound (ck : CK F) : Nat := (ck.bounds.getD []).getLastD 0

theorem maxBound_eq {ck : CK F} {bs : List Nat} (h : ck.bounds = some bs) :
    maxBound ck = bs.getLastD 0 := by
  unfold maxBound; rw [h]; rfl

theorem eval_of_isZeroPoly {p : List F} (h : isZeroPoly p = true) (x : F) : evalPoly p x = 0 :=
  eval_of_pnorm_nil p x (List.isEmpty_iff.1 h)

theorem eval_shiftPoly (ck : CK F) (w : List F) (b : Nat) (x : F) :
    evalPoly (shiftPoly ck w b) x = fpow x (maxBound ck - b) * evalPoly w x := by
  unfold shiftPoly
  split
  · rename_i hz
    rw [eval_of_isZeroPoly hz, mul_zero]; rfl
  · exact eval_pshift _ w x

theorem eval_wr (rs : List F) (z β : F) :
    (β - z) * evalPoly (if isZeroPoly rs then [] else (divLin rs z).1) β
      = evalPoly rs β - evalPoly rs z := by
  split
  · rename_i hz
    rw [eval_of_isZeroPoly hz, eval_of_isZeroPoly hz, evalPoly_nil, mul_zero, sub_zero]
  · rw [divLin_quot]

theorem checkDB_ok_iff (D : Nat) (bounds : Option (List Nat)) (p : List F) (b : Nat) :
    checkDegreesAndBounds D bounds p (some b) = .ok () ↔
      ∃ bs, bounds = some bs ∧ b ∈ bs ∧ pdeg p ≤ b ∧ b ≤ D := by
  unfold checkDegreesAndBounds
  cases bounds with
  | none => exact ⟨nofun, fun ⟨_, h, _⟩ => nomatch h⟩
  | some bs =>
    simp only [ite_not, List.contains_eq_mem, decide_eq_true_eq, Option.some.injEq, exists_eq_left']
    by_cases hc : b ∈ bs
    · rw [if_pos hc]
      by_cases hr : b < pdeg p ∨ b > D
      · rw [if_pos hr]
        exact ⟨nofun, fun h => absurd hr (not_or.2 ⟨Nat.not_lt.2 h.2.1, Nat.not_lt.2 h.2.2⟩)⟩
      · rw [if_neg hr]
        exact ⟨fun _ => ⟨hc, Nat.le_of_not_lt (not_or.1 hr).1, Nat.le_of_not_lt (not_or.1 hr).2⟩,
          fun _ => rfl⟩
    · rw [if_neg hc]
      exact ⟨nofun, fun h => absurd h.1 hc⟩

section
variable {vk : VK F} {c : LComm F} {cs : List (LComm F)} {b : Nat} {s sp v ξ ξ' C V : F}
  {vs ξs rest : List F}

theorem accumulate_cons_plain (hb : c.bound = none) (hs : c.comm.shifted = none)
    (hr : accumulate vk cs vs ξs = .ok ((C, V), rest)) :
    accumulate vk (c :: cs) (v :: vs) (ξ :: ξs)
      = .ok ((ξ * c.comm.comm + C, ξ * v + V), rest) := by
  simp only [accumulate, hb, hs, hr, Option.isSome_none, ne_eq, not_true_eq_false, if_false]

theorem accumulate_cons_bounded (hb : c.bound = some b) (hs : c.comm.shifted = some s)
    (hsp : vk.shiftPower b = some sp)
    (hr : accumulate vk cs vs ξs = .ok ((C, V), rest)) :
    accumulate vk (c :: cs) (v :: vs) (ξ :: ξ' :: ξs)
      = .ok ((ξ * c.comm.comm + ξ' * (s - v * sp) + C, ξ * v + V), rest) := by
  simp only [accumulate, hb, hs, hsp, hr, Option.isSome_some, ne_eq, not_true_eq_false, if_false]

theorem accumulate_cons_ok (h : accumulate vk (c :: cs) (v :: vs) ξs = .ok ((C, V), rest)) :
    ∃ ξ ξs' C0 V0, ξs = ξ :: ξs' ∧ V = ξ * v + V0 ∧
      ((c.bound = none ∧ c.comm.shifted = none ∧
          accumulate vk cs vs ξs' = .ok ((C0, V0), rest) ∧ C = ξ * c.comm.comm + C0) ∨
       ∃ b s ξ' ξs'' sp, c.bound = some b ∧ c.comm.shifted = some s ∧ ξs' = ξ' :: ξs'' ∧
          vk.shiftPower b = some sp ∧ accumulate vk cs vs ξs'' = .ok ((C0, V0), rest) ∧
          C = ξ * c.comm.comm + ξ' * (s - v * sp) + C0) := by
  unfold accumulate at h
  by_cases hsome : c.bound.isSome ≠ c.comm.shifted.isSome
  · rw [if_pos hsome] at h; cases h
  · rw [if_neg hsome] at h
    cases ξs with
    | nil => cases h
    | cons ξ ξs' =>
      cases hb : c.bound <;> cases hs : c.comm.shifted <;> simp only [hb, hs] at h hsome
      · split at h
        · cases h
        · rename_i C0 V0 rest0 hrec
          cases h
          exact ⟨ξ, ξs', C0, V0, rfl, rfl, .inl ⟨rfl, rfl, hrec, rfl⟩⟩
      · exact (hsome Bool.false_ne_true).elim
      · exact (hsome Bool.false_ne_true.symm).elim
      · cases ξs' with
        | nil => cases h
        | cons ξ' ξs'' =>
          simp only at h
          split at h
          · cases h
          · rename_i sp hsp
            split at h
            · cases h
            · rename_i C0 V0 rest0 hrec
              cases h
              exact ⟨ξ, _, C0, V0, rfl, rfl, .inr ⟨_, _, ξ', ξs'', sp, rfl, rfl, rfl, hsp, hrec, rfl⟩⟩

theorem accumulate_single_plain {l : Label} {c : F} :
    accumulate vk [⟨l, ⟨c, none⟩, none⟩] [v] (ξ :: ξs) = .ok ((ξ * c + 0, ξ * v + 0), ξs) :=
  accumulate_cons_plain rfl rfl rfl

theorem accumulate_single_bounded (hsp : vk.shiftPower b = some sp) {l : Label} {c : F} :
    accumulate vk [⟨l, ⟨c, some s⟩, some b⟩] [v] (ξ :: ξ' :: ξs)
      = .ok ((ξ * c + ξ' * (s - v * sp) + 0, ξ * v + 0), ξs) :=
  accumulate_cons_bounded rfl rfl hsp rfl

end

theorem openLoop_cons_ok {ck : CK F} {z : F} {p : LPoly F} {ps : List (LPoly F)} {st : Rand F}
    {sts : List (Rand F)} {ξs : List F} {acc0 acc : OpenAcc F} {rest : List F}
    (h : openLoop ck z (p :: ps) (st :: sts) ξs acc0 = .ok (acc, rest)) :
    checkDegreesAndBounds ck.maxDegree ck.bounds p.poly p.bound = .ok () ∧
    ∃ ξ ξs', ξs = ξ :: ξs' ∧
      ((p.bound = none ∧ st.shifted = none ∧
        openLoop ck z ps sts ξs' { acc0 with p := padd acc0.p (pscale ξ p.poly),
                                             r := padd acc0.r (pscale ξ st.rand) } = .ok (acc, rest)) ∨
       ∃ b rs ξ' ξs'', p.bound = some b ∧ st.shifted = some rs ∧ ξs' = ξ' :: ξs'' ∧
        openLoop ck z ps sts ξs''
          { p := padd acc0.p (pscale ξ p.poly), r := padd acc0.r (pscale ξ st.rand),
            sw := padd acc0.sw (pscale ξ' (shiftPoly ck (divLin p.poly z).1 b)),
            sr := padd acc0.sr (pscale ξ' rs),
            srw := padd acc0.srw (pscale ξ' (if isZeroPoly rs then [] else (divLin rs z).1)),
            enforce := true } = .ok (acc, rest)) := by
  unfold openLoop at h
  by_cases hsome : p.bound.isSome ≠ st.shifted.isSome
  · rw [if_pos hsome] at h; cases h
  · rw [if_neg hsome] at h
    split at h
    · cases h
    · rename_i hdb
      refine ⟨hdb, ?_⟩
      cases ξs with
      | nil => cases h
      | cons ξ ξs' =>
        refine ⟨ξ, ξs', rfl, ?_⟩
        cases hb : p.bound <;> cases hs : st.shifted <;> simp only [hb, hs] at h hsome
        · exact .inl ⟨rfl, rfl, h⟩
        · exact (hsome Bool.false_ne_true).elim
        · exact (hsome Bool.false_ne_true.symm).elim
        · cases ξs' with
          | nil => cases h
          | cons ξ' ξs'' => exact .inr ⟨_, _, ξ', ξs'', rfl, rfl, rfl, h⟩

/-- blinding polynomials fit the γ-powers of the key -/
def RandLen (m : Nat) (t : Trip F) : Prop :=
  (pnorm t.2.1.rand).length ≤ m ∧ ∀ rs, t.2.1.shifted = some rs → (pnorm rs).length ≤ m

theorem RandLen.of_empty {m : Nat} {t : Trip F}
    (h : t.2.1.rand = [] ∧ ∀ rs, t.2.1.shifted = some rs → rs = []) : RandLen m t :=
  ⟨h.1 ▸ pnorm_nil_le m, fun rs hrs => h.2 rs hrs ▸ pnorm_nil_le m⟩

/-- what the prover's loop `openLoop` keeps of its accumulators (`m`: number of γ-powers of the key) -/
structure AccInv (ck : CK F) (z β : F) (m : Nat) (a : OpenAcc F) : Prop where
  srw : (β - z) * evalPoly a.srw β = evalPoly a.sr β - evalPoly a.sr z
  off : a.enforce = false → a.sw = [] ∧ a.sr = []
  on : a.enforce = true → ∃ bs, ck.bounds = some bs ∧ bs ≠ []
  rlen : (pnorm a.r).length ≤ m
  srwlen : (pnorm a.srw).length ≤ m

/-- **Lock-step lemma.** If the prover's loop succeeds on honest inputs then the verifier's
accumulation succeeds on the matching commitments and true values, consumes the same challenges,
and its outputs are the stated functions of the prover's accumulators. -/
theorem open_accumulate {ck : CK F} {vk : VK F} {g γ β h : F} {D n m : Nat}
    (hwf : WF ck vk g γ β h D n m) {z : F} {l : List (Trip F)}
    (hh : ∀ t ∈ l, Honest g γ β D t) (hl : ∀ t ∈ l, RandLen m t)
    {ξs : List F} {acc0 acc : OpenAcc F} {rest : List F}
    (ho : openLoop ck z (l.map (·.1)) (l.map (·.2.1)) ξs acc0 = .ok (acc, rest)) :
    (AccInv ck z β m acc0 → AccInv ck z β m acc) ∧
    ∃ C V, accumulate vk (l.map (·.2.2)) (l.map fun t => evalPoly t.1.poly z) ξs
        = .ok ((C, V), rest) ∧
      C = g * (evalPoly acc.p β - evalPoly acc0.p β) + γ * (evalPoly acc.r β - evalPoly acc0.r β)
          + (β - z) * (g * fpow β (D - maxBound ck) * (evalPoly acc.sw β - evalPoly acc0.sw β))
          + γ * (evalPoly acc.sr β - evalPoly acc0.sr β) ∧
      V = evalPoly acc.p z - evalPoly acc0.p z := by
  induction l generalizing ξs acc0 with
  | nil =>
    cases ho
    exact ⟨id, 0, 0, rfl, by simp only [sub_self, mul_zero, add_zero], (sub_self _).symm⟩
  | cons t l ih =>
    obtain ⟨hb, hc, -, hbc, hs⟩ := hh t List.mem_cons_self
    obtain ⟨hr, hrs⟩ := hl t List.mem_cons_self
    have hh' : ∀ t' ∈ l, Honest g γ β D t' := fun t' ht' => hh t' (List.mem_cons_of_mem _ ht')
    have hl' : ∀ t' ∈ l, RandLen m t' := fun t' ht' => hl t' (List.mem_cons_of_mem _ ht')
    obtain ⟨hdb, ξ, ξs', rfl, hcase⟩ := openLoop_cons_ok ho
    -- both kinds of step add `ξ·p` to the combined polynomial and `ξ·p(z)` to the combined value
    have hV' : ∀ {V}, V = evalPoly acc.p z - evalPoly (padd acc0.p (pscale ξ t.1.poly)) z →
        ξ * evalPoly t.1.poly z + V = evalPoly acc.p z - evalPoly acc0.p z := by
      rintro _ rfl
      rw [eval_padd, eval_pscale, sub_add_eq_sub_sub, add_sub_cancel]
    rcases hcase with ⟨hbd, -, ho'⟩ | ⟨d, rs, ξ', ξs'', hbd, hrs', rfl, ho'⟩
    · obtain ⟨hinv, C, V, ha, hC, hV⟩ := ih hh' hl' ho'
      have hcn : t.2.2.comm.shifted = none := by
        rw [← Option.not_isSome_iff_eq_none, ← hbc, hbd]; exact Bool.false_ne_true
      refine ⟨fun h0 => hinv ⟨h0.srw, h0.off, h0.on,
          pnorm_padd_le _ _ m h0.rlen (pnorm_pscale_le _ _ m hr), h0.srwlen⟩, _, _,
        accumulate_cons_plain (hb.trans hbd) hcn ha, ?_, hV' hV⟩
      rw [hC, hc]; simp only [eval_padd, eval_pscale]; ring
    · obtain ⟨hinv, C, V, ha, hC, hV⟩ := ih hh' hl' ho'
      obtain ⟨s, hcs⟩ := Option.isSome_iff_exists.1 (hbc.symm.trans (congrArg Option.isSome hbd))
      rw [hbd] at hdb
      obtain ⟨bs, hbse, hmem, -, -⟩ := (checkDB_ok_iff _ _ _ _).1 hdb
      have hne : bs ≠ [] := List.ne_nil_of_mem hmem
      obtain ⟨-, hle, hBD⟩ := hwf.shifted bs hbse hne
      have hpow : fpow β (D - maxBound ck) * fpow β (maxBound ck - d) = fpow β (D - d) := by
        rw [← fpow_add, maxBound_eq hbse, Nat.sub_add_sub_cancel hBD (hle d hmem)]
      refine ⟨fun h0 => hinv ⟨?_, fun he => (nomatch he), fun _ => ⟨bs, hbse, hne⟩,
          pnorm_padd_le _ _ m h0.rlen (pnorm_pscale_le _ _ m hr),
          pnorm_padd_le _ _ m h0.srwlen (pnorm_pscale_le _ _ m ?_)⟩, _, _,
        accumulate_cons_bounded (hb.trans hbd) hcs (hwf.shifts bs hbse d hmem) ha, ?_, hV' hV⟩
      · simp only [eval_padd, eval_pscale]
        linear_combination h0.srw + ξ' * eval_wr rs z β
      · split
        · exact pnorm_nil_le m
        · exact (pnorm_divLin_le rs z).trans (hrs rs hrs')
      · rw [hC, hc, hs d rs s hbd hrs' hcs]
        simp only [eval_padd, eval_pscale, eval_shiftPoly]
        -- `(β − z)·w(β) = p(β) − p(z)` for the witness `w`, shifted by `β^(D−B)·β^(B−d) = β^(D−d)`
        rw [← hpow]
        linear_combination (ξ' * g * fpow β (D - maxBound ck) * fpow β (maxBound ck - d))
          * divLin_quot t.1.poly z β

theorem openWith_some {pw : KZG.Powers F} {z : F} {r w wr : List F} {π : KZG.Proof F}
    (h : KZG.openWith pw z r w (some wr) = .ok π) :
    π = ⟨KZG.msmSkip pw.g w + dot pw.gg wr, some (evalPoly r z)⟩ ∧ (pnorm w).length ≤ pw.g.length := by
  unfold KZG.openWith at h
  split at h
  · cases h
  · rename_i hd
    cases h
    exact ⟨rfl, KZG.pnorm_len_of_deg _ _ ((KZG.checkDegree_ok _ _).1 hd)⟩

section
variable {vk : VK F} {cs : List (LComm F)} {z C V : F} {vs ξs rest : List F} {π : KZG.Proof F}

theorem check_of_accumulate (ha : accumulate vk cs vs ξs = .ok ((C, V), rest)) (z : F)
    (π : KZG.Proof F) :
    check vk cs z vs π ξs = .ok (decide (KZG.defect vk.vk C z V π = 0), rest) := by
  unfold check; rw [ha]; rfl

theorem check_iff_of_accumulate (ha : accumulate vk cs vs ξs = .ok ((C, V), rest)) (z : F)
    (π : KZG.Proof F) :
    check vk cs z vs π ξs = .ok (true, rest) ↔ KZG.defect vk.vk C z V π = 0 := by
  rw [check_of_accumulate ha]
  exact ⟨fun h => of_decide_eq_true (Prod.mk.inj (Except.ok.inj h)).1, fun h => by rw [decide_eq_true h]⟩

theorem check_true_iff :
    check vk cs z vs π ξs = .ok (true, rest) ↔
      ∃ C V, accumulate vk cs vs ξs = .ok ((C, V), rest) ∧ KZG.defect vk.vk C z V π = 0 := by
  constructor
  · intro h
    unfold check at h
    split at h
    · cases h
    · rename_i C V rest' ha
      injection h with h; injection h with h1 h2
      exact ⟨C, V, h2 ▸ ha, (KZG.check_iff_defect _ _ _ _ _).1 h1⟩
  · rintro ⟨C, V, ha, hd⟩
    exact (check_iff_of_accumulate ha z π).2 hd

end

/-- **Completeness of `MarlinKZG10::open`/`check`** for any number of polynomials with any mix of
degree bounds and hiding bounds.  `hnd` excludes the degenerate challenge values for which the
code itself drops the shifted blinding value (`random_v.map(..)` on `None`): the combined blinding
polynomial vanishes identically while a shifted one does not (never the case without hiding). -/
theorem open_check_complete {ck : CK F} {vk : VK F} {g γ β h : F} {D n m : Nat}
    (hwf : WF ck vk g γ β h D n m) (z : F) (l : List (Trip F))
    (hh : ∀ t ∈ l, Honest g γ β D t) (hl : ∀ t ∈ l, RandLen m t) (ξs : List F)
    (π : KZG.Proof F) (rest : List F)
    (ho : Marlin.open ck (l.map (·.1)) z (l.map (·.2.1)) ξs = .ok (π, rest))
    (hnd : ∀ acc r, openLoop ck z (l.map (·.1)) (l.map (·.2.1)) ξs ⟨[], [], [], [], [], false⟩
        = .ok (acc, r) → isZeroPoly acc.r = true → evalPoly acc.sr z = 0) :
    check vk (l.map (·.2.2)) z (l.map fun t => evalPoly t.1.poly z) π ξs = .ok (true, rest) := by
  unfold Marlin.open at ho
  split at ho
  · cases ho
  · rename_i acc rest' hloop
    obtain ⟨hinv, C, V, ha, hC, hV⟩ := open_accumulate hwf hh hl hloop
    obtain ⟨hsrw, hoff, hon, hrlen, hsrwlen⟩ :=
      hinv ⟨by simp only [evalPoly_nil, mul_zero, sub_zero], fun _ => ⟨rfl, rfl⟩, nofun,
        pnorm_nil_le m, pnorm_nil_le m⟩
    simp only [evalPoly_nil, sub_zero] at hC hV
    split at ho
    · cases ho
    · rename_i π0 hopen
      rw [hwf.wfPowers] at hopen
      suffices hkey : rest' = rest ∧ KZG.defect vk.vk C z V π = 0 by
        rw [check_of_accumulate ha, decide_eq_true hkey.2, hkey.1]
      rw [hwf.vkeq]
      split at ho
      · -- degree bounds enforced: the proof is the sum of the plain and the shifted opening
        rename_i henf
        obtain ⟨bs, hbse, hne⟩ := hon henf
        obtain ⟨hspe, -, -⟩ := hwf.shifted bs hbse hne
        rw [hspe] at ho
        simp only at ho
        split at ho
        · cases ho
        · rename_i πs hows
          injection ho with ho; injection ho with hπ hrest
          obtain ⟨hw0, hrv0⟩ := KZG.open_spec g γ β n m acc.p acc.r z π0 hrlen hopen
          obtain ⟨hπs, hswlen⟩ := openWith_some hows
          rw [← maxBound_eq hbse] at hπs hswlen
          have hsw : KZG.msmSkip (powers (g * fpow β (D - maxBound ck)) β (maxBound ck + 1)) acc.sw
              = g * fpow β (D - maxBound ck) * evalPoly acc.sw β :=
            KZG.msmSkip_powers _ _ _ _ (hswlen.trans (Nat.le_of_eq (powers_length _ _ _)))
          have hsrwv : dot ck.gammaPowers acc.srw = γ * evalPoly acc.srw β := by
            rw [hwf.hgamma, dot_comm, dot_powers' _ γ β m hsrwlen]
          -- `open` returns `random_v = None` exactly when the blinding polynomial is zero; then
          -- the shifted blinding value is dropped, and `hnd` says it was zero
          have hrv : KZG.rvVal π.rv = evalPoly acc.r z + evalPoly acc.sr z := by
            rw [← hπ, hπs, ← hrv0]
            cases hrv : π0.rv with
            | none =>
              have hz : isZeroPoly acc.r = true := by
                by_contra hcon
                obtain ⟨v', hv'⟩ := KZG.open_rv_some _ acc.p z acc.r π0 hopen (Bool.eq_false_iff.2 hcon)
                rw [hrv] at hv'; cases hv'
              rw [hnd acc rest' hloop hz, add_zero]
            | some v => rfl
          refine ⟨hrest, ?_⟩
          rw [KZG.defect_wfVK, hrv, ← hπ, hC, hV]
          simp only [hπs, hsw, hsrwv, hw0]
          linear_combination (h * g) * divLin_quot acc.p z β + (h * γ) * divLin_quot acc.r z β
            - (h * γ) * hsrw
      · -- no degree bound among the polynomials
        rename_i henf
        injection ho with ho; injection ho with hπ hrest
        obtain ⟨e1, e2⟩ := hoff (Bool.eq_false_iff.2 henf)
        refine ⟨hrest, ?_⟩
        rw [← hπ, hC, hV, e1, e2]
        simp only [evalPoly_nil, mul_zero, add_zero]
        exact (KZG.check_iff_defect ..).1 (KZG.open_check_complete g γ β h n m acc.p acc.r z π0 hrlen hopen)

end Marlin
end PCV
