/-
  PCV.Proofs.MarlinBatch — completeness of `MarlinKZG10::batch_open` followed by
  `MarlinKZG10::batch_check`: the label lookups of prover and verifier find aligned
  (polynomial, state, commitment) triples, every point label's combined opening has KZG defect 0, and
  the batch is accepted for every list of verifier randomizers.
-/
import PCV.Proofs.MarlinMore
import PCV.Proofs.Lookup
set_option linter.unusedSectionVars false

namespace PCV
namespace Marlin

variable {F : Type} [Field F] [DecidableEq F]

/-- last-write-wins lookup of a polynomial label among triples -/
def lookupT (lab : Label) (l : List (Trip F)) (acc : Option (Trip F)) : Option (Trip F) :=
  l.foldl (fun acc t => if t.1.label = lab then some t else acc) acc

theorem lookupT_none (lab : Label) (l : List (Trip F)) :
    lookupT lab l none = lookupLast (fun t : Trip F => t.1.label) lab l := rfl

/-- the prover's lookup (`polys.zip(states)` by polynomial label) finds the triple's first two parts -/
theorem lookup_polys (lab : Label) (l : List (Trip F)) :
    lookupLast (fun (x : LPoly F × Rand F) => x.1.label) lab ((l.map (·.1)).zip (l.map (·.2.1)))
      = (lookupT lab l none).map fun t => (t.1, t.2.1) := by
  rw [List.zip_map', lookupT_none]
  exact lookupLast_map _ lab _ _ l fun _ _ => rfl

/-- the verifier's lookup (commitments by their own label) finds the same triple's commitment -/
theorem lookup_comms (lab : Label) (l : List (Trip F)) (hlab : ∀ t ∈ l, t.2.2.label = t.1.label) :
    lookupLast (fun (c : LComm F) => c.label) lab (l.map (·.2.2)) = (lookupT lab l none).map (·.2.2) :=
  lookupLast_map _ lab _ _ l hlab

section
variable {ck : CK F} {vk : VK F} {polys ps : List (LPoly F)} {sts ss : List (Rand F)}
  {comms cs : List (LComm F)} {evals : List ((Label × F) × F)} {z : F} {l : Label}
  {ls : List Label} {vs ξs rest : List F} {g : Label × (F × List Label)}
  {gs : List (Label × (F × List Label))} {πs : List (KZG.Proof F)} {trip : List (F × F × F)}

theorem gatherPolys_cons_ok (h : gatherPolys polys sts (l :: ls) = .ok (ps, ss)) :
    ∃ p st ps' ss', lookupLast (fun (x : LPoly F × Rand F) => x.1.label) l (polys.zip sts)
        = some (p, st) ∧ gatherPolys polys sts ls = .ok (ps', ss') ∧ ps = p :: ps' ∧ ss = st :: ss' := by
  unfold gatherPolys at h
  split at h
  · cases h
  · rename_i p st hlook
    split at h
    · cases h
    · rename_i ps' ss' hrec
      cases h
      exact ⟨p, st, ps', ss', hlook, hrec, rfl, rfl⟩

theorem gatherComms_cons_ok :
    gatherComms comms evals z (l :: ls) = .ok (cs, vs) ↔
    ∃ c v cs' vs', lookupLast (fun (c : LComm F) => c.label) l comms = some c ∧
      c.bound.isSome = c.comm.shifted.isSome ∧ lookupEval evals l z = some v ∧
      gatherComms comms evals z ls = .ok (cs', vs') ∧ cs = c :: cs' ∧ vs = v :: vs' := by
  constructor
  · intro h
    unfold gatherComms at h
    split at h
    · cases h
    · rename_i c hc
      by_cases hsome : c.bound.isSome ≠ c.comm.shifted.isSome
      · rw [if_pos hsome] at h; cases h
      · rw [if_neg hsome] at h
        split at h
        · cases h
        · rename_i v hv
          split at h
          · cases h
          · rename_i cs' vs' hrec
            cases h
            exact ⟨c, v, cs', vs', hc, not_not.1 hsome, hv, hrec, rfl, rfl⟩
  · rintro ⟨c, v, cs', vs', hc, hsome, hv, hrec, rfl, rfl⟩
    simp only [gatherComms, hc, hv, hrec, hsome, ne_eq, not_true_eq_false, if_false]

theorem batchOpenGroups_cons_ok (h : batchOpenGroups ck polys sts (g :: gs) ξs = .ok (πs, rest)) :
    ∃ ps ss π ξs' πs', gatherPolys polys sts g.2.2 = .ok (ps, ss) ∧
      Marlin.open ck ps g.2.1 ss ξs = .ok (π, ξs') ∧
      batchOpenGroups ck polys sts gs ξs' = .ok (πs', rest) ∧ πs = π :: πs' := by
  unfold batchOpenGroups at h
  split at h
  · cases h
  · rename_i ps ss hg
    split at h
    · cases h
    · rename_i π ξs' ho
      split at h
      · cases h
      · rename_i πs' rest' hrec
        cases h
        exact ⟨ps, ss, π, ξs', πs', hg, ho, hrec, rfl⟩

theorem combineGroups_cons_ok :
    combineGroups vk comms evals (g :: gs) ξs = .ok (trip, rest) ↔
    ∃ cs vs C V ξs' trip', gatherComms comms evals g.2.1 g.2.2 = .ok (cs, vs) ∧
      accumulate vk cs vs ξs = .ok ((C, V), ξs') ∧
      combineGroups vk comms evals gs ξs' = .ok (trip', rest) ∧ trip = (C, g.2.1, V) :: trip' := by
  constructor
  · intro h
    unfold combineGroups at h
    split at h
    · cases h
    · rename_i cs vs hg
      split at h
      · cases h
      · rename_i C V ξs' ha
        split at h
        · cases h
        · rename_i trip' r hrec
          cases h
          exact ⟨cs, vs, C, V, ξs', trip', hg, ha, hrec, rfl⟩
  · rintro ⟨cs, vs, C, V, ξs', trip', hg, ha, hrec, rfl⟩
    simp only [combineGroups, hg, ha, hrec]

end

/-- the verifier's lookups for one point label find the commitments of the triples the prover's
lookups found, with the true values -/
theorem gather_aligned {g γ β : F} {D : Nat} {l : List (Trip F)}
    (hH : ∀ t ∈ l, Honest g γ β D t) (hlab : ∀ t ∈ l, t.2.2.label = t.1.label)
    {evals : List ((Label × F) × F)} {z : F} {ls : List Label}
    (hev : ∀ lab ∈ ls, ∀ t, lookupT lab l none = some t →
      lookupEval evals lab z = some (evalPoly t.1.poly z))
    {ps : List (LPoly F)} {ss : List (Rand F)}
    (hg : gatherPolys (l.map (·.1)) (l.map (·.2.1)) ls = .ok (ps, ss)) :
    ∃ sub : List (Trip F), (∀ t ∈ sub, t ∈ l) ∧ ps = sub.map (·.1) ∧ ss = sub.map (·.2.1) ∧
      gatherComms (l.map (·.2.2)) evals z ls
        = .ok (sub.map (·.2.2), sub.map fun t => evalPoly t.1.poly z) := by
  induction ls generalizing ps ss with
  | nil => cases hg; exact ⟨[], fun _ h => (nomatch h), rfl, rfl, rfl⟩
  | cons lab ls ih =>
    obtain ⟨p, st, ps', ss', hlook, hrec, rfl, rfl⟩ := gatherPolys_cons_ok hg
    obtain ⟨sub, hsub, rfl, rfl, hgc⟩ :=
      ih (fun lab' hl' => hev lab' (List.mem_cons_of_mem _ hl')) hrec
    rw [lookup_polys] at hlook
    obtain ⟨t, ht, hpt⟩ := Option.map_eq_some_iff.1 hlook
    cases hpt
    have htm : t ∈ l := (lookupLast_mem _ lab l t ht).1
    obtain ⟨hb, -, -, hsh, -⟩ := hH t htm
    refine ⟨t :: sub, List.forall_mem_cons.2 ⟨htm, hsub⟩, rfl, rfl, gatherComms_cons_ok.2
      ⟨t.2.2, _, _, _, ?_, hb ▸ hsh, hev lab List.mem_cons_self t ht, hgc, rfl, rfl⟩⟩
    rw [lookup_comms lab l hlab, ht]; rfl

/-- the non-degeneracy side condition of `open_check_complete`, for every point label of a batch in
the order `batch_open` visits them (vacuous for non-hiding polynomials, see `groupsND_nonhiding`) -/
def GroupsND (ck : CK F) (polys : List (LPoly F)) (sts : List (Rand F)) :
    List (Label × (F × List Label)) → List F → Prop
  | [], _ => True
  | gr :: gs, ξs =>
    match gatherPolys polys sts gr.2.2 with
    | .error _ => True
    | .ok (ps, ss) =>
      (∀ acc r, openLoop ck gr.2.1 ps ss ξs ⟨[], [], [], [], [], false⟩ = .ok (acc, r) →
          isZeroPoly acc.r = true → evalPoly acc.sr gr.2.1 = 0) ∧
      match Marlin.open ck ps gr.2.1 ss ξs with
      | .error _ => True
      | .ok (_, ξs') => GroupsND ck polys sts gs ξs'

/-- `batch_open` produces, point label by point label, combined openings of KZG defect zero, and
the verifier's `combine_and_normalize` consumes the same challenges -/
theorem batchOpenGroups_accept {ck : CK F} {vk : VK F} {g γ β h : F} {D n m : Nat}
    (hwf : WF ck vk g γ β h D n m) (l : List (Trip F))
    (hH : ∀ t ∈ l, Honest g γ β D t) (hL : ∀ t ∈ l, RandLen m t)
    (hlab : ∀ t ∈ l, t.2.2.label = t.1.label)
    (evals : List ((Label × F) × F)) (gs : List (Label × (F × List Label)))
    (hev : ∀ gr ∈ gs, ∀ lab ∈ gr.2.2, ∀ t, lookupT lab l none = some t →
      lookupEval evals lab gr.2.1 = some (evalPoly t.1.poly gr.2.1))
    (ξs : List F) (πs : List (KZG.Proof F)) (rest : List F)
    (ho : batchOpenGroups ck (l.map (·.1)) (l.map (·.2.1)) gs ξs = .ok (πs, rest))
    (hnd : GroupsND ck (l.map (·.1)) (l.map (·.2.1)) gs ξs) :
    ∃ trip, combineGroups vk (l.map (·.2.2)) evals gs ξs = .ok (trip, rest) ∧
      πs.length = trip.length ∧
      ∀ d ∈ KZG.defects vk.vk (trip.map (·.1)) (trip.map (·.2.1)) (trip.map (·.2.2)) πs, d = 0 := by
  induction gs generalizing ξs πs with
  | nil => cases ho; exact ⟨[], rfl, rfl, fun _ h => (nomatch h)⟩
  | cons gr gs ih =>
    obtain ⟨ps, ss, π, ξs', πs', hgp, hopen, hrec, rfl⟩ := batchOpenGroups_cons_ok ho
    simp only [GroupsND, hgp, hopen] at hnd
    obtain ⟨sub, hsub, rfl, rfl, hgc⟩ := gather_aligned hH hlab (hev gr List.mem_cons_self) hgp
    obtain ⟨C, V, hacc, hd⟩ := check_true_iff.1 (open_check_complete hwf gr.2.1 sub
      (fun t ht => hH t (hsub t ht)) (fun t ht => hL t (hsub t ht)) ξs π ξs' hopen hnd.1)
    obtain ⟨trip, htrip, hlen, hdef⟩ :=
      ih (fun gr' hgr' => hev gr' (List.mem_cons_of_mem _ hgr')) ξs' πs' hrec hnd.2
    exact ⟨(C, gr.2.1, V) :: trip, combineGroups_cons_ok.2 ⟨_, _, C, V, ξs', trip, hgc, hacc, htrip, rfl⟩,
      congrArg Nat.succ hlen, List.forall_mem_cons.2 ⟨hd, hdef⟩⟩

/-- with one proof per point label, `batch_check` decides whether the randomizer-weighted sum of the
point labels' KZG defects vanishes -/
theorem batchCheck_eq_decide {vk : VK F} {comms : List (LComm F)} (qs : List (Query F))
    {evals : List ((Label × F) × F)} {πs : List (KZG.Proof F)} {ξs : List F} (rs : List F)
    {trip : List (F × F × F)} {rest : List F}
    (hc : combineGroups vk comms evals (groupQueries qs) ξs = .ok (trip, rest))
    (hlen : πs.length = trip.length) :
    batchCheck vk comms qs evals πs ξs rs
      = .ok (decide (KZG.wsum 1 rs (KZG.defects vk.vk (trip.map (·.1)) (trip.map (·.2.1))
          (trip.map (·.2.2)) πs) = 0)) := by
  unfold batchCheck
  rw [hc]
  simp only
  rw [if_neg (not_not.2 hlen), KZG.batchCheck_ok _ _ _ _ _ _ (by simp only [List.length_map, hlen, and_self]),
    KZG.batchDefect_eq]

theorem batchCheck_all_true (vk : VK F) (comms : List (LComm F)) (qs : List (Query F))
    (evals : List ((Label × F) × F)) (πs : List (KZG.Proof F)) (ξs rs : List F)
    (trip : List (F × F × F)) (rest : List F)
    (hc : combineGroups vk comms evals (groupQueries qs) ξs = .ok (trip, rest))
    (hlen : πs.length = trip.length)
    (hall : ∀ d ∈ KZG.defects vk.vk (trip.map (·.1)) (trip.map (·.2.1)) (trip.map (·.2.2)) πs, d = 0) :
    batchCheck vk comms qs evals πs ξs rs = .ok true := by
  rw [batchCheck_eq_decide qs rs hc hlen, KZG.wsum_zero _ _ _ hall,
    decide_eq_true rfl]

theorem openLoop_sr_zero {ck : CK F} {z : F} {ps : List (LPoly F)} {ss : List (Rand F)}
    (hs : ∀ st ∈ ss, ∀ rs, st.shifted = some rs → rs = []) {ξs : List F} {acc0 acc : OpenAcc F}
    {r : List F} (ho : openLoop ck z ps ss ξs acc0 = .ok (acc, r))
    (h0 : evalPoly acc0.sr z = 0) : evalPoly acc.sr z = 0 := by
  induction ps generalizing ss ξs acc0 with
  | nil => cases ho; exact h0
  | cons p ps ih =>
    cases ss with
    | nil => cases ho; exact h0
    | cons st sts =>
      have hs' : ∀ st' ∈ sts, ∀ rs, st'.shifted = some rs → rs = [] :=
        fun st' h' => hs st' (List.mem_cons_of_mem _ h')
      obtain ⟨-, ξ, ξs', rfl, ⟨-, -, ho'⟩ | ⟨b, rs, ξ', ξs'', -, hrs, rfl, ho'⟩⟩ :=
        openLoop_cons_ok ho
      · exact ih hs' ho' h0
      · refine ih hs' ho' ?_
        rw [hs st List.mem_cons_self rs hrs]
        simp only [eval_padd, eval_pscale, evalPoly_nil, mul_zero, add_zero]
        exact h0

theorem gatherPolys_mem {polys : List (LPoly F)} {sts : List (Rand F)} {ls : List Label}
    {ps : List (LPoly F)} {ss : List (Rand F)} (hg : gatherPolys polys sts ls = .ok (ps, ss)) :
    ∀ st ∈ ss, st ∈ sts := by
  induction ls generalizing ps ss with
  | nil => cases hg; exact fun _ h => nomatch h
  | cons lab ls ih =>
    obtain ⟨p, st, ps', ss', hlook, hrec, rfl, rfl⟩ := gatherPolys_cons_ok hg
    exact List.forall_mem_cons.2
      ⟨(List.of_mem_zip (lookupLast_mem _ lab _ (p, st) hlook).1).2, ih hrec⟩

/-- without hiding and with empty shifted blinding (what `commit` returns without a hiding bound) the
side condition of the batch theorem holds for every query set and challenge list -/
theorem groupsND_nonhiding (ck : CK F) (polys : List (LPoly F)) (sts : List (Rand F))
    (hs : ∀ st ∈ sts, ∀ rs, st.shifted = some rs → rs = [])
    (gs : List (Label × (F × List Label))) (ξs : List F) : GroupsND ck polys sts gs ξs := by
  induction gs generalizing ξs with
  | nil => trivial
  | cons gr gs ih =>
    simp only [GroupsND]
    split
    · trivial
    · rename_i ps ss hgp
      refine ⟨fun acc r ho _ =>
        openLoop_sr_zero (fun st hst => hs st (gatherPolys_mem hgp st hst)) ho rfl, ?_⟩
      split
      · trivial
      · exact ih _

end Marlin
end PCV
