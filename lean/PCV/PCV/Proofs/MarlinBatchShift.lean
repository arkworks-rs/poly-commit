/-
  PCV.Proofs.MarlinBatchShift — the exact effect of ANY change of the claimed values of a batch on the
  decision of `MarlinKZG10::batch_check`: the evaluation map is shifted by an arbitrary function `δ` of
  the key (label, point); every point label's combined value moves by the challenge-weighted sum of its
  members' shifts, and the batch decision moves by `h · Σₖ ρₖ · ⟨κₖ, dsₖ⟩`.
-/
import PCV.Proofs.MarlinBatch

namespace PCV
namespace Marlin
variable {F : Type} [Field F] [DecidableEq F]

/-- shift every claimed value by a function of its key -/
def shiftEvals (δ : Label × F → F) (evals : List ((Label × F) × F)) : List ((Label × F) × F) :=
  evals.map fun e => (e.1, e.2 + δ e.1)

theorem lookupEval_shift (δ : Label × F → F) (evals : List ((Label × F) × F)) (l : Label) (z : F) :
    lookupEval (shiftEvals δ evals) l z = (lookupEval evals l z).map (· + δ (l, z)) :=
  lookupEval_map l z (fun k v => v + δ k) evals

/-- the shifts of one point label's members, in the order `gatherComms` visits them -/
def groupDs (δ : Label × F → F) (z : F) (ls : List Label) : List F := ls.map fun l => δ (l, z)

theorem gatherComms_shift {comms : List (LComm F)} {evals : List ((Label × F) × F)}
    (δ : Label × F → F) {z : F} {ls : List Label} {cs : List (LComm F)} {vs : List F}
    (h : gatherComms comms evals z ls = .ok (cs, vs)) :
    gatherComms comms (shiftEvals δ evals) z ls = .ok (cs, List.zipWith (· + ·) vs (groupDs δ z ls)) ∧
      vs.length = ls.length := by
  induction ls generalizing cs vs with
  | nil => cases h; exact ⟨rfl, rfl⟩
  | cons l ls ih =>
    obtain ⟨c, v, cs', vs', hc, hsome, hv, hrec, rfl, rfl⟩ := gatherComms_cons_ok.1 h
    obtain ⟨ih1, ih2⟩ := ih hrec
    exact ⟨gatherComms_cons_ok.2 ⟨c, _, cs', _, hc, hsome, by rw [lookupEval_shift, hv]; rfl, ih1, rfl, rfl⟩,
      congrArg Nat.succ ih2⟩

/-- `Σ` of the challenge-weighted shifts, per point label, threading the challenges as
`combine_and_normalize` does -/
def groupShifts (vk : VK F) (comms : List (LComm F)) (evals : List ((Label × F) × F))
    (δ : Label × F → F) : List (Label × (F × List Label)) → List F → List F
  | [], _ => []
  | g :: gs, ξs =>
    match gatherComms comms evals g.2.1 g.2.2 with
    | .error _ => []
    | .ok (cs, vs) =>
      match accumulate vk cs vs ξs with
      | .error _ => []
      | .ok (_, ξs') =>
        dot (kappa vk cs ξs) (groupDs δ g.2.1 g.2.2) :: groupShifts vk comms evals δ gs ξs'

/-- the shifted statement is combined with the same challenges into as many triples, and against any
proofs and randomizers the weighted sum of the KZG defects moves by `h · Σ ρₖ dₖ` -/
theorem combineGroups_shift {vk : VK F} {comms : List (LComm F)} {evals : List ((Label × F) × F)}
    (δ : Label × F → F) {gs : List (Label × (F × List Label))} {ξs : List F}
    {trip : List (F × F × F)} {rest : List F}
    (h : combineGroups vk comms evals gs ξs = .ok (trip, rest)) :
    ∃ trip', combineGroups vk comms (shiftEvals δ evals) gs ξs = .ok (trip', rest) ∧
      trip'.length = trip.length ∧ (groupShifts vk comms evals δ gs ξs).length = trip.length ∧
      ∀ (πs : List (KZG.Proof F)) (r : F) (rs : List F),
        KZG.wsum r rs (KZG.defects vk.vk (trip'.map (·.1)) (trip'.map (·.2.1)) (trip'.map (·.2.2)) πs)
          = KZG.wsum r rs (KZG.defects vk.vk (trip.map (·.1)) (trip.map (·.2.1)) (trip.map (·.2.2)) πs)
            - vk.vk.h * KZG.wsum r rs ((groupShifts vk comms evals δ gs ξs).take πs.length) := by
  induction gs generalizing ξs trip with
  | nil =>
    cases h
    exact ⟨[], rfl, rfl, rfl, fun πs r rs => by
      rw [groupShifts, List.take_nil]; simp only [KZG.wsum, mul_zero, sub_zero]⟩
  | cons g gs ih =>
    obtain ⟨cs, vs, C, V, ξs', trip0, hg, hacc, hrec, rfl⟩ := combineGroups_cons_ok.1 h
    obtain ⟨hg', hlen⟩ := gatherComms_shift δ hg
    obtain ⟨C', V', hacc', he⟩ := accumulate_perturb (ds := groupDs δ g.2.1 g.2.2)
      ((List.length_map _).trans hlen.symm) hacc
    obtain ⟨trip', ht', hl', hls, hw⟩ := ih hrec
    have hgs : groupShifts vk comms evals δ (g :: gs) ξs
        = dot (kappa vk cs ξs) (groupDs δ g.2.1 g.2.2) :: groupShifts vk comms evals δ gs ξs' := by
      simp only [groupShifts, hg, hacc]
    refine ⟨(C', g.2.1, V') :: trip', combineGroups_cons_ok.2 ⟨_, _, C', V', ξs', trip', hg', hacc', ht', rfl⟩,
      congrArg Nat.succ hl', by rw [hgs]; exact congrArg Nat.succ hls, fun πs r rs => ?_⟩
    cases πs with
    | nil =>
      -- without proofs there are no defects, and no shifts are taken
      show (0 : F) = 0 - vk.vk.h * 0
      rw [mul_zero, sub_zero]
    | cons π πs =>
      simp only [hgs, List.map_cons, KZG.defects, KZG.wsum, List.length_cons, List.take_succ_cons]
      rw [hw πs]
      linear_combination r * KZG.defect_sub vk.vk C g.2.1 V C' g.2.1 V' π π + (r * vk.vk.h) * he

/-- **Any change of the claimed values of a batch.** From an accepted batch, the batch with the values
shifted by an arbitrary `δ` is accepted iff `h · Σₖ ρₖ · ⟨κₖ, dsₖ⟩ = 0`, the sum over point labels of
the randomizer times the challenge-weighted shifts of that label's members. -/
theorem batchCheck_shift_iff (vk : VK F) (comms : List (LComm F)) (qs : List (Query F))
    (evals : List ((Label × F) × F)) (δ : Label × F → F) (πs : List (KZG.Proof F)) (ξs rs : List F)
    (trip : List (F × F × F)) (rest : List F)
    (hc : combineGroups vk comms evals (groupQueries qs) ξs = .ok (trip, rest))
    (hlen : πs.length = trip.length)
    (hacc : batchCheck vk comms qs evals πs ξs rs = .ok true) :
    batchCheck vk comms qs (shiftEvals δ evals) πs ξs rs = .ok true ↔
      vk.vk.h * KZG.wsum 1 rs (groupShifts vk comms evals δ (groupQueries qs) ξs) = 0 := by
  obtain ⟨trip', hc', hl', hls, hw⟩ :=
    combineGroups_shift δ hc
  rw [batchCheck_eq_decide qs rs hc hlen] at hacc
  rw [batchCheck_eq_decide qs rs hc' (hlen.trans hl'.symm), hw πs 1 rs,
    of_decide_eq_true (Except.ok.inj hacc), List.take_of_length_le (Nat.le_of_eq (hls.trans hlen.symm)),
    zero_sub]
  simp only [Except.ok.injEq, decide_eq_true_eq, neg_eq_zero]

end Marlin
end PCV
