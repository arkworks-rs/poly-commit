/-
  PCV.Proofs.MarlinBound — the polynomial an algebraic committer/prover makes vanish at the trapdoor
  when its degree-bounded commitment is accepted: commitment `g·p(β)`, shifted commitment `g·q(β)` (any
  `q` with at most `D+1` coefficients — whatever can be built from the published powers), witness
  `g·a(β)`.  (The reduction itself: `C04.marlin_bound_forgery_root`, `C04.marlin_degree_bound_sound`.)
-/
import PCV.Proofs.MarlinMore
import PCV.Proofs.KZG10Extract
import PCV.Proofs.DegreeBound

namespace PCV
namespace Marlin
variable {F : Type} [Field F] [DecidableEq F]

/-- `ξ·(p − v) + ξ′·(q − v·X^k) − a·(X − z)` -/
def boundExtract (p q a : List F) (z v ξ ξ' : F) (k : Nat) : List F :=
  padd (padd (pscale ξ (padd p [-v])) (pscale ξ' (padd q (pscale (-v) (pshift k [1])))))
    (pscale (-1) (KZG.mulLin a z))

omit [DecidableEq F] in
theorem eval_boundExtract (p q a : List F) (z v ξ ξ' : F) (k : Nat) (x : F) :
    evalPoly (boundExtract p q a z v ξ ξ' k) x
      = ξ * (evalPoly p x - v) + ξ' * (evalPoly q x - v * fpow x k) - evalPoly a x * (x - z) := by
  unfold boundExtract
  simp only [eval_padd, eval_pscale, eval_pshift, KZG.eval_mulLin, evalPoly_cons, evalPoly_nil,
    mul_zero, add_zero]
  ring

end Marlin
end PCV
