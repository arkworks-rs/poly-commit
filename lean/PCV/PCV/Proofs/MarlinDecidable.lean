/-
  PCV.Proofs.MarlinDecidable — the hypotheses of the MarlinKZG10 completeness theorems (`Honest`,
  `RandLen`, the side condition `GroupsND`) are decidable over a field with decidable equality, so
  that concrete instances of the theorems discharge them by evaluation.
-/
import PCV.Proofs.MarlinBatch

namespace PCV
namespace Marlin
variable {F : Type} [Field F] [DecidableEq F]

instance Except.decidableForallOk {ε α : Type} (f : Except ε α) (P : α → Prop)
    [∀ a, Decidable (P a)] : Decidable (∀ a, f = .ok a → P a) :=
  match f with
  | .ok a => decidable_of_iff (P a) ⟨fun h _ e => Except.ok.inj e ▸ h, fun h => h a rfl⟩
  | .error _ => isTrue nofun

instance Except.decidableForallOkPair {ε α β : Type} (f : Except ε (α × β)) (P : α → β → Prop)
    [∀ a b, Decidable (P a b)] : Decidable (∀ a b, f = .ok (a, b) → P a b) :=
  decidable_of_iff (∀ x, f = .ok x → P x.1 x.2) ⟨fun h a b e => h (a, b) e, fun h x e => h x.1 x.2 e⟩

instance Honest.decidable (g γ β : F) (D : Nat) (t : Trip F) :
    Decidable (Honest g γ β D t) := by
  unfold Honest
  have : Decidable (∀ d rs s, t.1.bound = some d → t.2.1.shifted = some rs →
      t.2.2.comm.shifted = some s →
      s = g * fpow β (D - d) * evalPoly t.1.poly β + γ * evalPoly rs β) :=
    decidable_of_iff (∀ d ∈ t.1.bound, ∀ rs ∈ t.2.1.shifted, ∀ s ∈ t.2.2.comm.shifted,
        s = g * fpow β (D - d) * evalPoly t.1.poly β + γ * evalPoly rs β)
      ⟨fun e d rs s h1 h2 h3 => e d h1 rs h2 s h3, fun e d h1 rs h2 s h3 => e d rs s h1 h2 h3⟩
  exact inferInstance

instance RandLen.decidable (m : Nat) (t : Trip F) : Decidable (RandLen m t) :=
  inferInstanceAs (Decidable (_ ∧ ∀ rs ∈ t.2.1.shifted, (pnorm rs).length ≤ m))

instance GroupsND.decidable (ck : CK F) (polys : List (LPoly F)) (sts : List (Rand F)) :
    ∀ gs ξs, Decidable (GroupsND ck polys sts gs ξs)
  | [], _ => isTrue trivial
  | gr :: gs, ξs => by
    have := GroupsND.decidable ck polys sts gs
    unfold GroupsND
    split
    · exact isTrue trivial
    · split <;> exact inferInstance

end Marlin
end PCV
