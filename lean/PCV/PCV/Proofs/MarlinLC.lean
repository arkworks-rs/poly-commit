/-
  PCV.Proofs.MarlinLC — one linear combination of honestly committed polynomials
  (`combineLC`, the per-combination loop of `Marlin::open_combinations`).  The code allows a
  combination either when every polynomial it names is unbounded, or when it is the single term
  `1 · p` (then it keeps `p`'s bound and shifted commitment), and refuses every other shape.  An
  allowed combination is again honestly committed, with the combined evaluation and blinding that
  still fits the key; the verifier, who sees the commitments only, combines the same commitment.
-/
import PCV.Model.MarlinLC
import PCV.Proofs.MarlinMore
import PCV.Proofs.Lookup
import PCV.Proofs.LC
set_option linter.unusedSectionVars false

namespace PCV
namespace Marlin
variable {F : Type} [Field F] [DecidableEq F]

/-- the accumulator after the term `coeff · x`: what both successful branches of `lcStep` compute (a
degree-bounded `x` hands over its bound: it is then the only term) -/
def LCAcc.absorb (a : LCAcc F) (coeff : F) (x : Trip' F) : LCAcc F :=
  { a with bound := x.1.bound.or a.bound, hb := maxHiding a.hb x.1.hb,
           poly := padd a.poly (pscale coeff x.1.poly),
           rand := a.rand.addScaled coeff x.2.1 }.addComm coeff x.2.2.comm

theorem lcStep_poly {trips : List (Trip' F)} {k : Nat} {a : LCAcc F} {coeff : F} {l : Label}
    {x : Trip' F} (hl : lookupLast (fun (t : Trip' F) => t.1.label) l trips = some x) :
    lcStep trips k a (coeff, .poly l) =
      if x.1.bound.isSome ∧ k ≠ 1 then .error .equationHasDegreeBounds
      else if x.1.bound.isSome ∧ coeff ≠ 1 then .error .abort
      else .ok (a.absorb coeff x) := by
  simp only [lcStep, hl, LCAcc.absorb]
  cases x.1.bound with
  | none => simp
  | some d => by_cases hk : k = 1 <;> simp [hk]

theorem lcStep_ok {trips : List (Trip' F)} {k : Nat} {a a' : LCAcc F} {t : F × LC.LCTerm} :
    lcStep trips k a t = .ok a' ↔
    (t.2 = .one ∧ a' = a) ∨
    ∃ l x, t.2 = .poly l ∧ lookupLast (fun (t : Trip' F) => t.1.label) l trips = some x ∧
      a' = a.absorb t.1 x ∧ (x.1.bound = none ∨ (k = 1 ∧ t.1 = 1)) := by
  obtain ⟨coeff, tm⟩ := t
  constructor
  · intro hs
    cases tm with
    | one => exact .inl ⟨rfl, (Except.ok.inj hs).symm⟩
    | poly l =>
      cases hl : lookupLast (fun (t : Trip' F) => t.1.label) l trips with
      | none => simp only [lcStep, hl] at hs; cases hs
      | some x =>
        rw [lcStep_poly hl] at hs
        split_ifs at hs with h1 h2
        refine .inr ⟨l, x, rfl, hl, (Except.ok.inj hs).symm, ?_⟩
        by_cases hb : x.1.bound.isSome
        · exact .inr ⟨not_not.1 fun hk => h1 ⟨hb, hk⟩, not_not.1 fun hc => h2 ⟨hb, hc⟩⟩
        · exact .inl (Option.not_isSome_iff_eq_none.1 hb)
  · rintro (⟨ht, rfl⟩ | ⟨l, x, ht, hl, rfl, hc⟩)
    · cases ht; rfl
    · cases ht
      have hn : x.1.bound.isSome → k = 1 ∧ coeff = 1 := fun hb =>
        hc.resolve_left fun h => by rw [h] at hb; cases hb
      rw [lcStep_poly hl, if_neg fun h => h.2 (hn h.1).1, if_neg fun h => h.2 (hn h.1).2]

theorem go_cons_ok {trips : List (Trip' F)} {lc : LC.LinComb F} {a a' : LCAcc F} {t : F × LC.LCTerm}
    {ts : List (F × LC.LCTerm)} :
    combineLC.go trips lc a (t :: ts) = .ok a' ↔
      ∃ a1, lcStep trips lc.terms.length a t = .ok a1 ∧ combineLC.go trips lc a1 ts = .ok a' := by
  rw [combineLC.go]
  cases lcStep trips lc.terms.length a t with
  | error e => exact ⟨nofun, fun ⟨_, h, _⟩ => nomatch h⟩
  | ok a1 => exact ⟨fun h => ⟨a1, rfl, h⟩, fun ⟨_, h1, h2⟩ => Except.ok.inj h1 ▸ h2⟩

theorem go_induct {trips : List (Trip' F)} {lc : LC.LinComb F}
    (P : List (F × LC.LCTerm) → LCAcc F → Prop)
    (hstep : ∀ t ts a a', P (t :: ts) a → lcStep trips lc.terms.length a t = .ok a' → P ts a')
    {terms : List (F × LC.LCTerm)} {a a' : LCAcc F} (h0 : P terms a)
    (hs : combineLC.go trips lc a terms = .ok a') : P [] a' := by
  induction terms generalizing a with
  | nil => cases hs; exact h0
  | cons t ts ih =>
    obtain ⟨a1, h1, h2⟩ := go_cons_ok.1 hs
    exact ih (hstep t ts a a1 h0 h1) h2

/-- the accumulator the loop starts from -/
abbrev LCAcc.empty : LCAcc F := ⟨[], ⟨[], none⟩, 0, none, none, none⟩

theorem combineLC_ok {trips : List (Trip' F)} {lc : LC.LinComb F} {res : Trip' F}
    (hc : combineLC trips lc = .ok res) :
    ∃ a, combineLC.go trips lc .empty lc.terms = .ok a ∧
      res = (⟨lc.label, a.poly, a.bound, a.hb⟩, a.rand, ⟨lc.label, ⟨a.comm, a.shifted⟩, a.bound⟩) := by
  unfold combineLC at hc
  split at hc
  · cases hc
  · exact ⟨_, ‹_›, (Except.ok.inj hc).symm⟩

theorem combineLC_labels {trips : List (Trip' F)} {lc : LC.LinComb F} {res : Trip' F}
    (hc : combineLC trips lc = .ok res) : res.1.label = lc.label ∧ res.2.2.label = lc.label := by
  obtain ⟨a, -, rfl⟩ := combineLC_ok hc
  exact ⟨rfl, rfl⟩

/-- the degree bound of the polynomial a term names (`none` for constants and unknown labels) -/
def termBound (trips : List (Trip' F)) (t : F × LC.LCTerm) : Option Nat :=
  match t.2 with
  | .one => none
  | .poly lab =>
    match lookupLast (fun (t : Trip' F) => t.1.label) lab trips with
    | none => none
    | some x => x.1.bound

/-- every polynomial the combination names is unbounded (coefficients and constants arbitrary) -/
def LCUnbounded (trips : List (Trip' F)) (lc : LC.LinComb F) : Prop :=
  ∀ t ∈ lc.terms, termBound trips t = none

/-- the combination is the single term `1 · p` (`p` bounded or not, hiding or not) -/
def LCSingle (lc : LC.LinComb F) : Prop := ∃ lab, lc.terms = [(1, .poly lab)]

/-- the combinations `open_combinations` does not refuse -/
def LCAllowed (trips : List (Trip' F)) (lc : LC.LinComb F) : Prop :=
  LCUnbounded trips lc ∨ LCSingle lc

instance (trips : List (Trip' F)) (lc : LC.LinComb F) : Decidable (LCUnbounded trips lc) :=
  inferInstanceAs (Decidable (∀ t ∈ lc.terms, termBound trips t = none))

def lcSingleB (lc : LC.LinComb F) : Bool :=
  match lc.terms with
  | [(c, .poly _)] => decide (c = 1)
  | _ => false

theorem lcSingle_iff (lc : LC.LinComb F) : LCSingle lc ↔ lcSingleB lc = true := by
  unfold LCSingle lcSingleB
  constructor
  · rintro ⟨lab, h⟩
    rw [h]; simp
  · intro h
    split at h
    · rename_i c lab hterms
      exact ⟨lab, by rw [hterms, of_decide_eq_true h]⟩
    · cases h

instance (lc : LC.LinComb F) : Decidable (LCSingle lc) :=
  decidable_of_iff _ (lcSingle_iff lc).symm

instance (trips : List (Trip' F)) (lc : LC.LinComb F) : Decidable (LCAllowed trips lc) :=
  inferInstanceAs (Decidable (LCUnbounded trips lc ∨ LCSingle lc))

theorem termBound_poly {trips : List (Trip' F)} {t : F × LC.LCTerm} {l : Label} {x : Trip' F}
    (ht : t.2 = .poly l) (hl : lookupLast (fun (t : Trip' F) => t.1.label) l trips = some x) :
    termBound trips t = x.1.bound := by
  simp only [termBound, ht, hl]

theorem lcUnbounded_of_all {trips : List (Trip' F)} (hn : ∀ t ∈ trips, t.1.bound = none)
    (lc : LC.LinComb F) : LCUnbounded trips lc := by
  intro t _
  unfold termBound
  split
  · rfl
  · split
    · rfl
    · exact hn _ (lookupLast_mem _ _ trips _ ‹_›).1

theorem go_ok_shape {trips : List (Trip' F)} {lc : LC.LinComb F} {terms : List (F × LC.LCTerm)}
    {a a' : LCAcc F} (hs : combineLC.go trips lc a terms = .ok a') :
    ∀ t ∈ terms, termBound trips t = none ∨ (lc.terms.length = 1 ∧ ∃ lab, t = (1, .poly lab)) := by
  induction terms generalizing a with
  | nil => intro t ht; cases ht
  | cons t ts ih =>
    obtain ⟨a1, h1, h2⟩ := go_cons_ok.1 hs
    refine List.forall_mem_cons.2 ⟨?_, ih h2⟩
    rcases lcStep_ok.1 h1 with ⟨ht, -⟩ | ⟨l, x, ht, hl, -, hb | ⟨hk, hc⟩⟩
    · exact .inl (by simp only [termBound, ht])
    · exact .inl (by rw [termBound_poly ht hl, hb])
    · exact .inr ⟨hk, l, Prod.ext hc ht⟩

/-- **the prover refuses every other shape**: a combination `open_combinations` combines is a combination
of unbounded polynomials or the single term `1 · p` -/
theorem combineLC_ok_allowed {trips : List (Trip' F)} {lc : LC.LinComb F} {res : Trip' F}
    (hc : combineLC trips lc = .ok res) : LCAllowed trips lc := by
  obtain ⟨a, ha, -⟩ := combineLC_ok hc
  refine or_iff_not_imp_left.2 fun hall => ?_
  obtain ⟨t, ht, hnb⟩ : ∃ t ∈ lc.terms, termBound trips t ≠ none := by
    simpa only [LCUnbounded, not_forall, exists_prop] using hall
  obtain ⟨hlen, lab, rfl⟩ := (go_ok_shape ha t ht).resolve_left hnb
  obtain ⟨x, hx⟩ := List.length_eq_one_iff.1 hlen
  rw [hx, List.mem_singleton] at ht
  exact ⟨lab, by rw [hx, ht]⟩

/-- conversely an allowed combination all of whose labels are known is combined (no refusal) -/
theorem combineLC_allowed_ok {trips : List (Trip' F)} {lc : LC.LinComb F} (ha : LCAllowed trips lc)
    (hknown : ∀ t ∈ lc.terms, ∀ lab, t.2 = .poly lab →
      (lookupLast (fun (t : Trip' F) => t.1.label) lab trips).isSome = true) :
    ∃ res, combineLC trips lc = .ok res := by
  have hstep : ∀ t ∈ lc.terms, ∀ a, ∃ a1, lcStep trips lc.terms.length a t = .ok a1 := by
    rintro ⟨coeff, tm⟩ ht a
    cases tm with
    | one => exact ⟨a, rfl⟩
    | poly l =>
      obtain ⟨x, hl⟩ := Option.isSome_iff_exists.1 (hknown _ ht l rfl)
      refine ⟨_, lcStep_ok.2 (.inr ⟨l, x, rfl, hl, rfl, ?_⟩)⟩
      rcases ha with hu | ⟨lab, hterms⟩
      · exact .inl ((termBound_poly rfl hl).symm.trans (hu _ ht))
      · rw [hterms, List.mem_singleton] at ht
        cases ht
        exact .inr ⟨congrArg List.length hterms, rfl⟩
  have hgo : ∀ terms, (∀ t ∈ terms, ∀ a, ∃ a1, lcStep trips lc.terms.length a t = .ok a1) →
      ∀ a, ∃ a', combineLC.go trips lc a terms = .ok a' := by
    intro terms
    induction terms with
    | nil => exact fun _ a => ⟨a, rfl⟩
    | cons t ts ih =>
      intro h a
      obtain ⟨a1, h1⟩ := h t List.mem_cons_self a
      obtain ⟨a', h'⟩ := ih (fun t' ht' => h t' (List.mem_cons_of_mem _ ht')) a1
      exact ⟨a', go_cons_ok.2 ⟨a1, h1, h'⟩⟩
  obtain ⟨a', h'⟩ := hgo lc.terms hstep .empty
  unfold combineLC
  simp only [h']
  exact ⟨_, rfl⟩

/-- the invariant of the loop over unbounded honest inputs -/
def LCInv (g γ β : F) (a : LCAcc F) : Prop :=
  a.bound = none ∧ a.shifted = none ∧ a.rand.shifted = none ∧
  a.comm = g * evalPoly a.poly β + γ * evalPoly a.rand.rand β

/-- the part of a combination's value contributed by polynomial terms, at the point `z` -/
def lcPolyValue (trips : List (Trip' F)) (z : F) : List (F × LC.LCTerm) → F
  | [] => 0
  | t :: ts =>
    (match t.2 with
     | .one => 0
     | .poly l => match lookupLast (fun (t : Trip' F) => t.1.label) l trips with
       | none => 0
       | some x => t.1 * evalPoly x.1.poly z) + lcPolyValue trips z ts

theorem Honest.unshifted {g γ β : F} {D : Nat} {t : Trip' F} (h : Honest g γ β D t)
    (hb : t.1.bound = none) : t.2.1.shifted = none ∧ t.2.2.comm.shifted = none := by
  obtain ⟨-, -, hbs, hbc, -⟩ := h
  rw [hb] at hbs hbc
  exact ⟨Option.not_isSome_iff_eq_none.1 (by rw [← hbs]; nofun),
    Option.not_isSome_iff_eq_none.1 (by rw [← hbc]; nofun)⟩

theorem lcStep_inv {g γ β : F} {D : Nat} {trips : List (Trip' F)}
    (hh : ∀ t ∈ trips, Honest g γ β D t) {k : Nat} {a a' : LCAcc F} {t : F × LC.LCTerm}
    (hu : termBound trips t = none) (hi : LCInv g γ β a) (hs : lcStep trips k a t = .ok a') (z : F)
    (ts : List (F × LC.LCTerm)) :
    LCInv g γ β a' ∧
      evalPoly a'.poly z + lcPolyValue trips z ts = evalPoly a.poly z + lcPolyValue trips z (t :: ts) := by
  rcases lcStep_ok.1 hs with ⟨ht, rfl⟩ | ⟨l, x, ht, hl, rfl, -⟩
  · exact ⟨hi, by simp only [lcPolyValue, ht, zero_add]⟩
  · have hb : x.1.bound = none := (termBound_poly ht hl).symm.trans hu
    have hx := hh x (lookupLast_mem _ l trips x hl).1
    obtain ⟨hst, hcs⟩ := hx.unshifted hb
    obtain ⟨i1, i2, i3, i4⟩ := hi
    refine ⟨⟨?_, ?_, ?_, ?_⟩, ?_⟩
    · simp only [LCAcc.absorb, LCAcc.addComm, hb]; exact i1
    · simp only [LCAcc.absorb, LCAcc.addComm, hcs]; exact i2
    · simp only [LCAcc.absorb, LCAcc.addComm, Rand.addScaled, i3, hst]; rfl
    · simp only [LCAcc.absorb, LCAcc.addComm, Rand.addScaled, eval_padd, eval_pscale, hx.2.1, i4]; ring
    · simp only [LCAcc.absorb, LCAcc.addComm, eval_padd, eval_pscale, lcPolyValue, ht, hl]; ring

theorem combineLC_honest_u {g γ β : F} {D : Nat} {trips : List (Trip' F)}
    (hh : ∀ t ∈ trips, Honest g γ β D t) {lc : LC.LinComb F} (hu : LCUnbounded trips lc)
    {res : Trip' F} (hc : combineLC trips lc = .ok res) (z : F) :
    Honest g γ β D res ∧ res.1.bound = none ∧
      evalPoly res.1.poly z = lcPolyValue trips z lc.terms := by
  obtain ⟨a, ha, rfl⟩ := combineLC_ok hc
  obtain ⟨-, ⟨i1, i2, i3, i4⟩, hv⟩ := go_induct
    (fun ts a => (∀ t ∈ ts, termBound trips t = none) ∧ LCInv g γ β a ∧
      evalPoly a.poly z + lcPolyValue trips z ts = lcPolyValue trips z lc.terms)
    (fun t ts a a' ⟨hu', hi, hv⟩ h1 =>
      have ⟨hi', hv'⟩ := lcStep_inv hh (hu' t List.mem_cons_self) hi h1 z ts
      ⟨fun t' ht' => hu' t' (List.mem_cons_of_mem _ ht'), hi', hv'.trans hv⟩)
    ⟨hu, ⟨rfl, rfl, rfl, by simp⟩, by simp⟩ ha
  refine ⟨⟨rfl, i4, ?_, ?_, ?_⟩, i1, by simpa [lcPolyValue] using hv⟩
  · simp only [i1, i3]; rfl
  · simp only [i1, i2]; rfl
  · intro d rs s hd; simp only [i1] at hd; cases hd

theorem absorb_one (x : Trip' F) :
    (LCAcc.empty : LCAcc F).absorb 1 x
      = ⟨x.1.poly, x.2.1, x.2.2.comm.comm, x.2.2.comm.shifted, x.1.bound, maxHiding none x.1.hb⟩ := by
  obtain ⟨p, ⟨r, rs⟩, c⟩ := x
  simp only [LCAcc.absorb, LCAcc.addComm, Rand.addScaled, pscale_one, padd_nil_left, zero_add, one_mul,
    Option.getD_none, Option.map_id', Option.or_none]
  cases c.comm.shifted <;> rfl

/-- `1 · p` alone: the combined triple is `p`'s triple under the combination's label — bound, shifted
commitment and shifted blinding kept -/
theorem combineLC_single {g γ β : F} {D : Nat} {trips : List (Trip' F)}
    (hh : ∀ t ∈ trips, Honest g γ β D t) {lc : LC.LinComb F} (hs : LCSingle lc)
    {res : Trip' F} (hc : combineLC trips lc = .ok res) (z : F) :
    Honest g γ β D res ∧ evalPoly res.1.poly z = lcPolyValue trips z lc.terms := by
  obtain ⟨a, ha, rfl⟩ := combineLC_ok hc
  obtain ⟨lab, hterms⟩ := hs
  rw [hterms] at ha ⊢
  obtain ⟨a1, h1, h2⟩ := go_cons_ok.1 ha
  cases h2
  rcases lcStep_ok.1 h1 with ⟨ht, -⟩ | ⟨l, x, ht, hl, rfl, -⟩
  · cases ht
  cases ht
  obtain ⟨h1, h2, h3, h4, h5⟩ := hh x (lookupLast_mem _ lab trips x hl).1
  rw [absorb_one]
  exact ⟨⟨rfl, h2, h3, h4, h5⟩, by simp only [lcPolyValue, hl, one_mul, add_zero]⟩

/-- whatever `combineLC` returns on honest triples is an honestly committed polynomial with the combined
evaluations -/
theorem combineLC_honest_of_ok {g γ β : F} {D : Nat} {trips : List (Trip' F)}
    (hh : ∀ t ∈ trips, Honest g γ β D t) {lc : LC.LinComb F} {res : Trip' F}
    (hc : combineLC trips lc = .ok res) (z : F) :
    Honest g γ β D res ∧ evalPoly res.1.poly z = lcPolyValue trips z lc.terms := by
  rcases combineLC_ok_allowed hc with hu | hs
  · obtain ⟨h1, -, h3⟩ := combineLC_honest_u hh hu hc z
    exact ⟨h1, h3⟩
  · exact combineLC_single hh hs hc z

/-- the shifted blinding of `a += f · b`, a missing one counting as the zero polynomial -/
theorem Rand.addScaled_shifted (a b : Rand F) (f : F) {rs : List F}
    (h : (a.addScaled f b).shifted = some rs) :
    ∃ r1 r2, rs = padd r1 (pscale f r2) ∧ (r1 = [] ∨ a.shifted = some r1) ∧
      (r2 = [] ∨ b.shifted = some r2) := by
  unfold Rand.addScaled at h
  cases ha : a.shifted with
  | some r1 =>
    rw [ha] at h
    refine ⟨r1, b.shifted.getD [], (Option.some.inj h).symm, .inr rfl, ?_⟩
    cases b.shifted with
    | none => exact .inl rfl
    | some r2 => exact .inr rfl
  | none =>
    rw [ha] at h
    cases hb : b.shifted with
    | none => rw [hb] at h; cases h
    | some r2 => rw [hb] at h; exact ⟨[], r2, (Option.some.inj h).symm, .inl rfl, .inr rfl⟩

theorem combineLC_rand (P : Rand F → Prop) (h0 : P ⟨[], none⟩)
    (hadd : ∀ a b f, P a → P b → P (a.addScaled f b)) {trips : List (Trip' F)}
    (hP : ∀ t ∈ trips, P t.2.1) {lc : LC.LinComb F} {res : Trip' F}
    (hc : combineLC trips lc = .ok res) : P res.2.1 := by
  obtain ⟨a, ha, rfl⟩ := combineLC_ok hc
  refine go_induct (fun _ a => P a.rand) (fun t ts a a' hi h1 => ?_) h0 ha
  rcases lcStep_ok.1 h1 with ⟨-, rfl⟩ | ⟨l, x, -, hl, rfl, -⟩
  · exact hi
  · exact hadd _ _ _ hi (hP x (lookupLast_mem _ l trips x hl).1)

theorem combineLC_randlen {trips : List (Trip' F)} {m : Nat} (hL : ∀ t ∈ trips, RandLen m t)
    {lc : LC.LinComb F} {res : Trip' F} (hc : combineLC trips lc = .ok res) : RandLen m res := by
  refine combineLC_rand
    (fun r => (pnorm r.rand).length ≤ m ∧ ∀ rs, r.shifted = some rs → (pnorm rs).length ≤ m)
    ⟨pnorm_nil_le m, nofun⟩ (fun a b f ha hb => ⟨?_, fun rs h => ?_⟩) hL hc
  · exact pnorm_padd_le _ _ m ha.1 (pnorm_pscale_le _ _ m hb.1)
  · obtain ⟨r1, r2, rfl, h1, h2⟩ := Rand.addScaled_shifted a b f h
    exact pnorm_padd_le _ _ m (h1.elim (· ▸ pnorm_nil_le m) (ha.2 r1))
      (pnorm_pscale_le _ _ m (h2.elim (· ▸ pnorm_nil_le m) (hb.2 r2)))

theorem combineLC_shnil {trips : List (Trip' F)}
    (hN : ∀ t ∈ trips, ∀ rs, t.2.1.shifted = some rs → rs = [])
    {lc : LC.LinComb F} {res : Trip' F} (hc : combineLC trips lc = .ok res) :
    ∀ rs, res.2.1.shifted = some rs → rs = [] := by
  refine combineLC_rand (fun r => ∀ rs, r.shifted = some rs → rs = []) nofun
    (fun a b f ha hb rs h => ?_) hN hc
  obtain ⟨r1, r2, rfl, h1, h2⟩ := Rand.addScaled_shifted a b f h
  rw [h1.elim id (ha r1), h2.elim id (hb r2)]
  rfl

/-- what the verifier knows of a triple -/
def vview (t : Trip' F) : Trip' F := (⟨t.2.2.label, [], t.2.2.bound, none⟩, ⟨[], none⟩, t.2.2)

/-- what the verifier's loop computes of an accumulator -/
def LCAcc.cview (a : LCAcc F) : LCAcc F := ⟨[], ⟨[], none⟩, a.comm, a.shifted, a.bound, none⟩

theorem lcStep_vview {trips : List (Trip' F)}
    (hlab : ∀ t ∈ trips, t.2.2.label = t.1.label ∧ t.2.2.bound = t.1.bound)
    (k : Nat) (a : LCAcc F) (t : F × LC.LCTerm) :
    lcStep (trips.map vview) k a.cview t = (lcStep trips k a t).map LCAcc.cview := by
  obtain ⟨coeff, tm⟩ := t
  cases tm with
  | one => rfl
  | poly l =>
    have hv := lookupLast_map (fun (t : Trip' F) => t.1.label) l (fun (t : Trip' F) => t.1.label) vview
      trips (fun t ht => (hlab t ht).1)
    cases hl : lookupLast (fun (t : Trip' F) => t.1.label) l trips with
    | none =>
      rw [hl] at hv
      simp only [lcStep, hl, hv, Option.map_none]
      rfl
    | some x =>
      rw [hl] at hv
      rw [lcStep_poly hv, lcStep_poly hl]
      have hb : (vview x).1.bound = x.1.bound := (hlab x (lookupLast_mem _ l trips x hl).1).2
      have hab : a.cview.absorb coeff (vview x) = (a.absorb coeff x).cview := by
        unfold LCAcc.absorb; rw [hb]; rfl
      rw [hb, hab]
      simp only [apply_ite (Except.map LCAcc.cview)]
      rfl

theorem go_vview {trips : List (Trip' F)}
    (hlab : ∀ t ∈ trips, t.2.2.label = t.1.label ∧ t.2.2.bound = t.1.bound)
    (lc : LC.LinComb F) (terms : List (F × LC.LCTerm)) (a : LCAcc F) :
    combineLC.go (trips.map vview) lc a.cview terms
      = (combineLC.go trips lc a terms).map LCAcc.cview := by
  induction terms generalizing a with
  | nil => rfl
  | cons t ts ih =>
    simp only [combineLC.go, lcStep_vview hlab]
    cases lcStep trips lc.terms.length a t with
    | error e => rfl
    | ok a1 => exact ih a1

/-- the verifier's combined commitment is the prover's -/
theorem combineLCComm_eq {trips : List (Trip' F)}
    (hlab : ∀ t ∈ trips, t.2.2.label = t.1.label ∧ t.2.2.bound = t.1.bound)
    (lc : LC.LinComb F) :
    combineLCComm (trips.map (·.2.2)) lc = (combineLC trips lc).map (·.2.2) := by
  have hm : (trips.map (·.2.2)).map
      (fun c => ((⟨c.label, [], c.bound, none⟩ : LPoly F), (⟨[], none⟩ : Rand F), c))
      = trips.map vview := by
    rw [List.map_map]; rfl
  unfold combineLCComm combineLC
  rw [hm, show combineLC.go (trips.map vview) lc .empty lc.terms = _ from
    go_vview hlab lc lc.terms .empty]
  cases combineLC.go trips lc .empty lc.terms <;> rfl

/-- the assignment "label ↦ evaluation at `z` of the committed polynomial with that label" -/
def evalAssign (trips : List (Trip' F)) (z : F) (l : Label) : F :=
  match lookupLast (fun (t : Trip' F) => t.1.label) l trips with
  | none => 0
  | some x => evalPoly x.1.poly z

omit [DecidableEq F] in
theorem lcConstant_eq (lc : LC.LinComb F) : lcConstant lc = LC.constPart lc.terms := by
  unfold lcConstant
  induction lc.terms with
  | nil => rfl
  | cons t ts ih => rw [List.foldr_cons, LC.constPart, ih]; cases t.2 <;> rfl

theorem lcPolyValue_eq (trips : List (Trip' F)) (z : F) (ts : List (F × LC.LCTerm)) :
    lcPolyValue trips z ts = LC.polyPart (evalAssign trips z) ts := by
  induction ts with
  | nil => rfl
  | cons t ts ih =>
    rw [lcPolyValue, LC.polyPart, ih]
    cases t.2 with
    | one => rfl
    | poly l =>
      simp only [evalAssign]
      cases lookupLast (fun (t : Trip' F) => t.1.label) l trips <;> simp only [mul_zero]

/-- the value the verifier assigns to a combination = polynomial part + constants, i.e. the
`LC.value` of the combination under the assignment "label ↦ evaluation of that polynomial" (an unknown
label counting as zero on both sides) -/
theorem lc_value_split (trips : List (Trip' F)) (z : F) (lc : LC.LinComb F) :
    LC.value lc (evalAssign trips z) = lcPolyValue trips z lc.terms + lcConstant lc := by
  rw [lcPolyValue_eq, lcConstant_eq]
  exact LC.termsValue_split _ lc.terms

end Marlin
end PCV
