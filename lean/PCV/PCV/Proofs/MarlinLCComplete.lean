/-
  PCV.Proofs.MarlinLCComplete — end-to-end completeness of `Marlin::open_combinations` followed by
  `Marlin::check_combinations` (MarlinKZG10 instance) over honest triples that may carry degree
  bounds: every combination the prover combines is an honestly committed polynomial
  (`MarlinLC`), the verifier's combined commitments are the prover's, the constants subtracted from
  the claimed values leave exactly the evaluations of the combined polynomials, and
  `batch_open`/`batch_check` completeness (`MarlinBatch`, which handles degree bounds) finishes.
-/
import PCV.Proofs.MarlinLC
import PCV.Proofs.MarlinBatch
import PCV.Proofs.MapOk

namespace PCV
namespace Marlin

variable {F : Type} [Field F] [DecidableEq F]

theorem combineAll_mapOk (trips : List (Trip' F)) (lcs : List (LC.LinComb F)) :
    combineAll trips lcs = mapOk (combineLC trips) lcs :=
  mapOk_unique (combineAll trips) rfl (fun lc lcs => by
    rw [combineAll]
    cases combineLC trips lc with
    | error e => rfl
    | ok t => cases combineAll trips lcs <;> rfl) lcs

theorem combineAllComm_mapOk (comms : List (LComm F)) (lcs : List (LC.LinComb F)) :
    combineAllComm comms lcs = mapOk (combineLCComm comms) lcs :=
  mapOk_unique (combineAllComm comms) rfl (fun lc lcs => by
    rw [combineAllComm]
    cases combineLCComm comms lc with
    | error e => rfl
    | ok c => cases combineAllComm comms lcs <;> rfl) lcs

theorem combineAll_mem {trips : List (Trip' F)} {lcs : List (LC.LinComb F)} {ts : List (Trip' F)}
    (hc : combineAll trips lcs = .ok ts) :
    ∀ t ∈ ts, ∃ lc ∈ lcs, combineLC trips lc = .ok t :=
  fun _ => mapOk_mem (combineAll_mapOk trips lcs ▸ hc)

theorem combineAllComm_eq {trips : List (Trip' F)}
    (hlab : ∀ t ∈ trips, t.2.2.label = t.1.label ∧ t.2.2.bound = t.1.bound)
    (lcs : List (LC.LinComb F)) :
    combineAllComm (trips.map (·.2.2)) lcs = (combineAll trips lcs).map (List.map (·.2.2)) := by
  rw [combineAllComm_mapOk, combineAll_mapOk]
  exact mapOk_map (fun (t : Trip' F) => t.2.2) (combineLCComm_eq hlab) lcs

theorem lc_groupsND_of_shnil {ck : CK F} {l : List (Trip' F)}
    (hN : ∀ t ∈ l, ∀ rs, t.2.1.shifted = some rs → rs = [])
    {lcs : List (LC.LinComb F)} {qs : List (Query F)} {ξs : List F} :
    ∀ ts, combineAll l lcs = .ok ts →
      GroupsND ck (ts.map (·.1)) (ts.map (·.2.1)) (groupQueries qs) ξs := by
  intro ts hts
  apply groupsND_nonhiding
  intro st hst rs' hrs
  obtain ⟨t, ht, rfl⟩ := List.mem_map.1 hst
  obtain ⟨lc, -, hc⟩ := combineAll_mem hts t ht
  exact combineLC_shnil hN hc rs' hrs

/-- combinations of honest unbounded polynomials carry no shifted blinding: the side condition is vacuous -/
theorem lc_groupsND_of_unbounded {g γ β : F} {D : Nat} {ck : CK F} {l : List (Trip' F)}
    (hH : ∀ t ∈ l, Honest g γ β D t ∧ t.1.bound = none)
    {lcs : List (LC.LinComb F)} {qs : List (Query F)} {ξs : List F} :
    ∀ ts, combineAll l lcs = .ok ts →
      GroupsND ck (ts.map (·.1)) (ts.map (·.2.1)) (groupQueries qs) ξs :=
  lc_groupsND_of_shnil
    fun t ht rs hrs => by rw [((hH t ht).1.unshifted (hH t ht).2).1] at hrs; cases hrs

omit [DecidableEq F] in
theorem adjustEvals_shift (lcs : List (LC.LinComb F)) (evs : List ((Label × F) × F)) :
    adjustEvals lcs evs = LC.shift (LC.constAt lcs) evs := by
  induction lcs generalizing evs with
  | nil => exact (LC.shift_zero evs).symm
  | cons lc lcs ih =>
    rw [show adjustEvals (lc :: lcs) evs = adjustEvals lcs (LC.subAt lc.label (lcConstant lc) evs) from rfl,
      ih, LC.subAt_eq_shift, lcConstant_eq, LC.shift_constAt_cons]

theorem lookupEval_adjust (lcs : List (LC.LinComb F)) (evs : List ((Label × F) × F)) (lab : Label)
    (z : F) :
    lookupEval (adjustEvals lcs evs) lab z = (lookupEval evs lab z).map (· - LC.constAt lcs lab) := by
  rw [adjustEvals_shift]
  exact lookupEval_map lab z (fun k v => v - LC.constAt lcs k.1) evs

omit [Field F] [DecidableEq F] in
theorem zip_unzip3 (l : List (Trip' F)) :
    (l.map (·.1)).zip ((l.map (·.2.1)).zip (l.map (·.2.2))) = l := by
  induction l with
  | nil => rfl
  | cons t ts ih => simp only [List.map_cons, List.zip_cons_cons, ih]

/-- **Lock-step form of `open_combinations` → `check_combinations` completeness**, degree bounds
allowed: the verifier's combined commitments are computed, the per-label accumulation consumes exactly the
prover's challenges, and every KZG defect is zero.  `hnd` is the side condition of `batchOpenGroups_accept`
(`GroupsND`) on the combined polynomials and states `batch_open` is run on.  No hypothesis on the shape
of the combinations: the prover's success says they are of the two shapes the code allows
(`combineLC_ok_allowed`). -/
theorem lc_accept {ck : CK F} {vk : VK F} {g γ β h : F} {D n m : Nat}
    (hwf : WF ck vk g γ β h D n m) {l : List (Trip' F)}
    (hH : ∀ t ∈ l, Honest g γ β D t) (hL : ∀ t ∈ l, RandLen m t)
    (hlab : ∀ t ∈ l, t.2.2.label = t.1.label)
    {lcs : List (LC.LinComb F)} (hnodup : (lcs.map (·.label)).Nodup)
    {qs : List (Query F)} {evals : List ((Label × F) × F)}
    (hev : ∀ gr ∈ groupQueries qs, ∀ lc ∈ lcs, lc.label ∈ gr.2.2 →
      lookupEval evals lc.label gr.2.1
        = some (lcPolyValue l gr.2.1 lc.terms + lcConstant lc))
    {ξs : List F} {πs : List (KZG.Proof F)} {rest : List F}
    (ho : openCombinations ck (l.map (·.1)) (l.map (·.2.1)) (l.map (·.2.2)) lcs qs ξs = .ok (πs, rest))
    (hnd : ∀ ts, combineAll l lcs = .ok ts →
      GroupsND ck (ts.map (·.1)) (ts.map (·.2.1)) (groupQueries qs) ξs) :
    ∃ lcComms, combineAllComm (l.map (·.2.2)) lcs = .ok lcComms ∧
      ∃ trip, combineGroups vk lcComms (adjustEvals lcs evals) (groupQueries qs) ξs = .ok (trip, rest) ∧
        πs.length = trip.length ∧
        ∀ d ∈ KZG.defects vk.vk (trip.map (·.1)) (trip.map (·.2.1)) (trip.map (·.2.2)) πs, d = 0 := by
  unfold openCombinations at ho
  rw [zip_unzip3] at ho
  split at ho
  · cases ho
  · rename_i ts hts
    have hmem := combineAll_mem hts
    refine ⟨ts.map (·.2.2), ?_, ?_⟩
    · rw [combineAllComm_eq fun t ht => ⟨hlab t ht, (hH t ht).1⟩, hts]
      rfl
    refine batchOpenGroups_accept hwf ts ?_ ?_ ?_ (adjustEvals lcs evals) (groupQueries qs) ?_ ξs πs rest
      ho (hnd ts hts)
    · intro t ht
      obtain ⟨lc, -, hc⟩ := hmem t ht
      exact (combineLC_honest_of_ok hH hc 0).1
    · intro t ht
      obtain ⟨lc, -, hc⟩ := hmem t ht
      exact combineLC_randlen hL hc
    · intro t ht
      obtain ⟨lc, -, hc⟩ := hmem t ht
      obtain ⟨h1, h2⟩ := combineLC_labels hc
      rw [h1, h2]
    · intro gr hgr lab hlabm t ht
      obtain ⟨htm, htl⟩ := lookupLast_mem _ lab ts t ht
      obtain ⟨lc, hlc, hc⟩ := hmem t htm
      obtain rfl : lc.label = lab := by rw [← (combineLC_labels hc).1, htl]
      rw [lookupEval_adjust, LC.constAt_of_nodup hnodup hlc, ← lcConstant_eq, hev gr hgr lc hlc hlabm,
        (combineLC_honest_of_ok hH hc gr.2.1).2, Option.map_some, add_sub_cancel_right]

/-- the lock-step form gives acceptance by `check_combinations`, for every list of verifier randomizers -/
theorem checkCombinations_of_accept {vk : VK F} {comms : List (LComm F)} {lcs : List (LC.LinComb F)}
    {qs : List (Query F)} {evals : List ((Label × F) × F)} {πs : List (KZG.Proof F)} {ξs rest : List F}
    (h : ∃ lcComms, combineAllComm comms lcs = .ok lcComms ∧
      ∃ trip, combineGroups vk lcComms (adjustEvals lcs evals) (groupQueries qs) ξs = .ok (trip, rest) ∧
        πs.length = trip.length ∧
        ∀ d ∈ KZG.defects vk.vk (trip.map (·.1)) (trip.map (·.2.1)) (trip.map (·.2.2)) πs, d = 0)
    (rs : List F) : checkCombinations vk comms lcs qs evals πs ξs rs = .ok true := by
  obtain ⟨lcComms, hcc, trip, htrip, hlen, hdef⟩ := h
  unfold checkCombinations
  rw [hcc]
  exact batchCheck_all_true vk lcComms qs (adjustEvals lcs evals) πs ξs rs trip rest htrip hlen hdef

end Marlin
end PCV
