/-
  PCV.Proofs.MarlinLCShift — shifting claimed values commutes with the verifier's subtraction of the
  combinations' constants, so `batchCheck_shift_iff` carries over to `check_combinations`
  (`C06.marlin_lc_values_iff`).
-/
import PCV.Proofs.MarlinBatchShift
import PCV.Proofs.MarlinLCComplete

namespace PCV
namespace Marlin
variable {F : Type} [Field F] [DecidableEq F]

omit [DecidableEq F] in
theorem adjust_shift_comm (δ : Label × F → F) (lcs : List (LC.LinComb F))
    (evals : List ((Label × F) × F)) :
    adjustEvals lcs (shiftEvals δ evals) = shiftEvals δ (adjustEvals lcs evals) := by
  simp only [adjustEvals_shift, LC.shift, shiftEvals, List.map_map]
  refine List.map_congr_left fun e _ => ?_
  simp only [Function.comp, add_sub_right_comm]

end Marlin
end PCV
