/-
  PCV.Proofs.MarlinMore — commitments made by `commitOne` satisfy `Honest` (without hiding: the plain
  linear image of the polynomial); the verifier's accumulated pair is affine in the claimed values and in
  the commitments (plain and shifted parts), with explicit weights; which declared degree bounds
  `check_degrees_and_bounds` refuses.
-/
import PCV.Proofs.MarlinTrim

namespace PCV
namespace Marlin
variable {F : Type} [Field F] [DecidableEq F]

section
variable {ck : CK F} {p : LPoly F} {rng : Bool} {draws rest : List F} {c : Comm F} {r : Rand F}

theorem commitOne_ok (h : commitOne ck p rng draws = .ok (c, r, rest)) :
    checkDegreesAndBounds ck.maxDegree ck.bounds p.poly p.bound = .ok () ∧
    ¬ (p.hb.isSome ∧ rng = false) ∧
    ∃ c0 r0 d', KZG.commit ⟨ck.powers, ck.gammaPowers⟩ p.poly p.hb true draws = .ok (c0, r0, d') ∧
      ((p.bound = none ∧ c = ⟨c0, none⟩ ∧ r = ⟨r0, none⟩ ∧ rest = d') ∨
       ∃ b sp s rs, p.bound = some b ∧ shiftedPowersFor ck b = some sp ∧
         KZG.commit sp p.poly p.hb true d' = .ok (s, rs, rest) ∧
         c = ⟨c0, some s⟩ ∧ r = ⟨r0, some rs⟩) := by
  unfold commitOne at h
  split at h
  · cases h
  · rename_i hdb
    by_cases hrng : p.hb.isSome ∧ rng = false
    · rw [if_pos hrng] at h; cases h
    · rw [if_neg hrng] at h
      split at h
      · cases h
      · rename_i c0 r0 d' hk
        refine ⟨hdb, hrng, c0, r0, d', hk, ?_⟩
        split at h
        · rename_i hb
          cases h
          exact .inl ⟨hb, rfl, rfl, rfl⟩
        · rename_i b hb
          split at h
          · cases h
          · rename_i sp hsp
            split at h
            · cases h
            · rename_i s rs d'' hk2
              cases h
              exact .inr ⟨b, sp, s, rs, hb, hsp, hk2, rfl, rfl⟩

/-- **Commitments made by `commit` are the honest ones** (what `open_check_complete` assumes). -/
theorem commitOne_honest {ck : CK F} {vk : VK F} {g γ β h : F} {D n m : Nat}
    (hwf : WF ck vk g γ β h D n m) (hc : commitOne ck p rng draws = .ok (c, r, rest)) :
    Honest g γ β D (p, r, ⟨p.label, c, p.bound⟩) ∧ RandLen m (p, r, ⟨p.label, c, p.bound⟩) := by
  obtain ⟨hdb, -, c0, r0, d', hk, hcase⟩ := commitOne_ok hc
  rw [hwf.wfPowers] at hk
  obtain ⟨hc0, -, hr0, -⟩ := KZG.commit_spec g γ β n m p.poly p.hb true draws c0 r0 d' hk
  rcases hcase with ⟨hbd, rfl, rfl, -⟩ | ⟨b, sp, s, rs, hbd, hsf, hk2, rfl, rfl⟩
  · exact ⟨⟨rfl, hc0, congrArg Option.isSome hbd, congrArg Option.isSome hbd,
      fun d rs s hd => by rw [hbd] at hd; cases hd⟩, hr0, fun rs hrs => nomatch hrs⟩
  · rw [hbd] at hdb
    obtain ⟨bs, hbse, hmem, -, -⟩ := (checkDB_ok_iff _ _ _ _).1 hdb
    obtain ⟨hsp, hle, hBD⟩ := hwf.shifted bs hbse (List.ne_nil_of_mem hmem)
    have hsp' : sp = KZG.wfPowers (g * fpow β (D - b)) γ β (b + 1) m := by
      unfold shiftedPowersFor at hsf
      rw [hsp, hbse] at hsf
      cases hsf
      have hb := hle b hmem
      unfold KZG.wfPowers
      rw [powers_drop, hwf.hgamma, mul_assoc, ← fpow_add, Nat.sub_add_sub_cancel hBD hb,
        Nat.succ_sub (Nat.sub_le _ _), Nat.sub_sub_self hb]
    rw [hsp'] at hk2
    obtain ⟨hs, -, hrs, -⟩ :=
      KZG.commit_spec (g * fpow β (D - b)) γ β (b + 1) m p.poly p.hb true d' s rs rest hk2
    exact ⟨⟨rfl, hc0, congrArg Option.isSome hbd, congrArg Option.isSome hbd,
      fun d rs' s' hd hrs' hs' => by rw [hbd] at hd; cases hd; cases hrs'; cases hs'; exact hs⟩,
      hr0, fun rs' hrs' => by cases hrs'; exact hrs⟩

theorem commit_none_ok {pw : KZG.Powers F} {p : List F} {rng : Bool} {draws : List F} {c : F}
    {r rest : List F} (h : KZG.commit pw p none rng draws = .ok (c, r, rest)) :
    r = [] ∧ rest = draws := by
  rw [KZG.commit_none pw p rng draws (KZG.commit_ok_fits h)] at h
  cases h
  exact ⟨rfl, rfl⟩

theorem commitOne_no_blinding (hh : p.hb = none)
    (hc : commitOne ck p rng draws = .ok (c, r, rest)) :
    r.rand = [] ∧ (∀ rs, r.shifted = some rs → rs = []) ∧ rest = draws := by
  obtain ⟨-, -, c0, r0, d', hk, hcase⟩ := commitOne_ok hc
  rw [hh] at hk hcase
  obtain ⟨rfl, rfl⟩ := commit_none_ok hk
  rcases hcase with ⟨-, -, rfl, rfl⟩ | ⟨b, sp, s, rs, -, -, hk2, -, rfl⟩
  · exact ⟨rfl, fun rs h => (nomatch h), rfl⟩
  · obtain ⟨rfl, rfl⟩ := commit_none_ok hk2
    exact ⟨rfl, fun rs h => by cases h; rfl, rfl⟩

theorem commitOne_nonhiding {vk : VK F} {g γ β h : F} {D n m : Nat}
    (hwf : WF ck vk g γ β h D n m) (hh : p.hb = none)
    (hc : commitOne ck p rng draws = .ok (c, r, rest)) :
    c.comm = g * evalPoly p.poly β ∧
    ∀ s, c.shifted = some s → ∃ d, p.bound = some d ∧ s = g * fpow β (D - d) * evalPoly p.poly β := by
  obtain ⟨⟨-, h2, h3, h4, h5⟩, -⟩ := commitOne_honest hwf hc
  obtain ⟨n1, n2, -⟩ := commitOne_no_blinding hh hc
  simp only at h2 h3 h4 h5
  refine ⟨by rw [h2, n1, evalPoly_nil, mul_zero, add_zero], fun s hs => ?_⟩
  obtain ⟨d, hd⟩ := Option.isSome_iff_exists.1 (h4.trans (congrArg Option.isSome hs))
  obtain ⟨rs, hrs⟩ := Option.isSome_iff_exists.1 (h3.symm.trans (congrArg Option.isSome hd))
  exact ⟨d, hd, by rw [h5 d rs s hd hrs hs, n2 rs hrs, evalPoly_nil, mul_zero, add_zero]⟩

end

/-- per-position weight of a claimed value in the verifier's equation: `ξⱼ·g + ξ′ⱼ·shift(dⱼ)` -/
def kappa (vk : VK F) : List (LComm F) → List F → List F
  | c :: cs, ξ :: ξs' =>
    match c.bound, c.comm.shifted with
    | some b, some _ =>
      match ξs' with
      | [] => []
      | ξ' :: ξs'' => (ξ * vk.vk.g + ξ' * (vk.shiftPower b).getD 0) :: kappa vk cs ξs''
    | _, _ => (ξ * vk.vk.g) :: kappa vk cs ξs'
  | _, _ => []

theorem accumulate_perturb {vk : VK F} {cs : List (LComm F)} {vs ds ξs : List F}
    (hlen : ds.length = vs.length) {C V : F} {rest : List F}
    (ha : accumulate vk cs vs ξs = .ok ((C, V), rest)) :
    ∃ C' V', accumulate vk cs (List.zipWith (· + ·) vs ds) ξs = .ok ((C', V'), rest) ∧
      (C' - V' * vk.vk.g) = (C - V * vk.vk.g) - dot (kappa vk cs ξs) ds := by
  induction cs generalizing vs ds ξs C V with
  | nil => exact ⟨C, V, ha, (sub_zero _).symm⟩
  | cons c cs ih =>
    cases vs with
    | nil =>
      cases ds with
      | nil => exact ⟨C, V, ha, by rw [dot_nil_right, sub_zero]⟩
      | cons d ds => cases hlen
    | cons v vs =>
      cases ds with
      | nil => cases hlen
      | cons d ds =>
        obtain ⟨ξ, ξs', C0, V0, rfl, rfl, ⟨hb, hs, hrec, rfl⟩ |
          ⟨b, s, ξ', ξs'', sp, hb, hs, rfl, hsp, hrec, rfl⟩⟩ := accumulate_cons_ok ha
        · obtain ⟨C', V', hr, he⟩ := ih (Nat.succ.inj hlen) hrec
          refine ⟨_, _, accumulate_cons_plain hb hs hr, ?_⟩
          simp only [kappa, hb, hs, dot_cons]
          linear_combination he
        · obtain ⟨C', V', hr, he⟩ := ih (Nat.succ.inj hlen) hrec
          refine ⟨_, _, accumulate_cons_bounded hb hs hsp hr, ?_⟩
          simp only [kappa, hb, hs, hsp, Option.getD_some, dot_cons]
          linear_combination he

/-- From an accepted transcript, the values moved by `ds` and `random_v` replaced by any other (same
witness element) are accepted iff `h·(⟨κ, ds⟩ + (rv′ − rv)·γG) = 0`. -/
theorem check_values_rv_iff {vk : VK F} {cs : List (LComm F)} {z w : F} {vs ds ξs rest : List F}
    {rv : Option F} (rv' : Option F) (hlen : ds.length = vs.length)
    (hacc : check vk cs z vs ⟨w, rv⟩ ξs = .ok (true, rest)) :
    check vk cs z (List.zipWith (· + ·) vs ds) ⟨w, rv'⟩ ξs = .ok (true, rest)
      ↔ vk.vk.h * (dot (kappa vk cs ξs) ds + (KZG.rvVal rv' - KZG.rvVal rv) * vk.vk.gammaG) = 0 := by
  obtain ⟨C, V, ha, h0⟩ := check_true_iff.1 hacc
  obtain ⟨C', V', ha', he⟩ := accumulate_perturb hlen ha
  have key : KZG.defect vk.vk C' z V' ⟨w, rv'⟩ = KZG.defect vk.vk C z V ⟨w, rv⟩
      - vk.vk.h * (dot (kappa vk cs ξs) ds + (KZG.rvVal rv' - KZG.rvVal rv) * vk.vk.gammaG) := by
    linear_combination KZG.defect_sub vk.vk C z V C' z V' ⟨w, rv⟩ ⟨w, rv'⟩ + vk.vk.h * he
  rw [check_iff_of_accumulate ha', key, h0, zero_sub, neg_eq_zero]

/-- **C02/C05 (Marlin).** If the verifier accepts `(cs, z, vs, π)` then with the values perturbed
by `ds` it accepts iff `h·⟨κ, ds⟩ = 0` — in particular a single wrong value `δ` at position `j` is
rejected when `h·κⱼ·δ ≠ 0`, and errors that cancel (`Σδ = 0`) are rejected unless they also cancel
against the challenge weights. -/
theorem check_perturbed_iff (vk : VK F) (cs : List (LComm F)) (z : F) (vs ds ξs : List F)
    (π : KZG.Proof F) (rest : List F) (hlen : ds.length = vs.length)
    (hacc : check vk cs z vs π ξs = .ok (true, rest)) :
    check vk cs z (List.zipWith (· + ·) vs ds) π ξs = .ok (true, rest)
      ↔ vk.vk.h * dot (kappa vk cs ξs) ds = 0 := by
  have := check_values_rv_iff π.rv hlen hacc
  rwa [sub_self, zero_mul, add_zero] at this

/-- add `(δc, δs)` to the plain / shifted part of each commitment (a missing shifted part stays missing) -/
def addComms : List (LComm F) → List (F × F) → List (LComm F)
  | c :: cs, d :: ds =>
    ⟨c.label, ⟨c.comm.comm + d.1, c.comm.shifted.map (· + d.2)⟩, c.bound⟩ :: addComms cs ds
  | cs, _ => cs

/-- the weight with which the commitment perturbations enter `Ĉ`: `Σ ξⱼ·δcⱼ + ξ′ⱼ·δsⱼ` -/
def commWeight : List (LComm F) → List (F × F) → List F → F
  | c :: cs, d :: ds, ξ :: ξs' =>
    match c.bound, c.comm.shifted with
    | some _, some _ =>
      match ξs' with
      | [] => 0
      | ξ' :: ξs'' => ξ * d.1 + ξ' * d.2 + commWeight cs ds ξs''
    | _, _ => ξ * d.1 + commWeight cs ds ξs'
  | _, _, _ => 0

theorem accumulate_addComms {vk : VK F} {cs : List (LComm F)} (ds : List (F × F)) {vs ξs : List F}
    (hv : cs.length ≤ vs.length) {C V : F} {rest : List F}
    (ha : accumulate vk cs vs ξs = .ok ((C, V), rest)) :
    accumulate vk (addComms cs ds) vs ξs = .ok ((C + commWeight cs ds ξs, V), rest) := by
  induction cs generalizing ds vs ξs C V with
  | nil => exact (add_zero C).symm ▸ ha
  | cons c cs ih =>
    cases ds with
    | nil => exact (add_zero C).symm ▸ ha
    | cons d ds =>
      cases vs with
      | nil => cases hv
      | cons v vs =>
        obtain ⟨ξ, ξs', C0, V0, rfl, rfl, ⟨hb, hs, hrec, rfl⟩ |
          ⟨b, s, ξ', ξs'', sp, hb, hs, rfl, hsp, hrec, rfl⟩⟩ := accumulate_cons_ok ha
        · have hr := ih ds (Nat.le_of_succ_le_succ hv) hrec
          refine (accumulate_cons_plain (c := ⟨c.label, ⟨c.comm.comm + d.1, c.comm.shifted.map (· + d.2)⟩, c.bound⟩) hb
            (congrArg (Option.map _) hs) hr).trans ?_
          simp only [commWeight, hb, hs]
          rw [mul_add, add_add_add_comm]
        · have hr := ih ds (Nat.le_of_succ_le_succ hv) hrec
          refine (accumulate_cons_bounded (c := ⟨c.label, ⟨c.comm.comm + d.1, c.comm.shifted.map (· + d.2)⟩, c.bound⟩) hb
            (congrArg (Option.map _) hs) hsp hr).trans ?_
          simp only [commWeight, hb, hs]
          rw [mul_add, add_sub_right_comm, mul_add, add_add_add_comm (ξ * c.comm.comm), add_add_add_comm]

theorem checkDB_error_of_bad {maxDegree : Nat} {bounds : Option (List Nat)} {p : List F} {b : Nat}
    (hbad : bounds = none ∨ (∃ bs, bounds = some bs ∧ b ∉ bs) ∨ b < pdeg p ∨ b > maxDegree) :
    ∃ e, checkDegreesAndBounds maxDegree bounds p (some b) = .error e := by
  cases hc : checkDegreesAndBounds maxDegree bounds p (some b) with
  | error e => exact ⟨e, rfl⟩
  | ok _ =>
    obtain ⟨bs, hbs, hmem, hdeg, hmax⟩ := (checkDB_ok_iff _ _ _ _).1 hc
    rcases hbad with h | ⟨bs', h1, h2⟩ | h | h
    · rw [hbs] at h; cases h
    · rw [hbs] at h1; cases h1; exact absurd hmem h2
    · exact absurd hdeg (Nat.not_le.2 h)
    · exact absurd hmax (Nat.not_le.2 h)

end Marlin
end PCV
