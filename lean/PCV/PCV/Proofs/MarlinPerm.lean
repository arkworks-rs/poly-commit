/-
  PCV.Proofs.MarlinPerm — `MarlinKZG10::batch_open` / `batch_check` read their inputs only through the
  last-write-wins label lookups, so lists with the same lookups give the same results.
-/
import PCV.Proofs.MarlinBatch

namespace PCV
namespace Marlin
variable {F : Type} [Field F] [DecidableEq F]

section
variable {polys polys' : List (LPoly F)} {sts sts' : List (Rand F)}
  (h : ∀ l, lookupLast (fun (x : LPoly F × Rand F) => x.1.label) l (polys.zip sts)
    = lookupLast (fun (x : LPoly F × Rand F) => x.1.label) l (polys'.zip sts'))
include h

omit [Field F] [DecidableEq F] in
theorem gatherPolys_congr (ls : List Label) :
    gatherPolys polys sts ls = gatherPolys polys' sts' ls := by
  induction ls with
  | nil => rfl
  | cons l ls ih => simp only [gatherPolys, h l, ih]

theorem batchOpenGroups_congr (ck : CK F) (gs : List (Label × (F × List Label))) (ξs : List F) :
    batchOpenGroups ck polys sts gs ξs = batchOpenGroups ck polys' sts' gs ξs := by
  induction gs generalizing ξs with
  | nil => rfl
  | cons g gs ih => simp only [batchOpenGroups, gatherPolys_congr h, ih]

end

section
variable {comms comms' : List (LComm F)}
  (h : ∀ l, lookupLast (fun (c : LComm F) => c.label) l comms
    = lookupLast (fun (c : LComm F) => c.label) l comms')
include h

omit [Field F] in
theorem gatherComms_congr (evals : List ((Label × F) × F)) (z : F) (ls : List Label) :
    gatherComms comms evals z ls = gatherComms comms' evals z ls := by
  induction ls with
  | nil => rfl
  | cons l ls ih => simp only [gatherComms, h l, ih]

theorem combineGroups_congr (vk : VK F) (evals : List ((Label × F) × F))
    (gs : List (Label × (F × List Label))) (ξs : List F) :
    combineGroups vk comms evals gs ξs = combineGroups vk comms' evals gs ξs := by
  induction gs generalizing ξs with
  | nil => rfl
  | cons g gs ih => simp only [combineGroups, gatherComms_congr h, ih]

end

end Marlin
end PCV
