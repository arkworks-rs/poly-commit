/-
  PCV.Proofs.MarlinTrim — `MarlinKZG10::trim` on parameters made from a trapdoor yields the
  well-formed keys `WF` that the completeness proof assumes, the enforced bounds sorted and
  deduplicated.
-/
import PCV.Proofs.Marlin
import PCV.Proofs.SortDedup

namespace PCV
namespace Marlin
variable {F : Type} [Field F] [DecidableEq F]

omit [Field F] [DecidableEq F] in
theorem find_shift (bs : List Nat) (f : Nat → F) (d : Nat) (hd : d ∈ bs) :
    ((bs.map fun x => (x, f x)).find? (·.1 = d)).map (·.2) = some (f d) := by
  induction bs with
  | nil => cases hd
  | cons a as ih =>
    rw [List.map_cons, List.find?_cons]
    by_cases ha : a = d
    · simp only [ha, decide_true, Option.map_some]
    · simp only [ha, decide_false]
      exact ih ((List.mem_cons.1 hd).resolve_left (Ne.symm ha))

/-- universal parameters made by `setup` from the trapdoor `β` (maximum degree `D`) -/
def wfParams (g γ β h : F) (D : Nat) : UParams F :=
  ⟨powers g β (D + 1), powers γ β (D + 2), h, β * h⟩

omit [DecidableEq F] in
theorem trim_ok {pp : UParams F} {s hb : Nat} {bounds : Option (List Nat)} {ck : CK F} {vk : VK F}
    (h : trim pp s hb bounds = .ok (ck, vk)) :
    s ≤ pp.powers.length - 1 ∧ hb + 2 ≤ pp.gammaPowers.length ∧
    ck.powers = pp.powers.take (s + 1) ∧ ck.gammaPowers = pp.gammaPowers.take (hb + 2) ∧
    ck.bounds = bounds.map sortDedup ∧ ck.maxDegree = pp.powers.length - 1 ∧
    vk.vk = ⟨pp.powers.headD 0, pp.gammaPowers.headD 0, pp.h, pp.betaH⟩ ∧
    vk.maxDegree = pp.powers.length - 1 ∧ vk.supported = s ∧
    ∀ bs, bounds.map sortDedup = some bs → bs ≠ [] →
      bs.getLastD 0 ≤ pp.powers.length - 1 ∧
      ck.shiftedPowers = some (pp.powers.drop (pp.powers.length - 1 - bs.getLastD 0)) ∧
      vk.shifts = some (bs.map fun d => (d, getD' pp.powers (pp.powers.length - 1 - d) 0)) := by
  unfold trim at h
  split at h
  · cases h
  · cases h
  · rename_i g gs gg ggs hp hg
    have hvk : (⟨g, gg, pp.h, pp.betaH⟩ : KZG.VK F)
        = ⟨pp.powers.headD 0, pp.gammaPowers.headD 0, pp.h, pp.betaH⟩ := by rw [hp, hg]; rfl
    rw [hvk] at h
    simp only at h
    by_cases hs : s > pp.powers.length - 1
    · rw [if_pos hs] at h; cases h
    · by_cases hhb : hb + 2 > pp.gammaPowers.length
      · rw [if_neg hs, if_pos hhb] at h; cases h
      · rw [if_neg hs, if_neg hhb] at h
        refine ⟨Nat.le_of_not_gt hs, Nat.le_of_not_gt hhb, ?_⟩
        split at h
        · rename_i hm
          cases h
          exact ⟨rfl, rfl, hm.symm, rfl, rfl, rfl, rfl, fun bs hbs => by rw [hm] at hbs; cases hbs⟩
        · rename_i hm
          cases h
          exact ⟨rfl, rfl, hm.symm, rfl, rfl, rfl, rfl,
            fun bs hbs hne => by rw [hm] at hbs; cases hbs; exact absurd rfl hne⟩
        · rename_i b bs hm
          split at h
          · cases h
          · rename_i hlast
            cases h
            refine ⟨rfl, rfl, hm.symm, rfl, rfl, rfl, rfl, fun bs' hbs _ => ?_⟩
            rw [hm] at hbs; cases hbs
            exact ⟨Nat.le_of_not_gt hlast, rfl, rfl⟩

/-- **C09 (Marlin).** `trim` of well-formed parameters returns well-formed keys: the committer key
holds exactly the first `supported+1` powers and `hiding+2` γ-powers, the shifted window starts at
`D − max(bounds)`, and the verifier key carries `g·β^(D−d)` for exactly the sorted, deduplicated
bounds. -/
theorem trim_wf (g γ β h : F) (D s hb : Nat) (bounds : Option (List Nat)) (ck : CK F) (vk : VK F)
    (ht : trim (wfParams g γ β h D) s hb bounds = .ok (ck, vk)) :
    WF ck vk g γ β h D (s + 1) (hb + 2) ∧ s ≤ D ∧ hb ≤ D ∧
      ck.bounds = bounds.map sortDedup ∧ vk.supported = s ∧ vk.maxDegree = D := by
  obtain ⟨hs, hhb, hp, hg, hbd, hD, hvk, hvD, hvs, hsh⟩ := trim_ok ht
  simp only [wfParams, powers_length, Nat.add_sub_cancel] at hs hhb hp hg hD hvk hvD hsh
  refine ⟨⟨?_, ?_, hvk, hD, fun bs hbs hne => ?_, fun bs hbs d hd => ?_⟩, hs,
    Nat.le_of_add_le_add_right hhb, hbd, hvs, hvD⟩
  · rw [hp, powers_take, Nat.min_eq_left (Nat.succ_le_succ hs)]
  · rw [hg, powers_take, Nat.min_eq_left hhb]
  · rw [hbd] at hbs
    obtain ⟨hle, hsp, -⟩ := hsh bs hbs hne
    refine ⟨?_, ?_, hle⟩
    · rw [hsp, powers_drop, Nat.succ_sub (Nat.sub_le _ _), Nat.sub_sub_self hle]
    · cases bounds with
      | none => cases hbs
      | some l => cases hbs; exact fun d hd => le_getLastD_of_sorted (sorted_sortDedup l) hd
  · rw [hbd] at hbs
    obtain ⟨-, -, hsf⟩ := hsh bs hbs (List.ne_nil_of_mem hd)
    unfold VK.shiftPower
    rw [hsf]
    simp only
    rw [find_shift bs _ d hd, powers_getD g β (D + 1) (D - d) (Nat.lt_succ_of_le (Nat.sub_le _ _))]
