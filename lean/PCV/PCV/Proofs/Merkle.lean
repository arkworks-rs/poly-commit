/-
  PCV.Proofs.Merkle — the authentication path produced for leaf `i` of a (padded) tree recomputes
  the root of that tree; `verifyPath = true` is by definition "the recomputed root is the root".
-/
import PCV.Model.Merkle
import Mathlib.Data.Nat.Log

namespace PCV
namespace Merkle
variable {D : Type}

theorem ceilLog2_spec (n : Nat) : n ≤ 2 ^ ceilLog2 n := by
  unfold ceilLog2
  split
  · rename_i hn; exact hn
  · exact Nat.le_of_pred_lt Nat.lt_log2_self

theorem ceilLog2_pos {n : Nat} (h : 2 ≤ n) : 1 ≤ ceilLog2 n := by
  rw [ceilLog2, if_neg (Nat.not_le_of_lt h)]
  exact Nat.succ_le_succ (Nat.zero_le _)

theorem ceilLog2_eq_zero {n : Nat} (h : ceilLog2 n = 0) : n ≤ 1 :=
  Nat.le_of_not_lt fun h2 => Nat.ne_of_gt (ceilLog2_pos h2) h

theorem ceilLog2_le {n k : Nat} (h : n ≤ 2 ^ k) : ceilLog2 n ≤ k := by
  unfold ceilLog2
  split
  · exact Nat.zero_le k
  · rename_i hn
    have hn : 1 < n := Nat.lt_of_not_le hn
    exact (Nat.log2_lt (Nat.sub_ne_zero_of_lt hn)).2
      (Nat.sub_one_lt_of_le (Nat.lt_trans Nat.zero_lt_one hn) h)

theorem ceilLog2_two_pow (k : Nat) : ceilLog2 (2 ^ k) = k := by
  apply Nat.le_antisymm (ceilLog2_le (Nat.le_refl _))
  exact Nat.le_of_not_lt fun hlt =>
    Nat.not_le_of_lt (Nat.pow_lt_pow_right Nat.one_lt_two hlt) (ceilLog2_spec (2 ^ k))

theorem padLeaves_length (d : D) (ls : List D) :
    (padLeaves d ls).length = 2 ^ ceilLog2 ls.length := by
  rw [padLeaves, List.length_append, List.length_replicate,
    Nat.add_sub_cancel' (ceilLog2_spec ls.length)]

theorem padLeaves_get (d : D) (ls : List D) (i : Nat) (h : i < ls.length) :
    (padLeaves d ls)[i]? = ls[i]? := List.getElem?_append_left h

theorem leafDigests_length (hs : Hashes D) (ls : List D) :
    (leafDigests hs ls).length = 2 ^ depth ls := by
  simp only [leafDigests, List.length_map, padLeaves_length, depth]

theorem two_step {P : List D → Prop} (h0 : P []) (h1 : ∀ a, P [a])
    (h2 : ∀ a b rest, P rest → P (a :: b :: rest)) : ∀ l, P l
  | [] => h0
  | [a] => h1 a
  | a :: b :: rest => h2 a b rest (two_step h0 h1 h2 rest)

theorem pairUp_length (f : D → D → D) (l : List D) : (pairUp f l).length = l.length / 2 := by
  induction l using two_step with
  | h0 => simp [pairUp]
  | h1 a => simp [pairUp]
  | h2 a b rest ih =>
    rw [pairUp, List.length_cons, ih]
    exact (Nat.add_div_right rest.length (Nat.succ_pos 1)).symm

theorem pairUp_get (f : D → D → D) (dflt : D) (l : List D) (k : Nat) (h : 2 * k + 1 < l.length) :
    getD' (pairUp f l) k dflt = f (getD' l (2 * k) dflt) (getD' l (2 * k + 1) dflt) := by
  induction l using two_step generalizing k with
  | h0 => exact absurd h (Nat.not_lt_zero _)
  | h1 a => exact absurd (Nat.le_of_succ_le_succ h) (Nat.not_succ_le_zero _)
  | h2 a b rest ih =>
    cases k with
    | zero => rfl
    | succ k => exact ih k (Nat.lt_of_add_lt_add_right (n := 2) h)

theorem sibIdx_lt {i n : Nat} (hi : i < 2 * n) : sibIdx i < 2 * n := by
  unfold sibIdx; split <;> omega

theorem parent_lt {i n : Nat} (hi : i < n * 2) : i / 2 < n ∧ 2 * (i / 2) + 1 < n * 2 := by omega

theorem pairUp_length_double (f : D → D → D) (l : List D) (n : Nat) (h : l.length = n * 2) :
    (pairUp f l).length = n := by
  rw [pairUp_length, h, Nat.mul_div_cancel _ (Nat.succ_pos 1)]

/-- One step of `Path::verify` against one layer of `MerkleTree::new`. -/
theorem pairUp_parent (f : D → D → D) (dflt : D) (l : List D) (i : Nat)
    (h : 2 * (i / 2) + 1 < l.length) :
    (if i % 2 = 0 then f (getD' l i dflt) (getD' l (sibIdx i) dflt)
      else f (getD' l (sibIdx i) dflt) (getD' l i dflt)) = getD' (pairUp f l) (i / 2) dflt := by
  rw [pairUp_get f dflt l (i / 2) h]
  have hi := Nat.div_add_mod i 2
  unfold sibIdx
  split
  · rename_i h0
    rw [h0, Nat.add_zero] at hi
    rw [hi]
  · rename_i h1
    rw [Nat.mod_two_ne_zero.1 h1] at hi
    rw [hi, Nat.sub_eq_of_eq_add hi.symm]

theorem climb_authUp (f : D → D → D) (dflt : D) (d : Nat) (nodes : List D) (i : Nat)
    (hl : nodes.length = 2 ^ d) (hi : i < 2 ^ d) :
    climb f i (getD' nodes i dflt) (authUp f dflt d nodes i) = rootUp f dflt d nodes := by
  induction d generalizing nodes i with
  | zero =>
    obtain rfl : i = 0 := by simpa using hi
    match nodes, hl with
    | [x], _ => rfl
  | succ d ih =>
    rw [Nat.pow_succ] at hl hi
    obtain ⟨h1, h2⟩ := parent_lt hi
    simp only [authUp, climb, rootUp]
    rw [pairUp_parent f dflt nodes i (hl ▸ h2),
      ih (pairUp f nodes) (i / 2) (pairUp_length_double f nodes _ hl) h1]

theorem verifyPath_iff [DecidableEq D] (hs : Hashes D) (root leaf : D) (p : Path D) :
    verifyPath hs root leaf p = true ↔ recomputeRoot hs leaf p = root := by
  unfold verifyPath
  exact decide_eq_true_iff

/-- **`merkle_verify_path`.**  For a tree over at least two leaves, the path `generate_proof(i)`
verifies for the `i`-th leaf against the tree's root (`i` within the real leaves): the leaf layer is
one `pairUp_parent` step under the leaf-layer hash, the rest is `climb_authUp`. -/
theorem merkle_verify_path [DecidableEq D] (hs : Hashes D) (ls : List D) (i : Nat) (leaf : D)
    (h2 : 1 ≤ depth ls) (hleaf : ls[i]? = some leaf) :
    verifyPath hs (merkleRoot hs ls) leaf (merklePath hs ls i) = true := by
  obtain ⟨hi, _⟩ := List.getElem?_eq_some_iff.1 hleaf
  obtain ⟨d, hd⟩ : ∃ d, depth ls = d + 1 := ⟨depth ls - 1, (Nat.sub_add_cancel h2).symm⟩
  have hdl := leafDigests_length hs ls
  have hlt : i < 2 ^ depth ls := Nat.lt_of_lt_of_le hi (ceilLog2_spec ls.length)
  rw [hd, Nat.pow_succ] at hdl hlt
  have hself : hs.leaf leaf = getD' (leafDigests hs ls) i hs.dflt := by
    simp only [getD', leafDigests, List.getElem?_map, padLeaves_get hs.dflt ls i hi, hleaf,
      Option.map_some, Option.getD_some]
  obtain ⟨h1, h2'⟩ := parent_lt hlt
  rw [verifyPath_iff]
  simp only [recomputeRoot, merklePath, merkleRoot, List.reverse_reverse, hd, Nat.add_sub_cancel]
  rw [hself, pairUp_parent hs.bottom hs.dflt _ i (hdl ▸ h2'),
    climb_authUp hs.inner hs.dflt d _ (i / 2) (pairUp_length_double _ _ _ hdl) h1]

theorem verifyPath_sound [DecidableEq D] (hs : Hashes D) (root leaf : D) (p : Path D)
    (h : verifyPath hs root leaf p = true) : recomputeRoot hs leaf p = root :=
  (verifyPath_iff hs root leaf p).1 h

theorem authUp_length (f : D → D → D) (dflt : D) (d : Nat) (nodes : List D) (i : Nat) :
    (authUp f dflt d nodes i).length = d := by
  induction d generalizing nodes i with
  | zero => rfl
  | succ d ih => simp [authUp, ih]

/-- the `+ 1` is the leaf sibling, which `Path` keeps apart from `auth_path` -/
theorem merklePath_depth (hs : Hashes D) (ls : List D) (i : Nat) :
    (merklePath hs ls i).authPath.length + 1 = max (depth ls) 1 := by
  rw [merklePath, List.length_reverse, authUp_length]
  exact Nat.sub_add_eq_max _ _

theorem merklePath_leafIndex (hs : Hashes D) (ls : List D) (i : Nat) :
    (merklePath hs ls i).leafIndex = i := rfl

end Merkle
end PCV
