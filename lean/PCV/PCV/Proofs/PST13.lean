/-
  PCV.Proofs.PST13 — algebra of the PST13 model: the quotient decomposition of `divide_at_point`
  is exact, commitments/witnesses made with a well-formed key are the key-defined linear maps,
  honest openings satisfy the pairing equation, the defect of a changed claim is explicit; `commit`
  and `open` refuse nothing the key covers; `trim` of a well-formed key; the pairing product of
  `batch_check` is the randomizer-weighted sum of the individual defects.
-/
import PCV.Model.PST13
import PCV.Proofs.MVPoly
import PCV.Proofs.KZG10

set_option linter.unusedSectionVars false

namespace PCV
namespace PST
open PCV.MV
variable {F : Type} [Field F]

theorem evalTerm_append (t u : Term) (x : List F) :
    evalTerm (t ++ u) x = evalTerm t x * evalTerm u x := by
  induction t with
  | nil => rw [List.nil_append, evalTerm_nil, one_mul]
  | cons q t ih => rw [List.cons_append, evalTerm_cons, evalTerm_cons, ih, mul_assoc]

theorem degree_append (t u : Term) : Term.degree (t ++ u) = Term.degree t + Term.degree u := by
  induction t with
  | nil => rw [List.nil_append, Term.degree, Nat.zero_add]
  | cons q t ih => rw [List.cons_append, Term.degree, Term.degree, ih, Nat.add_assoc]

theorem varsBelow_iff (nv : Nat) (t : Term) : Term.varsBelow nv t = true ↔ ∀ q ∈ t, q.1 < nv := by
  simp only [Term.varsBelow, List.all_eq_true, decide_eq_true_eq]

theorem evalTerm_take {nv : Nat} {t : Term} (h : Term.varsBelow nv t = true) (x : List F) :
    evalTerm t (x.take nv) = evalTerm t x := by
  induction t with
  | nil => rfl
  | cons q t ih =>
    obtain ⟨hq, ht⟩ := List.forall_mem_cons.1 ((varsBelow_iff nv _).1 h)
    rw [evalTerm_cons, evalTerm_cons, ih ((varsBelow_iff nv t).2 ht), getD'_take x 0 hq]

theorem find?_split {i k : Nat} {t : Term} (h : Term.find? i t = some k) :
    ∃ pre post, t = pre ++ (i, k) :: post ∧ Term.erase i t = pre ++ post ∧
      ∀ j, Term.setPow i j t = pre ++ (i, j) :: post := by
  fun_induction Term.find? i t with
  | case1 => cases h
  | case2 q t hq =>
    refine ⟨[], t, ?_, ?_, fun j => ?_⟩
    · rw [show q = (i, k) from Prod.ext hq (Option.some.inj h)]; rfl
    · rw [Term.erase, if_pos hq]; rfl
    · rw [Term.setPow, if_pos hq]; rfl
  | case3 q t hq ih =>
    obtain ⟨pre, post, h1, h2, h3⟩ := ih h
    exact ⟨q :: pre, post, by rw [h1]; rfl, by rw [Term.erase, if_neg hq, h2]; rfl,
      fun j => by rw [Term.setPow, if_neg hq, h3 j]; rfl⟩

theorem find?_mem {i k : Nat} {t : Term} (h : Term.find? i t = some k) : (i, k) ∈ t := by
  obtain ⟨pre, post, rfl, _, _⟩ := find?_split h
  exact List.mem_append_right _ (List.mem_cons_self ..)

theorem find?_eq_none {i : Nat} {t : Term} : Term.find? i t = none ↔ ∀ q ∈ t, q.1 ≠ i := by
  induction t with
  | nil => exact ⟨fun _ q hq => (nomatch hq), fun _ => rfl⟩
  | cons a t ih =>
    simp only [Term.find?, List.forall_mem_cons]
    split
    · rename_i ha
      exact ⟨fun h => (nomatch h), fun h => absurd ha h.1⟩
    · rename_i ha
      exact ih.trans ⟨fun h => ⟨ha, h⟩, fun h => h.2⟩

theorem evalTerm_find {i k : Nat} {t : Term} (h : Term.find? i t = some k) (x : List F) :
    evalTerm t x = fpow (getD' x i 0) k * evalTerm (Term.erase i t) x := by
  obtain ⟨pre, post, rfl, he, _⟩ := find?_split h
  rw [he, evalTerm_append, evalTerm_append, evalTerm_cons]; ring

theorem evalTerm_setPow {i k : Nat} {t : Term} (h : Term.find? i t = some k) (j : Nat) (x : List F) :
    evalTerm (Term.setPow i j t) x = fpow (getD' x i 0) j * evalTerm (Term.erase i t) x := by
  obtain ⟨pre, post, rfl, he, hs⟩ := find?_split h
  rw [he, hs, evalTerm_append, evalTerm_append, evalTerm_cons]; ring

/-- the `while` loop: `c·X^(k+1)·E = (X − z)·(q(x) + c'·E) + z·c'·E` -/
theorem divPowers_spec {i k0 : Nat} {t : Term} (hf : Term.find? i t = some k0) (zi : F)
    (x : List F) (k : Nat) (c : F) :
    c * fpow (getD' x i 0) (k + 1) * evalTerm (Term.erase i t) x
      = (getD' x i 0 - zi) * (evalMV (divPowers i zi t (k + 1) c).1 x
          + (divPowers i zi t (k + 1) c).2 * evalTerm (Term.erase i t) x)
        + zi * (divPowers i zi t (k + 1) c).2 * evalTerm (Term.erase i t) x := by
  induction k generalizing c with
  | zero =>
    simp only [divPowers, evalMV_nil, fpow_succ, fpow_zero]; ring
  | succ k ih =>
    have := ih (c * zi)
    simp only [divPowers, evalMV_cons, evalTerm_new, evalTerm_setPow hf, fpow_succ] at this ⊢
    linear_combination this

/-- the constant part that `divide_at_point` drops (`if term.is_constant() { continue; }`) -/
def constOf (ct : F × Term) : F := if Term.isConstant ct.2 then ct.1 else 0

def constSum : MVPoly F → F
  | [] => 0
  | ct :: p => constOf ct + constSum p

/-- the three arms of the loop body of `divide_at_point` on one term: skipped (constant), passed on
to the remainder (no `X_i`), divided -/
theorem divTerm_cases (i : Nat) (zi : F) (ct : F × Term) :
    (Term.isConstant ct.2 = true ∧ divTerm i zi ct = ([], []))
    ∨ (¬ Term.isConstant ct.2 = true ∧ Term.find? i ct.2 = none ∧ divTerm i zi ct = ([], [ct]))
    ∨ (¬ Term.isConstant ct.2 = true ∧ ∃ k, Term.find? i ct.2 = some k ∧
        divTerm i zi ct = ((divPowers i zi ct.2 k ct.1).1
            ++ [((divPowers i zi ct.2 k ct.1).2, Term.new (Term.erase i ct.2))],
          [(zi * (divPowers i zi ct.2 k ct.1).2, Term.new (Term.erase i ct.2))])) := by
  unfold divTerm
  by_cases hc : Term.isConstant ct.2 = true
  · exact Or.inl ⟨hc, if_pos hc⟩
  · rw [if_neg hc]
    cases hf : Term.find? i ct.2 with
    | none => exact Or.inr (Or.inl ⟨hc, rfl, rfl⟩)
    | some k => exact Or.inr (Or.inr ⟨hc, k, rfl, rfl⟩)

theorem divTerm_spec (i : Nat) (zi : F) (ct : F × Term) (x : List F)
    (hpos : ∀ q ∈ ct.2, q.2 ≠ 0) :
    ct.1 * evalTerm ct.2 x
      = constOf ct + (getD' x i 0 - zi) * evalMV (divTerm i zi ct).1 x
          + evalMV (divTerm i zi ct).2 x := by
  unfold constOf
  rcases divTerm_cases i zi ct with ⟨hc, h⟩ | ⟨hc, _, h⟩ | ⟨hc, k, hf, h⟩
  · rw [h, if_pos hc, Term.isConstant_eval hc, evalMV_nil, mul_one, mul_zero, add_zero, add_zero]
  · rw [h, if_neg hc, evalMV_nil, evalMV_cons, evalMV_nil, mul_zero, zero_add, zero_add, add_zero]
  · obtain ⟨k', rfl⟩ : ∃ k', k = k' + 1 := ⟨k - 1, by have := hpos (i, k) (find?_mem hf); omega⟩
    have h1 := divPowers_spec hf zi x k' ct.1
    rw [h, if_neg hc, evalTerm_find hf x]
    simp only [evalMV_append, evalMV_cons, evalMV_nil, evalTerm_new]
    linear_combination h1

theorem divTerms_spec (i : Nat) (zi : F) (p : MVPoly F) (x : List F)
    (hpos : ∀ t ∈ termsOf p, ∀ q ∈ t, q.2 ≠ 0) :
    evalMV p x = constSum p + (getD' x i 0 - zi) * evalMV (divTerms i zi p).1 x
        + evalMV (divTerms i zi p).2 x := by
  induction p with
  | nil => simp only [divTerms, constSum, evalMV_nil, mul_zero, add_zero]
  | cons ct p ih =>
    obtain ⟨h1, h2⟩ := forall_mem_termsOf_cons.1 hpos
    simp only [divTerms, constSum, evalMV_cons, evalMV_append]
    linear_combination divTerm_spec i zi ct x h1 + ih h2

/-- a term of the quotient or of the remainder vector comes from the arm of one term of `p` -/
theorem mem_divTerms {i : Nat} {zi : F} {p : MVPoly F} {t : Term} :
    (t ∈ termsOf (divTerms i zi p).1 → ∃ ct ∈ p, t ∈ termsOf (divTerm i zi ct).1) ∧
    (t ∈ termsOf (divTerms i zi p).2 → ∃ ct ∈ p, t ∈ termsOf (divTerm i zi ct).2) := by
  induction p with
  | nil => exact ⟨nofun, nofun⟩
  | cons ct p ih =>
    simp only [divTerms, termsOf_append, List.mem_append, List.mem_cons, or_and_right, exists_or,
      exists_eq_left]
    exact ⟨Or.imp_right ih.1, Or.imp_right ih.2⟩

theorem mem_divTerms_rem {i : Nat} {zi : F} {p : MVPoly F} {t : Term}
    (h : t ∈ termsOf (divTerms i zi p).2) :
    ∃ u ∈ termsOf p, (Term.find? i u = none ∧ t = u) ∨
      (∃ k, Term.find? i u = some k ∧ t = Term.new (Term.erase i u)) := by
  obtain ⟨ct, hct, h⟩ := mem_divTerms.2 h
  refine ⟨ct.2, mem_termsOf hct, ?_⟩
  rcases divTerm_cases i zi ct with ⟨_, e⟩ | ⟨_, hf, e⟩ | ⟨_, k, hf, e⟩ <;> rw [e] at h
  · cases h
  · exact Or.inl ⟨hf, List.mem_singleton.1 h⟩
  · exact Or.inr ⟨k, hf, List.mem_singleton.1 h⟩

theorem mem_divPowers_term {i : Nat} {zi : F} {u : Term} (k : Nat) (c : F) (t : Term) :
    t ∈ termsOf (divPowers i zi u k c).1 → ∃ j, j + 1 < k ∧ t = Term.new (Term.setPow i (j + 1) u) := by
  fun_induction divPowers i zi u k c with
  | case1 k c r ih =>
    intro h
    rcases mem_termsOf_cons.1 h with h | h
    · exact ⟨k, Nat.lt_succ_self _, h⟩
    · obtain ⟨j, hj, ht⟩ := ih h
      exact ⟨j, Nat.lt_succ_of_lt hj, ht⟩
  | case2 => exact fun h => nomatch h

theorem mem_divTerms_quot {i : Nat} {zi : F} {p : MVPoly F} {t : Term}
    (h : t ∈ termsOf (divTerms i zi p).1) :
    ∃ u ∈ termsOf p, ∃ k, Term.find? i u = some k ∧
      (t = Term.new (Term.erase i u) ∨ ∃ j, j + 1 < k ∧ t = Term.new (Term.setPow i (j + 1) u)) := by
  obtain ⟨ct, hct, h⟩ := mem_divTerms.1 h
  refine ⟨ct.2, mem_termsOf hct, ?_⟩
  rcases divTerm_cases i zi ct with ⟨_, e⟩ | ⟨_, _, e⟩ | ⟨_, k, hf, e⟩ <;> rw [e] at h
  · cases h
  · cases h
  · rw [termsOf_append, List.mem_append] at h
    exact ⟨k, hf, h.elim (fun h => Or.inr (mem_divPowers_term k ct.1 t h))
      (fun h => Or.inl (List.mem_singleton.1 h))⟩

/-! ### the pairing sums as dot products

`wz z j w = Σₖ wₖ·z[j+k]` (the model's name for the sum `batch_check` folds into the commitment side)
is `dot (z.drop j) w`; `rhsSum`, `twSum`, `quotSum` and `linSumIdx` are differences of such sums, so
that what happens to them when a weight, a point coordinate or a key element changes is read off
`dot_comm`, `dot_update` and linearity. -/

theorem wz_eq_dot (z : List F) (j : Nat) (w : List F) : wz z j w = dot (z.drop j) w := by
  induction w generalizing j with
  | nil => exact (dot_nil_right _).symm
  | cons a w ih =>
    rw [wz, ih]
    by_cases h : j < z.length
    · rw [List.drop_eq_getElem_cons h, dot_cons, getD'_lt z j 0 h, mul_comm]
    · have hj := Nat.le_of_not_lt h
      rw [List.drop_of_length_le hj, List.drop_of_length_le (Nat.le_succ_of_le hj), dot_nil_left,
        dot_nil_left, getD', List.getElem?_eq_none hj]
      exact (add_zero _).trans (mul_zero a)

theorem wz_zero_eq_dot (z w : List F) : wz z 0 w = dot z w := wz_eq_dot z 0 w

theorem rhsSum_eq (h : F) (bH z : List F) (j : Nat) (w : List F) :
    rhsSum h bH z j w = wz bH j w - h * wz z j w := by
  induction w generalizing j with
  | nil => simp only [rhsSum, wz, mul_zero, sub_zero]
  | cons a w ih => rw [rhsSum, wz, wz, ih]; ring

theorem twSum_eq (bH : List F) (j : Nat) (w : List F) : twSum bH j w = - wz bH j w := by
  induction w generalizing j with
  | nil => exact neg_zero.symm
  | cons a w ih => rw [twSum, wz, ih, neg_mul, neg_add]

def quotSum (x z : List F) : Nat → List (MVPoly F) → F
  | _, [] => 0
  | i, w :: ws => (getD' x i 0 - getD' z i 0) * evalMV w x + quotSum x z (i + 1) ws

theorem quotSum_eq (x z : List F) (i : Nat) (ws : List (MVPoly F)) :
    quotSum x z i ws = wz x i (ws.map (evalMV · x)) - wz z i (ws.map (evalMV · x)) := by
  induction ws generalizing i with
  | nil => exact (sub_zero 0).symm
  | cons w ws ih => rw [quotSum, List.map_cons, wz, wz, ih]; ring

def linSumIdx (x z : List F) : Nat → List F → F
  | _, [] => 0
  | j, a :: as => (getD' x j 0 - getD' z j 0) * a + linSumIdx x z (j + 1) as

theorem linSumIdx_eq (x z : List F) (j : Nat) (as : List F) :
    linSumIdx x z j as = wz x j as - wz z j as := by
  induction as generalizing j with
  | nil => exact (sub_zero 0).symm
  | cons a as ih => rw [linSumIdx, wz, wz, ih]; ring

/-- the terms of the current dividend at step `i`: built by `SparseTerm::new`, only variables
`i ≤ v < nv` -/
def TermsFrom (i nv : Nat) (p : MVPoly F) : Prop :=
  ∀ t ∈ termsOf p, Term.wf t = true ∧ ∀ q ∈ t, i ≤ q.1 ∧ q.1 < nv

theorem head_of_find? {i k : Nat} {t : Term} (hwf : Term.wf t = true) (hge : ∀ q ∈ t, i ≤ q.1)
    (hf : Term.find? i t = some k) : ∃ t', t = (i, k) :: t' := by
  obtain ⟨pre, post, rfl, _, _⟩ := find?_split hf
  cases pre with
  | nil => exact ⟨post, rfl⟩
  | cons q pre =>
    -- otherwise `x_i` would sit behind a larger variable
    exact absurd (Term.wf_head_lt hwf (i, k) (List.mem_append_right _ (List.mem_cons_self ..)))
      (Nat.not_lt.2 (hge q (List.mem_cons_self ..)))

theorem termsFrom_rem [DecidableEq F] {i nv : Nat} {cur : MVPoly F} (zi : F)
    (h : TermsFrom i nv cur) : TermsFrom (i + 1) nv (fromCoeffs (divTerms i zi cur).2) := by
  intro t ht
  obtain ⟨u, hu, hh⟩ := mem_divTerms_rem (mem_fromCoeffs_term _ ht)
  obtain ⟨hwf, hv⟩ := h u hu
  rcases hh with ⟨hnone, rfl⟩ | ⟨k, hsome, rfl⟩
  · exact ⟨hwf, fun q hq =>
      ⟨Nat.lt_of_le_of_ne (hv q hq).1 (Ne.symm (find?_eq_none.1 hnone q hq)), (hv q hq).2⟩⟩
  · obtain ⟨t', rfl⟩ := head_of_find? hwf (fun q hq => (hv q hq).1) hsome
    have hwf' := Term.wf_tail hwf
    simp only [Term.erase, if_true, Term.new_of_wf hwf']
    exact ⟨hwf', fun q hq => ⟨Term.wf_head_lt hwf q hq, (hv q (List.mem_cons_of_mem _ hq)).2⟩⟩

theorem evalMV_const_of_nil (p : MVPoly F) (h : ∀ t ∈ termsOf p, t = []) (x y : List F) :
    evalMV p x = evalMV p y := by
  rw [evalMV_eq_keySum, evalMV_eq_keySum]
  exact keySum_congr (fun t ht => by rw [h t ht]; rfl)

theorem divLoop_spec [DecidableEq F] (z x : List F) (n i : Nat) (cur : MVPoly F)
    (h : TermsFrom i (i + n) cur) :
    evalMV cur x - evalMV cur z = quotSum x z i (divLoop z n i cur) := by
  induction n generalizing i cur with
  | zero =>
    simp only [divLoop, quotSum]
    have : ∀ t ∈ termsOf cur, t = [] := by
      intro t ht
      obtain ⟨_, hv⟩ := h t ht
      cases t with
      | nil => rfl
      | cons q t => exact absurd (hv q List.mem_cons_self).2 (Nat.not_lt.2 (hv q List.mem_cons_self).1)
    rw [evalMV_const_of_nil cur this x z, sub_self]
  | succ n ih =>
    have hpos : ∀ t ∈ termsOf cur, ∀ q ∈ t, q.2 ≠ 0 := fun t ht => Term.wf_pos (h t ht).1
    have hx := divTerms_spec i (getD' z i 0) cur x hpos
    have hz := divTerms_spec i (getD' z i 0) cur z hpos
    have hrem := termsFrom_rem (getD' z i 0) h
    rw [← Nat.succ_add_eq_add_succ i n] at hrem
    have hrec := ih (i + 1) _ hrem
    simp only [divLoop, quotSum, evalMV_fromCoeffs] at hrec ⊢
    rw [← hrec]
    linear_combination hx - hz

/-- **C15 (a).** `divide_at_point` is exact: for every polynomial whose terms were built by
`SparseTerm::new` over `nv` variables, every point `z` and every `x`,
`p(x) − p(z) = Σᵢ (xᵢ − zᵢ)·wᵢ(x)`. -/
theorem divideAtPoint_exact [DecidableEq F] (nv : Nat) (p : MVPoly F) (z x : List F)
    (hwf : polyWf p = true) (hv : polyVarsBelow nv p = true) :
    evalMV p x - evalMV p z = quotSum x z 0 (divideAtPoint nv p z) := by
  unfold divideAtPoint
  split
  · rename_i hz
    rw [evalMV_of_isZero p hz, evalMV_of_isZero p hz, quotSum_eq, List.map_replicate, evalMV_nil,
      wz_zero_eq_dot, wz_zero_eq_dot, dot_replicate_zero_right, dot_replicate_zero_right, sub_zero]
  · apply divLoop_spec
    intro t ht
    exact ⟨(polyWf_iff p).1 hwf t ht, fun q hq => ⟨Nat.zero_le _,
      (Nat.zero_add nv).symm ▸ (varsBelow_iff nv t).1 ((polyVarsBelow_iff nv p).1 hv t ht) q hq⟩⟩

theorem divLoop_length [DecidableEq F] (z : List F) (n i : Nat) (p : MVPoly F) :
    (divLoop z n i p).length = n := by
  induction n generalizing i p with
  | zero => rfl
  | succ n ih => simp [divLoop, ih]

theorem divideAtPoint_length [DecidableEq F] (nv : Nat) (p : MVPoly F) (z : List F) :
    (divideAtPoint nv p z).length = nv := by
  unfold divideAtPoint
  split
  · simp
  · exact divLoop_length z nv 0 p

/-! ### term predicates preserved by the division

`P` is a predicate on terms that survives dividing out one variable (`hrem`: the coefficient part
`t / x_i^k` of a term containing `x_i`). -/

section Preserved
variable [DecidableEq F] {P : Term → Prop}
  (hrem : ∀ u i k, P u → Term.find? i u = some k → P (Term.new (Term.erase i u)))
include hrem

theorem divTerms_rem_terms (i : Nat) {zi : F} {cur : MVPoly F} (h : ∀ t ∈ termsOf cur, P t) :
    ∀ t ∈ termsOf (fromCoeffs (divTerms i zi cur).2), P t := by
  intro t ht
  obtain ⟨u, hu, hh⟩ := mem_divTerms_rem (mem_fromCoeffs_term _ ht)
  rcases hh with ⟨_, rfl⟩ | ⟨k, hf, rfl⟩
  · exact h t hu
  · exact hrem u i k (h u hu) hf

theorem divLoop_terms
    (hquot : ∀ u i k j, P u → Term.find? i u = some k → j + 1 < k →
      P (Term.new (Term.setPow i (j + 1) u)))
    (z : List F) (n i : Nat) (cur : MVPoly F) (h : ∀ t ∈ termsOf cur, P t) :
    ∀ w ∈ divLoop z n i cur, ∀ t ∈ termsOf w, P t := by
  induction n generalizing i cur with
  | zero => exact fun w hw => nomatch hw
  | succ n ih =>
    intro w hw
    rcases List.mem_cons.1 hw with rfl | hw
    · intro t ht
      obtain ⟨u, hu, k, hf, hh⟩ := mem_divTerms_quot (mem_fromCoeffs_term _ ht)
      rcases hh with rfl | ⟨j, hj, rfl⟩
      · exact hrem u i k (h u hu) hf
      · exact hquot u i k j (h u hu) hf hj
    · exact ih (i + 1) _ (divTerms_rem_terms hrem i h) w hw

theorem divideAtPoint_terms
    (hquot : ∀ u i k j, P u → Term.find? i u = some k → j + 1 < k →
      P (Term.new (Term.setPow i (j + 1) u)))
    (nv : Nat) (p : MVPoly F) (z : List F) (h : ∀ t ∈ termsOf p, P t) :
    ∀ w ∈ divideAtPoint nv p z, ∀ t ∈ termsOf w, P t := by
  unfold divideAtPoint
  split
  · intro w hw t ht
    rw [List.eq_of_mem_replicate hw] at ht
    cases ht
  · exact divLoop_terms hrem hquot z nv 0 p h

theorem divIndexOk_of {k : Nat} (hP : ∀ t, P t → Term.varsBelow k t = true) {z : List F}
    (hk : k ≤ z.length) (n i : Nat) (cur : MVPoly F) (h : ∀ t ∈ termsOf cur, P t) :
    divIndexOk z n i cur = true := by
  induction n generalizing i cur with
  | zero => rfl
  | succ n ih =>
    simp only [divIndexOk, Bool.and_eq_true, Bool.or_eq_true, decide_eq_true_eq,
      Bool.not_eq_true']
    refine ⟨?_, ih (i + 1) _ (divTerms_rem_terms hrem i h)⟩
    by_cases hi : i < z.length
    · exact Or.inl hi
    · right
      rw [List.any_eq_false]
      intro ct hct
      have hnone : Term.find? i ct.2 = none :=
        find?_eq_none.2 (fun q hq => Nat.ne_of_lt (Nat.lt_of_lt_of_le
          ((varsBelow_iff k ct.2).1 (hP ct.2 (h ct.2 (mem_termsOf hct))) q hq)
          (Nat.le_trans hk (Nat.le_of_not_lt hi))))
      simp only [termReads, hnone, Option.isSome_none, Bool.and_false, Bool.false_eq_true,
        not_false_eq_true]

theorem divideOk_of {k : Nat} (hP : ∀ t, P t → Term.varsBelow k t = true) {z : List F}
    (hk : k ≤ z.length) (nv : Nat) {p : MVPoly F} (h : ∀ t ∈ termsOf p, P t) :
    divideOk nv p z = true := by
  unfold divideOk
  rw [divIndexOk_of hrem hP hk nv 0 p h, Bool.or_true]

end Preserved

/-- "each monomial is univariate": the shape of blinding polynomials -/
def isUni : Term → Bool
  | [] => true
  | [q] => q.2 != 0
  | _ => false

theorem isUni_wf {t : Term} (h : isUni t = true) : Term.wf t = true := by
  match t with
  | [] => rfl
  | [q] => simpa [isUni, Term.wf] using h
  | _ :: _ :: _ => simp [isUni] at h

theorem isUni_find {u : Term} {i k : Nat} (hu : isUni u = true) (hf : Term.find? i u = some k) :
    u = [(i, k)] := by
  match u with
  | [] => cases hf
  | [q] =>
    by_cases hq : q.1 = i
    · rw [Term.find?, if_pos hq] at hf
      rw [show q = (i, k) from Prod.ext hq (Option.some.inj hf)]
    · rw [Term.find?, if_neg hq] at hf
      cases hf
  | _ :: _ :: _ => cases hu

theorem isUni_rem (u : Term) (i k : Nat) (hu : isUni u = true) (hf : Term.find? i u = some k) :
    isUni (Term.new (Term.erase i u)) = true := by
  rw [isUni_find hu hf, Term.erase, if_pos rfl]
  rfl

theorem isUni_quot (u : Term) (i k j : Nat) (hu : isUni u = true) (hf : Term.find? i u = some k)
    (_ : j + 1 < k) : isUni (Term.new (Term.setPow i (j + 1) u)) = true := by
  rw [isUni_find hu hf, Term.setPow, if_pos rfl]
  rfl

section Keys
variable [DecidableEq F]

/-- The committer key `setup`/`trim` make from the trapdoor `β⃗` and the generators' scalars
`g, γ`: `powers_of_g[t] = g·t(β⃗)` for the monomials `ts`, `powers_of_gamma_g[i][j] = γ·βᵢ^(j+1)`
(`m` entries per row). -/
def wfCK (g γ : F) (β : List F) (ts : List Term) (nv s D m : Nat) : CK F :=
  { powersOfG := ts.map (fun t => (t, g * evalTerm t β))
    gammaG := γ
    powersOfGammaG := (List.range nv).map (fun i => gammaRow γ (getD' β i 0) m 1)
    numVars := nv, supportedDegree := s, maxDegree := D }

/-- the matching verifier key: `beta_h[i] = βᵢ·h` -/
def wfVK (g γ h : F) (β : List F) (nv s D : Nat) : VK F :=
  { g := g, gammaG := γ, h := h, betaH := β.map (fun b => h * b)
    numVars := nv, supportedDegree := s, maxDegree := D }

theorem defectCombined_wfVK (g γ h : F) (β : List F) (nv s D : Nat) (C V : F) (z : List F)
    (π : Proof F) :
    defectCombined (wfVK g γ h β nv s D) C V z π
      = h * (C - g * V - γ * rvVal π.rv - (dot β π.w - dot z π.w)) := by
  simp only [defectCombined, wfVK, rhsSum_eq, wz_zero_eq_dot]
  -- `beta_h` is `h·β⃗`
  rw [← pscale, dot_pscale_left]
  ring

theorem mapGet_map (f : Term → F) (ts : List Term) (t : Term) :
    mapGet (ts.map (fun t => (t, f t))) t = if t ∈ ts then some (f t) else none := by
  induction ts with
  | nil => rfl
  | cons a ts ih =>
    rw [List.map_cons, mapGet]
    by_cases ha : a = t
    · rw [if_pos ha, if_pos (ha ▸ List.mem_cons_self ..), ha]
    · rw [if_neg ha, ih]
      exact if_congr (by rw [List.mem_cons, or_iff_right (Ne.symm ha)]) rfl rfl

theorem lookG_eq_ok {m : List (Term × F)} {t : Term} {b : F} :
    lookG m t = .ok b ↔ mapGet m t = some b := by
  unfold lookG
  cases mapGet m t with
  | none => exact ⟨fun h => (nomatch h), fun h => (nomatch h)⟩
  | some b' => exact ⟨fun h => congrArg some (Except.ok.inj h), fun h => congrArg Except.ok (Option.some.inj h)⟩

theorem lookG_wf {g : F} {β : List F} {ts : List Term} {t : Term} {b : F}
    (h : lookG (ts.map (fun t => (t, g * evalTerm t β))) t = .ok b) : b = g * evalTerm t β := by
  rw [lookG_eq_ok, mapGet_map] at h
  split at h
  · exact (Option.some.inj h).symm
  · cases h

theorem gammaRow_length (γ β : F) (n : Nat) (cur : F) : (gammaRow γ β n cur).length = n := by
  induction n generalizing cur with
  | zero => rfl
  | succ n ih => rw [gammaRow, List.length_cons, ih]

theorem gammaRow_getElem? (γ β : F) (n : Nat) (cur : F) (j : Nat) :
    (gammaRow γ β n cur)[j]? = if j < n then some (γ * (cur * fpow β (j + 1))) else none := by
  induction n generalizing cur j with
  | zero => rfl
  | succ n ih =>
    cases j with
    | zero =>
      rw [gammaRow, List.getElem?_cons_zero, if_pos (Nat.succ_pos n), fpow_succ, fpow_zero, mul_one]
    | succ j =>
      rw [gammaRow, List.getElem?_cons_succ, ih, fpow_succ β (j + 1), mul_assoc]
      exact if_congr (Nat.succ_lt_succ_iff).symm rfl rfl

theorem gammaBase_nil (γ : F) (pgg : List (List F)) : gammaBase γ pgg [] = .ok γ := rfl

theorem gammaBase_uni (γ : F) (β : List F) (nv m : Nat) {t : Term} (hu : isUni t = true) :
    gammaBase γ ((List.range nv).map (fun i => gammaRow γ (getD' β i 0) m 1)) t
      = if Term.varsBelow nv t = true ∧ Term.degree t ≤ m then .ok (γ * evalTerm t β)
        else .error .abort := by
  match t with
  | [] => rw [if_pos ⟨rfl, Nat.zero_le m⟩, evalTerm_nil, mul_one]; rfl
  | [(v, k)] =>
    obtain ⟨k, rfl⟩ := Nat.exists_eq_succ_of_ne_zero (show k ≠ 0 by simpa [isUni] using hu)
    have hc : Term.isConstant [(v, k + 1)] = false := rfl
    simp only [gammaBase, hc, Term.vars, Term.degree, Term.varsBelow, List.all_cons, List.all_nil,
      Bool.and_true, decide_eq_true_eq, List.map_cons, List.map_nil, List.getElem?_cons_zero,
      Bool.false_eq_true, if_false, List.getElem?_map, Nat.add_zero, Nat.add_sub_cancel,
      Nat.succ_eq_add_one]
    by_cases hv : v < nv
    · rw [List.getElem?_range hv]
      simp only [Option.map_some, gammaRow_getElem?, hv, true_and, Nat.succ_le_iff]
      by_cases hkm : k < m
      · simp only [hkm, if_true, evalTerm_cons, evalTerm_nil, one_mul, mul_one]
      · simp only [hkm, if_false]
    · rw [List.getElem?_eq_none (by simpa using hv)]
      simp only [Option.map_none, hv, false_and, if_false]
  | _ :: _ :: _ => cases hu

theorem gammaBase_wf {γ : F} {β : List F} {nv m : Nat} {t : Term} {b : F} (hu : isUni t = true)
    (h : gammaBase γ ((List.range nv).map (fun i => gammaRow γ (getD' β i 0) m 1)) t = .ok b) :
    b = γ * evalTerm t β := by
  rw [gammaBase_uni γ β nv m hu] at h
  split at h
  · exact (Except.ok.inj h).symm
  · cases h

section MSM
variable {look : Term → Except Err F} {f : Term → F}

theorem msmBy_spec {p : MVPoly F} {x : F}
    (hl : ∀ t ∈ termsOf p, ∀ b, look t = .ok b → b = f t)
    (h : msmBy look p = .ok x) : x = keySum f p := by
  fun_induction msmBy look p generalizing x with
  | case1 => exact (Except.ok.inj h).symm
  | case2 => cases h
  | case3 => cases h
  | case4 ct p b hb acc hacc ih =>
    obtain ⟨h1, h2⟩ := forall_mem_termsOf_cons.1 hl
    rw [← Except.ok.inj h, h1 b hb, ih h2 hacc, keySum_cons]

theorem msmAll_spec {ws : List (MVPoly F)} {xs : List F}
    (hl : ∀ w ∈ ws, ∀ t ∈ termsOf w, ∀ b, look t = .ok b → b = f t)
    (h : msmAll look ws = .ok xs) : xs = ws.map (keySum f) := by
  fun_induction msmAll look ws generalizing xs with
  | case1 => exact (Except.ok.inj h).symm
  | case2 => cases h
  | case3 => cases h
  | case4 w ws x hx xs' hxs ih =>
    obtain ⟨h1, h2⟩ := List.forall_mem_cons.1 hl
    rw [← Except.ok.inj h, msmBy_spec h1 hx, ih h2 hxs, List.map_cons]

theorem addHiding_spec {ws : List F} {hws : List (MVPoly F)} {xs : List F}
    (hl : ∀ w ∈ hws, ∀ t ∈ termsOf w, ∀ b, look t = .ok b → b = f t)
    (h : addHiding look ws hws = .ok xs) :
    xs = List.zipWith (· + ·) ws (hws.map (keySum f)) ∧ ws.length ≤ hws.length := by
  fun_induction addHiding look ws hws generalizing xs with
  | case1 => exact ⟨(Except.ok.inj h).symm, Nat.zero_le _⟩
  | case2 => cases h
  | case3 => cases h
  | case4 => cases h
  | case5 w ws hw hws x hx xs' hxs ih =>
    obtain ⟨h1, h2⟩ := List.forall_mem_cons.1 hl
    obtain ⟨i1, i2⟩ := ih h2 hxs
    rw [← Except.ok.inj h, msmBy_spec h1 hx, i1]
    exact ⟨rfl, Nat.succ_le_succ i2⟩

/-- lets what the `_spec` lemmas say of the values be used for the shape of the result under any
look-up -/
theorem exists_agree (look : Term → Except Err F) : ∃ f : Term → F, ∀ t b, look t = .ok b → b = f t :=
  ⟨fun t => match look t with | .ok b => b | .error _ => 0, fun t b hb => by simp only [hb]⟩

theorem msmAll_length {ws : List (MVPoly F)} {xs : List F} (h : msmAll look ws = .ok xs) :
    xs.length = ws.length := by
  obtain ⟨f, hf⟩ := exists_agree look
  rw [msmAll_spec (fun _ _ t _ => hf t) h, List.length_map]

theorem addHiding_length {ws : List F} {hws : List (MVPoly F)} {xs : List F}
    (h : addHiding look ws hws = .ok xs) : xs.length = ws.length := by
  obtain ⟨f, hf⟩ := exists_agree look
  obtain ⟨rfl, hle⟩ := addHiding_spec (fun _ _ t _ => hf t) h
  rw [List.length_zipWith, List.length_map, Nat.min_eq_left hle]

theorem msmBy_ok {p : MVPoly F}
    (h : ∀ t ∈ termsOf p, look t = .ok (f t)) : msmBy look p = .ok (keySum f p) := by
  induction p with
  | nil => rfl
  | cons ct p ih =>
    obtain ⟨h1, h2⟩ := forall_mem_termsOf_cons.1 h
    simp only [msmBy, h1, ih h2, keySum_cons]

theorem msmAll_ok {ws : List (MVPoly F)}
    (h : ∀ w ∈ ws, ∀ t ∈ termsOf w, look t = .ok (f t)) :
    msmAll look ws = .ok (ws.map (keySum f)) := by
  induction ws with
  | nil => rfl
  | cons w ws ih =>
    obtain ⟨h1, h2⟩ := List.forall_mem_cons.1 h
    simp only [msmAll, msmBy_ok h1, ih h2, List.map_cons]

theorem addHiding_ok {ws : List F} {hws : List (MVPoly F)} (hlen : ws.length ≤ hws.length)
    (h : ∀ w ∈ hws, ∀ t ∈ termsOf w, look t = .ok (f t)) :
    addHiding look ws hws = .ok (List.zipWith (· + ·) ws (hws.map (keySum f))) := by
  induction ws generalizing hws with
  | nil => rfl
  | cons w ws ih =>
    cases hws with
    | nil => cases hlen
    | cons hw hws =>
      obtain ⟨h1, h2⟩ := List.forall_mem_cons.1 h
      simp only [addHiding, msmBy_ok h1, ih (Nat.le_of_succ_le_succ hlen) h2,
        List.map_cons, List.zipWith_cons_cons]

end MSM

theorem checkDegree_ok {s : Nat} {p : MVPoly F} : checkDegree s p = .ok () ↔ degreeMV p ≤ s := by
  unfold checkDegree
  split
  · rename_i h; exact ⟨fun e => (nomatch e), fun n => absurd h (Nat.not_lt.2 n)⟩
  · rename_i h; exact ⟨fun _ => Nat.le_of_not_lt h, fun _ => rfl⟩

theorem combine_stop {s : Nat} {pa ra : MVPoly F} {ps rs : List (MVPoly F)} {ξs : List F}
    (h : ps = [] ∨ rs = []) : combine s pa ra ps rs ξs = .ok (pa, ra, ξs) := by
  rcases h with rfl | rfl
  · rfl
  · cases ps <;> rfl

theorem combine_cons_ok_iff {s : Nat} {pa ra p r : MVPoly F} {ps rs : List (MVPoly F)} {ξs : List F}
    {out : MVPoly F × MVPoly F × List F} :
    combine s pa ra (p :: ps) (r :: rs) ξs = .ok out ↔
      degreeMV p ≤ s ∧ ∃ ξ ξs', ξs = ξ :: ξs' ∧
        combine s (addScaledMV pa ξ p) (addScaledMV ra ξ r) ps rs ξs' = .ok out := by
  constructor
  · intro h
    simp only [combine] at h
    split at h
    · cases h
    · rename_i hdeg
      cases ξs with
      | nil => cases h
      | cons ξ ξs' => exact ⟨checkDegree_ok.1 hdeg, ξ, ξs', rfl, h⟩
  · rintro ⟨hd, ξ, ξs', rfl, h⟩
    simp only [combine, checkDegree_ok.2 hd, h]

theorem combine_terms_both (P Q : Term → Prop) {s : Nat} {pa ra : MVPoly F}
    {ps rs : List (MVPoly F)} {ξs : List F} {out : MVPoly F × MVPoly F × List F}
    (h : combine s pa ra ps rs ξs = .ok out)
    (hpa : ∀ t ∈ termsOf pa, P t) (hps : ∀ p ∈ ps, ∀ t ∈ termsOf p, P t)
    (hra : ∀ t ∈ termsOf ra, Q t) (hrs : ∀ r ∈ rs, ∀ t ∈ termsOf r, Q t) :
    (∀ t ∈ termsOf out.1, P t) ∧ ∀ t ∈ termsOf out.2.1, Q t := by
  fun_induction combine s pa ra ps rs ξs with
  | case1 => cases h
  | case2 => cases h
  | case3 pa ra p ps r rs _ ξ ξs' ih =>
    obtain ⟨hp, hps'⟩ := List.forall_mem_cons.1 hps
    obtain ⟨hr, hrs'⟩ := List.forall_mem_cons.1 hrs
    exact ih h (forall_mem_termsOf_addScaledMV ξ hpa hp) hps'
      (forall_mem_termsOf_addScaledMV ξ hra hr) hrs'
  | case4 =>
    cases h
    exact ⟨hpa, hra⟩

theorem combine_terms (P : Term → Prop) (s : Nat) (pa ra : MVPoly F) (ps rs : List (MVPoly F))
    (ξs : List F) (out : MVPoly F × MVPoly F × List F)
    (h : combine s pa ra ps rs ξs = .ok out)
    (hpa : ∀ t ∈ termsOf pa, P t) (hps : ∀ p ∈ ps, ∀ t ∈ termsOf p, P t) :
    ∀ t ∈ termsOf out.1, P t :=
  (combine_terms_both P (fun _ => True) h hpa hps (fun _ _ => trivial) (fun _ _ _ _ => trivial)).1

theorem combine_terms_r (P : Term → Prop) (s : Nat) (pa ra : MVPoly F) (ps rs : List (MVPoly F))
    (ξs : List F) (out : MVPoly F × MVPoly F × List F)
    (h : combine s pa ra ps rs ξs = .ok out)
    (hra : ∀ t ∈ termsOf ra, P t) (hrs : ∀ r ∈ rs, ∀ t ∈ termsOf r, P t) :
    ∀ t ∈ termsOf out.2.1, P t :=
  (combine_terms_both (fun _ => True) P h (fun _ _ => trivial) (fun _ _ _ _ => trivial) hra hrs).2

/-- the commitments `g·p(β⃗) + γ·r(β⃗)` of a list of polynomials with their blinding polynomials -/
def comms (g γ : F) (β : List F) (ps rs : List (MVPoly F)) : List F :=
  List.zipWith (fun p r => g * evalMV p β + γ * evalMV r β) ps rs

/-- **Lock-step of prover and verifier.**  If the prover's loop combines `(ps, rs)` into
`(p̂, r̂)`, the verifier's loop on the commitments and the true values returns
`C = g·p̂(β⃗) + γ·r̂(β⃗)`, `V = p̂(z)` (relative to the accumulators) and leaves the same unused
challenges. -/
theorem combine_accumulate (g γ : F) (β z : List F) (s : Nat) (pa ra : MVPoly F)
    (ps rs : List (MVPoly F)) (ξs : List F) (out : MVPoly F × MVPoly F × List F) (ca va : F)
    (h : combine s pa ra ps rs ξs = .ok out) (hlen : ps.length = rs.length)
    (hpa : ∀ t ∈ termsOf pa, Term.wf t = true) (hra : ∀ t ∈ termsOf ra, Term.wf t = true)
    (hps : ∀ p ∈ ps, ∀ t ∈ termsOf p, Term.wf t = true)
    (hrs : ∀ r ∈ rs, ∀ t ∈ termsOf r, Term.wf t = true) :
    accumulate ca va (comms g γ β ps rs) (ps.map (fun p => evalMV p z)) ξs
      = .ok (ca + (g * (evalMV out.1 β - evalMV pa β) + γ * (evalMV out.2.1 β - evalMV ra β)),
             va + (evalMV out.1 z - evalMV pa z), out.2.2) := by
  induction ps generalizing pa ra rs ξs ca va with
  | nil =>
    rw [combine_stop (Or.inl rfl)] at h
    cases h
    simp only [comms, List.zipWith_nil_left, List.map_nil, accumulate, sub_self, mul_zero,
      add_zero]
  | cons p ps ih =>
    cases rs with
    | nil => cases hlen
    | cons r rs =>
      obtain ⟨_, ξ, ξs', rfl, h'⟩ := combine_cons_ok_iff.1 h
      obtain ⟨hp, hps'⟩ := List.forall_mem_cons.1 hps
      obtain ⟨hr, hrs'⟩ := List.forall_mem_cons.1 hrs
      have := ih _ _ rs ξs' (ca + (g * evalMV p β + γ * evalMV r β) * ξ) (va + evalMV p z * ξ) h'
        (Nat.succ.inj hlen)
        (forall_mem_termsOf_addScaledMV ξ hpa hp)
        (forall_mem_termsOf_addScaledMV ξ hra hr) hps' hrs'
      simp only [comms, List.zipWith_cons_cons, List.map_cons, accumulate] at this ⊢
      rw [this]
      simp only [evalMV_addScaledMV _ _ _ _ hpa hp, evalMV_addScaledMV _ _ _ _ hra hr]
      refine congrArg Except.ok (Prod.ext ?_ (Prod.ext ?_ rfl))
      · simp only; ring
      · simp only; ring

theorem defectCombined_shift (vk : VK F) (C V dC dV : F) (z : List F) (π : Proof F) :
    defectCombined vk (C + dC) (V + dV) z π = defectCombined vk C V z π + (dC - vk.g * dV) * vk.h := by
  unfold defectCombined; ring

theorem defect_witness_shift (vk : VK F) (C V : F) (z pre post : List F) (x δ : F) (rv : Option F) :
    defectCombined vk C V z ⟨pre ++ (x + δ) :: post, rv⟩
      = defectCombined vk C V z ⟨pre ++ x :: post, rv⟩
        - δ * (getD' vk.betaH pre.length 0 - vk.h * getD' z pre.length 0) := by
  simp only [defectCombined, rhsSum_eq, wz_zero_eq_dot, dot_update]
  ring

theorem defect_rv_shift (vk : VK F) (C V : F) (z w : List F) (x δ : F) :
    defectCombined vk C V z ⟨w, some (x + δ)⟩ = defectCombined vk C V z ⟨w, some x⟩ - vk.gammaG * δ * vk.h
      ∧ defectCombined vk C V z ⟨w, none⟩ = defectCombined vk C V z ⟨w, some x⟩ + vk.gammaG * x * vk.h := by
  simp only [defectCombined, rvVal]
  constructor <;> ring

/-- **Shape.** A proof whose witness list has not exactly `num_vars` elements is refused with
`IncorrectInputLength`, whatever else the claim contains — nothing is squeezed, nothing is paired. -/
theorem check_wrong_length {vk : VK F} {cs z vs : List F} {π : Proof F} {ξs : List F}
    (h : π.w.length ≠ vk.numVars) : check vk cs z vs π ξs = .error .incorrectInputLength := by
  unfold check
  rw [if_pos h]

/-- the two length bounds: `vk.beta_h[j]` and `point[j]` stay in range -/
theorem check_ok_iff (vk : VK F) (cs z vs : List F) (π : Proof F) (ξs : List F) (b : Bool) :
    check vk cs z vs π ξs = .ok b ↔
      π.w.length = vk.numVars ∧ ∃ a, accumulate 0 0 cs vs ξs = .ok a
        ∧ π.w.length ≤ vk.betaH.length ∧ π.w.length ≤ z.length
        ∧ b = decide (defectCombined vk a.1 a.2.1 z π = 0) := by
  constructor
  · intro h
    unfold check at h
    split at h
    · cases h
    · rename_i hnv
      split at h
      · cases h
      · rename_i a ha
        split at h
        · cases h
        · rename_i hl
          exact ⟨not_not.1 hnv, a, ha, Nat.le_of_not_lt fun h' => hl (Or.inl h'),
            Nat.le_of_not_lt fun h' => hl (Or.inr h'), (Except.ok.inj h).symm⟩
  · rintro ⟨hnv, a, ha, h1, h2, rfl⟩
    unfold check
    rw [if_neg (not_not.2 hnv), ha]
    exact if_neg fun h => h.elim (Nat.not_lt.2 h1) (Nat.not_lt.2 h2)

theorem check_iff_defect (vk : VK F) (cs z vs : List F) (π : Proof F) (ξs : List F)
    (a : F × F × List F) (hacc : accumulate 0 0 cs vs ξs = .ok a)
    (hnv : π.w.length = vk.numVars)
    (hlen : π.w.length ≤ vk.betaH.length ∧ π.w.length ≤ z.length) :
    check vk cs z vs π ξs = .ok true ↔ defect vk cs z vs π ξs = 0 := by
  have hd : defect vk cs z vs π ξs = defectCombined vk a.1 a.2.1 z π := by rw [defect, hacc]
  rw [(check_ok_iff vk cs z vs π ξs _).2 ⟨hnv, a, hacc, hlen.1, hlen.2, rfl⟩, hd, Except.ok.injEq,
    decide_eq_true_iff]

theorem resizeTo_length (n : Nat) (ws : List (MVPoly F)) : (resizeTo n ws).length = n := by
  unfold resizeTo
  simp only [List.length_append, List.length_take, List.length_replicate]
  omega

theorem quotSum_resizeTo (x z : List F) (n : Nat) (ws : List (MVPoly F)) (h : ws.length ≤ n) :
    quotSum x z 0 (resizeTo n ws) = quotSum x z 0 ws := by
  unfold resizeTo
  simp only [List.take_of_length_le h, quotSum_eq, wz_zero_eq_dot, List.map_append, List.map_replicate,
    evalMV_nil, dot_append_zeros]

theorem resizeTo_terms {P : Term → Prop} (n : Nat) {ws : List (MVPoly F)}
    (h : ∀ w ∈ ws, ∀ t ∈ termsOf w, P t) : ∀ w ∈ resizeTo n ws, ∀ t ∈ termsOf w, P t := by
  intro w hw t ht
  rcases List.mem_append.1 hw with hw | hw
  · exact h w (List.mem_of_mem_take hw) t ht
  · rw [List.eq_of_mem_replicate hw] at ht
    cases ht

theorem divideAtPoint_values {nv nvq : Nat} {q : MVPoly F} (z x : List F) (hle : nvq ≤ nv)
    (hq : polyWf q = true) (hqv : polyVarsBelow nvq q = true) :
    ((resizeTo nv (divideAtPoint nvq q z)).map (evalMV · x)).length = nv ∧
    evalMV q x - evalMV q z = dot x ((resizeTo nv (divideAtPoint nvq q z)).map (evalMV · x))
        - dot z ((resizeTo nv (divideAtPoint nvq q z)).map (evalMV · x)) := by
  refine ⟨by rw [List.length_map, resizeTo_length], ?_⟩
  rw [divideAtPoint_exact nvq q z x hq hqv,
    ← quotSum_resizeTo x z nv _ (by rw [divideAtPoint_length]; exact hle), quotSum_eq,
    wz_zero_eq_dot, wz_zero_eq_dot]

/-- `divideOk`: the two `divide_at_point` calls index the point in range; `nvr ≤ z.length`: the
`assert!` of `evaluate` behind `random_v = r(z)`. -/
theorem openCombined_ok_iff {ck : CK F} {nvp nvr : Nat} {p r : MVPoly F} {z : List F} {π : Proof F} :
    openCombined ck nvp nvr p r z = .ok π ↔
      divideOk nvp p z = true ∧
      ∃ w, msmAll (lookG ck.powersOfG) (resizeTo ck.numVars (divideAtPoint nvp p z)) = .ok w ∧
        if isZeroMV r = true then π = ⟨w, none⟩
        else divideOk nvr r z = true ∧ nvr ≤ z.length ∧
          ∃ w', addHiding (gammaBase ck.gammaG ck.powersOfGammaG) w
              (resizeTo ck.numVars (divideAtPoint nvr r z)) = .ok w' ∧ π = ⟨w', some (evalMV r z)⟩ := by
  constructor
  · intro h
    unfold openCombined at h
    split at h
    · cases h
    · rename_i hd1
      split at h
      · cases h
      · rename_i hd2
        unfold openCore at h
        split at h
        · cases h
        · rename_i w hw
          refine ⟨by simpa using hd1, w, hw, ?_⟩
          split at h
          · rename_i hz
            rw [if_pos hz]
            exact (Except.ok.inj h).symm
          · rename_i hz
            rw [if_neg hz]
            split at h
            · cases h
            · rename_i w' hw'
              split at h
              · cases h
              · rename_i hl
                exact ⟨by simpa [hz] using hd2, Nat.le_of_not_lt hl, w', hw', (Except.ok.inj h).symm⟩
  · rintro ⟨hd1, w, hw, h⟩
    unfold openCombined openCore
    by_cases hz : isZeroMV r = true
    · rw [if_pos hz] at h
      simp only [hd1, hw, hz, h, Bool.not_true, Bool.false_and, Bool.false_eq_true, if_false, if_true]
    · rw [if_neg hz] at h
      obtain ⟨hd2, hl, w', hw', rfl⟩ := h
      simp only [hd1, hd2, hw, hw', hz, Nat.not_lt.2 hl, Bool.not_true, Bool.and_false,
        Bool.false_eq_true, if_false]

theorem open_ok_iff {ck : CK F} {nvp nvr : Nat} {ps : List (MVPoly F)} {z : List F}
    {rs : List (MVPoly F)} {ξs : List F} {π : Proof F} :
    PST.open ck nvp nvr ps z rs ξs = .ok π ↔
      ∃ c, combine ck.supportedDegree [] [] ps rs ξs = .ok c ∧
        openCombined ck nvp nvr c.1 c.2.1 z = .ok π := by
  unfold PST.open
  cases hc : combine ck.supportedDegree [] [] ps rs ξs <;> simp

/-- **every proof `open` returns has exactly one witness per variable of the key** (arbitrary key),
and carries `random_v` exactly when the combined blinding polynomial is non-zero -/
theorem openCombined_shape {ck : CK F} {nvp nvr : Nat} {p r : MVPoly F} {z : List F} {π : Proof F}
    (h : openCombined ck nvp nvr p r z = .ok π) :
    π.w.length = ck.numVars ∧ (π.rv.isSome = !isZeroMV r) := by
  obtain ⟨_, w, hw, h⟩ := openCombined_ok_iff.1 h
  have hwl : w.length = ck.numVars := by rw [msmAll_length hw, resizeTo_length]
  by_cases hz : isZeroMV r = true
  · rw [if_pos hz] at h
    subst h
    exact ⟨hwl, by rw [hz]; rfl⟩
  · rw [if_neg hz] at h
    obtain ⟨_, _, w', hw', rfl⟩ := h
    exact ⟨by rw [addHiding_length hw', hwl], by rw [eq_false_of_ne_true hz]; rfl⟩

theorem openCombined_defect (g γ h : F) (β : List F) (ts : List Term) (nv s D m nvp nvr : Nat)
    (p r : MVPoly F) (z : List F) (π : Proof F) (hnvp : nvp ≤ nv) (hnvr : nvr ≤ nv)
    (hp : polyWf p = true) (hpv : polyVarsBelow nvp p = true)
    (hr : polyWf r = true) (hrv : polyVarsBelow nvr r = true)
    (hru : ∀ t ∈ termsOf r, isUni t = true)
    (ho : openCombined (wfCK g γ β ts nv s D m) nvp nvr p r z = .ok π) :
    defectCombined (wfVK g γ h β nv s D) (g * evalMV p β + γ * evalMV r β) (evalMV p z) z π = 0
      ∧ π.w.length = nv := by
  refine ⟨?_, (openCombined_shape ho).1⟩
  obtain ⟨_, w, hw, ho⟩ := openCombined_ok_iff.1 ho
  have hmap : ∀ (c : F) (qs : List (MVPoly F)), qs.map (keySum (fun t => c * evalTerm t β))
      = pscale c (qs.map (evalMV · β)) := fun c qs => by
    rw [pscale, List.map_map]; exact List.map_congr_left (fun q _ => keySum_eval c β q)
  -- the witnesses are `g·Qᵢ`, `Qᵢ` the values at `β⃗` of the quotients of `p`
  have hwspec : w = pscale g ((resizeTo nv (divideAtPoint nvp p z)).map (evalMV · β)) :=
    hmap g _ ▸ msmAll_spec (fun _ _ _ _ _ hb => lookG_wf hb) hw
  obtain ⟨hQl, hexp⟩ := divideAtPoint_values z β hnvp hp hpv
  generalize (resizeTo nv (divideAtPoint nvp p z)).map (evalMV · β) = Q at hQl hexp hwspec
  by_cases hz : isZeroMV r = true
  · rw [if_pos hz] at ho
    subst ho
    simp only [defectCombined_wfVK, rvVal, hwspec, dot_pscale_right, evalMV_of_isZero r hz]
    linear_combination g * h * hexp
  · rw [if_neg hz] at ho
    obtain ⟨_, _, w', hw', rfl⟩ := ho
    -- and `γ·Rᵢ` for the quotients of `r` is added
    have huq : ∀ q ∈ resizeTo nv (divideAtPoint nvr r z), ∀ t ∈ termsOf q, isUni t = true :=
      resizeTo_terms nv (divideAtPoint_terms (P := fun t => isUni t = true) isUni_rem isUni_quot nvr r z hru)
    have hspec : w' = List.zipWith (· + ·) w
        (pscale γ ((resizeTo nv (divideAtPoint nvr r z)).map (evalMV · β))) :=
      hmap γ _ ▸ (addHiding_spec (fun q hq t ht _ hb => gammaBase_wf (huq q hq t ht) hb) hw').1
    obtain ⟨hRl, hexr⟩ := divideAtPoint_values z β hnvr hr hrv
    generalize (resizeTo nv (divideAtPoint nvr r z)).map (evalMV · β) = R at hRl hexr hspec
    have hlen : w.length = (pscale γ R).length := by
      simp only [hwspec, pscale, List.length_map, hQl, hRl]
    simp only [defectCombined_wfVK, rvVal, hspec, dot_zipWith_add _ hlen]
    simp only [hwspec, dot_pscale_right]
    linear_combination g * h * hexp + γ * h * hexr

/-- **Completeness for the challenge-combined list.**  Key well-formed for the trapdoor `β⃗`;
polynomials and blinding polynomials built by the library over `nv` variables (blinding terms
univariate); whenever the prover returns a proof, the verifier accepts the true values under the
same challenges. -/
theorem open_check_complete (g γ h : F) (β : List F) (ts : List Term) (nv s D m nvp nvr : Nat)
    (ps rs : List (MVPoly F)) (z ξs : List F) (π : Proof F)
    (hnvp : nvp ≤ nv) (hnvr : nvr ≤ nv)
    (hlen : ps.length = rs.length)
    (hps : ∀ p ∈ ps, polyWf p = true ∧ polyVarsBelow nvp p = true)
    (hrs : ∀ r ∈ rs, polyWf r = true ∧ polyVarsBelow nvr r = true ∧ ∀ t ∈ termsOf r, isUni t = true)
    (hβ : nv ≤ β.length) (hz : nv ≤ z.length)
    (ho : PST.open (wfCK g γ β ts nv s D m) nvp nvr ps z rs ξs = .ok π) :
    check (wfVK g γ h β nv s D) (comms g γ β ps rs) z (ps.map (fun p => evalMV p z)) π ξs
      = .ok true := by
  obtain ⟨c, hc, ho⟩ := open_ok_iff.1 ho
  have hacc := combine_accumulate g γ β z _ [] [] ps rs ξs c 0 0 hc hlen forall_mem_termsOf_nil
    forall_mem_termsOf_nil
    (fun p hp => (polyWf_iff p).1 (hps p hp).1) (fun r hr => (polyWf_iff r).1 (hrs r hr).1)
  obtain ⟨hP, hQ⟩ := combine_terms_both
    (fun t => Term.wf t = true ∧ Term.varsBelow nvp t = true)
    (fun t => Term.wf t = true ∧ Term.varsBelow nvr t = true ∧ isUni t = true)
    hc forall_mem_termsOf_nil
    (fun p hp t ht => ⟨(polyWf_iff p).1 (hps p hp).1 t ht, (polyVarsBelow_iff nvp p).1 (hps p hp).2 t ht⟩)
    forall_mem_termsOf_nil
    (fun r hr t ht => ⟨(polyWf_iff r).1 (hrs r hr).1 t ht,
      (polyVarsBelow_iff nvr r).1 (hrs r hr).2.1 t ht, (hrs r hr).2.2 t ht⟩)
  obtain ⟨hd, hwl⟩ := openCombined_defect g γ h β ts nv s D m nvp nvr c.1 c.2.1 z π hnvp hnvr
    ((polyWf_iff _).2 fun t ht => (hP t ht).1) ((polyVarsBelow_iff nvp _).2 fun t ht => (hP t ht).2)
    ((polyWf_iff _).2 fun t ht => (hQ t ht).1) ((polyVarsBelow_iff nvr _).2 fun t ht => (hQ t ht).2.1)
    (fun t ht => (hQ t ht).2.2) ho
  refine (check_ok_iff _ _ _ _ _ _ _).2 ⟨hwl, _, hacc, ?_, hwl ▸ hz, ?_⟩
  · rw [hwl]; simpa only [wfVK, List.length_map] using hβ
  · simp only [evalMV_nil, sub_zero, zero_add, hd, decide_true]

/-- **`random_v` is the blinding value at the point** (one polynomial): `None` exactly when the
combined blinding polynomial `ξ·r` is zero, else `Some((ξ·r)(z))`; in both cases its value is
`ξ·r(z)`. -/
theorem open_random_v {ck : CK F} {nvp nvr : Nat} {p r : MVPoly F} {z : List F} {ξ : F}
    {ξs : List F} {π : Proof F} (hr : ∀ t ∈ termsOf r, Term.wf t = true)
    (ho : PST.open ck nvp nvr [p] z [r] (ξ :: ξs) = .ok π) :
    π.rv = (if isZeroMV (addScaledMV [] ξ r) then none else some (evalMV (addScaledMV [] ξ r) z))
      ∧ rvVal π.rv = ξ * evalMV r z := by
  have heval : evalMV (addScaledMV ([] : MVPoly F) ξ r) z = ξ * evalMV r z := by
    rw [evalMV_addScaledMV _ _ _ _ forall_mem_termsOf_nil hr, evalMV_nil, zero_add]
  obtain ⟨c, hc, ho⟩ := open_ok_iff.1 ho
  obtain ⟨_, _, _, e, hc⟩ := combine_cons_ok_iff.1 hc
  cases e
  cases hc
  obtain ⟨_, w, _, ho⟩ := openCombined_ok_iff.1 ho
  by_cases hz : isZeroMV (addScaledMV [] ξ r) = true
  · rw [if_pos hz] at ho ⊢
    subst ho
    exact ⟨rfl, by rw [← heval, evalMV_of_isZero _ hz]; rfl⟩
  · rw [if_neg hz] at ho ⊢
    obtain ⟨_, _, w', _, rfl⟩ := ho
    exact ⟨rfl, heval⟩

theorem mem_randTerms_iff (d l : Nat) (t : Term) :
    t ∈ randTerms d l ↔ (t = [] ∨ ∃ v j, v < l ∧ j < d ∧ t = [(v, j + 1)]) := by
  have hnew : ∀ v j : Nat, Term.new [(v, j + 1)] = [(v, j + 1)] := fun v j => rfl
  simp only [randTerms, List.mem_cons, List.mem_flatMap, List.mem_range, List.mem_map, hnew]
  constructor
  · rintro (rfl | ⟨v, hv, j, hj, rfl⟩)
    · exact Or.inl rfl
    · exact Or.inr ⟨v, j, hv, hj, rfl⟩
  · rintro (rfl | ⟨v, j, hv, hj, rfl⟩)
    · exact Or.inl rfl
    · exact Or.inr ⟨v, hv, j, hj, rfl⟩

/-- the blinding monomials a key with `m` γ-powers per variable can serve -/
def UniCovered (nv m : Nat) (t : Term) : Prop :=
  isUni t = true ∧ Term.varsBelow nv t = true ∧ Term.degree t ≤ m

theorem uniCovered_randTerms (d l : Nat) : ∀ t ∈ randTerms d l, UniCovered l d t := by
  intro t ht
  rcases (mem_randTerms_iff d l t).1 ht with rfl | ⟨v, j, hv, hj, rfl⟩
  · exact ⟨rfl, rfl, Nat.zero_le _⟩
  · exact ⟨rfl, by simp only [Term.varsBelow, List.all_cons, List.all_nil, hv, decide_true, Bool.and_true], hj⟩

theorem checkHidingBound_ok (hb n : Nat) : checkHidingBound hb n = .ok () ↔ 1 ≤ hb ∧ hb < n := by
  unfold checkHidingBound
  by_cases h0 : hb = 0
  · rw [if_pos h0]; exact ⟨fun h => (nomatch h), fun h => absurd h0 (Nat.ne_of_gt h.1)⟩
  · rw [if_neg h0]
    by_cases h1 : hb ≥ n
    · rw [if_pos h1]; exact ⟨fun h => (nomatch h), fun h => absurd h.2 (Nat.not_lt.2 h1)⟩
    · rw [if_neg h1]
      exact ⟨fun _ => ⟨Nat.pos_of_ne_zero h0, Nat.lt_of_not_ge h1⟩, fun _ => rfl⟩

theorem randMV_eq_some_iff (d l : Nat) (draws : List F) (rr : MVPoly F × List F) :
    randMV d l draws = some rr ↔ 1 + l * d ≤ draws.length ∧
      rr = (fromCoeffs (List.zip (draws.take (1 + l * d)) (randTerms d l)), draws.drop (1 + l * d)) := by
  unfold randMV
  split
  · rename_i hl
    exact ⟨fun h => (by cases h), fun h => absurd hl (Nat.not_lt.2 h.1)⟩
  · rename_i hl
    exact ⟨fun h => ⟨Nat.le_of_not_lt hl, (Option.some.inj h).symm⟩, fun h => congrArg some h.2.symm⟩

theorem randMV_terms {d l : Nat} {draws : List F} {rr : MVPoly F × List F}
    (h : randMV d l draws = some rr) : ∀ t ∈ termsOf rr.1, t ∈ randTerms d l := by
  rw [((randMV_eq_some_iff d l draws rr).1 h).2]
  intro t ht
  obtain ⟨x, hx, rfl⟩ := List.mem_map.1 (mem_fromCoeffs_term _ ht)
  exact (List.of_mem_zip hx).2

theorem commit_none_iff {ck : CK F} {p : MVPoly F} {rng : Bool} {draws : List F}
    {out : F × MVPoly F × List F} :
    commit ck p none rng draws = .ok out ↔ degreeMV p ≤ ck.supportedDegree ∧
      ∃ c, msmBy (lookG ck.powersOfG) p = .ok c ∧ out = (c, [], draws) := by
  constructor
  · intro h
    unfold commit at h
    split at h
    · cases h
    · rename_i hdeg
      split at h
      · cases h
      · rename_i c hc
        exact ⟨checkDegree_ok.1 hdeg, c, hc, (Except.ok.inj h).symm⟩
  · rintro ⟨hd, c, hc, rfl⟩
    unfold commit
    simp only [checkDegree_ok.2 hd, hc]

theorem commit_some_iff {ck : CK F} {p : MVPoly F} {hb : Nat} {rng : Bool} {draws : List F}
    {out : F × MVPoly F × List F} :
    commit ck p (some hb) rng draws = .ok out ↔
      degreeMV p ≤ ck.supportedDegree ∧ rng = true ∧ 1 ≤ hb ∧ hb ≤ ck.supportedDegree ∧
      ∃ c rr rc, msmBy (lookG ck.powersOfG) p = .ok c ∧ randMV (hb + 1) ck.numVars draws = some rr ∧
        msmBy (gammaBase ck.gammaG ck.powersOfGammaG) rr.1 = .ok rc ∧ out = (c + rc, rr.1, rr.2) := by
  constructor
  · intro h
    unfold commit at h
    split at h
    · cases h
    · rename_i hdeg
      split at h
      · cases h
      · rename_i c hc
        simp only at h
        split at h
        · cases h
        · rename_i hrng
          split at h
          · cases h
          · rename_i rr hrr
            split at h
            · cases h
            · rename_i hchk
              split at h
              · cases h
              · rename_i rc hrc
                obtain ⟨h1, h2⟩ := (checkHidingBound_ok _ _).1 hchk
                exact ⟨checkDegree_ok.1 hdeg, by simpa using hrng, h1,
                  Nat.le_of_lt_succ h2, c, rr, rc, hc, hrr, hrc, (Except.ok.inj h).symm⟩
  · rintro ⟨hd, rfl, h1, h2, c, rr, rc, hc, hr, hrc, rfl⟩
    unfold commit
    simp only [checkDegree_ok.2 hd, hc, hr, hrc,
      (checkHidingBound_ok hb _).2 ⟨h1, Nat.lt_succ_of_le h2⟩, Bool.not_true, Bool.false_eq_true,
      if_false]

theorem commit_none (ck : CK F) (p : MVPoly F) (rng : Bool) (draws : List F) (c : F) (r : MVPoly F)
    (rest : List F) (h : commit ck p none rng draws = .ok (c, r, rest)) : r = [] ∧ rest = draws := by
  obtain ⟨_, c0, _, hout⟩ := commit_none_iff.1 h
  cases hout
  exact ⟨rfl, rfl⟩

/-- hiding bound `0` (and any bound above the supported degree) is refused, whatever else is given -/
theorem commit_hiding_refused (ck : CK F) (p : MVPoly F) (hb : Nat) (rng : Bool) (draws : List F)
    (hbad : hb = 0 ∨ ck.supportedDegree < hb) (out : F × MVPoly F × List F) :
    commit ck p (some hb) rng draws ≠ .ok out := by
  intro h
  obtain ⟨_, _, h1, h2, _⟩ := commit_some_iff.1 h
  exact hbad.elim (Nat.ne_of_gt h1) (Nat.not_lt.2 h2)

/-- **C08-style statement for PST13.**  Whatever `commit` returns under a well-formed key is the
key-defined linear map `g·p(β⃗) + γ·r(β⃗)`, and the blinding polynomial has the shape the prover
relies on. -/
theorem commit_spec (g γ : F) (β : List F) (ts : List Term) (nv s D m : Nat) (p : MVPoly F)
    (hb : Option Nat) (rng : Bool) (draws : List F) (c : F) (r : MVPoly F) (rest : List F)
    (h : commit (wfCK g γ β ts nv s D m) p hb rng draws = .ok (c, r, rest)) :
    c = g * evalMV p β + γ * evalMV r β ∧ polyWf r = true ∧ polyVarsBelow nv r = true
      ∧ (∀ t ∈ termsOf r, isUni t = true) ∧ degreeMV p ≤ s := by
  have hplain : ∀ c0, msmBy (lookG (wfCK g γ β ts nv s D m).powersOfG) p = .ok c0 →
      c0 = g * evalMV p β := fun c0 hc0 => by
    rw [msmBy_spec (fun _ _ _ hb => lookG_wf hb) hc0, keySum_eval]
  cases hb with
  | none =>
    obtain ⟨hd, c0, hc0, hout⟩ := commit_none_iff.1 h
    cases hout
    exact ⟨by rw [hplain c hc0, evalMV_nil, mul_zero, add_zero], rfl, rfl, forall_mem_termsOf_nil, hd⟩
  | some hbv =>
    obtain ⟨hd, _, _, _, c0, rr, rc, hc0, hrr, hrc, hout⟩ := commit_some_iff.1 h
    cases hout
    have hterms := fun t ht => uniCovered_randTerms _ _ t (randMV_terms hrr t ht)
    refine ⟨?_, (polyWf_iff _).2 (fun t ht => isUni_wf (hterms t ht).1),
      (polyVarsBelow_iff nv _).2 (fun t ht => (hterms t ht).2.1), fun t ht => (hterms t ht).1, hd⟩
    rw [hplain c0 hc0, msmBy_spec (fun t ht _ hb => gammaBase_wf (γ := γ) (hterms t ht).1 hb) hrc,
      keySum_eval]

/-- **One polynomial: the verifier's decision on an arbitrary changed claim.**  With
`(c, r)` from `commit` and `π` from `open` at `z`, the check of the claim
`(c + dc, z, p(z) + dv)` decides `(dc − g·dv)·ξ·h = 0`. -/
theorem single_check_eq (g γ h : F) (β : List F) (ts : List Term) (nv s D m nvp nvr : Nat)
    (p : MVPoly F)
    (hb : Option Nat) (rng : Bool) (draws : List F) (c : F) (r : MVPoly F) (rest : List F)
    (z : List F) (ξ : F) (ξs : List F) (π : Proof F) (dc dv : F)
    (hnvp : nvp ≤ nv) (hnvr : nvr ≤ nv)
    (hp : polyWf p = true) (hpv : polyVarsBelow nvp p = true) (hrv' : polyVarsBelow nvr r = true)
    (hβ : nv ≤ β.length) (hz : nv ≤ z.length)
    (hc : commit (wfCK g γ β ts nv s D m) p hb rng draws = .ok (c, r, rest))
    (ho : PST.open (wfCK g γ β ts nv s D m) nvp nvr [p] z [r] (ξ :: ξs) = .ok π) :
    check (wfVK g γ h β nv s D) [c + dc] z [evalMV p z + dv] π (ξ :: ξs)
      = .ok (decide ((dc - g * dv) * ξ * h = 0)) := by
  obtain ⟨hcs, hrw, hrv, hru, _⟩ := commit_spec g γ β ts nv s D m p hb rng draws c r rest hc
  have hcomp : check (wfVK g γ h β nv s D) [c] z [evalMV p z] π (ξ :: ξs) = .ok true := by
    rw [hcs]
    exact open_check_complete g γ h β ts nv s D m nvp nvr [p] [r] z (ξ :: ξs) π hnvp hnvr rfl
      (List.forall_mem_singleton.2 ⟨hp, hpv⟩) (List.forall_mem_singleton.2 ⟨hrw, hrv', hru⟩) hβ hz ho
  -- the accepted honest claim has defect `0`; the changed claim shifts it by `(dc − g·dv)·ξ·h`
  obtain ⟨hnv, a, ha, h1, h2, hb⟩ := (check_ok_iff _ _ _ _ _ _ _).1 hcomp
  cases ha
  have h0 := of_decide_eq_true hb.symm
  refine (check_ok_iff _ _ _ _ _ _ _).2 ⟨hnv, _, rfl, h1, h2, decide_eq_decide.2 ?_⟩
  simp only [zero_add] at h0 ⊢
  rw [add_mul, add_mul, defectCombined_shift, h0, zero_add]
  exact iff_of_eq (congrArg (· = 0) (by simp only [wfVK]; ring))

/-- the monomials a key of supported degree `s` over `nv` variables must contain -/
def Covered (nv s : Nat) (t : Term) : Prop :=
  Term.wf t = true ∧ Term.varsBelow nv t = true ∧ Term.degree t ≤ s

theorem covered_of_poly {nv s : Nat} {p : MVPoly F} (hp : polyWf p = true)
    (hpv : polyVarsBelow nv p = true) (hd : degreeMV p ≤ s) : ∀ t ∈ termsOf p, Covered nv s t :=
  fun t ht => ⟨(polyWf_iff p).1 hp t ht, (polyVarsBelow_iff nv p).1 hpv t ht,
    Nat.le_trans (degree_le_degreeMV p t ht) hd⟩

theorem covered_of_sublist {nv s : Nat} {t u : Term} (hu : Covered nv s u)
    (hpos : ∀ q ∈ t, q.2 ≠ 0) (hsub : (t.map Prod.fst).Sublist (u.map Prod.fst))
    (hdeg : Term.degree t ≤ Term.degree u) : Covered nv s (Term.new t) := by
  have hw : Term.wf t = true := (Term.wf_iff t).2
    ⟨hpos, List.pairwise_map.1 ((List.pairwise_map.2 ((Term.wf_iff u).1 hu.1).2).sublist hsub)⟩
  rw [Term.new_of_wf hw]
  refine ⟨hw, (varsBelow_iff nv t).2 fun q hq => ?_, Nat.le_trans hdeg hu.2.2⟩
  obtain ⟨r, hr, e⟩ := List.mem_map.1 (hsub.subset (List.mem_map_of_mem hq))
  exact e ▸ (varsBelow_iff nv u).1 hu.2.1 r hr

theorem covered_rem (nv s : Nat) (u : Term) (i k : Nat) (hu : Covered nv s u)
    (hf : Term.find? i u = some k) : Covered nv s (Term.new (Term.erase i u)) := by
  obtain ⟨pre, post, rfl, he, _⟩ := find?_split hf
  have hsub : (pre ++ post).Sublist (pre ++ (i, k) :: post) :=
    (List.sublist_cons_self _ _).append_left pre
  rw [he]
  refine covered_of_sublist hu (fun q hq => Term.wf_pos hu.1 q (hsub.subset hq)) (hsub.map _) ?_
  rw [degree_append, degree_append, Term.degree]
  exact Nat.add_le_add_left (Nat.le_add_left _ _) _

theorem covered_quot (nv s : Nat) (u : Term) (i k j : Nat) (hu : Covered nv s u)
    (hf : Term.find? i u = some k) (hj : j + 1 < k) :
    Covered nv s (Term.new (Term.setPow i (j + 1) u)) := by
  obtain ⟨pre, post, rfl, _, hs⟩ := find?_split hf
  -- same variables in the same places, one power lowered but still positive
  have hpos := Term.wf_pos hu.1
  rw [List.forall_mem_append, List.forall_mem_cons] at hpos
  rw [hs]
  refine covered_of_sublist hu
    (List.forall_mem_append.2 ⟨hpos.1, List.forall_mem_cons.2 ⟨Nat.succ_ne_zero j, hpos.2.2⟩⟩)
    (by rw [List.map_append, List.map_append, List.map_cons, List.map_cons]; exact .refl _) ?_
  rw [degree_append, degree_append, Term.degree, Term.degree]
  exact Nat.add_le_add_left (Nat.add_le_add_right (Nat.le_of_lt hj) _) _

theorem uniCovered_rem (nv m : Nat) (u : Term) (i k : Nat) (hu : UniCovered nv m u)
    (hf : Term.find? i u = some k) : UniCovered nv m (Term.new (Term.erase i u)) :=
  have hc := covered_rem nv m u i k ⟨isUni_wf hu.1, hu.2.1, hu.2.2⟩ hf
  ⟨isUni_rem u i k hu.1 hf, hc.2.1, hc.2.2⟩

theorem uniCovered_quot (nv m : Nat) (u : Term) (i k j : Nat) (hu : UniCovered nv m u)
    (hf : Term.find? i u = some k) (hj : j + 1 < k) :
    UniCovered nv m (Term.new (Term.setPow i (j + 1) u)) := by
  have hc := covered_quot nv m u i k j ⟨isUni_wf hu.1, hu.2.1, hu.2.2⟩ hf hj
  exact ⟨isUni_quot u i k j hu.1 hf hj, hc.2.1, hc.2.2⟩

theorem gammaBase_ok {γ : F} {β : List F} {nv m : Nat} {t : Term} (h : UniCovered nv m t) :
    gammaBase γ ((List.range nv).map (fun i => gammaRow γ (getD' β i 0) m 1)) t
      = .ok (γ * evalTerm t β) :=
  (gammaBase_uni γ β nv m h.1).trans (if_pos h.2)

theorem combine_ok (s : Nat) (pa ra : MVPoly F) (ps rs : List (MVPoly F)) (ξs : List F)
    (hdeg : ∀ p ∈ ps, degreeMV p ≤ s) (hξ : ps.length ≤ ξs.length) :
    ∃ out, combine s pa ra ps rs ξs = .ok out := by
  fun_induction combine s pa ra ps rs ξs with
  | case1 pa ra p ps r rs ξs e he =>
    rw [checkDegree_ok.2 (hdeg p List.mem_cons_self)] at he
    cases he
  | case2 => cases hξ
  | case3 pa ra p ps r rs _ ξ ξs' ih =>
    exact ih (List.forall_mem_cons.1 hdeg).2 (Nat.le_of_succ_le_succ hξ)
  | case4 => exact ⟨_, rfl⟩

/-- **The prover never refuses what the key covers.**  Key well-formed over a monomial list `ts`
containing every monomial of degree `≤ s` in `nv` variables, `m` γ-powers per variable;
polynomials of degree `≤ s`, blinding polynomials with univariate terms of degree `≤ m`; enough
challenges; a point with `nv` coordinates: `open` returns a proof. -/
theorem open_ok (g γ : F) (β : List F) (ts : List Term) (nv s D m : Nat)
    (hcov : ∀ t, Covered nv s t → t ∈ ts)
    (nvp nvr : Nat) (hnvr : nvr ≤ nv) (ps rs : List (MVPoly F)) (z ξs : List F)
    (hps : ∀ p ∈ ps, polyWf p = true ∧ polyVarsBelow nv p = true ∧ degreeMV p ≤ s)
    (hrs : ∀ r ∈ rs, ∀ t ∈ termsOf r, UniCovered nv m t)
    (hξ : ps.length ≤ ξs.length) (hz : nv ≤ z.length) :
    ∃ π, PST.open (wfCK g γ β ts nv s D m) nvp nvr ps z rs ξs = .ok π := by
  obtain ⟨c, hc⟩ := combine_ok s [] [] ps rs ξs (fun p hp => (hps p hp).2.2) hξ
  -- the combined polynomials, and with them all quotients, stay within what the key covers
  obtain ⟨h1, h2⟩ := combine_terms_both (Covered nv s) (UniCovered nv m) hc forall_mem_termsOf_nil
    (fun p hp => covered_of_poly (hps p hp).1 (hps p hp).2.1 (hps p hp).2.2) forall_mem_termsOf_nil hrs
  have hq1 := resizeTo_terms nv
    (divideAtPoint_terms (covered_rem nv s) (covered_quot nv s) nvp c.1 z h1)
  have hq2 := resizeTo_terms nv
    (divideAtPoint_terms (uniCovered_rem nv m) (uniCovered_quot nv m) nvr c.2.1 z h2)
  have hok1 := divideOk_of (covered_rem nv s) (fun t ht => ht.2.1) hz nvp h1
  have hok2 := divideOk_of (uniCovered_rem nv m) (fun t ht => ht.2.1) hz nvr h2
  have hw : msmAll (lookG (wfCK g γ β ts nv s D m).powersOfG) (resizeTo nv (divideAtPoint nvp c.1 z))
      = .ok _ :=
    msmAll_ok (f := fun t => g * evalTerm t β)
      (fun q hq t ht => lookG_eq_ok.2 (by rw [wfCK, mapGet_map, if_pos (hcov t (hq1 q hq t ht))]))
  have key : ∀ π : Proof F, _ → ∃ π, PST.open (wfCK g γ β ts nv s D m) nvp nvr ps z rs ξs = .ok π :=
    fun π hπ => ⟨π, open_ok_iff.2 ⟨c, hc,
      openCombined_ok_iff.2 ⟨hok1, _, hw, hπ⟩⟩⟩
  by_cases hzr : isZeroMV c.2.1 = true
  · exact key _ ((if_pos hzr).mpr rfl)
  · have hwl : ((resizeTo nv (divideAtPoint nvp c.1 z)).map
        (keySum fun t => g * evalTerm t β)).length ≤ (resizeTo nv (divideAtPoint nvr c.2.1 z)).length := by
      simp only [List.length_map, resizeTo_length, Nat.le_refl]
    have hw' := addHiding_ok (look := gammaBase γ (wfCK g γ β ts nv s D m).powersOfGammaG) hwl
      (fun q hq t ht => gammaBase_ok (β := β) (hq2 q hq t ht))
    exact key _ ((if_neg hzr).mpr ⟨hok2, Nat.le_trans hnvr hz, _, hw', rfl⟩)

/-- **The committer never refuses what the key covers**: any polynomial of degree `≤ s` over
`nv` variables; no hiding, or a hiding bound `1 ≤ hb ≤ s` with an RNG (key with `s+1` γ-powers
per variable). -/
theorem commit_ok (g γ : F) (β : List F) (ts : List Term) (nv s D : Nat)
    (hcov : ∀ t, Covered nv s t → t ∈ ts) (p : MVPoly F)
    (hp : polyWf p = true) (hpv : polyVarsBelow nv p = true) (hd : degreeMV p ≤ s)
    (hb : Option Nat) (draws : List F)
    (hhb : ∀ b, hb = some b → 1 ≤ b ∧ b ≤ s ∧ 1 + nv * (b + 1) ≤ draws.length) :
    ∃ out, commit (wfCK g γ β ts nv s D (s + 1)) p hb true draws = .ok out := by
  have hc : msmBy (lookG (wfCK g γ β ts nv s D (s + 1)).powersOfG) p = .ok _ :=
    msmBy_ok (f := fun t => g * evalTerm t β) (fun t ht => by
      rw [wfCK, lookG_eq_ok, mapGet_map, if_pos (hcov t (covered_of_poly hp hpv hd t ht))])
  cases hb with
  | none => exact ⟨_, commit_none_iff.2 ⟨hd, _, hc, rfl⟩⟩
  | some b =>
    obtain ⟨hb1, hb2, hb3⟩ := hhb b rfl
    have hr := (randMV_eq_some_iff (b + 1) nv draws _).2 ⟨hb3, rfl⟩
    -- the blinding monomials `x_v^j`, `j ≤ b + 1 ≤ s + 1`, all have their γ-power in the key
    have hrc := msmBy_ok (look := gammaBase γ (wfCK g γ β ts nv s D (s + 1)).powersOfGammaG)
      (fun t ht => gammaBase_ok (β := β) (m := s + 1) (by
        obtain ⟨u1, u2, u3⟩ := uniCovered_randTerms (b + 1) nv t (randMV_terms hr t ht)
        exact ⟨u1, u2, Nat.le_trans u3 (Nat.succ_le_succ hb2)⟩))
    exact ⟨_, commit_some_iff.2 ⟨hd, rfl, hb1, hb2, _, _, _, hc, hr, hrc, rfl⟩⟩

theorem mapGet_filter (m : List (Term × F)) (s : Nat) (t : Term) :
    mapGet (trimPowers s m) t = if Term.degree t ≤ s then mapGet m t else none := by
  induction m with
  | nil => simp [trimPowers, mapGet]
  | cons kv m ih =>
    unfold trimPowers at ih ⊢
    rw [List.filter_cons]
    by_cases hkt : kv.1 = t
    · subst hkt
      by_cases hk : Term.degree kv.1 ≤ s
      · simp only [hk, decide_true, if_true, mapGet]
      · simp only [hk, decide_false, Bool.false_eq_true, if_false]
        rw [ih]; simp only [hk, if_false]
    · by_cases hk : Term.degree kv.1 ≤ s
      · simp only [hk, decide_true, if_true, mapGet, hkt, if_false]; exact ih
      · simp only [hk, decide_false, Bool.false_eq_true, if_false, mapGet, hkt]; exact ih

/-- **C15 (d).** `trim` keeps exactly the monomials of total degree `≤ supported_degree`, with
their elements unchanged, and hands the verifier the element of the constant monomial. -/
theorem trim_spec (pp : UParams F) (s : Nat) (ck : CK F) (vk : VK F)
    (h : trim pp s = .ok (ck, vk)) :
    s ≤ pp.maxDegree
    ∧ ck.powersOfG = pp.powersOfG.filter (fun kv => decide (Term.degree kv.1 ≤ s))
    ∧ (∀ t, mapGet ck.powersOfG t = if Term.degree t ≤ s then mapGet pp.powersOfG t else none)
    ∧ mapGet pp.powersOfG [] = some vk.g
    ∧ vk.betaH = pp.betaH ∧ vk.h = pp.h ∧ vk.gammaG = pp.gammaG ∧ ck.gammaG = pp.gammaG
    ∧ ck.supportedDegree = s ∧ ck.numVars = pp.numVars := by
  unfold trim at h
  split at h
  · cases h
  · rename_i hs
    split at h
    · cases h
    · split at h
      · cases h
      · rename_i g hg
        injection h with h
        injection h with h1 h2
        subst h1; subst h2
        refine ⟨Nat.le_of_not_lt hs, rfl, fun t => mapGet_filter _ s t, ?_, rfl, rfl, rfl, rfl, rfl, rfl⟩
        simpa [Term.new, Term.retainNonzero] using hg

/-- The universal parameters `setup` publishes for the trapdoor `β⃗` over the monomials `ts`. -/
def wfUP (g γ h : F) (β : List F) (ts : List Term) (nv D : Nat) : UParams F :=
  { powersOfG := ts.map (fun t => (t, g * evalTerm t β))
    gammaG := γ
    powersOfGammaG := (List.range nv).map (fun i => gammaRow γ (getD' β i 0) (D + 1) 1)
    h := h
    betaH := β.map (fun b => h * b)
    numVars := nv
    maxDegree := D }

theorem gammaRow_take (γ β : F) (k n : Nat) (cur : F) (h : k ≤ n) :
    (gammaRow γ β n cur).take k = gammaRow γ β k cur := by
  induction k generalizing n cur with
  | zero => simp [gammaRow]
  | succ k ih =>
    cases n with
    | zero => exact absurd h (Nat.not_succ_le_zero k)
    | succ n => simp only [gammaRow, List.take_succ_cons, ih n _ (Nat.le_of_succ_le_succ h)]

theorem trimRows_wf (γ : F) (β : List F) (s D : Nat) (hs : s ≤ D) (l : List Nat) :
    trimRows s (l.map (fun i => gammaRow γ (getD' β i 0) (D + 1) 1))
      = .ok (l.map (fun i => gammaRow γ (getD' β i 0) (s + 1) 1)) := by
  induction l with
  | nil => rfl
  | cons a l ih =>
    simp only [List.map_cons, trimRows, gammaRow_length, ih]
    rw [if_neg (Nat.not_lt.2 (Nat.succ_le_succ hs)), gammaRow_take _ _ _ _ _ (Nat.succ_le_succ hs)]

theorem trimPowers_wf (g : F) (β : List F) (ts : List Term) (s : Nat) :
    trimPowers s (ts.map (fun t => (t, g * evalTerm t β)))
      = (ts.filter (fun t => decide (Term.degree t ≤ s))).map (fun t => (t, g * evalTerm t β)) :=
  List.filter_map

/-- **Trim of a well-formed key** is the well-formed committer key over exactly the monomials of
degree `≤ s` (with `s + 1` γ-powers per variable), and the matching verifier key. -/
theorem trim_wfUP (g γ h : F) (β : List F) (ts : List Term) (nv D s : Nat) (hs : s ≤ D)
    (h0 : [] ∈ ts) :
    trim (wfUP g γ h β ts nv D) s
      = .ok (wfCK g γ β (ts.filter (fun t => decide (Term.degree t ≤ s))) nv s D (s + 1),
             wfVK g γ h β nv s D) := by
  have hnew : Term.new [] = [] := rfl
  have hgt : ¬ s > D := Nat.not_lt.2 hs
  unfold trim
  simp only [wfUP, hgt, if_false, trimRows_wf γ β s D hs, hnew,
    mapGet_map, if_pos h0, trimPowers_wf]
  simp [wfCK, wfVK]

theorem covered_mem_filter (nv s : Nat) (ts : List Term)
    (hts : ∀ t, Covered nv s t → t ∈ ts) :
    ∀ t, Covered nv s t → t ∈ ts.filter (fun t => decide (Term.degree t ≤ s)) := by
  intro t ht
  simp only [List.mem_filter, decide_eq_true_eq]
  exact ⟨hts t ht, ht.2.2⟩

/-- the defects of the individual checks of the combined claims, with the zip-truncation of the
code -/
def defectsC (vk : VK F) : List F → List (List F) → List F → List (Proof F) → List F
  | c :: cs, z :: zs, v :: vs, π :: πs => defectCombined vk c v z π :: defectsC vk cs zs vs πs
  | _, _, _, _ => []

/-- `Σ ρₖ·dₖ` with `ρ₀ = r`, later randomizers taken from `rs` (missing ones read as 0) -/
def wsum : F → List F → List F → F
  | r, rs, d :: ds => r * d + wsum (rs.headD 0) rs.tail ds
  | _, _, [] => 0

/-- the pairing product `batch_check` evaluates on its accumulators -/
def accVal (vk : VK F) (a : F × List F × F × F) : F :=
  twSum vk.betaH 0 a.2.1 + (a.1 - vk.g * a.2.2.1 - vk.gammaG * a.2.2.2) * vk.h

theorem accVal_step (vk : VK F) (c v ρ tc gm ggm : F) (z : List F) {tw : List F} {π : Proof F}
    (hl : tw.length = π.w.length) :
    accVal vk (tc + (wz z 0 π.w + c) * ρ, addW ρ tw π.w, gm + ρ * v, ggm + ρ * rvVal π.rv)
      = accVal vk (tc, tw, gm, ggm) + ρ * defectCombined vk c v z π := by
  have hW : addW ρ tw π.w = List.zipWith (· + ·) tw (π.w.map (· * ρ)) :=
    (List.zipWith_map_right ..).symm
  have hl' : tw.length = (π.w.map (· * ρ)).length := hl.trans (List.length_map _).symm
  simp only [accVal, defectCombined, rhsSum_eq, twSum_eq, wz_zero_eq_dot, hW,
    dot_zipWith_add vk.betaH hl', dot_map_mul_right]
  ring

theorem batchAcc_spec (vk : VK F) (nv : Nat) (cs : List F) (zs : List (List F)) (vs : List F)
    (πs : List (Proof F)) (rs : List F) (ρ : F) (acc : F × List F × F × F)
    (hacc : acc.2.1.length = nv) (hπ : ∀ π ∈ πs, π.w.length = nv) (hz : ∀ z ∈ zs, nv ≤ z.length) :
    ∃ acc', batchAcc nv cs zs vs πs rs ρ acc = .ok acc' ∧
      accVal vk acc' = accVal vk acc + wsum ρ rs (defectsC vk cs zs vs πs) := by
  fun_induction batchAcc nv cs zs vs πs rs ρ acc with
  | case1 c cs z zs v vs π πs rs ρ tc tw gm ggm hbad =>
    have hw := hπ π List.mem_cons_self
    have hzl := hz z List.mem_cons_self
    omega
  | case2 c cs z zs v vs π πs rs ρ tc tw gm ggm _ ih =>
    obtain ⟨hw, hπ'⟩ := List.forall_mem_cons.1 hπ
    have hl : tw.length = π.w.length := hacc.trans hw.symm
    obtain ⟨acc', h1, h2⟩ := ih (by simp only [addW, List.length_zipWith, hl, Nat.min_self, hw]) hπ'
      (List.forall_mem_cons.1 hz).2
    exact ⟨acc', h1, by rw [h2, accVal_step vk c v ρ tc gm ggm z hl, defectsC, wsum, add_assoc]⟩
  | case3 cs zs vs πs rs ρ acc hno =>
    -- no claim left: `defectsC` stops where `batchAcc` does
    rw [defectsC.eq_2 vk _ _ _ _ fun c cs z zs v vs π πs h1 h2 h3 h4 =>
      hno c cs z zs v vs π πs _ _ _ _ h1 h2 h3 h4 rfl]
    exact ⟨acc, rfl, (add_zero _).symm⟩

/-- **C05 (PST13).** Whenever `batch_check` does not abort (one proof per point, every proof with
one witness per key variable, points and key long enough), its pairing product is `Σₖ ρₖ·Δₖ`:
`ρ₀ = 1`, `ρₖ` the verifier's randomizers, `Δₖ` the defect of the individual check of claim `k`. -/
theorem batchDefect_eq (vk : VK F) (cs : List F) (zs : List (List F)) (vs : List F)
    (πs : List (Proof F)) (rs : List F) (hlen : πs.length = zs.length)
    (hbh : vk.numVars ≤ vk.betaH.length) (hπ : ∀ π ∈ πs, π.w.length = vk.numVars)
    (hz : ∀ z ∈ zs, vk.numVars ≤ z.length) :
    batchDefect vk cs zs vs πs rs = .ok (wsum 1 rs (defectsC vk cs zs vs πs)) := by
  obtain ⟨acc', h1, h2⟩ := batchAcc_spec vk vk.numVars cs zs vs πs rs 1
    (0, List.replicate vk.numVars 0, 0, 0) (by simp) hπ hz
  have hany : πs.any (fun π => decide (π.w.length ≠ vk.numVars)) = false := by
    rw [List.any_eq_false]
    intro π hπ'
    simp [hπ π hπ']
  unfold batchDefect
  rw [if_neg (not_not.2 hlen), hany]
  simp only [Bool.false_eq_true, if_false]
  rw [if_neg (Nat.not_lt.2 hbh), h1]
  have h0 : accVal vk (0, List.replicate vk.numVars 0, 0, 0) = 0 := by
    simp only [accVal, twSum_eq, wz_zero_eq_dot, dot_replicate_zero_right]; ring
  rw [h0, zero_add] at h2
  exact congrArg Except.ok h2

theorem wsum_eq_kzg (r : F) (rs ds : List F) : wsum r rs ds = KZG.wsum r rs ds := by
  induction ds generalizing r rs with
  | nil => rfl
  | cons d ds ih => rw [wsum, KZG.wsum, ih]

theorem wsum_zero (r : F) (rs ds : List F) (h : ∀ d ∈ ds, d = 0) : wsum r rs ds = 0 := by
  rw [wsum_eq_kzg, KZG.wsum_zero _ _ _ h]

theorem wsum_single (r : F) (rs pre post : List F) (d : F) (hpre : ∀ x ∈ pre, x = 0)
    (hpost : ∀ x ∈ post, x = 0) :
    wsum r rs (pre ++ d :: post) = getD' (r :: rs) pre.length 0 * d := by
  -- `d` added at its place to the zero list `pre ++ 0 :: post`
  have h := dot_update (r :: rs) pre post 0 d
  rw [zero_add, dot_eq_zero_of_right _ (pre ++ 0 :: post)
    (List.forall_mem_append.2 ⟨hpre, List.forall_mem_cons.2 ⟨rfl, hpost⟩⟩), zero_add] at h
  rw [wsum_eq_kzg, KZG.wsum_eq_dot, h]

end Keys

end PST
end PCV
