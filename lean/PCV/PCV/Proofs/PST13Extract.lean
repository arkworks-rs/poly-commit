/-
  PCV.Proofs.PST13Extract — what an algebraic forger against MarlinPST13 gives away.  With the
  commitment `g·p(β⃗)` and witness elements `g·aᵢ(β⃗)` (any functions of the trapdoor the forger can
  express over the published `powers_of_g`), an accepted claim `(z, v)` under the challenge `ξ` is the
  identity `ξ·(p(β⃗) − v) − Σᵢ (βᵢ − zᵢ)·aᵢ(β⃗) = 0` at the trapdoor, while the same expression at `z`
  is `ξ·(p(z) − v)`.  Hiding variant: the `γ`-parts give a second such identity, or `γ` is an explicit
  multiple of `g`.
-/
import PCV.Proofs.PST13More

namespace PCV
namespace PST
open MV
variable {F : Type} [Field F] [DecidableEq F]

omit [DecidableEq F] in
/-- at the point itself the forger's polynomial is `ξ·(p(z) − v)`: non-zero for a false claim -/
theorem forgery_nonzero_at_point (z as : List F) {ξ pz v : F} (hξ : ξ ≠ 0) (hv : v ≠ pz) :
    ξ * (pz - v) - linSumIdx z z 0 as ≠ 0 := by
  rw [linSumIdx_eq, sub_self, sub_zero]
  exact mul_ne_zero hξ (sub_ne_zero.2 (Ne.symm hv))

theorem check_single_true {vk : VK F} {C v ξ : F} {z ξs : List F} {π : Proof F}
    (h : check vk [C] z [v] π (ξ :: ξs) = .ok true) : defectCombined vk (C * ξ) (v * ξ) z π = 0 := by
  obtain ⟨_, a, ha, _, _, hb⟩ := (check_ok_iff _ _ _ _ _ _ _).1 h
  cases ha
  simpa using hb.symm

/-- **Extraction.**  Key of the trapdoor `β⃗`; commitment `g·P`, witnesses `g·aᵢ`, no `random_v`,
claimed value `v` at `z`, challenge `ξ`: acceptance is `ξ·(P − v) − Σ (βᵢ − zᵢ)·aᵢ = 0`
(for `g, h ≠ 0`). -/
theorem forgery_identity {g γ h : F} {β z as : List F} {nv s D : Nat} {P v ξ : F} {ξs : List F}
    (hg : g ≠ 0) (hh : h ≠ 0)
    (hacc : check (wfVK g γ h β nv s D) [g * P] z [v] ⟨as.map (g * ·), none⟩ (ξ :: ξs) = .ok true) :
    ξ * (P - v) - linSumIdx β z 0 as = 0 := by
  have hd := check_single_true hacc
  rw [defectCombined_wfVK, ← pscale, dot_pscale_right, dot_pscale_right] at hd
  simp only [rvVal] at hd
  have : g * h * (ξ * (P - v) - linSumIdx β z 0 as) = 0 := by
    rw [linSumIdx_eq, wz_zero_eq_dot, wz_zero_eq_dot]; linear_combination hd
  exact (mul_eq_zero.1 this).resolve_left (mul_ne_zero hg hh)

/-- **Extraction, hiding.**  Commitment `g·P + γ·R`, witnesses `g·aᵢ + γ·bᵢ`, `random_v = ρ`:
acceptance is `g·E_p + γ·E_r = 0` with `E_p = ξ·(P − v) − Σ (βᵢ − zᵢ)·aᵢ`,
`E_r = ξ·R − ρ − Σ (βᵢ − zᵢ)·bᵢ`. -/
theorem forgery_identity_hiding {g γ h : F} {β z as bs : List F} {nv s D : Nat} {P R v ρ ξ : F}
    {ξs : List F} (hl : as.length = bs.length) (hh : h ≠ 0)
    (hacc : check (wfVK g γ h β nv s D) [g * P + γ * R] z [v]
      ⟨List.zipWith (fun a b => g * a + γ * b) as bs, some ρ⟩ (ξ :: ξs) = .ok true) :
    g * (ξ * (P - v) - linSumIdx β z 0 as) + γ * (ξ * R - ρ - linSumIdx β z 0 bs) = 0 := by
  have hd := check_single_true hacc
  have hzip : List.zipWith (fun a b => g * a + γ * b) as bs
      = List.zipWith (· + ·) (pscale g as) (pscale γ bs) := (List.zipWith_map ..).symm
  have hl' : (pscale g as).length = (pscale γ bs).length := by
    rw [pscale, pscale, List.length_map, List.length_map, hl]
  simp only [defectCombined_wfVK, rvVal, hzip, dot_zipWith_add _ hl', dot_pscale_right] at hd
  have : h * (g * (ξ * (P - v) - linSumIdx β z 0 as) + γ * (ξ * R - ρ - linSumIdx β z 0 bs)) = 0 := by
    simp only [linSumIdx_eq, wz_zero_eq_dot]; linear_combination hd
  exact (mul_eq_zero.1 this).resolve_left hh

end PST
end PCV
