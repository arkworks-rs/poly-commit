/-
  PCV.Proofs.PST13LC — lemmas for property C06 on MarlinPST13 `open_combinations` /
  `check_combinations` (`PCV.Model.PST13LC`).  On honestly committed triples without degree bounds:
  the prover's combination is again honestly committed, and `batch_check` accepts what `batch_open`
  answers.  With or without bounds, the verifier's combination loop follows the prover's term by
  term.  Then the commitment the verifier forms and the constants it subtracts for one combination,
  in closed form, and how the pairing defect moves with them.
-/
import PCV.Model.PST13LC
import PCV.Proofs.PST13
import PCV.Proofs.Lookup
import PCV.Proofs.LC
import PCV.Proofs.MapOk
set_option linter.unusedSectionVars false

namespace PCV
namespace PST
open MV

/-- the `query_to_labels_map` loops of `lib.rs`, `marlin/mod.rs` and `marlin_pc/mod.rs` are the same
text: this is Marlin's group map at multivariate points -/
theorem groupInsert_eq {F : Type} (q : Query F) (gs : List (Group F)) :
    groupInsert q gs = Marlin.groupInsert q gs := by
  induction gs with
  | nil => rfl
  | cons g gs ih => rw [groupInsert, Marlin.groupInsert, ih]

theorem groupQueries_eq {F : Type} (qs : List (Query F)) :
    groupQueries qs = Marlin.groupQueries qs :=
  congrArg (fun f => qs.foldl f []) (funext fun gs => funext fun q => groupInsert_eq q gs)

variable {F : Type} [Field F] [DecidableEq F]

theorem varsBelow_mono {a b : Nat} (hab : a ≤ b) {t : Term} (h : Term.varsBelow a t = true) :
    Term.varsBelow b t = true := by
  rw [varsBelow_iff] at h ⊢
  exact fun q hq => Nat.lt_of_lt_of_le (h q hq) hab

theorem foldl_max_le_iff (l : List Nat) (a n : Nat) :
    l.foldl max a ≤ n ↔ a ≤ n ∧ ∀ x ∈ l, x ≤ n := by
  induction l generalizing a with
  | nil => exact ⟨fun h => ⟨h, fun _ hx => nomatch hx⟩, fun h => h.1⟩
  | cons y l ih => rw [List.foldl_cons, ih, Nat.max_le, List.forall_mem_cons, and_assoc]

theorem maxNv_le_iff (l : List Nat) (n : Nat) : maxNv l ≤ n ↔ ∀ x ∈ l, x ≤ n := by
  rw [maxNv, foldl_max_le_iff, and_iff_right (Nat.zero_le n)]

theorem varsBelow_addScaledMV {p q : MVPoly F} {a b : Nat} (f : F)
    (hp : ∀ u ∈ termsOf p, Term.varsBelow a u = true) (hq : ∀ u ∈ termsOf q, Term.varsBelow b u = true) :
    ∀ u ∈ termsOf (addScaledMV p f q), Term.varsBelow (max a b) u = true :=
  forall_mem_termsOf_addScaledMV f (fun u hu => varsBelow_mono (Nat.le_max_left a b) (hp u hu))
    (fun u hu => varsBelow_mono (Nat.le_max_right a b) (hq u hu))

/-- a (polynomial, state, commitment) triple as `commit` makes it under the key of the trapdoor
`β⃗` over `nv` variables: the commitment is `g·p(β⃗) + γ·r(β⃗)` without shifted part or bound, the
labels agree, the polynomial is a library-built polynomial over `≤ nv` declared variables, the
blinding polynomial has the shape `Randomness::rand` produces. -/
structure HonestT (g γ : F) (β : List F) (nv : Nat) (t : Trip F) : Prop where
  comm : t.2.2.comm.comm = g * evalMV t.1.poly β + γ * evalMV t.2.1.blind β
  shifted : t.2.2.comm.shifted = none
  cbound : t.2.2.bound = none
  pbound : t.1.bound = none
  clabel : t.2.2.label = t.1.label
  pwf : ∀ u ∈ termsOf t.1.poly, Term.wf u = true
  pvars : ∀ u ∈ termsOf t.1.poly, Term.varsBelow t.1.nv u = true
  pnv : t.1.nv ≤ nv
  rwf : ∀ u ∈ termsOf t.2.1.blind, Term.wf u = true
  rvars : ∀ u ∈ termsOf t.2.1.blind, Term.varsBelow t.2.1.nv u = true
  rnv : t.2.1.nv ≤ nv
  runi : ∀ u ∈ termsOf t.2.1.blind, isUni u = true

def termPolyValue (trips : List (Trip F)) (z : List F) (t : F × LC.LCTerm) : F :=
  match t.2 with
  | .one => 0
  | .poly l =>
    match Marlin.lookupLast (fun (t : Trip F) => t.1.label) l trips with
    | none => 0
    | some x => t.1 * evalMV x.1.poly z

/-- the polynomial part `Σ coeff·p_label(z)` of a combination's value -/
def lcPolyValue (trips : List (Trip F)) (z : List F) : List (F × LC.LCTerm) → F
  | [] => 0
  | t :: ts => termPolyValue trips z t + lcPolyValue trips z ts

structure LCInv (g γ : F) (β : List F) (nv : Nat) (a : LCAcc F) : Prop where
  bound : a.bound = none
  shifted : a.shifted = none
  comm : a.comm = g * evalMV a.poly β + γ * evalMV a.rand.blind β
  pwf : ∀ u ∈ termsOf a.poly, Term.wf u = true
  pvars : ∀ u ∈ termsOf a.poly, Term.varsBelow a.nv u = true
  pnv : a.nv ≤ nv
  rwf : ∀ u ∈ termsOf a.rand.blind, Term.wf u = true
  rvars : ∀ u ∈ termsOf a.rand.blind, Term.varsBelow a.rand.nv u = true
  rnv : a.rand.nv ≤ nv
  runi : ∀ u ∈ termsOf a.rand.blind, isUni u = true

theorem policy_none (k : Nat) (c : F) : policy k (none : Option Nat) c = none := by
  simp [policy]

theorem lcStep_inv {g γ : F} {β : List F} {nv : Nat} {trips : List (Trip F)}
    (hh : ∀ t ∈ trips, HonestT g γ β nv t) {k : Nat} {acc acc' : LCAcc F}
    {term : F × LC.LCTerm} (hi : LCInv g γ β nv acc) (hs : lcStep trips k acc term = .ok acc') :
    LCInv g γ β nv acc' ∧
      ∀ z, evalMV acc'.poly z = evalMV acc.poly z + termPolyValue trips z term := by
  unfold lcStep at hs
  rcases term with ⟨c, _ | l⟩
  · simp only at hs
    cases hs
    exact ⟨hi, fun _ => (add_zero _).symm⟩
  · simp only at hs
    cases hl : Marlin.lookupLast (·.1.label) l trips with
    | none => rw [hl] at hs; cases hs
    | some x =>
      have hx := hh x (Marlin.lookupLast_mem _ l trips x hl).1
      rw [hl] at hs
      simp only [hx.pbound, policy_none, Option.isSome_none, Bool.false_eq_true, and_false,
        if_false] at hs
      cases hs
      have hev : ∀ y, evalMV (addScaledMV acc.poly c x.1.poly) y = evalMV acc.poly y + c * evalMV x.1.poly y :=
        fun y => evalMV_addScaledMV _ _ _ y hi.pwf hx.pwf
      refine ⟨⟨hi.bound, ?_, ?_, forall_mem_termsOf_addScaledMV c hi.pwf hx.pwf,
        varsBelow_addScaledMV c hi.pvars hx.pvars, Nat.max_le.2 ⟨hi.pnv, hx.pnv⟩,
        forall_mem_termsOf_addScaledMV c hi.rwf hx.rwf, varsBelow_addScaledMV c hi.rvars hx.rvars,
        Nat.max_le.2 ⟨hi.rnv, hx.rnv⟩, forall_mem_termsOf_addScaledMV c hi.runi hx.runi⟩, ?_⟩
      · show addShifted acc.shifted c x.2.2.comm.shifted = none
        rw [hx.shifted]; exact hi.shifted
      · show acc.comm + c * x.2.2.comm.comm = g * evalMV (addScaledMV acc.poly c x.1.poly) β
            + γ * evalMV (addScaledMV acc.rand.blind c x.2.1.blind) β
        rw [hev, evalMV_addScaledMV _ _ _ _ hi.rwf hx.rwf, hi.comm, hx.comm]
        ring
      · intro z
        simp only [termPolyValue, hl]
        exact hev z

theorem lcTerms_inv {g γ : F} {β : List F} {nv : Nat} {trips : List (Trip F)}
    (hh : ∀ t ∈ trips, HonestT g γ β nv t) {k : Nat} {terms : List (F × LC.LCTerm)}
    {acc acc' : LCAcc F} (hi : LCInv g γ β nv acc) (hs : lcTerms trips k acc terms = .ok acc') :
    LCInv g γ β nv acc' ∧
      ∀ z, evalMV acc'.poly z = evalMV acc.poly z + lcPolyValue trips z terms := by
  induction terms generalizing acc with
  | nil =>
    cases hs
    exact ⟨hi, fun _ => (add_zero _).symm⟩
  | cons t ts ih =>
    simp only [lcTerms] at hs
    split at hs
    · cases hs
    · rename_i acc1 h1
      obtain ⟨hi1, hv1⟩ := lcStep_inv hh hi h1
      obtain ⟨hi2, hv2⟩ := ih hi1 hs
      exact ⟨hi2, fun z => by rw [hv2, hv1, add_assoc]; rfl⟩

theorem LCInv_init (g γ : F) (β : List F) (nv : Nat) : LCInv g γ β nv (LCAcc.init : LCAcc F) :=
  ⟨rfl, rfl, by simp [LCAcc.init], forall_mem_termsOf_nil, forall_mem_termsOf_nil, Nat.zero_le _,
    forall_mem_termsOf_nil, forall_mem_termsOf_nil, Nat.zero_le _, forall_mem_termsOf_nil⟩

/-- A combination of honest triples is an honest triple carrying the combination's label,
and its polynomial evaluates everywhere to the combination of the evaluations. -/
theorem combineLC_honest {g γ : F} {β : List F} {nv : Nat} {trips : List (Trip F)}
    (hh : ∀ t ∈ trips, HonestT g γ β nv t) {lc : LC.LinComb F} {res : Trip F}
    (hc : combineLC trips lc = .ok res) :
    HonestT g γ β nv res ∧ res.1.label = lc.label ∧
      ∀ z, evalMV res.1.poly z = lcPolyValue trips z lc.terms := by
  unfold combineLC at hc
  split at hc
  · cases hc
  · rename_i a ha
    cases hc
    obtain ⟨i, hv⟩ := lcTerms_inv hh (LCInv_init g γ β nv) ha
    exact ⟨⟨i.comm, i.shifted, i.bound, i.bound, rfl, i.pwf, i.pvars, i.pnv, i.rwf, i.rvars,
      i.rnv, i.runi⟩, rfl, fun z => (hv z).trans (zero_add _)⟩

theorem combineAll_mapOk (trips : List (Trip F)) (lcs : List (LC.LinComb F)) :
    combineAll trips lcs = mapOk (combineLC trips) lcs :=
  mapOk_unique (combineAll trips) rfl (fun lc lcs => by
    rw [combineAll]
    cases combineLC trips lc with
    | error e => rfl
    | ok t => cases combineAll trips lcs <;> rfl) lcs

theorem combineAll_honest {g γ : F} {β : List F} {nv : Nat} {trips : List (Trip F)}
    (hh : ∀ t ∈ trips, HonestT g γ β nv t) {lcs : List (LC.LinComb F)} {ts : List (Trip F)}
    (hc : combineAll trips lcs = .ok ts) :
    List.Forall₂ (fun (t : Trip F) (lc : LC.LinComb F) => HonestT g γ β nv t ∧ t.1.label = lc.label ∧
      ∀ z, evalMV t.1.poly z = lcPolyValue trips z lc.terms) ts lcs := by
  rw [combineAll_mapOk] at hc
  exact (mapOk_ok_iff.1 hc).flip.imp fun _ _ h => combineLC_honest hh h

theorem accumulateL_eq (ca va : F) (cs : List (LComm F)) (vs ξs : List F)
    (h : ∀ c ∈ cs, c.bound = none ∧ c.comm.shifted = none) :
    accumulateL ca va cs vs ξs = accumulate ca va (cs.map (·.comm.comm)) vs ξs := by
  induction cs generalizing ca va vs ξs with
  | nil => cases vs <;> rfl
  | cons c cs ih =>
    rw [List.forall_mem_cons] at h
    obtain ⟨⟨hb, hs⟩, h⟩ := h
    rcases vs with _ | ⟨v, vs⟩
    · rfl
    · simp only [accumulateL, accumulate, List.map_cons, hb, hs, Option.isSome_none, ne_eq,
        not_true_eq_false, if_false, Bool.false_eq_true]
      cases ξs with
      | nil => rfl
      | cons ξ ξs => exact ih _ _ vs ξs h

/-- the value at `z` of the polynomial the label `l` names (last write wins; `0` if none) -/
def polyValueAt (trips : List (Trip F)) (l : Label) (z : List F) : F :=
  match Marlin.lookupLast (fun (t : Trip F) => t.1.label) l trips with
  | none => 0
  | some t => evalMV t.1.poly z

theorem gather_corr {trips : List (Trip F)} (hlab : ∀ t ∈ trips, t.2.2.label = t.1.label)
    (hb : ∀ t ∈ trips, t.2.2.bound = none ∧ t.2.2.comm.shifted = none)
    {evals : Evals F} {z : List F} {ls : List Label} {gts : List (Trip F)}
    (h : gatherTrips trips ls = .ok gts)
    (hev : ∀ l ∈ ls, lookupEval evals l z = some (polyValueAt trips l z)) :
    (∀ t ∈ gts, t ∈ trips) ∧ gatherComms (trips.map (·.2.2)) evals z ls
      = .ok (gts.map (·.2.2), gts.map (fun t => evalMV t.1.poly z)) := by
  induction ls generalizing gts with
  | nil =>
    cases h
    exact ⟨fun t ht => (nomatch ht), rfl⟩
  | cons l ls ih =>
    simp only [gatherTrips] at h
    split at h
    · cases h
    · rename_i t hl
      split at h
      · cases h
      · rename_i ts hts
        cases h
        rw [List.forall_mem_cons] at hev
        obtain ⟨ihm, ihc⟩ := ih hts hev.2
        have hmem := (Marlin.lookupLast_mem _ l trips _ hl).1
        have hlk : Marlin.lookupLast (·.label) l (trips.map (·.2.2)) = some t.2.2 := by
          rw [Marlin.lookupLast_map (·.1.label) l (·.label) (·.2.2) trips hlab, hl]
          rfl
        have hv := hev.1
        simp only [polyValueAt, hl] at hv
        obtain ⟨hb1, hb2⟩ := hb t hmem
        refine ⟨List.forall_mem_cons.2 ⟨hmem, ihm⟩, ?_⟩
        simp only [gatherComms, hlk, hb1, hb2, Option.isSome_none, ne_eq, not_true_eq_false,
          if_false, hv, ihc, List.map_cons]

theorem comms_of_honest {g γ : F} {β : List F} {nv : Nat} {gts : List (Trip F)}
    (hh : ∀ t ∈ gts, HonestT g γ β nv t) :
    comms g γ β (gts.map (·.1.poly)) (gts.map (·.2.1.blind)) = (gts.map (·.2.2)).map (·.comm.comm) := by
  rw [comms, List.zipWith_map, List.zipWith_self, List.map_map]
  exact List.map_congr_left fun t ht => (hh t ht).comm.symm

theorem openRest_defect {g γ : F} (h : F) {β : List F} {ts : List Term} {nv s D m nvp nvr : Nat}
    {ps rs : List (MVPoly F)} {z ξs : List F} {π : Proof F} {rest : List F}
    (hnvp : nvp ≤ nv) (hnvr : nvr ≤ nv) (hlen : ps.length = rs.length)
    (hpw : ∀ p ∈ ps, ∀ t ∈ termsOf p, Term.wf t = true)
    (hpv : ∀ p ∈ ps, ∀ t ∈ termsOf p, Term.varsBelow nvp t = true)
    (hrw : ∀ r ∈ rs, ∀ t ∈ termsOf r, Term.wf t = true)
    (hrv : ∀ r ∈ rs, ∀ t ∈ termsOf r, Term.varsBelow nvr t = true)
    (hru : ∀ r ∈ rs, ∀ t ∈ termsOf r, isUni t = true)
    (ho : openRest (wfCK g γ β ts nv s D m) nvp nvr ps z rs ξs = .ok (π, rest)) :
    ∃ C V, accumulate 0 0 (comms g γ β ps rs) (ps.map (fun p => evalMV p z)) ξs = .ok (C, V, rest)
      ∧ defectCombined (wfVK g γ h β nv s D) C V z π = 0 ∧ π.w.length = nv := by
  unfold openRest at ho
  split at ho
  · cases ho
  · rename_i c hc
    split at ho
    · cases ho
    · rename_i π' hπ'
      cases ho
      have hacc := combine_accumulate g γ β z _ [] [] ps rs ξs c 0 0 hc hlen (forall_mem_termsOf_nil)
        (forall_mem_termsOf_nil) hpw hrw
      -- what holds of every term of the inputs holds of every term of the combined polynomials
      have hp := fun P => combine_terms P _ [] [] ps rs ξs c hc (forall_mem_termsOf_nil)
      have hr := fun P => combine_terms_r P _ [] [] ps rs ξs c hc (forall_mem_termsOf_nil)
      obtain ⟨hd, hwl⟩ := openCombined_defect g γ h β ts nv s D m nvp nvr c.1 c.2.1 z _ hnvp hnvr
        ((polyWf_iff _).2 (hp _ hpw)) ((polyVarsBelow_iff nvp _).2 (hp _ hpv))
        ((polyWf_iff _).2 (hr _ hrw)) ((polyVarsBelow_iff nvr _).2 (hr _ hrv)) (hr _ hru) hπ'
      refine ⟨_, _, hacc, ?_, hwl⟩
      simp only [evalMV_nil, sub_zero, zero_add]
      exact hd

theorem openL_defect {g γ : F} (h : F) {β : List F} {ts : List Term} {nv s D m : Nat}
    {gts : List (Trip F)} (hgh : ∀ t ∈ gts, HonestT g γ β nv t) {z ξs : List F} {π : Proof F}
    {rest : List F}
    (ho : openL (wfCK g γ β ts nv s D m) gts z ξs = .ok (π, rest)) :
    ∃ C V, accumulateL 0 0 (gts.map (·.2.2)) (gts.map (fun t => evalMV t.1.poly z)) ξs
        = .ok (C, V, rest)
      ∧ defectCombined (wfVK g γ h β nv s D) C V z π = 0 ∧ π.w.length = nv := by
  have hnv : ∀ (f : Trip F → Nat), ∀ t ∈ gts, f t ≤ maxNv (gts.map f) :=
    fun f t ht => (maxNv_le_iff _ _).1 (Nat.le_refl _) _ (List.mem_map_of_mem ht)
  unfold openL at ho
  obtain ⟨C, V, hacc, hd, hwl⟩ := openRest_defect h
    ((maxNv_le_iff _ nv).2 (List.forall_mem_map.2 fun t ht => (hgh t ht).pnv))
    ((maxNv_le_iff _ nv).2 (List.forall_mem_map.2 fun t ht => (hgh t ht).rnv))
    (by rw [List.length_map, List.length_map])
    (List.forall_mem_map.2 fun t ht => (hgh t ht).pwf)
    (List.forall_mem_map.2 fun t ht u hu =>
      varsBelow_mono (hnv (·.1.nv) t ht) ((hgh t ht).pvars u hu))
    (List.forall_mem_map.2 fun t ht => (hgh t ht).rwf)
    (List.forall_mem_map.2 fun t ht u hu =>
      varsBelow_mono (hnv (·.2.1.nv) t ht) ((hgh t ht).rvars u hu))
    (List.forall_mem_map.2 fun t ht => (hgh t ht).runi) ho
  have hvs : (gts.map (·.1.poly)).map (fun p => evalMV p z) = gts.map (fun t => evalMV t.1.poly z) :=
    List.map_map
  rw [comms_of_honest hgh, hvs] at hacc
  exact ⟨C, V, (accumulateL_eq _ _ _ _ _ (List.forall_mem_map.2 fun t ht =>
    ⟨(hgh t ht).cbound, (hgh t ht).shifted⟩)).trans hacc, hd, hwl⟩

/-- the groups of a batch, in order: the verifier's `combine_and_normalize` follows the prover's
`batch_open` challenge by challenge and every per-point defect vanishes -/
theorem batch_groups_complete {g γ : F} (h : F) {β : List F} {ts : List Term} {nv s D m : Nat}
    {trips : List (Trip F)} (hh : ∀ t ∈ trips, HonestT g γ β nv t) {evals : Evals F}
    {groups : List (Group F)} {ξs : List F} {πs : List (Proof F)} {rest : List F}
    (hev : ∀ gr ∈ groups, ∀ l ∈ gr.2.2,
      lookupEval evals l gr.2.1 = some (polyValueAt trips l gr.2.1))
    (ho : batchOpenGroups (wfCK g γ β ts nv s D m) trips groups ξs = .ok (πs, rest)) :
    ∃ tr, combineAndNormalize (trips.map (·.2.2)) evals groups ξs = .ok (tr, rest)
      ∧ tr.map (·.2.1) = groups.map (·.2.1)
      ∧ πs.length = groups.length
      ∧ (∀ d ∈ defectsC (wfVK g γ h β nv s D) (tr.map (·.1)) (tr.map (·.2.1)) (tr.map (·.2.2)) πs,
            d = 0)
      ∧ ∀ π ∈ πs, π.w.length = nv := by
  induction groups generalizing ξs πs with
  | nil =>
    cases ho
    exact ⟨[], rfl, rfl, rfl, fun d hd => (nomatch hd), fun π hπ => (nomatch hπ)⟩
  | cons gr groups ih =>
    simp only [batchOpenGroups] at ho
    split at ho
    · cases ho
    · rename_i gts hg
      split at ho
      · cases ho
      · rename_i r hr
        split at ho
        · cases ho
        · rename_i rr hrr
          cases ho
          rw [List.forall_mem_cons] at hev
          obtain ⟨hgm, hcorr⟩ := gather_corr (fun t ht => (hh t ht).clabel)
            (fun t ht => ⟨(hh t ht).cbound, (hh t ht).shifted⟩) hg hev.1
          have hgh : ∀ t ∈ gts, HonestT g γ β nv t := fun t ht => hh t (hgm t ht)
          obtain ⟨C, V, haccL, hd, hwl⟩ := openL_defect h hgh hr
          obtain ⟨tr, htr, hz', hlen', hds, hws⟩ := ih hev.2 hrr
          refine ⟨(C, gr.2.1, V) :: tr, ?_, ?_, ?_, ?_, List.forall_mem_cons.2 ⟨hwl, hws⟩⟩
          · simp only [combineAndNormalize, hcorr, haccL, htr]
          · simp only [List.map_cons, hz']
          · simp only [List.length_cons, hlen']
          · simp only [List.map_cons, defectsC]
            exact List.forall_mem_cons.2 ⟨hd, hds⟩

/-- **Batch completeness.**  Honest triples under the well-formed key; whenever `batch_open`
answers a query set, `batch_check` — on the commitments of those triples, the same query set, and
evaluations that contain the true value for every (label, point) a group asks for — accepts, for
every randomizer list. -/
theorem batch_complete {g γ : F} (h : F) {β : List F} {ts : List Term} {nv s D m : Nat}
    {trips : List (Trip F)} (hh : ∀ t ∈ trips, HonestT g γ β nv t) {evals : Evals F}
    {qs : List (Query F)} {ξs : List F} (rs : List F) {πs : List (Proof F)} {rest : List F}
    (hβ : nv ≤ β.length) (hz : ∀ gr ∈ groupQueries qs, nv ≤ gr.2.1.length)
    (hev : ∀ gr ∈ groupQueries qs, ∀ l ∈ gr.2.2,
      lookupEval evals l gr.2.1 = some (polyValueAt trips l gr.2.1))
    (ho : batchOpen (wfCK g γ β ts nv s D m) trips qs ξs = .ok (πs, rest)) :
    batchCheckQ (wfVK g γ h β nv s D) (trips.map (·.2.2)) qs evals πs ξs rs = .ok true := by
  unfold batchOpen at ho
  obtain ⟨tr, htr, hzs, hlen, hds, hws⟩ := batch_groups_complete h hh hev ho
  unfold batchCheckQ
  rw [htr]
  simp only
  unfold batchCheck
  rw [batchDefect_eq _ _ _ _ _ _ (by rw [hzs, List.length_map]; exact hlen)
    (by rw [wfVK, List.length_map]; exact hβ) hws
    (by rw [hzs]; exact List.forall_mem_map.2 hz),
    wsum_zero _ _ _ hds]
  exact congrArg Except.ok (decide_eq_true rfl)

def lcConst : List (F × LC.LCTerm) → F
  | [] => 0
  | t :: ts => (if t.2.isOne then t.1 else 0) + lcConst ts

/-- what the verifier subtracts from an evaluation labelled `l`: the constants of ALL combinations
that carry the label (the code moves every evaluation whose label equals the combination's label,
once per combination) -/
def constFor : List (LC.LinComb F) → Label → F
  | [], _ => 0
  | lc :: lcs, l => (if lc.label = l then lcConst lc.terms else 0) + constFor lcs l

theorem lcConst_eq (ts : List (F × LC.LCTerm)) : lcConst ts = LC.constPart ts := by
  induction ts with
  | nil => rfl
  | cons t ts ih => rw [lcConst, LC.constPart, ih]; cases t.2 <;> rfl

theorem constFor_eq (lcs : List (LC.LinComb F)) (l : Label) : constFor lcs l = LC.constAt lcs l := by
  induction lcs with
  | nil => rfl
  | cons lc lcs ih => rw [constFor, LC.constAt, ih, lcConst_eq]

theorem lookupEval_mapVal (φ : Label × List F → F → F) (evals : Evals F) (l : Label) (z : List F) :
    lookupEval (evals.map fun e => (e.1, φ e.1 e.2)) l z = (lookupEval evals l z).map (φ (l, z)) := by
  induction evals with
  | nil => rfl
  | cons e es ih =>
    simp only [List.map_cons, lookupEval]
    by_cases hk : e.1 = (l, z)
    · rw [if_pos hk, if_pos hk, hk]; rfl
    · rw [if_neg hk, if_neg hk]; exact ih

theorem adjustTerms_shift (lbl : Label) (ts : List (F × LC.LCTerm)) (evals : Evals F) :
    adjustTerms lbl ts evals = LC.shift (fun l => if l = lbl then LC.constPart ts else 0) evals := by
  rw [← LC.foldl_subAt]
  induction ts generalizing evals with
  | nil => rfl
  | cons t ts ih => rw [adjustTerms, List.foldl_cons, ih]; cases t.2 <;> rfl

theorem adjustEvals_shift (lcs : List (LC.LinComb F)) (evals : Evals F) :
    adjustEvals lcs evals = LC.shift (LC.constAt lcs) evals := by
  induction lcs generalizing evals with
  | nil => exact (LC.shift_zero evals).symm
  | cons lc lcs ih => rw [adjustEvals, ih, adjustTerms_shift, LC.shift_constAt_cons]

theorem lookupEval_adjustEvals (lcs : List (LC.LinComb F)) (evals : Evals F) (l : Label)
    (z : List F) :
    lookupEval (adjustEvals lcs evals) l z = (lookupEval evals l z).map (fun v => v - constFor lcs l) := by
  rw [adjustEvals_shift, constFor_eq]
  exact lookupEval_mapVal (fun k v => v - LC.constAt lcs k.1) evals l z

theorem constFor_append (a b : List (LC.LinComb F)) (l : Label) :
    constFor (a ++ b) l = constFor a l + constFor b l := by
  simp only [constFor_eq, LC.constAt_append]

/-- the verifier-visible part of the prover's accumulators -/
def vproj (a : LCAcc F) : VAcc F := ⟨a.comm, a.shifted, a.bound⟩

/-- term by term the verifier does to the commitments what the prover does to the triples: same
policy decisions, same refusals -/
theorem lcStep_V {trips : List (Trip F)}
    (hc : ∀ t ∈ trips, t.2.2.label = t.1.label ∧ t.2.2.bound = t.1.bound)
    (k : Nat) (acc : LCAcc F) (term : F × LC.LCTerm) :
    lcStepV (trips.map (·.2.2)) k (vproj acc) term = (lcStep trips k acc term).map vproj := by
  rcases term with ⟨c, _ | l⟩
  · rfl
  · unfold lcStep lcStepV
    simp only
    rw [Marlin.lookupLast_map (·.1.label) l (·.label) (·.2.2) trips (fun t ht => (hc t ht).1)]
    cases hl : Marlin.lookupLast (·.1.label) l trips with
    | none => rfl
    | some x =>
      simp only [Option.map_some]
      rw [(hc x (Marlin.lookupLast_mem _ l trips x hl).1).2]
      cases policy k x.1.bound c with
      | some e => rfl
      | none =>
        by_cases hk : k = 1 ∧ x.1.bound.isSome = true
        · simp only [if_pos hk]; rfl
        · simp only [if_neg hk]; rfl

theorem lcTerms_V {trips : List (Trip F)}
    (hc : ∀ t ∈ trips, t.2.2.label = t.1.label ∧ t.2.2.bound = t.1.bound)
    (k : Nat) (terms : List (F × LC.LCTerm)) (acc : LCAcc F) :
    lcTermsV (trips.map (·.2.2)) k (vproj acc) terms = (lcTerms trips k acc terms).map vproj := by
  induction terms generalizing acc with
  | nil => rfl
  | cons t ts ih =>
    rw [lcTermsV, lcTerms, lcStep_V hc]
    cases lcStep trips k acc t with
    | error e => rfl
    | ok a => exact ih a

theorem combineLC_V {trips : List (Trip F)}
    (hc : ∀ t ∈ trips, t.2.2.label = t.1.label ∧ t.2.2.bound = t.1.bound) (lc : LC.LinComb F) :
    combineLCComm (trips.map (·.2.2)) lc = (combineLC trips lc).map (·.2.2) := by
  rw [combineLCComm, combineLC, show (⟨0, none, none⟩ : VAcc F) = vproj LCAcc.init from rfl,
    lcTerms_V hc]
  cases lcTerms trips lc.terms.length LCAcc.init lc.terms <;> rfl

theorem combineAllComm_mapOk (comms : List (LComm F)) (lcs : List (LC.LinComb F)) :
    combineAllComm comms lcs = mapOk (combineLCComm comms) lcs :=
  mapOk_unique (combineAllComm comms) rfl (fun lc lcs => by
    rw [combineAllComm]
    cases combineLCComm comms lc with
    | error e => rfl
    | ok c => cases combineAllComm comms lcs <;> rfl) lcs

theorem combineAll_V {trips : List (Trip F)}
    (hc : ∀ t ∈ trips, t.2.2.label = t.1.label ∧ t.2.2.bound = t.1.bound)
    (lcs : List (LC.LinComb F)) :
    combineAllComm (trips.map (·.2.2)) lcs = (combineAll trips lcs).map (List.map (·.2.2)) := by
  rw [combineAllComm_mapOk, combineAll_mapOk]
  exact mapOk_map (fun (t : Trip F) => t.2.2) (combineLC_V hc) lcs

/-- the polynomial part of the value of the combination labelled `l` (last write wins) -/
def polyPartAt (trips : List (Trip F)) (lcs : List (LC.LinComb F)) (l : Label) (z : List F) : F :=
  match Marlin.lookupLast (fun (lc : LC.LinComb F) => lc.label) l lcs with
  | none => 0
  | some lc => lcPolyValue trips z lc.terms

/-- **the true value** of the combination labelled `l` at `z`: `Σ coeff·p(z)` plus the constants -/
def lcValueAt (trips : List (Trip F)) (lcs : List (LC.LinComb F)) (l : Label) (z : List F) : F :=
  polyPartAt trips lcs l z + constFor lcs l

theorem polyValueAt_combined {g γ : F} {β : List F} {nv : Nat} {trips : List (Trip F)}
    {lcs : List (LC.LinComb F)} {ts : List (Trip F)}
    (hF : List.Forall₂ (fun (t : Trip F) (lc : LC.LinComb F) => HonestT g γ β nv t ∧
      t.1.label = lc.label ∧ ∀ z, evalMV t.1.poly z = lcPolyValue trips z lc.terms) ts lcs)
    (l : Label) (z : List F) : polyValueAt ts l z = polyPartAt trips lcs l z := by
  unfold polyValueAt polyPartAt
  rcases Marlin.lookupLast_forall₂ (·.1.label) l _ (·.label) (fun a b hab => hab.2.1) hF with
    ⟨h1, h2⟩ | ⟨a, b, h1, h2, hab⟩
  · rw [h1, h2]
  · rw [h1, h2]
    exact hab.2.2 z

theorem zip3_map_comm {α β γ' : Type} {xs : List α} {ys : List β} {zs : List γ'}
    (h1 : xs.length = ys.length) (h2 : ys.length = zs.length) :
    (xs.zip (ys.zip zs)).map (·.2.2) = zs := by
  rw [show (fun t : α × β × γ' => t.2.2) = Prod.snd ∘ Prod.snd from rfl, ← List.map_map,
    List.map_snd_zip (by rw [List.length_zip, h1]; exact Nat.min_le_left _ _),
    List.map_snd_zip h2.ge]

def termComm (comms : List (LComm F)) (t : F × LC.LCTerm) : F :=
  match t.2 with
  | .one => 0
  | .poly l =>
    match Marlin.lookupLast (fun (c : LComm F) => c.label) l comms with
    | none => 0
    | some c => t.1 * c.comm.comm

/-- `Σ coeff·C_label` over the polynomial terms: the commitment the verifier forms -/
def lcCommValue (comms : List (LComm F)) : List (F × LC.LCTerm) → F
  | [] => 0
  | t :: ts => termComm comms t + lcCommValue comms ts

/-- every polynomial term names a supplied commitment -/
def AllKnown (comms : List (LComm F)) (terms : List (F × LC.LCTerm)) : Prop :=
  ∀ t ∈ terms, ∀ l, t.2 = .poly l →
    (Marlin.lookupLast (fun (c : LComm F) => c.label) l comms).isSome = true

theorem lcStepV_one (comms : List (LComm F)) (k : Nat) (acc : VAcc F) (a : F) :
    lcStepV comms k acc (a, .one) = .ok acc := rfl

theorem lcStepV_known (comms : List (LComm F)) (k : Nat) (acc : VAcc F) (a : F) (l : Label)
    (c : LComm F) (hl : Marlin.lookupLast (·.label) l comms = some c)
    (hb : c.bound = none) (hs : c.comm.shifted = none) :
    lcStepV comms k acc (a, .poly l) = .ok ⟨acc.comm + a * c.comm.comm, acc.shifted, acc.bound⟩ := by
  unfold lcStepV
  simp only [hl, hb, policy_none, Option.isSome_none, Bool.false_eq_true, and_false, if_false,
    addShifted, hs]

theorem lcTermsV_closed {comms : List (LComm F)}
    (hcb : ∀ c ∈ comms, c.bound = none ∧ c.comm.shifted = none) (k : Nat)
    {terms : List (F × LC.LCTerm)} (hk : AllKnown comms terms) (acc : VAcc F) :
    lcTermsV comms k acc terms = .ok ⟨acc.comm + lcCommValue comms terms, acc.shifted, acc.bound⟩ := by
  induction terms generalizing acc with
  | nil => simp only [lcTermsV, lcCommValue, add_zero]
  | cons t ts ih =>
    rw [AllKnown, List.forall_mem_cons] at hk
    rcases t with ⟨a, _ | l⟩
    · simp only [lcTermsV, lcStepV_one, lcCommValue, termComm, zero_add]
      exact ih hk.2 acc
    · obtain ⟨c, hl⟩ := Option.isSome_iff_exists.1 (hk.1 l rfl)
      obtain ⟨hb, hs⟩ := hcb c (Marlin.lookupLast_mem _ l comms c hl).1
      simp only [lcTermsV, lcStepV_known comms k acc a l c hl hb hs, lcCommValue, termComm, hl]
      rw [ih hk.2, add_assoc]

theorem lcCommValue_append (comms : List (LComm F)) (a b : List (F × LC.LCTerm)) :
    lcCommValue comms (a ++ b) = lcCommValue comms a + lcCommValue comms b := by
  induction a with
  | nil => exact (zero_add _).symm
  | cons t a ih => simp only [List.cons_append, lcCommValue, ih, add_assoc]

theorem lcConst_append (a b : List (F × LC.LCTerm)) : lcConst (a ++ b) = lcConst a + lcConst b := by
  simp only [lcConst_eq, LC.constPart_append]

theorem coeff_shift (comms : List (LComm F)) (pre post : List (F × LC.LCTerm)) (a δ : F) (l : Label)
    (c : LComm F) (hl : Marlin.lookupLast (·.label) l comms = some c) :
    lcCommValue comms (pre ++ (a + δ, .poly l) :: post)
        = lcCommValue comms (pre ++ (a, .poly l) :: post) + δ * c.comm.comm
      ∧ lcConst (pre ++ (a + δ, LC.LCTerm.poly l) :: post) = lcConst (pre ++ (a, .poly l) :: post) := by
  constructor
  · simp only [lcCommValue_append, lcCommValue, termComm, hl]; ring
  · simp only [lcConst_append, lcConst, LC.LCTerm.isOne, Bool.false_eq_true, if_false]

theorem const_shift (comms : List (LComm F)) (pre post : List (F × LC.LCTerm)) (a δ : F) :
    lcCommValue comms (pre ++ (a + δ, .one) :: post) = lcCommValue comms (pre ++ (a, .one) :: post)
      ∧ lcConst (pre ++ (a + δ, LC.LCTerm.one) :: post) = lcConst (pre ++ (a, .one) :: post) + δ := by
  constructor
  · simp only [lcCommValue_append, lcCommValue, termComm]
  · simp only [lcConst_append, lcConst, LC.LCTerm.isOne, if_true]; ring

theorem allKnown_coeff {comms : List (LComm F)} {tp tq : List (F × LC.LCTerm)} {a : F}
    {t : LC.LCTerm} (a' : F) (hk : AllKnown comms (tp ++ (a, t) :: tq)) :
    AllKnown comms (tp ++ (a', t) :: tq) := by
  -- the condition on a term does not mention its coefficient
  rw [AllKnown, List.forall_mem_append, List.forall_mem_cons] at hk ⊢
  exact hk

/-- the defect of one combination claim `(lc, z, v)` under the challenge `ξ` -/
def lcDefect (vk : VK F) (comms : List (LComm F)) (lc : LC.LinComb F) (z : List F) (v : F)
    (π : Proof F) (ξ : F) : F :=
  defectCombined vk (lcCommValue comms lc.terms * ξ) ((v - lcConst lc.terms) * ξ) z π

theorem wsum_one (rs : List F) (d : F) : wsum 1 rs [d] = d := by
  simp only [wsum, one_mul, add_zero]

theorem lcStepV_unknown (comms : List (LComm F)) (k : Nat) (acc : VAcc F) (coeff : F) (l : Label)
    (hl : Marlin.lookupLast (·.label) l comms = none) :
    lcStepV comms k acc (coeff, .poly l) = .error .missingPolynomial := by
  unfold lcStepV; simp only [hl]

theorem lcTermsV_append (comms : List (LComm F)) (k : Nat) (a b : List (F × LC.LCTerm))
    (acc : VAcc F) :
    lcTermsV comms k acc (a ++ b) = (lcTermsV comms k acc a).bind (lcTermsV comms k · b) := by
  induction a generalizing acc with
  | nil => rfl
  | cons t a ih =>
    simp only [List.cons_append, lcTermsV]
    cases lcStepV comms k acc t with
    | error e => rfl
    | ok acc' => exact ih acc'

theorem lcTermsV_unknown (comms : List (LComm F))
    (hcb : ∀ c ∈ comms, c.bound = none ∧ c.comm.shifted = none) (k : Nat)
    (pre post : List (F × LC.LCTerm)) (hk : AllKnown comms pre) (coeff : F) (l : Label)
    (hl : Marlin.lookupLast (·.label) l comms = none) (acc : VAcc F) :
    lcTermsV comms k acc (pre ++ (coeff, .poly l) :: post) = .error .missingPolynomial := by
  rw [lcTermsV_append, lcTermsV_closed hcb k hk]
  simp only [Except.bind, lcTermsV, lcStepV_unknown comms k _ coeff l hl]

/-- a query for a combination label that was not supplied: `batch_open` / `batch_check` refuse -/
theorem gatherTrips_unknown (trips : List (Trip F)) (l : Label) (ls : List Label)
    (hl : Marlin.lookupLast (·.1.label) l trips = none) :
    gatherTrips trips (l :: ls) = .error .missingPolynomial := by
  simp only [gatherTrips, hl]

theorem gatherComms_unknown (comms : List (LComm F)) (evals : Evals F) (z : List F) (l : Label)
    (ls : List Label) (hl : Marlin.lookupLast (·.label) l comms = none) :
    gatherComms comms evals z (l :: ls) = .error .missingPolynomial := by
  simp only [gatherComms, hl]

theorem gatherComms_missing_eval (comms : List (LComm F)) (evals : Evals F) (z : List F) (l : Label)
    (ls : List Label) (c : LComm F)
    (hl : Marlin.lookupLast (·.label) l comms = some c)
    (hb : c.bound = none ∧ c.comm.shifted = none) (he : lookupEval evals l z = none) :
    gatherComms comms evals z (l :: ls) = .error .missingEvaluation := by
  simp only [gatherComms, hl, hb.1, hb.2, he, Option.isSome_none, ne_eq, not_true_eq_false, if_false]

theorem termPolyValue_poly (trips : List (Trip F)) (z : List F) (a : F) (l : Label) :
    termPolyValue trips z (a, .poly l) = a * polyValueAt trips l z := by
  simp only [termPolyValue, polyValueAt]
  cases Marlin.lookupLast (·.1.label) l trips with
  | none => exact (mul_zero a).symm
  | some _ => rfl

theorem lcPolyValue_eq (trips : List (Trip F)) (z : List F) (ts : List (F × LC.LCTerm)) :
    lcPolyValue trips z ts = LC.polyPart (fun l => polyValueAt trips l z) ts := by
  induction ts with
  | nil => rfl
  | cons t ts ih =>
    rw [lcPolyValue, LC.polyPart, ih]
    rcases t with ⟨a, _ | l⟩
    · rfl
    · rw [termPolyValue_poly]

/-- `LinearCombination`'s own value under "label ↦ evaluation of that polynomial at `z`" is the
polynomial part plus the constants -/
theorem lc_value_split (trips : List (Trip F)) (z : List F) (terms : List (F × LC.LCTerm)) :
    LC.termsValue (fun l => polyValueAt trips l z) terms = lcPolyValue trips z terms + lcConst terms := by
  rw [lcPolyValue_eq, lcConst_eq]
  exact LC.termsValue_split _ terms

theorem constFor_of_nodup {lcs : List (LC.LinComb F)} (hnd : (lcs.map (·.label)).Nodup)
    {lc : LC.LinComb F} (hmem : lc ∈ lcs) : constFor lcs lc.label = lcConst lc.terms := by
  rw [constFor_eq, lcConst_eq, LC.constAt_of_nodup hnd hmem]

/-- the shifts `(dCₖ − g·dVₖ)·h` of the per-point defects when the combined claims move by
`(dCₖ, dVₖ)` (zip-truncated like the code) -/
def claimShifts (vk : VK F) : List F → List F → List F
  | dc :: dcs, dv :: dvs => (dc - vk.g * dv) * vk.h :: claimShifts vk dcs dvs
  | _, _ => []

theorem wsum_add (r : F) (rs ds es : List F) (hl : ds.length = es.length) :
    wsum r rs (List.zipWith (· + ·) ds es) = wsum r rs ds + wsum r rs es := by
  simp only [wsum_eq_kzg, KZG.wsum_eq_dot, dot_zipWith_add _ hl]

theorem defectsC_shift (vk : VK F) (cs dcs : List F) (zs : List (List F)) (vs dvs : List F)
    (πs : List (Proof F)) (h1 : dcs.length = cs.length) (h2 : dvs.length = vs.length)
    (h3 : cs.length = vs.length) (h4 : zs.length = cs.length) (h5 : πs.length = cs.length) :
    defectsC vk (List.zipWith (· + ·) cs dcs) zs (List.zipWith (· + ·) vs dvs) πs
      = List.zipWith (· + ·) (defectsC vk cs zs vs πs) (claimShifts vk dcs dvs)
    ∧ (defectsC vk cs zs vs πs).length = (claimShifts vk dcs dvs).length := by
  induction cs generalizing dcs zs vs dvs πs with
  | nil =>
    cases dcs with
    | nil => exact ⟨rfl, rfl⟩
    | cons _ _ => cases h1
  | cons c cs ih =>
    rcases dcs with _ | ⟨dc, dcs⟩
    · cases h1
    rcases vs with _ | ⟨v, vs⟩
    · cases h3
    rcases dvs with _ | ⟨dv, dvs⟩
    · cases h2
    rcases zs with _ | ⟨z, zs⟩
    · cases h4
    rcases πs with _ | ⟨π, πs⟩
    · cases h5
    obtain ⟨i1, i2⟩ := ih dcs zs vs dvs πs (Nat.succ.inj h1) (Nat.succ.inj h2) (Nat.succ.inj h3)
      (Nat.succ.inj h4) (Nat.succ.inj h5)
    simp only [List.zipWith_cons_cons, defectsC, claimShifts, defectCombined_shift, i1,
      List.length_cons, i2, and_self]

end PST
end PCV
