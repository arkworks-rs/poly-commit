/-
  PCV.Proofs.PST13LCGeneral — MarlinPST13 `check_combinations` on ANY list of combinations and ANY
  query list: the closed form of the pairing product (the randomizer-weighted sum over point-label
  groups of per-point defects, every position of a group entering with its own opening challenge),
  and how the product moves when a claimed value, a constant or a coefficient is changed.
-/
import PCV.Proofs.PST13LC
import PCV.Proofs.QuerySet
set_option linter.unusedSectionVars false

namespace PCV
namespace PST
open MV
variable {F : Type} [Field F] [DecidableEq F]

/-- the labelled commitment `check_combinations` forms for one combination (unbounded inputs) -/
def lcCommOf (comms : List (LComm F)) (lc : LC.LinComb F) : LComm F :=
  ⟨lc.label, ⟨lcCommValue comms lc.terms, none⟩, none⟩

theorem combineAllComm_closed {comms : List (LComm F)}
    (hcb : ∀ c ∈ comms, c.bound = none ∧ c.comm.shifted = none) {lcs : List (LC.LinComb F)}
    (hk : ∀ lc ∈ lcs, AllKnown comms lc.terms) :
    combineAllComm comms lcs = .ok (lcs.map (lcCommOf comms)) := by
  induction lcs with
  | nil => rfl
  | cons lc lcs ih =>
    rw [List.forall_mem_cons] at hk
    simp only [combineAllComm, combineLCComm, lcTermsV_closed hcb _ hk.1, zero_add,
      ih hk.2, List.map_cons, lcCommOf]

/-- **the commitment used for the label `l`**: `Σ coeff·C_label` of the LAST combination labelled
`l` (`Marlin::combine_and_normalize`, called by `batch_check`, collects `lc_commitments` into a
`BTreeMap` by label); `0` if none -/
def lcCommAt (comms : List (LComm F)) (lcs : List (LC.LinComb F)) (l : Label) : F :=
  match Marlin.lookupLast (fun (lc : LC.LinComb F) => lc.label) l lcs with
  | none => 0
  | some lc => lcCommValue comms lc.terms

/-- **the value used for the label `l` at the point `z`**: the claimed value minus the constants of
EVERY combination labelled `l` (`0` for a missing evaluation) -/
def lcClaimAt (lcs : List (LC.LinComb F)) (evals : Evals F) (l : Label) (z : List F) : F :=
  (lookupEval evals l z).getD 0 - constFor lcs l

def posSum (f : Label → F) : List Label → List F → F
  | l :: ls, ξ :: ξs => f l * ξ + posSum f ls ξs
  | _, _ => 0

/-- the combined commitment of one point-label group: `Σⱼ C(lⱼ)·ξⱼ` -/
def groupC (comms : List (LComm F)) (lcs : List (LC.LinComb F)) (ls : List Label) (ξs : List F) : F :=
  posSum (lcCommAt comms lcs) ls ξs

/-- the combined value of one point-label group: `Σⱼ (vⱼ − constants(lⱼ))·ξⱼ` -/
def groupV (lcs : List (LC.LinComb F)) (evals : Evals F) (z : List F) (ls : List Label)
    (ξs : List F) : F :=
  posSum (fun l => lcClaimAt lcs evals l z) ls ξs

/-- the number of opening challenges the groups consume: one per (point label, combination) -/
def numPositions : List (Group F) → Nat
  | [] => 0
  | g :: gs => g.2.2.length + numPositions gs

/-- per point-label group `(combined commitment, point, combined value)`; group `k` reads the
challenges after those of the groups before it -/
def groupTriples (comms : List (LComm F)) (lcs : List (LC.LinComb F)) (evals : Evals F) :
    List (Group F) → List F → List (F × List F × F)
  | [], _ => []
  | g :: gs, ξs =>
    (groupC comms lcs g.2.2 ξs, g.2.1, groupV lcs evals g.2.1 g.2.2 ξs)
      :: groupTriples comms lcs evals gs (ξs.drop g.2.2.length)

/-- **the per-point defects**: for the `k`-th point-label group `(z, [l₁ … lₘ])`, its proof `π` and
its challenges `ξ₁ … ξₘ`:
`(Σⱼ C(lⱼ)·ξⱼ − g·Σⱼ (vⱼ − constants(lⱼ))·ξⱼ − γ·rv)·h − Σᵢ Wᵢ·(βᵢh − zᵢ·h)` -/
def lcGroupDefects (vk : VK F) (comms : List (LComm F)) (lcs : List (LC.LinComb F)) (evals : Evals F) :
    List (Group F) → List (Proof F) → List F → List F
  | g :: gs, π :: πs, ξs =>
    defectCombined vk (groupC comms lcs g.2.2 ξs) (groupV lcs evals g.2.1 g.2.2 ξs) g.2.1 π
      :: lcGroupDefects vk comms lcs evals gs πs (ξs.drop g.2.2.length)
  | _, _, _ => []

theorem gatherComms_lc (comms : List (LComm F)) {lcs : List (LC.LinComb F)} {evals : Evals F}
    {z : List F} {ls : List Label} (hq : ∀ l ∈ ls, l ∈ lcs.map (·.label))
    (hev : ∀ l ∈ ls, (lookupEval evals l z).isSome = true) :
    ∃ cs, gatherComms (lcs.map (lcCommOf comms)) (adjustEvals lcs evals) z ls
        = .ok (cs, ls.map (fun l => lcClaimAt lcs evals l z))
      ∧ cs.map (·.comm.comm) = ls.map (lcCommAt comms lcs)
      ∧ ∀ c ∈ cs, c.bound = none ∧ c.comm.shifted = none := by
  induction ls with
  | nil => exact ⟨[], rfl, rfl, fun c hc => nomatch hc⟩
  | cons l ls ih =>
    rw [List.forall_mem_cons] at hq hev
    obtain ⟨cs, h1, h2, h3⟩ := ih hq.2 hev.2
    obtain ⟨lc, hlc⟩ := Marlin.lookupLast_some_of_mem (·.label) l lcs hq.1
    obtain ⟨v, hlk⟩ := Option.isSome_iff_exists.1 hev.1
    refine ⟨lcCommOf comms lc :: cs, ?_, ?_, List.forall_mem_cons.2 ⟨⟨rfl, rfl⟩, h3⟩⟩
    · simp only [gatherComms, hlc, Option.map_some, lcCommOf,
        Marlin.lookupLast_map (·.label) l (·.label) (lcCommOf comms) lcs (fun _ _ => rfl),
        Option.isSome_none, ne_eq, not_true_eq_false, if_false, lookupEval_adjustEvals, hlk, h1,
        List.map_cons, lcClaimAt, Option.getD_some]
    · simp only [List.map_cons, h2, lcCommOf, lcCommAt, hlc]

theorem accumulate_posSum (f g : Label → F) (ls : List Label) (ξs : List F) (ca va : F)
    (h : ls.length ≤ ξs.length) :
    accumulate ca va (ls.map f) (ls.map g) ξs
      = .ok (ca + posSum f ls ξs, va + posSum g ls ξs, ξs.drop ls.length) := by
  induction ls generalizing ca va ξs with
  | nil => simp only [List.map_nil, accumulate, posSum, add_zero, List.length_nil, List.drop_zero]
  | cons l ls ih =>
    cases ξs with
    | nil => cases h
    | cons ξ ξs =>
      simp only [List.map_cons, accumulate, posSum, List.length_cons, List.drop_succ_cons]
      rw [ih ξs _ _ (Nat.le_of_succ_le_succ h), add_assoc, add_assoc]

theorem combineAndNormalize_lc (comms : List (LComm F)) {lcs : List (LC.LinComb F)} {evals : Evals F}
    {groups : List (Group F)} {ξs : List F}
    (hq : ∀ gr ∈ groups, ∀ l ∈ gr.2.2, l ∈ lcs.map (·.label))
    (hev : ∀ gr ∈ groups, ∀ l ∈ gr.2.2, (lookupEval evals l gr.2.1).isSome = true)
    (hξ : numPositions groups ≤ ξs.length) :
    combineAndNormalize (lcs.map (lcCommOf comms)) (adjustEvals lcs evals) groups ξs
      = .ok (groupTriples comms lcs evals groups ξs, ξs.drop (numPositions groups)) := by
  induction groups generalizing ξs with
  | nil => rfl
  | cons g gs ih =>
    rw [List.forall_mem_cons] at hq hev
    simp only [numPositions] at hξ
    obtain ⟨cs, h1, h2, h3⟩ := gatherComms_lc comms hq.1 hev.1
    have hacc : accumulateL 0 0 cs (g.2.2.map (fun l => lcClaimAt lcs evals l g.2.1)) ξs
        = .ok (groupC comms lcs g.2.2 ξs, groupV lcs evals g.2.1 g.2.2 ξs, ξs.drop g.2.2.length) := by
      rw [accumulateL_eq _ _ _ _ _ h3, h2, accumulate_posSum _ _ _ _ _ _
        (Nat.le_trans (Nat.le_add_right _ _) hξ)]
      simp only [zero_add, groupC, groupV]
    have hrest := ih (ξs := ξs.drop g.2.2.length) hq.2 hev.2
      (by rw [List.length_drop]; exact Nat.le_sub_of_add_le' hξ)
    simp only [combineAndNormalize, h1, hacc, hrest, groupTriples, numPositions, List.drop_drop]

theorem groupTriples_points (comms : List (LComm F)) (lcs : List (LC.LinComb F)) (evals : Evals F)
    (groups : List (Group F)) (ξs : List F) :
    (groupTriples comms lcs evals groups ξs).map (·.2.1) = groups.map (·.2.1) := by
  induction groups generalizing ξs with
  | nil => rfl
  | cons g gs ih => simp only [groupTriples, List.map_cons, ih]

theorem defectsC_groupTriples (vk : VK F) (comms : List (LComm F)) (lcs : List (LC.LinComb F))
    (evals : Evals F) (groups : List (Group F)) (πs : List (Proof F)) (ξs : List F) :
    defectsC vk ((groupTriples comms lcs evals groups ξs).map (·.1))
        ((groupTriples comms lcs evals groups ξs).map (·.2.1))
        ((groupTriples comms lcs evals groups ξs).map (·.2.2)) πs
      = lcGroupDefects vk comms lcs evals groups πs ξs := by
  induction groups generalizing πs ξs with
  | nil => cases πs <;> rfl
  | cons g gs ih =>
    cases πs with
    | nil => rfl
    | cons π πs => simp only [groupTriples, List.map_cons, defectsC, lcGroupDefects, ih]

/-- **No refusal.**  What `check_combinations` needs in order to reach its pairing check, one field
per refusal of the code:
* `unbounded` — no supplied commitment declares a degree bound (else the degree-bound policy, or
  `vk.unwrap()` on `None`, decides);
* `known` — every polynomial term of every combination names a supplied commitment
  (else `MissingPolynomial`);
* `queried` — every label a point-label group asks for is the label of a combination
  (else `MissingPolynomial`);
* `evaluated` — the evaluations hold a value for every (label, point) a group asks for
  (else `MissingEvaluation`);
* `challenges` — one opening challenge per (point label, combination);
* `proofs` — one proof per point label (`assert_eq!`);
* `witnesses`, `key`, `points` — one witness per key variable (else `IncorrectInputLength`), key and
  points long enough (else an out-of-range index). -/
structure LCNoRefusal (vk : VK F) (comms : List (LComm F)) (lcs : List (LC.LinComb F))
    (qs : List (Query F)) (evals : Evals F) (πs : List (Proof F)) (ξs : List F) : Prop where
  unbounded : ∀ c ∈ comms, c.bound = none ∧ c.comm.shifted = none
  known : ∀ lc ∈ lcs, AllKnown comms lc.terms
  queried : ∀ gr ∈ groupQueries qs, ∀ l ∈ gr.2.2, l ∈ lcs.map (·.label)
  evaluated : ∀ gr ∈ groupQueries qs, ∀ l ∈ gr.2.2, (lookupEval evals l gr.2.1).isSome = true
  challenges : numPositions (groupQueries qs) ≤ ξs.length
  proofs : πs.length = (groupQueries qs).length
  witnesses : ∀ π ∈ πs, π.w.length = vk.numVars
  key : vk.numVars ≤ vk.betaH.length
  points : ∀ gr ∈ groupQueries qs, vk.numVars ≤ gr.2.1.length

/-- **Any combinations, any query list: what `check_combinations` computes.**  The pairing
product is the randomizer-weighted sum (`ρ₀ = 1`, then the verifier's randomizers) over the
point-label groups of the per-point defects `lcGroupDefects`, and the answer is whether it
vanishes. -/
theorem lc_general_closed {vk : VK F} {comms : List (LComm F)} {lcs : List (LC.LinComb F)}
    {qs : List (Query F)} {evals : Evals F} {πs : List (Proof F)} {ξs : List F} (rs : List F)
    (hn : LCNoRefusal vk comms lcs qs evals πs ξs) :
    checkCombinationsDefect vk comms lcs qs evals πs ξs rs
        = .ok (wsum 1 rs (lcGroupDefects vk comms lcs evals (groupQueries qs) πs ξs))
      ∧ checkCombinations vk comms lcs qs evals πs ξs rs
        = .ok (decide (wsum 1 rs (lcGroupDefects vk comms lcs evals (groupQueries qs) πs ξs) = 0)) := by
  have hcomb := combineAllComm_closed hn.unbounded hn.known
  have hcn := combineAndNormalize_lc comms hn.queried hn.evaluated hn.challenges
  have hbd : batchDefect vk ((groupTriples comms lcs evals (groupQueries qs) ξs).map (·.1))
      ((groupTriples comms lcs evals (groupQueries qs) ξs).map (·.2.1))
      ((groupTriples comms lcs evals (groupQueries qs) ξs).map (·.2.2)) πs rs
      = .ok (wsum 1 rs (lcGroupDefects vk comms lcs evals (groupQueries qs) πs ξs)) := by
    rw [batchDefect_eq vk _ _ _ _ rs
      (by rw [groupTriples_points, List.length_map]; exact hn.proofs) hn.key hn.witnesses
      (by rw [groupTriples_points]; exact List.forall_mem_map.2 hn.points),
      defectsC_groupTriples]
  constructor
  · unfold checkCombinationsDefect batchDefectQ
    rw [hcomb]
    simp only [hcn]
    exact hbd
  · unfold checkCombinations batchCheckQ batchCheck
    rw [hcomb]
    simp only [hcn, hbd]

theorem groupQueries_single (l pl : Label) (z : List F) :
    groupQueries [(l, (pl, z))] = [(pl, (z, [l]))] := rfl

theorem lcGroupDefects_single (vk : VK F) (comms : List (LComm F)) (lc : LC.LinComb F) (pl : Label)
    (z : List F) (v : F) (π : Proof F) (ξ : F) (ξs : List F) :
    lcGroupDefects vk comms [lc] [((lc.label, z), v)] [(pl, (z, [lc.label]))] [π] (ξ :: ξs)
      = [lcDefect vk comms lc z v π ξ] := by
  simp [lcGroupDefects, groupC, groupV, posSum, lcCommAt, Marlin.lookupLast, lcClaimAt, lookupEval,
    constFor, lcDefect]

theorem LCNoRefusal.single {vk : VK F} {comms : List (LComm F)}
    (hcb : ∀ c ∈ comms, c.bound = none ∧ c.comm.shifted = none) {lc : LC.LinComb F}
    (hk : AllKnown comms lc.terms) (pl : Label) {z : List F} (v : F) {π : Proof F} (ξ : F)
    (ξs : List F) (hw : π.w.length = vk.numVars) (hbh : vk.numVars ≤ vk.betaH.length)
    (hz : vk.numVars ≤ z.length) :
    LCNoRefusal vk comms [lc] [(lc.label, (pl, z))] [((lc.label, z), v)] [π] (ξ :: ξs) where
  unbounded := hcb
  known := List.forall_mem_singleton.2 hk
  queried := List.forall_mem_singleton.2 (List.forall_mem_singleton.2 (List.mem_singleton_self _))
  evaluated := List.forall_mem_singleton.2 (List.forall_mem_singleton.2 (by
    simp only [lookupEval, if_true, Option.isSome_some]))
  challenges := Nat.succ_le_succ (Nat.zero_le _)
  proofs := rfl
  witnesses := List.forall_mem_singleton.2 hw
  key := hbh
  points := List.forall_mem_singleton.2 hz

/-- the sum of the opening challenges at the positions of one group that carry the label `l₀`
(a group lists every label once, so this is the challenge of `l₀` in the group, or `0`) -/
def labelWeight (l₀ : Label) (ls : List Label) (ξs : List F) : F :=
  posSum (fun l => if l = l₀ then 1 else 0) ls ξs

/-- per point-label group: the weight of `l₀`, scaled by `χ` of the group's point -/
def weightsP (l₀ : Label) (χ : List F → F) : List (Group F) → List F → List F
  | [], _ => []
  | g :: gs, ξs => χ g.2.1 * labelWeight l₀ g.2.2 ξs :: weightsP l₀ χ gs (ξs.drop g.2.2.length)

/-- per point-label group: the challenge of the combination label `l₀` (whatever the point) -/
def labelWeights (l₀ : Label) : List (Group F) → List F → List F
  | [], _ => []
  | g :: gs, ξs => labelWeight l₀ g.2.2 ξs :: labelWeights l₀ gs (ξs.drop g.2.2.length)

/-- per point-label group: the challenge of the evaluation `(l₀, z₀)` — groups at other points
(or not asking for `l₀`) contribute `0`; several point labels may share the point `z₀` -/
def evalWeights (l₀ : Label) (z₀ : List F) : List (Group F) → List F → List F
  | [], _ => []
  | g :: gs, ξs =>
    (if g.2.1 = z₀ then labelWeight l₀ g.2.2 ξs else 0) :: evalWeights l₀ z₀ gs (ξs.drop g.2.2.length)

theorem labelWeights_eq (l₀ : Label) (groups : List (Group F)) (ξs : List F) :
    labelWeights l₀ groups ξs = weightsP l₀ (fun _ => 1) groups ξs := by
  induction groups generalizing ξs with
  | nil => rfl
  | cons g gs ih => simp only [labelWeights, weightsP, one_mul, ih]

theorem evalWeights_eq (l₀ : Label) (z₀ : List F) (groups : List (Group F)) (ξs : List F) :
    evalWeights l₀ z₀ groups ξs = weightsP l₀ (fun z => if z = z₀ then 1 else 0) groups ξs := by
  induction groups generalizing ξs with
  | nil => rfl
  | cons g gs ih => simp only [evalWeights, weightsP, ite_mul, one_mul, zero_mul, ih]

theorem wsum_weights_single (l pl : Label) (z : List F) (ξ : F) (ξs rs : List F) :
    wsum 1 rs (labelWeights l (groupQueries [(l, (pl, z))]) (ξ :: ξs)) = ξ
      ∧ wsum 1 rs (evalWeights l z (groupQueries [(l, (pl, z))]) (ξ :: ξs)) = ξ := by
  simp [groupQueries_single, labelWeights, evalWeights, labelWeight, posSum, wsum]

theorem posSum_shift (f f' : Label → F) (l₀ : Label) (κ : F) (ls : List Label) (ξs : List F)
    (h : ∀ l ∈ ls, f' l = f l + (if l = l₀ then κ else 0)) :
    posSum f' ls ξs = posSum f ls ξs + labelWeight l₀ ls ξs * κ := by
  unfold labelWeight
  induction ls generalizing ξs with
  | nil => simp only [posSum, zero_mul, add_zero]
  | cons l ls ih =>
    rw [List.forall_mem_cons] at h
    cases ξs with
    | nil => simp only [posSum, zero_mul, add_zero]
    | cons ξ ξs =>
      simp only [posSum, h.1, ih ξs h.2]
      by_cases hl : l = l₀
      · rw [if_pos hl, if_pos hl, one_mul, add_mul, add_mul, mul_comm κ ξ, add_add_add_comm]
      · rw [if_neg hl, if_neg hl, add_zero, zero_mul, zero_add, add_assoc]

/-- if, at the point `z`, the commitment the verifier uses for the label `l₀` moves by `χ(z)·κc` and
the value it uses for `l₀` by `χ(z)·κv`, the pairing product moves by
`(κc − κv·g)·(Σₖ ρₖ·χ(zₖ)·(challenge weight of l₀ in group k))·h` -/
theorem wsum_lcGroupDefects_shift (vk : VK F) (comms : List (LComm F))
    (lcs lcs' : List (LC.LinComb F)) (evals evals' : Evals F) (l₀ : Label) (χ : List F → F)
    (κc κv : F) (groups : List (Group F)) (πs : List (Proof F)) (ξs : List F)
    (r : F) (rs : List F) (hlen : πs.length = groups.length)
    (hc : ∀ gr ∈ groups, ∀ l ∈ gr.2.2, lcCommAt comms lcs' l
      = lcCommAt comms lcs l + (if l = l₀ then χ gr.2.1 * κc else 0))
    (hv : ∀ gr ∈ groups, ∀ l ∈ gr.2.2, lcClaimAt lcs' evals' l gr.2.1
      = lcClaimAt lcs evals l gr.2.1 + (if l = l₀ then χ gr.2.1 * κv else 0)) :
    wsum r rs (lcGroupDefects vk comms lcs' evals' groups πs ξs)
      = wsum r rs (lcGroupDefects vk comms lcs evals groups πs ξs)
        + (κc - κv * vk.g) * wsum r rs (weightsP l₀ χ groups ξs) * vk.h := by
  induction groups generalizing πs ξs r rs with
  | nil =>
    cases πs with
    | nil => simp only [lcGroupDefects, weightsP, wsum, mul_zero, zero_mul, add_zero]
    | cons _ _ => cases hlen
  | cons g gs ih =>
    cases πs with
    | nil => cases hlen
    | cons π πs =>
      rw [List.forall_mem_cons] at hc hv
      simp only [lcGroupDefects, weightsP, wsum, ih πs _ _ _ (Nat.succ.inj hlen) hc.2 hv.2, groupC,
        groupV, posSum_shift _ _ l₀ _ g.2.2 ξs hc.1, posSum_shift _ _ l₀ _ g.2.2 ξs hv.1,
        defectCombined_shift]
      ring

theorem lc_decision_of_shift {vk : VK F} {comms : List (LComm F)} {lcs lcs' : List (LC.LinComb F)}
    {qs : List (Query F)} {evals evals' : Evals F} {πs : List (Proof F)} {ξs : List F} (rs : List F)
    (hn : LCNoRefusal vk comms lcs qs evals πs ξs) (hn' : LCNoRefusal vk comms lcs' qs evals' πs ξs)
    (hacc : checkCombinations vk comms lcs qs evals πs ξs rs = .ok true) {κ : F}
    (hs : wsum 1 rs (lcGroupDefects vk comms lcs' evals' (groupQueries qs) πs ξs)
      = wsum 1 rs (lcGroupDefects vk comms lcs evals (groupQueries qs) πs ξs) + κ) :
    checkCombinations vk comms lcs' qs evals' πs ξs rs = .ok (decide (κ = 0)) := by
  rw [(lc_general_closed rs hn).2] at hacc
  rw [(lc_general_closed rs hn').2, hs,
    of_decide_eq_true (Except.ok.inj hacc), zero_add]

/-- the evaluations with the value claimed for `(l₀, z₀)` moved by `δ` -/
def bumpEval (l₀ : Label) (z₀ : List F) (δ : F) (evals : Evals F) : Evals F :=
  evals.map fun e => if e.1 = (l₀, z₀) then (e.1, e.2 + δ) else e

theorem lookupEval_bumpEval (l₀ : Label) (z₀ : List F) (δ : F) (evals : Evals F) (l : Label)
    (z : List F) :
    lookupEval (bumpEval l₀ z₀ δ evals) l z
      = (lookupEval evals l z).map (fun v => if (l, z) = (l₀, z₀) then v + δ else v) := by
  have : bumpEval l₀ z₀ δ evals = evals.map fun e => (e.1, if e.1 = (l₀, z₀) then e.2 + δ else e.2) :=
    List.map_congr_left fun e _ => by split <;> rfl
  rw [this]
  exact lookupEval_mapVal (fun k v => if k = (l₀, z₀) then v + δ else v) evals l z

theorem lcClaimAt_bumpEval (lcs : List (LC.LinComb F)) (l₀ : Label) (z₀ : List F) (δ : F)
    (evals : Evals F) (l : Label) (z : List F) (hs : (lookupEval evals l z).isSome = true) :
    lcClaimAt lcs (bumpEval l₀ z₀ δ evals) l z
      = lcClaimAt lcs evals l z + (if l = l₀ then (if z = z₀ then 1 else 0) * δ else 0) := by
  obtain ⟨v, hv⟩ := Option.isSome_iff_exists.1 hs
  simp only [lcClaimAt, lookupEval_bumpEval, hv, Option.map_some, Option.getD_some, Prod.mk.injEq]
  by_cases hl : l = l₀
  · by_cases hz : z = z₀
    · rw [if_pos ⟨hl, hz⟩, if_pos hl, if_pos hz, one_mul, add_sub_right_comm]
    · rw [if_neg (fun h => hz h.2), if_pos hl, if_neg hz, zero_mul, add_zero]
  · rw [if_neg (fun h => hl h.1), if_neg hl, add_zero]

theorem bumpEval_single (l : Label) (z : List F) (v δ : F) :
    bumpEval l z δ [((l, z), v)] = [((l, z), v + δ)] := by
  simp only [bumpEval, List.map_cons, List.map_nil, if_true]

theorem LCNoRefusal.bumpEval {vk : VK F} {comms : List (LComm F)} {lcs : List (LC.LinComb F)}
    {qs : List (Query F)} {evals : Evals F} {πs : List (Proof F)} {ξs : List F}
    (hn : LCNoRefusal vk comms lcs qs evals πs ξs) (l₀ : Label) (z₀ : List F) (δ : F) :
    LCNoRefusal vk comms lcs qs (PST.bumpEval l₀ z₀ δ evals) πs ξs :=
  { hn with
    evaluated := fun gr hgr l hl => by
      rw [lookupEval_bumpEval, Option.isSome_map]
      exact hn.evaluated gr hgr l hl }

/-- **a changed claimed value moves the pairing product** by
`−δ·g·h·Σₖ ρₖ·(challenge of (l₀, z₀) in group k)`. -/
theorem lc_value_shift {vk : VK F} {comms : List (LComm F)} {lcs : List (LC.LinComb F)}
    {qs : List (Query F)} {evals : Evals F} {πs : List (Proof F)} {ξs : List F} (rs : List F)
    (hn : LCNoRefusal vk comms lcs qs evals πs ξs) (l₀ : Label) (z₀ : List F) (δ : F) :
    wsum 1 rs (lcGroupDefects vk comms lcs (bumpEval l₀ z₀ δ evals) (groupQueries qs) πs ξs)
      = wsum 1 rs (lcGroupDefects vk comms lcs evals (groupQueries qs) πs ξs)
        - δ * vk.g * wsum 1 rs (evalWeights l₀ z₀ (groupQueries qs) ξs) * vk.h := by
  rw [evalWeights_eq, wsum_lcGroupDefects_shift vk comms lcs lcs evals (bumpEval l₀ z₀ δ evals) l₀
    (fun z => if z = z₀ then 1 else 0) 0 δ (groupQueries qs) πs ξs 1 rs hn.proofs
    (fun _ _ _ _ => by rw [mul_zero, ite_self, add_zero])
    (fun gr hgr l hl => lcClaimAt_bumpEval lcs l₀ z₀ δ evals l gr.2.1 (hn.evaluated gr hgr l hl)),
    zero_sub, neg_mul, neg_mul, ← sub_eq_add_neg]

theorem lcCommAt_replace (comms : List (LComm F)) (pre post : List (LC.LinComb F))
    {x x' : LC.LinComb F} (hl : x'.label = x.label) (l : Label) :
    lcCommAt comms (pre ++ x' :: post) l
      = lcCommAt comms (pre ++ x :: post) l
        + (if l = x.label then
            (if x.label ∉ post.map (·.label)
              then lcCommValue comms x'.terms - lcCommValue comms x.terms else 0)
          else 0) := by
  unfold lcCommAt
  rw [Marlin.lookupLast_append, Marlin.lookupLast_append, Marlin.lookupLast_cons,
    Marlin.lookupLast_cons, hl]
  by_cases h1 : l = x.label
  · subst h1
    rw [if_pos rfl, if_pos rfl, if_pos rfl]
    by_cases h2 : x.label ∈ post.map (·.label)
    · obtain ⟨y, hy⟩ := Marlin.lookupLast_some_of_mem (·.label) _ post h2
      rw [hy, if_neg (not_not.2 h2), add_zero]
      rfl
    · rw [(Marlin.lookupLast_eq_none_iff (·.label) _ post).2 h2, if_pos h2]
      simp only [Option.none_or, Option.some_or, add_sub_cancel]
  · rw [if_neg (fun h => h1 h.symm), if_neg (fun h => h1 h.symm), if_neg h1, add_zero]

theorem lcClaimAt_replace (pre post : List (LC.LinComb F)) {x x' : LC.LinComb F}
    (hl : x'.label = x.label) (evals : Evals F) (l : Label) (z : List F) :
    lcClaimAt (pre ++ x' :: post) evals l z
      = lcClaimAt (pre ++ x :: post) evals l z
        + (if l = x.label then -(lcConst x'.terms - lcConst x.terms) else 0) := by
  simp only [lcClaimAt, constFor_append, constFor, hl]
  by_cases h1 : l = x.label
  · rw [if_pos h1.symm, if_pos h1.symm, if_pos h1]; ring
  · rw [if_neg (fun h => h1 h.symm), if_neg (fun h => h1 h.symm), if_neg h1, add_zero]

theorem LCNoRefusal.replace {vk : VK F} {comms : List (LComm F)} {pre post : List (LC.LinComb F)}
    {x : LC.LinComb F} {qs : List (Query F)} {evals : Evals F} {πs : List (Proof F)} {ξs : List F}
    (hn : LCNoRefusal vk comms (pre ++ x :: post) qs evals πs ξs) (x' : LC.LinComb F)
    (hl : x'.label = x.label) (hk : AllKnown comms x'.terms) :
    LCNoRefusal vk comms (pre ++ x' :: post) qs evals πs ξs :=
  { hn with
    known := fun lc hlc => by
      rcases List.mem_append.1 hlc with h | h
      · exact hn.known lc (List.mem_append_left _ h)
      · rcases List.mem_cons.1 h with rfl | h
        · exact hk
        · exact hn.known lc (List.mem_append_right _ (List.mem_cons_of_mem _ h))
    queried := fun gr hgr l hl' => by
      have := hn.queried gr hgr l hl'
      rw [List.map_append, List.map_cons] at this ⊢
      rwa [hl] }

/-- **a combination replaced by another of the same label** moves the pairing product by
`(ΔΣcoeff·C + g·Δconstants)·h·Σₖ ρₖ·(challenge of the label in group k)`, where the change of the
commitment counts only if no later combination carries the label: the terms of a shadowed
combination — coefficients and polynomial labels — do not enter the decision at all, only its
constants do (`constFor`). -/
theorem lc_replace_shift (vk : VK F) (comms : List (LComm F)) (pre post : List (LC.LinComb F))
    (x x' : LC.LinComb F) (hl : x'.label = x.label) (evals : Evals F) (groups : List (Group F))
    (πs : List (Proof F)) (ξs rs : List F) (hlen : πs.length = groups.length) :
    wsum 1 rs (lcGroupDefects vk comms (pre ++ x' :: post) evals groups πs ξs)
      = wsum 1 rs (lcGroupDefects vk comms (pre ++ x :: post) evals groups πs ξs)
        + ((if x.label ∉ post.map (·.label)
              then lcCommValue comms x'.terms - lcCommValue comms x.terms else 0)
            + (lcConst x'.terms - lcConst x.terms) * vk.g)
          * wsum 1 rs (labelWeights x.label groups ξs) * vk.h := by
  rw [labelWeights_eq, wsum_lcGroupDefects_shift vk comms (pre ++ x :: post) (pre ++ x' :: post) evals
    evals x.label (fun _ => 1) _ (-(lcConst x'.terms - lcConst x.terms)) groups πs ξs 1 rs hlen
    (fun _ _ l _ => by rw [lcCommAt_replace comms pre post hl l, one_mul])
    (fun gr _ l _ => by rw [lcClaimAt_replace pre post hl evals l gr.2.1, one_mul]),
    neg_mul, sub_neg_eq_add]

/-- **a changed constant moves the pairing product** by
`+δ·g·h·Σₖ ρₖ·(challenge of the combination's label in group k)` — at every point, under every
point label that asks for the label. -/
theorem lc_constant_shift (vk : VK F) (comms : List (LComm F)) (pre post : List (LC.LinComb F))
    (lbl : Label) (tp tq : List (F × LC.LCTerm)) (a δ : F) (evals : Evals F)
    (groups : List (Group F)) (πs : List (Proof F)) (ξs rs : List F)
    (hlen : πs.length = groups.length) :
    wsum 1 rs (lcGroupDefects vk comms (pre ++ ⟨lbl, tp ++ (a + δ, .one) :: tq⟩ :: post) evals
        groups πs ξs)
      = wsum 1 rs (lcGroupDefects vk comms (pre ++ ⟨lbl, tp ++ (a, .one) :: tq⟩ :: post) evals
          groups πs ξs)
        + δ * vk.g * wsum 1 rs (labelWeights lbl groups ξs) * vk.h := by
  obtain ⟨e1, e2⟩ := const_shift comms tp tq a δ
  rw [lc_replace_shift vk comms pre post ⟨lbl, tp ++ (a, .one) :: tq⟩
    ⟨lbl, tp ++ (a + δ, .one) :: tq⟩ rfl evals groups πs ξs rs hlen]
  simp only [e1, e2, sub_self, ite_self, zero_add, add_sub_cancel_left]

/-- **a changed coefficient moves the pairing product** by
`+δ·C_m·h·Σₖ ρₖ·(challenge of the combination's label in group k)`, PROVIDED no later combination
carries the same label. -/
theorem lc_coefficient_shift (vk : VK F) (comms : List (LComm F)) (pre post : List (LC.LinComb F))
    (lbl : Label) (hlast : lbl ∉ post.map (·.label)) (tp tq : List (F × LC.LCTerm)) (a δ : F)
    (m : Label) (c : LComm F)
    (hm : Marlin.lookupLast (·.label) m comms = some c) (evals : Evals F)
    (groups : List (Group F)) (πs : List (Proof F)) (ξs rs : List F)
    (hlen : πs.length = groups.length) :
    wsum 1 rs (lcGroupDefects vk comms (pre ++ ⟨lbl, tp ++ (a + δ, .poly m) :: tq⟩ :: post) evals
        groups πs ξs)
      = wsum 1 rs (lcGroupDefects vk comms (pre ++ ⟨lbl, tp ++ (a, .poly m) :: tq⟩ :: post) evals
          groups πs ξs)
        + δ * c.comm.comm * wsum 1 rs (labelWeights lbl groups ξs) * vk.h := by
  obtain ⟨e1, e2⟩ := coeff_shift comms tp tq a δ m c hm
  rw [lc_replace_shift vk comms pre post ⟨lbl, tp ++ (a, .poly m) :: tq⟩
    ⟨lbl, tp ++ (a + δ, .poly m) :: tq⟩ rfl evals groups πs ξs rs hlen]
  simp only [e1, e2, if_pos hlast, add_sub_cancel_left, sub_self, zero_mul, add_zero]

theorem groupQueries_from (qs : List (Query F)) : ∀ gr ∈ groupQueries qs,
    (∃ q ∈ qs, q.2.1 = gr.1 ∧ q.2.2 = gr.2.1) ∧ ∀ l ∈ gr.2.2, ∃ q ∈ qs, q.1 = l ∧ q.2.1 = gr.1 :=
  groupQueries_eq qs ▸ Marlin.groupQueries_from qs

/-- `AllKnown` as a Boolean, for concrete instances -/
def allKnownB (comms : List (LComm F)) (terms : List (F × LC.LCTerm)) : Bool :=
  terms.all fun t =>
    match t.2.tryLabel with
    | none => true
    | some l => (Marlin.lookupLast (fun (c : LComm F) => c.label) l comms).isSome

theorem allKnown_of_bool (comms : List (LComm F)) (terms : List (F × LC.LCTerm))
    (h : allKnownB comms terms = true) : AllKnown comms terms := by
  intro t ht l hl
  unfold allKnownB at h
  rw [List.all_eq_true] at h
  have := h t ht
  simp only [hl, LC.LCTerm.tryLabel] at this
  exact this

end PST
end PCV
