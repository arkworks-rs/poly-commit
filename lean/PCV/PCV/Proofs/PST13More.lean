/-
  PCV.Proofs.PST13More — further lemmas about the MarlinPST13 model for the per-property files
  C03 / C08 / C09 / C10 / C17 / C19 (`Props/Cxx_PST13.lean`):
  the commitment as the key-defined sum over the term list; shapes of batches; `setup` answers
  `wfUP` of its trapdoor (`setup_eq`); refusals; a replaced proof component is rejected.
-/
import PCV.Proofs.PST13
import PCV.Proofs.PST13LC
import PCV.Proofs.CombCompleteSetup
import PCV.Proofs.QuerySet
set_option linter.unusedSectionVars false

namespace PCV
namespace PST
open MV
variable {F : Type} [Field F] [DecidableEq F]

/-- the element the committer key publishes for a monomial (`0`: none) -/
def keyOf (ck : CK F) (t : Term) : F := (mapGet ck.powersOfG t).getD 0

theorem msmBy_missing (m : List (Term × F)) (p : MVPoly F) (t : Term) (ht : t ∈ termsOf p)
    (h : mapGet m t = none) : msmBy (lookG m) p = .error .abort := by
  induction p with
  | nil => cases ht
  | cons ct p ih =>
    rcases mem_termsOf_cons.1 ht with rfl | ht
    · simp only [msmBy, lookG, h]
    · cases hm : mapGet m ct.2 with
      | none => simp only [msmBy, lookG, hm]
      | some b => simp only [msmBy, lookG, hm, ih ht]

/-- **`commit` without hiding is the key-defined sum**, for an arbitrary committer key: whatever is
returned is `Σ coeff · powers_of_g[term]` over the term list as given, no blinding, RNG untouched. -/
theorem commit_plain_keySum {ck : CK F} {p : MVPoly F} {rng : Bool} {draws : List F} {c : F}
    {r : MVPoly F} {rest : List F} (h : commit ck p none rng draws = .ok (c, r, rest)) :
    c = keySum (keyOf ck) p ∧ r = [] ∧ rest = draws ∧ degreeMV p ≤ ck.supportedDegree := by
  obtain ⟨hd, c0, hc0, hout⟩ := commit_none_iff.1 h
  cases hout
  exact ⟨msmBy_spec (fun t _ b hb => by rw [keyOf, lookG_eq_ok.1 hb]; rfl) hc0, rfl, rfl, hd⟩

theorem commit_plain_ok (ck : CK F) (p : MVPoly F) (rng : Bool) (draws : List F)
    (hd : degreeMV p ≤ ck.supportedDegree)
    (hk : ∀ t ∈ termsOf p, (mapGet ck.powersOfG t).isSome = true) :
    commit ck p none rng draws = .ok (keySum (keyOf ck) p, [], draws) :=
  commit_none_iff.2 ⟨hd, _, msmBy_ok (f := keyOf ck) (fun t ht => lookG_eq_ok.2 (by
    obtain ⟨b, hb⟩ := Option.isSome_iff_exists.1 (hk t ht)
    rw [keyOf, hb]; rfl)), rfl⟩

theorem commit_plain_trapdoor (ck : CK F) (p : MVPoly F) (rng : Bool) (draws : List F) (g : F)
    (β : List F) (hd : degreeMV p ≤ ck.supportedDegree)
    (hk : ∀ t ∈ termsOf p, mapGet ck.powersOfG t = some (g * evalTerm t β)) :
    commit ck p none rng draws = .ok (g * evalMV p β, [], draws) :=
  commit_none_iff.2 ⟨hd, _,
    msmBy_ok (fun t ht => lookG_eq_ok.2 (hk t ht)),
    by rw [keySum_eval]⟩

theorem batchOpenGroups_shape {ck : CK F} {trips : List (Trip F)} {groups : List (Group F)}
    {ξs : List F} {πs : List (Proof F)} {rest : List F}
    (h : batchOpenGroups ck trips groups ξs = .ok (πs, rest)) :
    πs.length = groups.length ∧ ∀ π ∈ πs, π.w.length = ck.numVars := by
  fun_induction batchOpenGroups ck trips groups ξs generalizing πs with
  | case1 => cases h; exact ⟨rfl, fun π hπ => nomatch hπ⟩
  | case2 => cases h
  | case3 => cases h
  | case4 => cases h
  | case5 g gs ξs ts hts r hr rr hrr ih =>
    cases h
    obtain ⟨i1, i2⟩ := ih hrr
    refine ⟨congrArg Nat.succ i1, List.forall_mem_cons.2 ⟨?_, i2⟩⟩
    -- the proof of one group is an `openCombined` of the group's combined polynomials
    unfold openL openRest at hr
    split at hr
    · cases hr
    · split at hr
      · cases hr
      · rename_i π' hπ'
        cases hr
        exact (openCombined_shape hπ').1

theorem groupQueries_labels (qs : List (Query F)) :
    ((groupQueries qs).map (·.1)).Pairwise (fun a b => QS.ltLabel a b = true)
      ∧ ((groupQueries qs).map (·.1)).Nodup
      ∧ ∀ pl, pl ∈ (groupQueries qs).map (·.1) ↔ ∃ q ∈ qs, q.2.1 = pl := by
  rw [groupQueries_eq, TraitDefault.keys_groupQueries]
  have hs := TraitDefault.sorted_setOfList QS.strictTotal_ltLabel (qs.map (·.2.1))
  exact ⟨hs, hs.nodup QS.ltLabel_irrefl,
    fun pl => (TraitDefault.mem_setOfList _ pl _).trans List.mem_map⟩

theorem evalTerm_zero_powers (L : List Nat) (x : List F) :
    evalTerm (L.map (fun v => (v, 0))) x = 1 := by
  induction L with
  | nil => rfl
  | cons v L ih => rw [List.map_cons, evalTerm_cons, ih, fpow_zero, mul_one]

theorem evalTerm_bump (L : List Nat) (hL : L.Nodup) (e : Nat) (c d : Nat → Nat)
    (hd : ∀ v, d v = c v + if v = e then 1 else 0) (x : List F) :
    evalTerm (L.map (fun v => (v, d v))) x
      = (if e ∈ L then getD' x e 0 else 1) * evalTerm (L.map (fun v => (v, c v))) x := by
  induction L with
  | nil => exact (one_mul _).symm
  | cons v L ih =>
    obtain ⟨hv, hL'⟩ := List.nodup_cons.1 hL
    rw [List.map_cons, List.map_cons, evalTerm_cons, evalTerm_cons, ih hL', hd v]
    by_cases hve : v = e
    · subst hve
      rw [if_pos rfl, if_pos (List.mem_cons_self ..), if_neg hv, fpow_succ']
      ring
    · rw [if_neg hve, Nat.add_zero, if_congr (List.mem_cons.trans (or_iff_right (Ne.symm hve))) rfl rfl]
      ring

/-- `term.iter().map(|e| betas[*e]).product()` is the monomial `SparseTerm::new(counts)` at `β⃗` -/
theorem prodBetas_eq (nv : Nat) (betas : List F) (m : List Nat) (h : ∀ e ∈ m, e < nv) :
    prodBetas betas m = evalTerm (termOfMultiset nv m) betas := by
  unfold termOfMultiset
  rw [evalTerm_new]
  induction m with
  | nil => simp only [prodBetas, List.count_nil, evalTerm_zero_powers]
  | cons e m ih =>
    obtain ⟨he, hm⟩ := List.forall_mem_cons.1 h
    rw [evalTerm_bump _ List.nodup_range e (fun v => m.count v) _
      (fun v => by
        rw [List.count_cons]; exact congrArg _ (if_congr (beq_iff_eq.trans eq_comm) rfl rfl)), ← ih hm,
      if_pos (List.mem_range.2 he), prodBetas]

/-- `SparseTerm::cmp(..) == Less` -/
def ltTerm (a b : Term) : Bool := decide (Term.cmp a b = .lt)

/-- among keys built by `SparseTerm::new`, where `cmp = Equal` means identical, `powers_of_g` is a
`QS` map ordered by `ltTerm` -/
theorem mapInsert_eq_insert {k : Term} (v : F) {m : List (Term × F)} (hk : Term.wf k = true)
    (hm : ∀ kv ∈ m, Term.wf kv.1 = true) : mapInsert k v m = QS.insert ltTerm k v m := by
  induction m with
  | nil => rfl
  | cons kv m ih =>
    obtain ⟨hkv, hm⟩ := List.forall_mem_cons.1 hm
    rw [mapInsert, QS.insert, ih hm]
    by_cases h : k = kv.1
    · rw [if_pos h, ← h, Term.cmp_self, if_neg (by decide), if_pos rfl]
    · rw [if_neg h, if_neg fun e => h (Term.cmp_eq hk hkv e)]
      exact if_congr decide_eq_true_iff.symm rfl rfl

theorem mapOfList_eq_fromList {l : List (Term × F)} (hl : ∀ kv ∈ l, Term.wf kv.1 = true) :
    mapOfList l = QS.fromList ltTerm l [] := by
  suffices ∀ acc : List (Term × F), (∀ kv ∈ acc, Term.wf kv.1 = true) →
      l.foldl (fun m kv => mapInsert kv.1 kv.2 m) acc = QS.fromList ltTerm l acc from
    this [] fun _ h => nomatch h
  induction l with
  | nil => exact fun _ _ => rfl
  | cons kv l ih =>
    obtain ⟨hkv, hl⟩ := List.forall_mem_cons.1 hl
    intro acc hacc
    rw [List.foldl_cons, mapInsert_eq_insert kv.2 hkv hacc, QS.fromList]
    exact ih hl _ fun x hx => (QS.mem_insert hx).elim (fun e => e ▸ hkv) (hacc x)

theorem mapGet_eq_lookup (m : List (Term × F)) (t : Term) : mapGet m t = QS.lookup t m := by
  induction m with
  | nil => rfl
  | cons kv m ih => rw [mapGet, QS.lookup, ih]; exact if_congr eq_comm rfl rfl

/-- **`collect::<BTreeMap>` then `get`** on `SparseTerm::new` keys: the last entry listed under the
term -/
theorem mapGet_mapOfList {l : List (Term × F)} (hl : ∀ kv ∈ l, Term.wf kv.1 = true) (t : Term) :
    mapGet (mapOfList l) t = QS.lastWith t l := by
  rw [mapGet_eq_lookup, mapOfList_eq_fromList hl, QS.lookup_fromList_nil]

/-- the collected `BTreeMap` as the set of its keys, each with its prescribed value -/
theorem mapOfList_eq_map (f : Term → F) (l : List (Term × F))
    (hl : ∀ kv ∈ l, Term.wf kv.1 = true ∧ kv.2 = f kv.1) :
    mapOfList l = (TraitDefault.setOfList ltTerm (QS.keys l)).map fun t => (t, f t) := by
  rw [mapOfList_eq_fromList fun kv h => (hl kv h).1, ← QS.keys_fromList, QS.keys, List.map_map]
  exact (List.map_id _).symm.trans (List.map_congr_left fun kv hkv =>
    Prod.ext rfl (hl kv ((QS.mem_fromList hkv).resolve_right List.not_mem_nil)).2)

theorem setup_refuses (D nv : Nat) (betas : List F) (g γ h : F) :
    (nv < 1 → setup D nv betas g γ h = .error .invalidNumVars) ∧
    (1 ≤ nv → D < 1 → setup D nv betas g γ h = .error .degreeIsZero) := by
  constructor
  · intro hnv; unfold setup; rw [if_pos hnv]
  · intro hnv hD; unfold setup; rw [if_neg (Nat.not_lt.2 hnv), if_pos hD]

/-- **What `setup` publishes**, for all `num_vars, max_degree ≥ 1`: the parameters `wfUP` of the
trapdoor made of its first `nv` draws, over a monomial list `ts` (the keys of the `BTreeMap`, in its
order) that holds exactly the monomials in `nv` variables of total degree `≤ D`. -/
theorem setup_eq {D nv : Nat} (hnv : 1 ≤ nv) (hD : 1 ≤ D) (betas : List F) (g γ h : F) :
    ∃ ts, (∀ t, t ∈ ts ↔ Covered nv D t) ∧
      setup D nv betas g γ h = .ok (wfUP g γ h (betas.take nv) ts nv D) := by
  have hms : setupMultisets nv D = .ok ((List.range' 1 D).flatMap (C15Spec.multisets nv 0)) :=
    Comb.multisetsFrom_eq hnv (Nat.le_refl 1) (Nat.le_of_eq (Nat.add_comm 1 D))
  have hlt : ∀ m ∈ (List.range' 1 D).flatMap (C15Spec.multisets nv 0), ∀ x ∈ m, x < nv := by
    intro m hm x hx
    obtain ⟨k, -, hk⟩ := List.mem_flatMap.1 hm
    exact Nat.zero_add nv ▸ (C15Spec.bounds_of_mem_multisets hk x hx).2
  have hl := Comb.setupTerms_eq_specTerms nv D hnv
  rw [setupTerms, hms] at hl
  have hl := Except.ok.inj hl
  generalize (List.range' 1 D).flatMap (C15Spec.multisets nv 0) = ms at hms hlt hl
  have hkeys : (ms.map (fun m => (termOfMultiset nv m, g * prodBetas betas m)) ++ [(Term.new [], g)]).map
      (·.1) = C15Spec.specTerms nv D := by
    rw [← hl, List.map_append, List.map_map]; rfl
  -- every pair `setup` inserts is `(t, g·t(β⃗))` for a monomial `t` of `specTerms`
  have hpairs : ∀ kv ∈ ms.map (fun m => (termOfMultiset nv m, g * prodBetas betas m))
      ++ [(Term.new [], g)], Term.wf kv.1 = true ∧ kv.2 = g * evalTerm kv.1 (betas.take nv) := by
    intro kv hkv
    have hin := (C15Spec.mem_specTerms nv D kv.1).1 (hkeys ▸ List.mem_map_of_mem hkv)
    refine ⟨hin.1, ?_⟩
    rcases List.mem_append.1 hkv with hkv | hkv
    · obtain ⟨m, hm, rfl⟩ := List.mem_map.1 hkv
      rw [evalTerm_take hin.2.1, ← prodBetas_eq nv betas m (hlt m hm)]
    · rw [List.mem_singleton.1 hkv]
      exact (mul_one g).symm
  refine ⟨TraitDefault.setOfList ltTerm (C15Spec.specTerms nv D),
    fun t => (TraitDefault.mem_setOfList ltTerm t _).trans (C15Spec.mem_specTerms nv D t), ?_⟩
  unfold setup
  rw [if_neg (Nat.not_lt.2 hnv), if_neg (Nat.not_lt.2 hD), hms]
  simp only [mapOfList_eq_map (fun t => g * evalTerm t (betas.take nv)) _ hpairs, QS.keys, hkeys, wfUP]
  refine congrArg Except.ok ?_
  congr 1
  exact List.map_congr_left fun i hi => by rw [getD'_take betas 0 (List.mem_range.1 hi)]

theorem setup_eq_of_ok {D nv : Nat} {betas : List F} {g γ h : F} {pp : UParams F}
    (hs : setup D nv betas g γ h = .ok pp) :
    1 ≤ nv ∧ 1 ≤ D ∧ ∃ ts, (∀ t, t ∈ ts ↔ Covered nv D t) ∧
      pp = wfUP g γ h (betas.take nv) ts nv D := by
  have hnv : 1 ≤ nv := Nat.le_of_not_lt fun hlt => by
    rw [(setup_refuses D nv betas g γ h).1 hlt] at hs; cases hs
  have hD : 1 ≤ D := Nat.le_of_not_lt fun hlt => by
    rw [(setup_refuses D nv betas g γ h).2 hnv hlt] at hs; cases hs
  obtain ⟨ts, hm, he⟩ := setup_eq hnv hD betas g γ h
  exact ⟨hnv, hD, ts, hm, Except.ok.inj (hs.symm.trans he)⟩

theorem trim_refuses (pp : UParams F) (s : Nat) (h : s > pp.maxDegree) :
    trim pp s = .error .trimTooLarge := by
  unfold trim; rw [if_pos h]

theorem check_replaced_rejected {vk : VK F} {cs z vs : List F} {π π' : Proof F} {ξs : List F} {s : F}
    (hacc : check vk cs z vs π ξs = .ok true) (hw : π'.w.length = π.w.length)
    (hs : ∀ C V, defectCombined vk C V z π' = defectCombined vk C V z π + s) (hne : s ≠ 0) :
    check vk cs z vs π' ξs = .ok false := by
  -- the accumulation does not read the proof
  obtain ⟨hnv, a, ha, h1, h2, hb⟩ := (check_ok_iff vk cs z vs π ξs true).1 hacc
  rw [(check_ok_iff vk cs z vs π' ξs _).2 ⟨hw ▸ hnv, a, ha, hw ▸ h1, hw ▸ h2, rfl⟩, hs,
    of_decide_eq_true hb.symm, zero_add, decide_eq_false hne]

theorem batchDefect_wrong_count {vk : VK F} {cs : List F} {zs : List (List F)} {vs : List F}
    {πs : List (Proof F)} {rs : List F} (h : πs.length ≠ zs.length) :
    batchDefect vk cs zs vs πs rs = .error .abort := by
  unfold batchDefect; rw [if_pos h]

theorem batchDefect_wrong_witness_count {vk : VK F} {cs : List F} {zs : List (List F)}
    {vs : List F} {πs : List (Proof F)} {rs : List F} (hl : πs.length = zs.length)
    {π : Proof F} (hπ : π ∈ πs) (hw : π.w.length ≠ vk.numVars) :
    batchDefect vk cs zs vs πs rs = .error .incorrectInputLength := by
  unfold batchDefect
  rw [if_neg (not_not.mpr hl)]
  have : πs.any (fun π => decide (π.w.length ≠ vk.numVars)) = true :=
    List.any_eq_true.2 ⟨π, hπ, by simpa using hw⟩
  rw [if_pos this]

theorem accumulate_add {ca va da db : F} {cs vs dcs dvs ξs : List F}
    (hl1 : dcs.length = cs.length) (hl2 : dvs.length = vs.length)
    {out : F × F × List F} (h : accumulate ca va cs vs ξs = .ok out)
    {dout : F × F × List F} (hd : accumulate da db dcs dvs ξs = .ok dout) :
    accumulate (ca + da) (va + db) (List.zipWith (· + ·) cs dcs) (List.zipWith (· + ·) vs dvs) ξs
      = .ok (out.1 + dout.1, out.2.1 + dout.2.1, out.2.2) ∧ dout.2.2 = out.2.2 := by
  induction cs generalizing ca va da db vs dcs dvs ξs with
  | nil =>
    obtain rfl := List.length_eq_zero_iff.1 hl1
    cases h; cases hd
    exact ⟨rfl, rfl⟩
  | cons c cs ih =>
    match dcs, hl1, vs, dvs, hl2 with
    | dc :: dcs, hl1, [], [], _ =>
      cases h; cases hd
      exact ⟨rfl, rfl⟩
    | dc :: dcs, hl1, v :: vs, dv :: dvs, hl2 =>
      cases ξs with
      | nil => cases h
      | cons ξ ξs =>
        have := ih (Nat.succ.inj hl1) (Nat.succ.inj hl2) h hd
        simp only [List.zipWith_cons_cons, accumulate]
        rw [add_mul, add_mul, add_add_add_comm ca, add_add_add_comm va]
        exact this

theorem commit_unpublished_monomial {ck : CK F} {p : MVPoly F} (hb : Option Nat) (rng : Bool)
    (draws : List F) (hd : degreeMV p ≤ ck.supportedDegree) {t : Term} (ht : t ∈ termsOf p)
    (hm : mapGet ck.powersOfG t = none) : commit ck p hb rng draws = .error .abort := by
  unfold commit
  rw [checkDegree_ok.2 hd]
  simp only [msmBy_missing ck.powersOfG p t ht hm]

theorem wfCK_unpublished (g γ : F) (β : List F) (ts : List Term) (nv s D m : Nat)
    (hts : ∀ u ∈ ts, Term.varsBelow nv u = true) {t : Term} {q : Nat × Nat} (hq : q ∈ t)
    (hv : nv ≤ q.1) : mapGet (wfCK g γ β ts nv s D m).powersOfG t = none := by
  have hnot : t ∉ ts := fun hin => by
    have := (varsBelow_iff nv t).1 (hts t hin) q hq
    omega
  rw [wfCK, mapGet_map, if_neg hnot]

end PST
end PCV
