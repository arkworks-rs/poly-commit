/-
  PCV.Proofs.Par — schedule independence of the parallel iterator models of `PCV.Model.Par`.
-/
import PCV.Model.Par

namespace PCV
namespace Par

variable {α β γ : Type}

/-- **Every work-splitting tree gives the sequential fold** for an associative operation with a
right identity: `f (fold e l) (fold e r) = fold (f (fold e l) e) r = fold (fold e l) r`. -/
theorem parReduce_eq_foldl (s : Shape) (f : α → α → α) (e : α)
    (assoc : ∀ a b c, f (f a b) c = f a (f b c)) (right_id : ∀ a, f a e = a) (xs : List α) :
    parReduce s f e xs = xs.foldl f e := by
  induction s generalizing xs with
  | leaf => rfl
  | node k l r ihl ihr =>
    haveI : Std.Associative f := ⟨assoc⟩
    rw [parReduce, ihl, ihr, ← List.foldl_assoc (op := f), right_id, ← List.foldl_append,
      List.take_append_drop]

set_option linter.unusedVariables false in
theorem parReduce_shape_irrelevant (s t : Shape) (f : α → α → α) (e : α)
    (assoc : ∀ a b c, f (f a b) c = f a (f b c)) (left_id : ∀ a, f e a = a)
    (right_id : ∀ a, f a e = a) (xs : List α) :
    parReduce s f e xs = parReduce t f e xs := by
  rw [parReduce_eq_foldl s f e assoc right_id, parReduce_eq_foldl t f e assoc right_id]

theorem parMap_eq_map (s : Shape) (g : α → β) (xs : List α) : parMap s g xs = xs.map g := by
  induction s generalizing xs with
  | leaf => rfl
  | node k l r ihl ihr =>
    rw [parMap, ihl, ihr, ← List.map_append, List.take_append_drop]

/-- the sequential reference is `enumerate().map(..)` from base index `off` -/
theorem mapIdxFrom_eq (g : Nat → α → β) (off : Nat) (xs : List α) :
    mapIdxFrom g off xs = (xs.zipIdx off).map fun p => g p.2 p.1 := by
  induction xs generalizing off with
  | nil => rfl
  | cons x xs ih => rw [mapIdxFrom, ih, List.zipIdx_cons, List.map_cons]

theorem mapIdxFrom_append (g : Nat → α → β) (off : Nat) (xs ys : List α) :
    mapIdxFrom g off (xs ++ ys) = mapIdxFrom g off xs ++ mapIdxFrom g (off + xs.length) ys := by
  rw [mapIdxFrom_eq, mapIdxFrom_eq, mapIdxFrom_eq, List.zipIdx_append, List.map_append]

theorem parMapIdx_eq (s : Shape) (g : Nat → α → β) (off : Nat) (xs : List α) :
    parMapIdx s g off xs = mapIdxFrom g off xs := by
  induction s generalizing xs off with
  | leaf => rfl
  | node k l r ihl ihr =>
    rw [parMapIdx, ihl, ihr, ← mapIdxFrom_append, List.take_append_drop]

theorem mapIdxFrom_getElem? (g : Nat → α → β) (off : Nat) (xs : List α) (j : Nat) :
    (mapIdxFrom g off xs)[j]? = (xs[j]?).map (g (off + j)) := by
  rw [mapIdxFrom_eq, List.getElem?_map, List.getElem?_zipIdx, Option.map_map]
  rfl

theorem applyAt_eq_modify (u : Nat → α → α) (v : List α) (i : Nat) :
    applyAt u v i = v.modify i (u i) := by
  unfold applyAt
  cases h : v[i]? with
  | none => exact (List.modify_eq_self (List.getElem?_eq_none_iff.1 h)).symm
  | some x =>
    obtain ⟨hi, rfl⟩ := List.getElem?_eq_some_iff.1 h
    rw [List.modify_eq_take_cons_drop hi, Option.elim, List.set_eq_take_append_cons_drop, if_pos hi]

theorem applyAt_length (u : Nat → α → α) (v : List α) (i : Nat) :
    (applyAt u v i).length = v.length := by
  rw [applyAt_eq_modify, List.length_modify]

theorem applyAt_getElem? (u : Nat → α → α) (v : List α) (i j : Nat) :
    (applyAt u v i)[j]? = if j = i then (v[j]?).map (u j) else v[j]? := by
  rw [applyAt_eq_modify]
  by_cases hji : j = i
  · rw [if_pos hji, hji, List.getElem?_modify_eq]
    rfl
  · rw [if_neg hji, List.getElem?_modify_ne _ _ (Ne.symm hji)]

theorem forEachDisjoint_getElem? (u : Nat → α → α) (order : List Nat) (hnd : order.Nodup)
    (v : List α) (j : Nat) :
    (forEachDisjoint u order v)[j]? = if j ∈ order then (v[j]?).map (u j) else v[j]? := by
  unfold forEachDisjoint
  induction order generalizing v with
  | nil => rfl
  | cons i is ih =>
    have hnd' := List.nodup_cons.mp hnd
    rw [List.foldl_cons, ih hnd'.2, applyAt_getElem?]
    by_cases hji : j = i
    · subst hji
      rw [if_neg hnd'.1, if_pos rfl, if_pos List.mem_cons_self]
    · simp only [List.mem_cons, hji, false_or, if_false]

/-- **Any order of the closure calls gives the sequential result.** -/
theorem forEachDisjoint_eq_mapIdx (u : Nat → α → α) (order : List Nat) (v : List α)
    (hperm : order.Perm (List.range v.length)) :
    forEachDisjoint u order v = mapIdxFrom u 0 v := by
  apply List.ext_getElem?
  intro j
  have hnd : order.Nodup := (hperm.nodup_iff).mpr List.nodup_range
  rw [forEachDisjoint_getElem? u order hnd, mapIdxFrom_getElem?, Nat.zero_add]
  by_cases hj : j < v.length
  · rw [if_pos (hperm.mem_iff.mpr (List.mem_range.mpr hj))]
  · rw [List.getElem?_eq_none (Nat.le_of_not_lt hj), Option.map_none, ite_self]

end Par
end PCV
