/-
  Coefficient-list polynomials of `PCV.Model.Poly` over an arbitrary field: evaluation, synthetic
  division by `X - z`, the commitment as a dot product with the key (exponent form), shifts, and
  `pnorm`, which changes neither the evaluation nor the dot product.
-/
import PCV.Model.Poly
import PCV.Proofs.GetD
import Mathlib.Tactic.Ring
import Mathlib.Tactic.LinearCombination
import Mathlib.Algebra.Field.Basic

namespace PCV
variable {F : Type} [Field F]

@[simp] theorem evalPoly_nil (x : F) : evalPoly ([] : List F) x = 0 := rfl
@[simp] theorem evalPoly_cons (c : F) (cs : List F) (x : F) :
    evalPoly (c :: cs) x = c + x * evalPoly cs x := rfl

theorem divLin_cons (c : F) (cs : List F) (z : F) :
    divLin (c :: cs) z = ((divLin cs z).2 :: (divLin cs z).1, c + z * (divLin cs z).2) := rfl

theorem divLin_spec (p : List F) (z x : F) :
    evalPoly p x = (x - z) * evalPoly (divLin p z).1 x + (divLin p z).2 := by
  induction p with
  | nil => simp [divLin]
  | cons c cs ih =>
    rw [divLin_cons, evalPoly_cons, evalPoly_cons, ih]
    ring

theorem divLin_rem (p : List F) (z : F) : (divLin p z).2 = evalPoly p z := by
  rw [divLin_spec p z z, sub_self, zero_mul, zero_add]

theorem divLin_len (p : List F) (z : F) : (divLin p z).1.length = p.length := by
  induction p with
  | nil => rfl
  | cons c cs ih => rw [divLin_cons, List.length_cons, ih, List.length_cons]

/-- the quotient identity used by every KZG-style completeness proof -/
theorem divLin_quot (p : List F) (z x : F) :
    evalPoly p x - evalPoly p z = (x - z) * evalPoly (divLin p z).1 x := by
  rw [← divLin_rem p z, divLin_spec p z x, add_sub_cancel_right]

@[simp] theorem dot_nil_left (b : List F) : dot ([] : List F) b = 0 := by
  cases b <;> rfl
@[simp] theorem dot_nil_right (a : List F) : dot a ([] : List F) = 0 := by
  cases a <;> rfl
@[simp] theorem dot_cons (a b : F) (as bs : List F) :
    dot (a :: as) (b :: bs) = a * b + dot as bs := rfl

theorem dot_comm (a b : List F) : dot a b = dot b a := by
  induction a generalizing b with
  | nil => simp
  | cons x xs ih => cases b with
    | nil => simp
    | cons y ys => simp [ih ys, mul_comm]

theorem dot_padd_right (b p q : List F) : dot b (padd p q) = dot b p + dot b q := by
  fun_induction padd p q generalizing b with
  | case1 q => rw [dot_nil_right, zero_add]
  | case2 p _ => rw [dot_nil_right, add_zero]
  | case3 a p c q ih =>
    cases b with
    | nil => simp
    | cons y ys => rw [dot_cons, dot_cons, dot_cons, ih ys, mul_add, add_add_add_comm]

theorem pscale_cons (c a : F) (p : List F) : pscale c (a :: p) = c * a :: pscale c p := rfl

theorem dot_pscale_right (b p : List F) (c : F) : dot b (pscale c p) = c * dot b p := by
  induction p generalizing b with
  | nil => rw [dot_nil_right, mul_zero]; exact dot_nil_right b
  | cons a p ih =>
    cases b with
    | nil => rw [dot_nil_left, dot_nil_left, mul_zero]
    | cons y ys => rw [pscale_cons, dot_cons, dot_cons, ih ys, mul_add, mul_left_comm]

theorem dot_padd_left (p q a : List F) : dot (padd p q) a = dot p a + dot q a := by
  rw [dot_comm, dot_padd_right, dot_comm a, dot_comm a]

theorem dot_pscale_left (p a : List F) (c : F) : dot (pscale c p) a = c * dot p a := by
  rw [dot_comm, dot_pscale_right, dot_comm]

theorem dot_map_mul_right (a b : List F) (c : F) : dot a (b.map (· * c)) = dot a b * c := by
  rw [show b.map (· * c) = pscale c b from List.map_congr_left fun _ _ => mul_comm _ c,
    dot_pscale_right, mul_comm]

theorem dot_map_smul {α : Type} (l : List α) (k : F) (f : α → F) (b : List F) :
    dot (l.map fun x => k * f x) b = k * dot (l.map f) b := by
  rw [← dot_pscale_left, pscale, List.map_map]
  rfl

theorem padd_nil_left (q : List F) : padd [] q = q := by
  rw [padd]

theorem padd_nil_right (p : List F) : padd p [] = p := by cases p <;> rfl

theorem pscale_one (p : List F) : pscale 1 p = p :=
  (List.map_congr_left fun _ _ => one_mul _).trans (List.map_id p)

theorem zipWith_add_eq_padd {a b : List F} (h : a.length = b.length) :
    List.zipWith (· + ·) a b = padd a b := by
  induction a generalizing b with
  | nil => rw [List.zipWith_nil_left, padd_nil_left, List.eq_nil_of_length_eq_zero h.symm]
  | cons x a ih =>
    cases b with
    | nil => exact absurd h (Nat.succ_ne_zero _)
    | cons y b => rw [List.zipWith_cons_cons, padd, ih (Nat.succ.inj h)]

theorem dot_zipWith_add (k : List F) {a b : List F} (h : a.length = b.length) :
    dot k (List.zipWith (· + ·) a b) = dot k a + dot k b := by
  rw [zipWith_add_eq_padd h, dot_padd_right]

theorem dot_append (a b c d : List F) (h : a.length = c.length) :
    dot (a ++ b) (c ++ d) = dot a c + dot b d := by
  induction a generalizing c with
  | nil => rw [List.eq_nil_of_length_eq_zero h.symm, dot_nil_left, zero_add]; rfl
  | cons x a ih =>
    cases c with
    | nil => exact absurd h (Nat.succ_ne_zero _)
    | cons y c =>
      rw [List.cons_append, List.cons_append, dot_cons, dot_cons, ih c (Nat.succ.inj h), add_assoc]

theorem dot_take {a b : List F} {k : Nat} (h : b.length ≤ k) : dot (a.take k) b = dot a b := by
  induction b generalizing a k with
  | nil => rw [dot_nil_right, dot_nil_right]
  | cons y b ih =>
    cases a with
    | nil => rw [List.take_nil]
    | cons x a =>
      cases k with
      | zero => exact absurd h (Nat.not_succ_le_zero _)
      | succ k => rw [List.take_succ_cons, dot_cons, dot_cons, ih (Nat.le_of_succ_le_succ h)]

theorem dot_eq_zero_of_right (a ds : List F) (h : ∀ d ∈ ds, d = 0) : dot a ds = 0 := by
  induction ds generalizing a with
  | nil => exact dot_nil_right a
  | cons d ds ih =>
    cases a with
    | nil => rfl
    | cons x a =>
      rw [dot_cons, h d List.mem_cons_self, ih a fun e he => h e (List.mem_cons_of_mem d he),
        mul_zero, add_zero]

theorem dot_replicate_zero_right (a : List F) (n : Nat) : dot a (List.replicate n 0) = 0 :=
  dot_eq_zero_of_right a _ fun _ h => List.eq_of_mem_replicate h

theorem dot_replicate_zero_left (n : Nat) (a : List F) : dot (List.replicate n 0) a = 0 := by
  rw [dot_comm, dot_replicate_zero_right]

theorem dot_append_zeros (a p : List F) (n : Nat) : dot a (p ++ List.replicate n 0) = dot a p := by
  induction p generalizing a with
  | nil => rw [List.nil_append, dot_replicate_zero_right, dot_nil_right]
  | cons c p ih =>
    cases a with
    | nil => rfl
    | cons x a => rw [List.cons_append, dot_cons, dot_cons, ih]

theorem dot_set_sub (a ds : List F) (j : Nat) (hj : j < a.length) (x y : F) :
    dot (a.set j x) ds - dot (a.set j y) ds = (x - y) * ds.getD j 0 := by
  induction a generalizing j ds with
  | nil => exact absurd hj (Nat.not_lt_zero j)
  | cons u a ih =>
    cases ds with
    | nil => rw [dot_nil_right, dot_nil_right, sub_self, List.getD_nil, mul_zero]
    | cons d ds =>
      cases j with
      | zero =>
        rw [List.set_cons_zero, List.set_cons_zero, dot_cons, dot_cons, List.getD_cons_zero,
          add_sub_add_right_eq_sub, sub_mul]
      | succ j =>
        rw [List.set_cons_succ, List.set_cons_succ, dot_cons, dot_cons, List.getD_cons_succ,
          add_sub_add_left_eq_sub]
        exact ih ds j (Nat.lt_of_succ_lt_succ hj)

theorem dot_update (z pre post : List F) (x δ : F) :
    dot z (pre ++ (x + δ) :: post) = dot z (pre ++ x :: post) + getD' z pre.length 0 * δ := by
  induction z generalizing pre with
  | nil => rw [dot_nil_left, dot_nil_left, zero_add]; exact (zero_mul δ).symm
  | cons b z ih =>
    cases pre with
    | nil => rw [List.nil_append, List.nil_append, dot_cons, dot_cons, mul_add, add_right_comm]; rfl
    | cons p pre => rw [List.cons_append, List.cons_append, dot_cons, dot_cons, ih, add_assoc]; rfl

theorem dot_powers (p : List F) (g β : F) (n : Nat) (h : p.length ≤ n) :
    dot p (powers g β n) = g * evalPoly p β := by
  induction p generalizing g n with
  | nil => rw [dot_nil_left, evalPoly_nil, mul_zero]
  | cons c cs ih =>
    cases n with
    | zero => exact absurd h (Nat.not_succ_le_zero _)
    | succ n =>
      rw [powers, dot_cons, evalPoly_cons, ih (β * g) n (Nat.le_of_succ_le_succ h)]
      ring

theorem powers_length (g β : F) (n : Nat) : (powers g β n).length = n := by
  induction n generalizing g with
  | zero => rfl
  | succ n ih => rw [powers, List.length_cons, ih]

theorem eval_padd (p q : List F) (x : F) :
    evalPoly (padd p q) x = evalPoly p x + evalPoly q x := by
  fun_induction padd p q with
  | case1 q => rw [evalPoly_nil, zero_add]
  | case2 p _ => rw [evalPoly_nil, add_zero]
  | case3 a p b q ih =>
    rw [evalPoly_cons, evalPoly_cons, evalPoly_cons, ih, mul_add, add_add_add_comm]

theorem eval_pscale (c : F) (p : List F) (x : F) :
    evalPoly (pscale c p) x = c * evalPoly p x := by
  induction p with
  | nil => exact (mul_zero c).symm
  | cons a p ih => rw [pscale_cons, evalPoly_cons, evalPoly_cons, ih, mul_add, mul_left_comm]

theorem padd_len (p q : List F) : (padd p q).length = max p.length q.length := by
  fun_induction padd p q with
  | case1 q => rw [List.length_nil, Nat.zero_max]
  | case2 p _ => rw [List.length_nil, Nat.max_zero]
  | case3 a p b q ih =>
    rw [List.length_cons, List.length_cons, List.length_cons, ih, Nat.succ_max_succ]

theorem pscale_len (c : F) (p : List F) : (pscale c p).length = p.length := by
  simp [pscale]

theorem eval_psub (p q : List F) (x : F) :
    evalPoly (psub p q) x = evalPoly p x - evalPoly q x := by
  rw [psub, eval_padd, eval_pscale, neg_one_mul, sub_eq_add_neg]

theorem psub_len (p q : List F) : (psub p q).length = max p.length q.length := by
  rw [psub, padd_len, pscale_len]

@[simp] theorem fpow_zero (x : F) : fpow x 0 = 1 := rfl
theorem fpow_succ (x : F) (n : Nat) : fpow x (n + 1) = x * fpow x n := rfl

theorem fpow_add (x : F) (a b : Nat) : fpow x (a + b) = fpow x a * fpow x b := by
  induction a with
  | zero => rw [Nat.zero_add, fpow_zero, one_mul]
  | succ a ih => rw [Nat.succ_add, fpow_succ, fpow_succ, ih, mul_assoc]

theorem fpow_succ' (x : F) (a : Nat) : fpow x (a + 1) = fpow x a * x := by
  rw [fpow_succ, mul_comm]

theorem fpow_eq_pow (x : F) (n : Nat) : fpow x n = x ^ n := by
  induction n with
  | zero => exact (pow_zero x).symm
  | succ n ih => rw [fpow_succ, ih, pow_succ']

theorem powers_append (β : F) (k : Nat) : ∀ (m : Nat) (g : F),
    powers g β (m + k) = powers g β m ++ powers (fpow β m * g) β k
  | 0, g => by rw [Nat.zero_add, fpow_zero, one_mul]; rfl
  | m + 1, g => by
    rw [Nat.add_right_comm, powers, powers, powers_append β k m, List.cons_append, fpow_succ', mul_assoc]

theorem powers_map_mul (β c : F) : ∀ (n : Nat) (g : F), (powers g β n).map (· * c) = powers (g * c) β n
  | 0, _ => rfl
  | n + 1, g => by rw [powers, powers, List.map_cons, powers_map_mul β c n, mul_assoc]

theorem pshift_succ (k : Nat) (p : List F) : pshift (k + 1) p = 0 :: pshift k p := rfl

theorem evalPoly_append (p q : List F) (x : F) :
    evalPoly (p ++ q) x = evalPoly p x + fpow x p.length * evalPoly q x := by
  induction p with
  | nil => rw [List.nil_append, evalPoly_nil, zero_add, List.length_nil, fpow_zero, one_mul]
  | cons c p ih =>
    rw [List.cons_append, evalPoly_cons, evalPoly_cons, ih, List.length_cons, fpow_succ, mul_add,
      add_assoc, mul_assoc]

theorem evalPoly_replicate_zero (k : Nat) (x : F) : evalPoly (List.replicate k (0 : F)) x = 0 := by
  induction k with
  | zero => rfl
  | succ k ih => rw [List.replicate_succ, evalPoly_cons, ih, mul_zero, zero_add]

theorem eval_pshift (k : Nat) (p : List F) (x : F) :
    evalPoly (pshift k p) x = fpow x k * evalPoly p x := by
  rw [pshift, evalPoly_append, evalPoly_replicate_zero, zero_add, List.length_replicate]

theorem evalPoly_append_zeros (p : List F) (n : Nat) (x : F) :
    evalPoly (p ++ List.replicate n 0) x = evalPoly p x := by
  rw [evalPoly_append, evalPoly_replicate_zero, mul_zero, add_zero]

/-- the key window from `k` on commits to `X^k · p` -/
theorem dot_drop_pshift (G p : List F) (k : Nat) : dot (G.drop k) p = dot G (pshift k p) := by
  induction k generalizing G with
  | zero => rfl
  | succ k ih =>
    cases G with
    | nil => rw [List.drop_nil, dot_nil_left, dot_nil_left]
    | cons g G => rw [List.drop_succ_cons, pshift_succ, dot_cons, mul_zero, zero_add, ih]

theorem pshift_len (k : Nat) (p : List F) : (pshift k p).length = k + p.length := by
  rw [pshift, List.length_append, List.length_replicate]

theorem pnorm_cons [DecidableEq F] (c : F) (cs : List F) :
    pnorm (c :: cs) = if c = 0 ∧ pnorm cs = [] then [] else c :: pnorm cs := by
  rw [pnorm]
  split
  · next h => rw [h]; exact if_congr (and_iff_left rfl).symm rfl rfl
  · next hne => rw [if_neg fun h => hne h.2]

theorem pnorm_cons_eq_nil_iff [DecidableEq F] (c : F) (cs : List F) :
    pnorm (c :: cs) = [] ↔ c = 0 ∧ pnorm cs = [] := by
  rw [pnorm_cons]
  by_cases h : c = 0 ∧ pnorm cs = []
  · rw [if_pos h]
    exact iff_of_true rfl h
  · rw [if_neg h]
    exact iff_of_false (List.cons_ne_nil _ _) h

theorem dot_pnorm [DecidableEq F] (p b : List F) : dot (pnorm p) b = dot p b := by
  induction p generalizing b with
  | nil => rfl
  | cons c cs ih =>
    cases b with
    | nil => simp
    | cons y ys =>
      rw [dot_cons, ← ih ys, pnorm_cons]
      split_ifs with h
      · rw [h.1, h.2, dot_nil_left, dot_nil_left, zero_mul, add_zero]
      · rfl

theorem dot_pnorm_right [DecidableEq F] (a p : List F) : dot a (pnorm p) = dot a p := by
  rw [dot_comm, dot_pnorm, dot_comm]

theorem dot_eq_zero_of_pnorm_nil [DecidableEq F] (a : List F) {p : List F} (h : pnorm p = []) :
    dot a p = 0 := by
  rw [← dot_pnorm_right, h, dot_nil_right]

/-- truncating the key to the degree loses nothing: the coefficients above the degree are zero -/
theorem dot_take_of_pnorm_le [DecidableEq F] (G p : List F) (m : Nat)
    (h : (pnorm p).length ≤ m) : dot (G.take m) p = dot G p := by
  rw [← dot_pnorm_right, dot_take h, dot_pnorm_right]

theorem pnorm_cons_length_le_succ_iff [DecidableEq F] (c : F) (cs : List F) (n : Nat) :
    (pnorm (c :: cs)).length ≤ n + 1 ↔ (pnorm cs).length ≤ n := by
  rw [pnorm_cons]
  split_ifs with h
  · rw [h.2]
    exact iff_of_true (Nat.zero_le _) (Nat.zero_le _)
  · exact Nat.succ_le_succ_iff

theorem pnorm_length_le [DecidableEq F] (p : List F) : (pnorm p).length ≤ p.length := by
  induction p with
  | nil => exact Nat.le_refl 0
  | cons c cs ih => exact (pnorm_cons_length_le_succ_iff c cs _).2 ih

theorem pnorm_of_last_ne_zero [DecidableEq F] {r : List F} (h : r.getLast? ≠ some 0) :
    pnorm r = r := by
  induction r with
  | nil => rfl
  | cons c cs ih =>
    cases cs with
    | nil =>
      have hc : c ≠ 0 := fun hc => h (by rw [hc]; rfl)
      simp [pnorm, hc]
    | cons d ds =>
      rw [pnorm_cons, ih (by rwa [List.getLast?_cons_cons] at h),
        if_neg fun h' => List.cons_ne_nil d ds h'.2]

/-- evaluation is the dot product with the powers of the point, so it too ignores high zeros -/
theorem eval_pnorm [DecidableEq F] (p : List F) (x : F) : evalPoly (pnorm p) x = evalPoly p x := by
  have h := dot_powers (pnorm p) 1 x p.length (pnorm_length_le p)
  rw [dot_pnorm, dot_powers p 1 x p.length le_rfl, one_mul, one_mul] at h
  exact h.symm

theorem dot_powers' [DecidableEq F] (p : List F) (g β : F) (n : Nat)
    (h : (pnorm p).length ≤ n) : dot p (powers g β n) = g * evalPoly p β := by
  rw [← dot_pnorm, dot_powers _ g β n h, eval_pnorm]

theorem pnorm_nil_cons [DecidableEq F] (c : F) (cs : List F) (h : pnorm (c :: cs) = []) :
    c = 0 ∧ pnorm cs = [] :=
  (pnorm_cons_eq_nil_iff c cs).1 h

theorem isZeroPoly_iff [DecidableEq F] (p : List F) : isZeroPoly p = true ↔ pnorm p = [] :=
  List.isEmpty_iff

theorem eval_of_pnorm_nil [DecidableEq F] (p : List F) (x : F) (h : pnorm p = []) :
    evalPoly p x = 0 := by
  rw [← eval_pnorm, h]; rfl

theorem pnorm_divLin_le [DecidableEq F] (p : List F) (z : F) :
    (pnorm (divLin p z).1).length ≤ (pnorm p).length := by
  induction p with
  | nil => exact Nat.le_refl 0
  | cons c cs ih =>
    rw [divLin_cons]
    by_cases hcs : pnorm cs = []
    · -- a zero tail has zero quotient and zero remainder
      rw [hcs] at ih
      rw [pnorm_cons, List.eq_nil_of_length_eq_zero (Nat.le_zero.1 ih), divLin_rem,
        eval_of_pnorm_nil cs z hcs, if_pos ⟨rfl, rfl⟩]
      exact Nat.zero_le _
    · rw [pnorm_cons c cs, if_neg fun h => hcs h.2, List.length_cons]
      exact (pnorm_cons_length_le_succ_iff _ _ _).2 ih

theorem divLin_of_pnorm_nil [DecidableEq F] (p : List F) (z : F) (h : pnorm p = []) :
    pnorm (divLin p z).1 = [] ∧ (divLin p z).2 = 0 := by
  have hle := pnorm_divLin_le p z
  rw [h] at hle
  exact ⟨List.eq_nil_of_length_eq_zero (Nat.le_zero.1 hle), by rw [divLin_rem, eval_of_pnorm_nil p z h]⟩

theorem dot_skipLowZeros [DecidableEq F] (p b : List F) :
    dot (b.drop (skipLowZeros p).1) (skipLowZeros p).2 = dot b p := by
  induction p generalizing b with
  | nil => simp [skipLowZeros]
  | cons c cs ih =>
    simp only [skipLowZeros]
    split
    · rename_i hc
      cases b with
      | nil => simp
      | cons y ys =>
        have := ih ys
        simp only [List.drop_succ_cons, dot_cons, hc, mul_zero, zero_add]
        simpa using this
    · simp

end PCV
