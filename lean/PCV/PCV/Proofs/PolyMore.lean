/-
  PCV.Proofs.PolyMore — further list-algebra lemmas (windows of power lists, coefficient access, normalised lengths).
-/
import PCV.Proofs.Poly
set_option linter.unusedSectionVars false

namespace PCV
variable {F : Type} [Field F] [DecidableEq F]

theorem powers_drop (g β : F) (n k : Nat) :
    (powers g β n).drop k = powers (g * fpow β k) β (n - k) := by
  induction k generalizing g n with
  | zero => rw [List.drop_zero, fpow_zero, mul_one, Nat.sub_zero]
  | succ k ih =>
    cases n with
    | zero => rw [Nat.zero_sub]; rfl
    | succ n =>
      rw [powers, List.drop_succ_cons, Nat.succ_sub_succ, ih, fpow_succ, mul_assoc β g,
        mul_left_comm g β]

theorem powers_take (g β : F) (n k : Nat) :
    (powers g β n).take k = powers g β (min k n) := by
  induction k generalizing g n with
  | zero => rw [List.take_zero, Nat.zero_min]; rfl
  | succ k ih =>
    cases n with
    | zero => rfl
    | succ n => rw [powers, List.take_succ_cons, Nat.succ_min_succ, ih, powers]

theorem powers_head (g β : F) (n : Nat) (h : 0 < n) : (powers g β n).headD 0 = g := by
  cases n with
  | zero => exact absurd h (Nat.lt_irrefl 0)
  | succ n => rfl

/-- entry `k` is the head of the window starting at `k` -/
theorem powers_getD (g β : F) (n k : Nat) (h : k < n) :
    getD' (powers g β n) k 0 = g * fpow β k := by
  rw [getD', ← List.head?_drop, powers_drop, ← List.headD_eq_head?_getD]
  exact powers_head _ β _ (Nat.sub_pos_of_lt h)

theorem pnorm_eq_nil_iff (p : List F) : pnorm p = [] ↔ ∀ c ∈ p, c = 0 := by
  induction p with
  | nil => simp [pnorm]
  | cons c cs ih => rw [pnorm_cons_eq_nil_iff, ih, List.forall_mem_cons]

def coeff (p : List F) (i : Nat) : F := (p[i]?).getD 0

@[simp] theorem coeff_nil (i : Nat) : coeff ([] : List F) i = 0 := rfl
@[simp] theorem coeff_cons_zero (c : F) (cs : List F) : coeff (c :: cs) 0 = c := rfl
@[simp] theorem coeff_cons_succ (c : F) (cs : List F) (i : Nat) :
    coeff (c :: cs) (i + 1) = coeff cs i := rfl

theorem pnorm_len_le_iff (p : List F) (n : Nat) :
    (pnorm p).length ≤ n ↔ ∀ i, n ≤ i → coeff p i = 0 := by
  induction p generalizing n with
  | nil => simp [pnorm]
  | cons c cs ih =>
    cases n with
    | zero =>
      rw [Nat.le_zero, List.length_eq_zero_iff, pnorm_cons_eq_nil_iff, ← List.length_eq_zero_iff,
        ← Nat.le_zero, ih 0]
      constructor
      · rintro ⟨hc, h⟩ i _
        cases i with
        | zero => exact hc
        | succ i => exact h i (Nat.zero_le i)
      · intro h
        exact ⟨h 0 (Nat.le_refl 0), fun i _ => h (i + 1) (Nat.zero_le _)⟩
    | succ n =>
      rw [pnorm_cons_length_le_succ_iff, ih n]
      constructor
      · intro h i hi
        cases i with
        | zero => exact absurd hi (Nat.not_succ_le_zero n)
        | succ i => exact h i (Nat.le_of_succ_le_succ hi)
      · intro h i hi
        exact h (i + 1) (Nat.succ_le_succ hi)

theorem padd_coeff (p q : List F) (i : Nat) :
    coeff (padd p q) i = coeff p i + coeff q i := by
  fun_induction padd p q generalizing i with
  | case1 q => rw [coeff_nil, zero_add]
  | case2 p _ => rw [coeff_nil, add_zero]
  | case3 a p b q ih =>
    cases i with
    | zero => rfl
    | succ i => exact ih i

theorem pscale_coeff (c : F) (p : List F) (i : Nat) :
    coeff (pscale c p) i = c * coeff p i := by
  induction p generalizing i with
  | nil => exact (mul_zero c).symm
  | cons a p ih =>
    cases i with
    | zero => rfl
    | succ i => exact ih i

theorem psub_coeff (p q : List F) (i : Nat) : coeff (psub p q) i = coeff p i - coeff q i := by
  rw [psub, padd_coeff, pscale_coeff, neg_one_mul, sub_eq_add_neg]

theorem coeff_pshift (k : Nat) (p : List F) (i : Nat) : coeff (pshift k p) (i + k) = coeff p i := by
  induction k generalizing i with
  | zero => rfl
  | succ k ih => exact ih i

theorem coeff_beyond (s : List F) (i : Nat) (h : s.length ≤ i) : coeff s i = 0 := by
  rw [coeff, List.getElem?_eq_none h]
  rfl

theorem pnorm_padd_le (p q : List F) (n : Nat) (hp : (pnorm p).length ≤ n)
    (hq : (pnorm q).length ≤ n) : (pnorm (padd p q)).length ≤ n := by
  rw [pnorm_len_le_iff] at hp hq ⊢
  intro i hi
  rw [padd_coeff, hp i hi, hq i hi, add_zero]

theorem pnorm_pscale_le (c : F) (p : List F) (n : Nat) (hp : (pnorm p).length ≤ n) :
    (pnorm (pscale c p)).length ≤ n := by
  rw [pnorm_len_le_iff] at hp ⊢
  intro i hi
  rw [pscale_coeff, hp i hi, mul_zero]

theorem pnorm_nil_le (n : Nat) : (pnorm ([] : List F)).length ≤ n := Nat.zero_le n

theorem dot_powers_shift (p : List F) (g β : F) (k n : Nat) (h : (pnorm p).length ≤ n) :
    dot p (powers (g * fpow β k) β n) = g * fpow β k * evalPoly p β :=
  dot_powers' p (g * fpow β k) β n h

end PCV
