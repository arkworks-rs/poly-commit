/-
  PCV.Proofs.QuerySet — sorted association lists (`BTreeMap`), the orders of their keys
  (`Ord for String`, `Ord for (String, T)`) and the loop of `evaluate_query_set`; then `BTreeSet`
  lists (`setInsert`, `setOfList`) and the maps whose key lists they are: the key list of a map is the
  set of the keys put in, for `QS.insert`/`fromList` (`keys_insert`, `keys_fromList`) and for
  `query_to_labels_map` (`keys_groupQueries`), so what is sorted, distinct, counted or a member there
  is read off the set.  `Marlin.insertLabel` is `setInsert` (`insertLabel_eq`).
-/
import PCV.Model.TraitDefault
import Mathlib.Data.List.Basic

namespace PCV
namespace QS

section Map
variable {K V : Type} [DecidableEq K]

def keys (m : List (K × V)) : List K := m.map Prod.fst

theorem lookup_insert (lt : K → K → Bool) (k k' : K) (v : V) (m : List (K × V)) :
    lookup k (insert lt k' v m) = if k = k' then some v else lookup k m := by
  induction m with
  | nil => rfl
  | cons kv rest ih =>
    rw [insert]
    by_cases h : k' = kv.1
    · rw [if_pos h, lookup, lookup, ← h]
      by_cases hk : k = k'
      · rw [if_pos hk, if_pos hk]
      · rw [if_neg hk, if_neg hk, if_neg hk]
    · rw [if_neg h]
      by_cases hl : lt k' kv.1 = true
      · rw [if_pos hl]; rfl
      · rw [if_neg hl, lookup, ih, lookup]
        by_cases h1 : k = kv.1
        · rw [if_pos h1, if_neg fun e : k = k' => h (e ▸ h1), if_pos h1]
        · rw [if_neg h1, if_neg h1]

theorem mem_keys_iff_lookup (k : K) (m : List (K × V)) :
    k ∈ keys m ↔ (lookup k m).isSome = true := by
  induction m with
  | nil => exact ⟨fun h => (nomatch h), fun h => Bool.noConfusion h⟩
  | cons kv rest ih =>
    rw [keys, List.map_cons, List.mem_cons, lookup]
    split
    · rename_i h; exact ⟨fun _ => rfl, fun _ => Or.inl h⟩
    · rename_i h; exact (or_iff_right h).trans ih

theorem lookup_fromList (lt : K → K → Bool) (k : K) (l acc : List (K × V)) :
    lookup k (fromList lt l acc) = (lastWith k l).or (lookup k acc) := by
  induction l generalizing acc with
  | nil => rfl
  | cons kv rest ih =>
    rw [fromList, ih, lookup_insert, lastWith]
    cases lastWith k rest with
    | some v => rfl
    | none => split <;> rfl

/-- **`BTreeMap::from_iter`, then `get`**: the last entry with that key. -/
theorem lookup_fromList_nil (lt : K → K → Bool) (k : K) (l : List (K × V)) :
    lookup k (fromList lt l []) = lastWith k l :=
  (lookup_fromList lt k l []).trans Option.or_none

theorem lookup_eq_none (k : K) (m : List (K × V)) (h : k ∉ keys m) : lookup k m = none :=
  Option.not_isSome_iff_eq_none.1 (mt (mem_keys_iff_lookup k m).2 h)

theorem lastWith_eq_lookup {k : K} {m : List (K × V)} (hnd : (keys m).Nodup) :
    lastWith k m = lookup k m := by
  induction m with
  | nil => rfl
  | cons kv rest ih =>
    rw [keys, List.map_cons, List.nodup_cons] at hnd
    rw [lastWith, lookup, ih hnd.2]
    by_cases h : k = kv.1
    · rw [lookup_eq_none k rest (h ▸ hnd.1), if_pos h]
    · simp only [if_neg h]
      cases lookup k rest <;> rfl

/-- what a strict total order has to satisfy for the list to stay sorted -/
structure StrictTotal (lt : K → K → Bool) : Prop where
  trans : ∀ a b c, lt a b = true → lt b c = true → lt a c = true
  total : ∀ a b, a ≠ b → lt a b = false → lt b a = true

def Sorted (lt : K → K → Bool) (m : List (K × V)) : Prop :=
  List.Pairwise (fun a b => lt a.1 b.1 = true) m

theorem mem_insert {lt : K → K → Bool} {k : K} {v : V} {m : List (K × V)} {x : K × V}
    (hx : x ∈ insert lt k v m) : x = (k, v) ∨ x ∈ m := by
  induction m with
  | nil => exact Or.inl (List.mem_singleton.1 hx)
  | cons kv rest ih =>
    rw [insert] at hx
    by_cases hk : k = kv.1
    · rw [if_pos hk] at hx
      exact (List.mem_cons.1 hx).imp_right (List.mem_cons_of_mem kv)
    · rw [if_neg hk] at hx
      by_cases hl : lt k kv.1 = true
      · rw [if_pos hl] at hx; exact List.mem_cons.1 hx
      · rw [if_neg hl] at hx
        rcases List.mem_cons.1 hx with h | h
        · exact Or.inr (h ▸ List.mem_cons_self)
        · exact (ih h).imp_right (List.mem_cons_of_mem kv)

theorem mem_fromList {lt : K → K → Bool} {l acc : List (K × V)} {x : K × V}
    (h : x ∈ fromList lt l acc) : x ∈ l ∨ x ∈ acc := by
  induction l generalizing acc with
  | nil => exact Or.inr h
  | cons kv rest ih =>
    rcases ih h with h' | h'
    · exact Or.inl (List.mem_cons_of_mem _ h')
    · exact (mem_insert h').imp_left fun e : x = kv => e ▸ List.mem_cons_self

end Map

theorem ltLabel_iff : ∀ a b : Label, ltLabel a b = true ↔ a < b
  | [], [] => ⟨fun h => (nomatch h), fun h => absurd h (List.lt_irrefl _)⟩
  | [], y :: bs => ⟨fun _ => List.nil_lt_cons y bs, fun _ => rfl⟩
  | _ :: _, [] => ⟨fun h => (nomatch h), fun h => absurd h (List.not_lt_nil _)⟩
  | x :: as, y :: bs => by
    rw [List.cons_lt_cons_iff, ← ltLabel_iff as bs, ltLabel]
    by_cases h : x < y
    · rw [if_pos h]; exact ⟨fun _ => Or.inl h, fun _ => rfl⟩
    · rw [if_neg h]
      by_cases h' : y < x
      · rw [if_pos h']
        exact ⟨fun e => (nomatch e), fun e => e.elim (absurd · h) fun e => absurd (e.1 ▸ h') (Nat.lt_irrefl _)⟩
      · rw [if_neg h']
        exact ⟨fun e => Or.inr ⟨Nat.le_antisymm (Nat.le_of_not_lt h') (Nat.le_of_not_lt h), e⟩,
          fun e => e.elim (absurd · h) (·.2)⟩

theorem ltLabel_irrefl (a : Label) : ltLabel a a = false :=
  Bool.eq_false_iff.2 fun h => List.lt_irrefl a ((ltLabel_iff a a).1 h)

theorem ltLabel_trans (a b c : Label) (h1 : ltLabel a b = true) (h2 : ltLabel b c = true) :
    ltLabel a c = true :=
  (ltLabel_iff a c).2 (List.lt_trans ((ltLabel_iff a b).1 h1) ((ltLabel_iff b c).1 h2))

theorem ltLabel_total (a b : Label) (hne : a ≠ b) (h : ltLabel a b = false) : ltLabel b a = true :=
  (ltLabel_iff b a).2 (Std.lt_of_le_of_ne
    (List.not_lt.1 (mt (ltLabel_iff a b).2 (Bool.eq_false_iff.1 h))) hne.symm)

theorem strictTotal_ltLabel : StrictTotal ltLabel := ⟨ltLabel_trans, ltLabel_total⟩

section Key
variable {Pt : Type}

theorem ltKey_irrefl (ltP : Pt → Pt → Bool) (h : ∀ a, ltP a a = false) (a : Label × Pt) :
    ltKey ltP a a = false := by
  rw [ltKey, ltLabel_irrefl, h, Bool.and_false, Bool.or_false]

theorem strictTotal_ltKey (ltP : Pt → Pt → Bool) (h : StrictTotal ltP) : StrictTotal (ltKey ltP) := by
  constructor
  · intro a b c h1 h2
    simp only [ltKey, Bool.or_eq_true, Bool.and_eq_true, decide_eq_true_eq] at h1 h2 ⊢
    rcases h1 with h1 | ⟨e1, h1⟩
    · rcases h2 with h2 | ⟨e2, h2⟩
      · exact Or.inl (ltLabel_trans _ _ _ h1 h2)
      · exact Or.inl (e2 ▸ h1)
    · rcases h2 with h2 | ⟨e2, h2⟩
      · exact Or.inl (e1 ▸ h2)
      · exact Or.inr ⟨e1.trans e2, h.trans _ _ _ h1 h2⟩
  · intro a b hne hf
    simp only [ltKey, Bool.or_eq_false_iff, Bool.and_eq_false_iff, decide_eq_false_iff_not] at hf
    simp only [ltKey, Bool.or_eq_true, Bool.and_eq_true, decide_eq_true_eq]
    obtain ⟨hf1, hf2⟩ := hf
    by_cases e : a.1 = b.1
    · rcases hf2 with hf2 | hf2
      · exact absurd e hf2
      · exact Or.inr ⟨e.symm, h.total _ _ (fun h2 => hne (Prod.ext e h2)) hf2⟩
    · exact Or.inl (ltLabel_total _ _ e hf1)

end Key

variable {P Pt F : Type} [DecidableEq Pt]

theorem evalLoop_cons_ok {ltK : Label × Pt → Label × Pt → Bool} {evalP : P → Pt → F}
    {pm : List (Label × P)} {q : Label × (Label × Pt)} {qs : List (Label × (Label × Pt))}
    {acc m : List ((Label × Pt) × F)} :
    evalLoop ltK evalP pm (q :: qs) acc = .ok m ↔ ∃ p, lookup q.1 pm = some p ∧
      evalLoop ltK evalP pm qs (insert ltK (keyOf q) (evalP p q.2.2) acc) = .ok m := by
  rw [evalLoop]
  cases lookup q.1 pm with
  | none => exact ⟨fun h => (nomatch h), fun ⟨_, h, _⟩ => (nomatch h)⟩
  | some p => exact ⟨fun h => ⟨p, rfl, h⟩, fun ⟨_, h, h'⟩ => Option.some.inj h ▸ h'⟩

theorem evalLoop_spec {ltK : Label × Pt → Label × Pt → Bool} {evalP : P → Pt → F}
    {pm : List (Label × P)} {qs : List (Label × (Label × Pt))}
    {acc m : List ((Label × Pt) × F)} (h : evalLoop ltK evalP pm qs acc = .ok m) :
    (∀ q ∈ qs, ∃ p, lookup q.1 pm = some p ∧ lookup (keyOf q) m = some (evalP p q.2.2)) ∧
    (∀ k, (∀ q ∈ qs, keyOf q ≠ k) → lookup k m = lookup k acc) := by
  induction qs generalizing acc with
  | nil => cases h; exact ⟨fun _ hq => (nomatch hq), fun _ _ => rfl⟩
  | cons q qs ih =>
    obtain ⟨p, hp, h⟩ := evalLoop_cons_ok.1 h
    obtain ⟨h2, h3⟩ := ih h
    refine ⟨fun q' hq' => ?_, fun k hk => ?_⟩
    · by_cases hin : ∃ q'' ∈ qs, keyOf q'' = keyOf q'
      · -- a later query with the same key, i.e. the same label and point, overwrites
        obtain ⟨q'', hq'', hk⟩ := hin
        obtain ⟨p', hp', hv⟩ := h2 q'' hq''
        obtain ⟨hl, hpt⟩ := Prod.mk.inj (show (q''.1, q''.2.2) = (q'.1, q'.2.2) from hk)
        exact ⟨p', hl ▸ hp', by rw [← hk, hv, hpt]⟩
      · rcases List.mem_cons.1 hq' with rfl | hq'
        · refine ⟨p, hp, ?_⟩
          rw [h3 _ fun q'' hq'' hk => hin ⟨q'', hq'', hk⟩, lookup_insert, if_pos rfl]
        · exact absurd ⟨q', hq', rfl⟩ hin
    · rw [h3 k fun q' hq' => hk q' (List.mem_cons_of_mem _ hq'), lookup_insert,
        if_neg fun e => hk q List.mem_cons_self e.symm]

/-- the loop fails only by the panic on an unknown label, and exactly when there is one -/
theorem evalLoop_ok_iff (ltK : Label × Pt → Label × Pt → Bool) (evalP : P → Pt → F)
    (pm : List (Label × P)) (qs : List (Label × (Label × Pt))) (acc : List ((Label × Pt) × F)) :
    ((∃ m, evalLoop ltK evalP pm qs acc = .ok m) ↔ ∀ q ∈ qs, (lookup q.1 pm).isSome = true) ∧
    ((¬ ∃ m, evalLoop ltK evalP pm qs acc = .ok m) →
      evalLoop ltK evalP pm qs acc = .error .abort) := by
  induction qs generalizing acc with
  | nil => exact ⟨⟨fun _ _ hq => (nomatch hq), fun _ => ⟨acc, rfl⟩⟩, fun h => absurd ⟨acc, rfl⟩ h⟩
  | cons q qs ih =>
    rw [evalLoop, List.forall_mem_cons]
    cases lookup q.1 pm with
    | none => exact ⟨⟨fun ⟨_, h⟩ => (nomatch h), fun h => (nomatch h.1)⟩, fun _ => rfl⟩
    | some p => exact ⟨(ih _).1.trans ⟨fun h => ⟨rfl, h⟩, fun h => h.2⟩, (ih _).2⟩

end QS

namespace TraitDefault
open QS (StrictTotal ltLabel)

theorem mem_foldl_of_step {α β : Type} {step : List α → β → List α} {P : β → Prop} {y : α}
    (hstep : ∀ acc x, y ∈ step acc x ↔ y ∈ acc ∨ P x) (xs : List β) (acc : List α) :
    y ∈ xs.foldl step acc ↔ y ∈ acc ∨ ∃ x ∈ xs, P x := by
  induction xs generalizing acc with
  | nil => exact ⟨Or.inl, fun h => h.elim id fun ⟨_, h, _⟩ => (nomatch h)⟩
  | cons x xs ih => rw [List.foldl_cons, ih, hstep, or_assoc, List.exists_mem_cons_iff]

section Set
variable {α : Type} [DecidableEq α]

theorem mem_setInsert (lt : α → α → Bool) (x y : α) (l : List α) :
    y ∈ setInsert lt x l ↔ y = x ∨ y ∈ l := by
  induction l with
  | nil => exact List.mem_singleton.trans (or_iff_left List.not_mem_nil).symm
  | cons z zs ih =>
    rw [setInsert]
    by_cases h : x = z
    · rw [if_pos h, ← h, List.mem_cons]
      exact ⟨Or.inr, fun h => h.elim Or.inl id⟩
    · rw [if_neg h]
      by_cases hl : lt x z = true
      · rw [if_pos hl]; exact List.mem_cons
      · rw [if_neg hl, List.mem_cons, ih, List.mem_cons]; exact or_left_comm

theorem mem_foldl_setInsert (lt : α → α → Bool) (y : α) (xs acc : List α) :
    y ∈ xs.foldl (fun acc x => setInsert lt x acc) acc ↔ y ∈ acc ∨ y ∈ xs :=
  (mem_foldl_of_step (fun acc x => (mem_setInsert lt x y acc).trans or_comm) xs acc).trans
    (or_congr_right exists_eq_right')

theorem mem_setOfList (lt : α → α → Bool) (y : α) (xs : List α) :
    y ∈ setOfList lt xs ↔ y ∈ xs :=
  (mem_foldl_setInsert lt y xs []).trans (or_iff_right List.not_mem_nil)

def SortedSet (lt : α → α → Bool) (l : List α) : Prop := List.Pairwise (fun a b => lt a b = true) l

theorem sorted_setInsert {lt : α → α → Bool} (hlt : StrictTotal lt) (x : α) {l : List α}
    (hl : SortedSet lt l) : SortedSet lt (setInsert lt x l) := by
  induction l with
  | nil => exact List.pairwise_singleton _ _
  | cons z zs ih =>
    obtain ⟨hz, hzs⟩ := List.pairwise_cons.1 hl
    rw [setInsert]
    by_cases hne : x = z
    · rw [if_pos hne]; exact hl
    · rw [if_neg hne]
      by_cases hxz : lt x z = true
      · rw [if_pos hxz]
        refine List.pairwise_cons.2 ⟨fun w hw => ?_, hl⟩
        rcases List.mem_cons.1 hw with rfl | hw
        · exact hxz
        · exact hlt.trans _ _ _ hxz (hz w hw)
      · rw [if_neg hxz]
        refine List.pairwise_cons.2 ⟨fun w hw => ?_, ih hzs⟩
        rcases (mem_setInsert lt x w zs).1 hw with rfl | hw
        · exact hlt.total _ _ hne (Bool.eq_false_iff.2 hxz)
        · exact hz w hw

theorem sorted_foldl_setInsert {lt : α → α → Bool} (hlt : StrictTotal lt) (xs : List α) {acc : List α}
    (h : SortedSet lt acc) : SortedSet lt (xs.foldl (fun acc x => setInsert lt x acc) acc) := by
  induction xs generalizing acc with
  | nil => exact h
  | cons x xs ih => exact ih (sorted_setInsert hlt x h)

theorem sorted_setOfList {lt : α → α → Bool} (hlt : StrictTotal lt) (xs : List α) :
    SortedSet lt (setOfList lt xs) :=
  sorted_foldl_setInsert hlt xs List.Pairwise.nil

omit [DecidableEq α] in
theorem SortedSet.nodup {lt : α → α → Bool} (hirr : ∀ a, lt a a = false) {l : List α}
    (h : SortedSet lt l) : l.Nodup :=
  h.imp fun {a b} hab (e : a = b) => Bool.noConfusion ((hirr b).symm.trans (e ▸ hab))

omit [DecidableEq α] in
/-- both are duplicate-free, so permutations of each other, and sorted by an order in which
`a < b < a` is impossible -/
theorem sorted_unique {lt : α → α → Bool} (hlt : StrictTotal lt) (hirr : ∀ a, lt a a = false)
    {l₁ l₂ : List α} (h₁ : SortedSet lt l₁) (h₂ : SortedSet lt l₂)
    (hm : ∀ x, x ∈ l₁ ↔ x ∈ l₂) : l₁ = l₂ :=
  List.Perm.eq_of_pairwise
    (fun a b _ _ hab hba => Bool.noConfusion ((hirr a).symm.trans (hlt.trans a b a hab hba)))
    h₁ h₂ ((List.perm_ext_iff_of_nodup (h₁.nodup hirr) (h₂.nodup hirr)).2 hm)

/-- **a `BTreeSet` depends only on which elements were inserted**, not on their order or
multiplicity -/
theorem setOfList_congr {lt : α → α → Bool} (hlt : StrictTotal lt) (hirr : ∀ a, lt a a = false)
    {xs ys : List α} (h : ∀ x, x ∈ xs ↔ x ∈ ys) : setOfList lt xs = setOfList lt ys :=
  sorted_unique hlt hirr (sorted_setOfList hlt xs) (sorted_setOfList hlt ys)
    fun x => by rw [mem_setOfList, mem_setOfList, h]

theorem setOfList_of_sorted {lt : α → α → Bool} (hlt : StrictTotal lt) (hirr : ∀ a, lt a a = false)
    {l : List α} (h : SortedSet lt l) : setOfList lt l = l :=
  sorted_unique hlt hirr (sorted_setOfList hlt l) h fun x => mem_setOfList lt x l

theorem length_setInsert_le (lt : α → α → Bool) (x : α) (l : List α) :
    (setInsert lt x l).length ≤ l.length + 1 := by
  induction l with
  | nil => exact Nat.le_refl _
  | cons y l ih =>
    rw [setInsert]
    split
    · exact Nat.le_succ _
    · split
      · exact Nat.le_refl _
      · exact Nat.succ_le_succ ih

theorem length_foldl_setInsert_le (lt : α → α → Bool) (xs acc : List α) :
    (xs.foldl (fun acc x => setInsert lt x acc) acc).length ≤ acc.length + xs.length := by
  induction xs generalizing acc with
  | nil => exact Nat.le_refl _
  | cons x xs ih =>
    rw [List.foldl_cons, List.length_cons, Nat.add_comm xs.length, ← Nat.add_assoc]
    exact Nat.le_trans (ih _) (Nat.add_le_add_right (length_setInsert_le lt x acc) _)

theorem length_setOfList_le (lt : α → α → Bool) (xs : List α) :
    (setOfList lt xs).length ≤ xs.length :=
  Nat.le_trans (length_foldl_setInsert_le lt xs []) (Nat.le_of_eq (Nat.zero_add _))

omit [DecidableEq α] in
theorem _root_.PCV.QS.sorted_keys_nodup {V : Type} {lt : α → α → Bool} (hirr : ∀ a, lt a a = false)
    {m : List (α × V)} (h : QS.Sorted lt m) : (QS.keys m).Nodup :=
  SortedSet.nodup hirr (List.pairwise_map.2 h)

theorem keys_insert {V : Type} (lt : α → α → Bool) (k : α) (v : V) (m : List (α × V)) :
    QS.keys (QS.insert lt k v m) = setInsert lt k (QS.keys m) := by
  induction m with
  | nil => rfl
  | cons kv rest ih =>
    show QS.keys (QS.insert lt k v (kv :: rest)) = setInsert lt k (kv.1 :: QS.keys rest)
    rw [QS.insert, setInsert]
    by_cases h : k = kv.1
    · rw [if_pos h, if_pos h]; exact congrArg (· :: QS.keys rest) h
    · rw [if_neg h, if_neg h]
      by_cases hl : lt k kv.1 = true
      · rw [if_pos hl, if_pos hl]; rfl
      · rw [if_neg hl, if_neg hl]; exact congrArg (kv.1 :: ·) ih

theorem _root_.PCV.QS.sorted_insert {V : Type} {lt : α → α → Bool} (hlt : StrictTotal lt) (k : α)
    (v : V) {m : List (α × V)} (hm : QS.Sorted lt m) : QS.Sorted lt (QS.insert lt k v m) := by
  have h : SortedSet lt (QS.keys m) := List.pairwise_map.2 hm
  have h := sorted_setInsert hlt k h
  rw [← keys_insert lt k v m] at h
  exact List.pairwise_map.1 h

theorem _root_.PCV.QS.sorted_fromList {V : Type} {lt : α → α → Bool} (hlt : StrictTotal lt)
    (l : List (α × V)) {acc : List (α × V)} (h : QS.Sorted lt acc) : QS.Sorted lt (QS.fromList lt l acc) := by
  induction l generalizing acc with
  | nil => exact h
  | cons kv rest ih => exact ih (QS.sorted_insert hlt _ _ h)

theorem _root_.PCV.QS.fromList_eq_foldl {V : Type} (lt : α → α → Bool) (l acc : List (α × V)) :
    QS.fromList lt l acc = l.foldl (fun acc kv => QS.insert lt kv.1 kv.2 acc) acc := by
  induction l generalizing acc with
  | nil => rfl
  | cons kv rest ih => exact ih _

/-- **the keys of a `BTreeMap` are the `BTreeSet` of the keys put in** -/
theorem _root_.PCV.QS.keys_fromList {V : Type} (lt : α → α → Bool) (l : List (α × V)) :
    QS.keys (QS.fromList lt l []) = setOfList lt (QS.keys l) := by
  rw [QS.fromList_eq_foldl, setOfList, QS.keys, QS.keys, List.foldl_map]
  exact Eq.symm (List.foldl_hom QS.keys (init := []) fun m kv => (keys_insert lt kv.1 kv.2 m).symm)

end Set

section Groups
variable {Pt : Type}

/-- the model tests `<` before `=`, `setInsert` the other way round -/
theorem _root_.PCV.Marlin.insertLabel_eq (l : Label) (ls : List Label) :
    Marlin.insertLabel l ls = setInsert ltLabel l ls := by
  induction ls with
  | nil => rfl
  | cons y ys ih =>
    rw [Marlin.insertLabel, setInsert, ih]
    by_cases h : l = y
    · rw [if_pos h, if_pos h, h, QS.ltLabel_irrefl]; rfl
    · rw [if_neg h, if_neg h]

theorem _root_.PCV.Marlin.mem_insertLabel {l l' : Label} {ls : List Label} :
    l' ∈ Marlin.insertLabel l ls ↔ l' = l ∨ l' ∈ ls :=
  Marlin.insertLabel_eq l ls ▸ mem_setInsert ltLabel l l' ls

theorem keys_groupInsert (q : Query Pt) (gs : List (Group Pt)) :
    (Marlin.groupInsert q gs).map (·.1) = setInsert ltLabel q.2.1 (gs.map (·.1)) := by
  rw [← Marlin.insertLabel_eq]
  induction gs with
  | nil => rfl
  | cons g gs ih =>
    rw [Marlin.groupInsert, List.map_cons, Marlin.insertLabel]
    by_cases h : ltLabel q.2.1 g.1 = true
    · rw [if_pos h, if_pos h]; rfl
    · rw [if_neg h, if_neg h]
      by_cases e : q.2.1 = g.1
      · rw [if_pos e, if_pos e]; rfl
      · rw [if_neg e, if_neg e]; exact congrArg (g.1 :: ·) ih

/-- **the point labels of `query_to_labels_map` are the `BTreeSet` of the point labels queried**:
their order, distinctness, number and membership are those of `setOfList` -/
theorem keys_groupQueries (qs : List (Query Pt)) :
    (Marlin.groupQueries qs).map (·.1) = setOfList ltLabel (qs.map (·.2.1)) := by
  rw [Marlin.groupQueries, setOfList, List.foldl_map]
  exact Eq.symm (List.foldl_hom (List.map (·.1)) (init := []) fun gs q => (keys_groupInsert q gs).symm)

/-- what holds of a fresh group and survives a further label holds of every group -/
theorem forall_mem_groupInsert {P : Group Pt → Prop} {q : Query Pt}
    (hnew : P (q.2.1, (q.2.2, [q.1])))
    (hupd : ∀ g, q.2.1 = g.1 → P g → P (g.1, (g.2.1, Marlin.insertLabel q.1 g.2.2)))
    {gs : List (Group Pt)} (h : ∀ g ∈ gs, P g) : ∀ g ∈ Marlin.groupInsert q gs, P g := by
  induction gs with
  | nil => exact List.forall_mem_singleton.2 hnew
  | cons g gs ih =>
    rw [List.forall_mem_cons] at h
    rw [Marlin.groupInsert]
    by_cases hlt : ltLabel q.2.1 g.1 = true
    · rw [if_pos hlt]; exact List.forall_mem_cons.2 ⟨hnew, List.forall_mem_cons.2 h⟩
    · rw [if_neg hlt]
      by_cases heq : q.2.1 = g.1
      · rw [if_pos heq]; exact List.forall_mem_cons.2 ⟨hupd g heq h.1, h.2⟩
      · rw [if_neg heq]; exact List.forall_mem_cons.2 ⟨h.1, ih h.2⟩

theorem forall_mem_groupQueries {P : Group Pt → Prop} (qs : List (Query Pt))
    (hnew : ∀ q ∈ qs, P (q.2.1, (q.2.2, [q.1])))
    (hupd : ∀ q ∈ qs, ∀ g, q.2.1 = g.1 → P g → P (g.1, (g.2.1, Marlin.insertLabel q.1 g.2.2))) :
    ∀ g ∈ Marlin.groupQueries qs, P g :=
  List.foldlRecOn (motive := fun acc => ∀ g ∈ acc, P g) qs _ (fun _ h => nomatch h)
    fun _ h q hq => forall_mem_groupInsert (hnew q hq) (hupd q hq) h

/-- **what a group is made of**: its point is the point of a query with its point label, and
every label it lists comes from a query with its point label -/
theorem _root_.PCV.Marlin.groupQueries_from (qs : List (Query Pt)) :
    ∀ gr ∈ Marlin.groupQueries qs, (∃ q ∈ qs, q.2.1 = gr.1 ∧ q.2.2 = gr.2.1) ∧
      ∀ l ∈ gr.2.2, ∃ q ∈ qs, q.1 = l ∧ q.2.1 = gr.1 :=
  forall_mem_groupQueries qs
    (fun q hq => ⟨⟨q, hq, rfl, rfl⟩, fun _ hl => ⟨q, hq, (List.mem_singleton.1 hl).symm, rfl⟩⟩)
    fun q hq _ heq hg => ⟨hg.1, fun l hl => (Marlin.mem_insertLabel.1 hl).elim
      (fun e => ⟨q, hq, e.symm, heq⟩) (hg.2 l)⟩

end Groups

end TraitDefault
end PCV
