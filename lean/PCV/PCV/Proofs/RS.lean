/-
  PCV.Proofs.RS — linear combinations of lists (`lc`); the Reed–Solomon row encoder commutes with
  them (`evalAt_lc`) and has the declared length (`rs_length`).
-/
import PCV.Model.RS
import PCV.Proofs.Poly

namespace PCV
namespace LinCode
variable {F : Type} [Field F]

@[simp] theorem lc_nil_left (a b : F) (y : List F) : lc a [] b y = [] := by simp [lc]
@[simp] theorem lc_nil_right (a b : F) (x : List F) : lc a x b [] = [] := by simp [lc]
@[simp] theorem lc_cons (a b u v : F) (x y : List F) :
    lc a (u :: x) b (v :: y) = (a * u + b * v) :: lc a x b y := by simp [lc]

theorem lc_length (a b : F) (x y : List F) : (lc a x b y).length = min x.length y.length := by
  simp [lc]

theorem lc_length_eq (a b : F) {x y : List F} (h : x.length = y.length) :
    (lc a x b y).length = x.length := by
  rw [lc_length, h, Nat.min_self]

theorem lc_append (a b : F) {x1 y1 : List F} (x2 y2 : List F) (h : x1.length = y1.length) :
    lc a (x1 ++ x2) b (y1 ++ y2) = lc a x1 b y1 ++ lc a x2 b y2 := by
  unfold lc
  rw [List.map_append, List.map_append, List.zipWith_append (by simpa using h)]

theorem lc_take (a b : F) (x y : List F) (k : Nat) :
    (lc a x b y).take k = lc a (x.take k) b (y.take k) := by
  unfold lc; rw [List.take_zipWith, List.map_take, List.map_take]

theorem lc_drop (a b : F) (x y : List F) (k : Nat) :
    (lc a x b y).drop k = lc a (x.drop k) b (y.drop k) := by
  unfold lc; rw [List.drop_zipWith, List.map_drop, List.map_drop]

theorem lc_map {α : Type} (a b : F) (l : List α) (f g : α → F) :
    l.map (fun c => a * f c + b * g c) = lc a (l.map f) b (l.map g) := by
  induction l with
  | nil => simp
  | cons c cs ih => simp [ih]

theorem lc_replicate_zero (a b : F) (k : Nat) :
    lc a (List.replicate k 0) b (List.replicate k 0) = List.replicate k (0 : F) := by
  induction k with
  | zero => simp
  | succ k ih => simp [List.replicate_succ, ih]

theorem getD'_lc (a b : F) {x y : List F} (h : x.length = y.length) (i : Nat) :
    getD' (lc a x b y) i 0 = a * getD' x i 0 + b * getD' y i 0 := by
  unfold getD' lc
  rw [List.getElem?_zipWith, List.getElem?_map, List.getElem?_map]
  by_cases hi : i < x.length
  · rw [List.getElem?_eq_getElem hi, List.getElem?_eq_getElem (h ▸ hi)]
    rfl
  · rw [List.getElem?_eq_none (Nat.le_of_not_lt hi),
      List.getElem?_eq_none (h ▸ Nat.le_of_not_lt hi)]
    exact (by rw [mul_zero, mul_zero, add_zero] : (0 : F) = a * 0 + b * 0)

theorem evalPoly_lc (a b : F) {x y : List F} (h : x.length = y.length) (z : F) :
    evalPoly (lc a x b y) z = a * evalPoly x z + b * evalPoly y z := by
  induction x generalizing y with
  | nil =>
    rw [lc_nil_left, List.length_eq_zero_iff.1 h.symm, evalPoly_nil, mul_zero, mul_zero, add_zero]
  | cons u x ih =>
    obtain ⟨v, y, rfl⟩ := List.exists_cons_of_length_eq_add_one h.symm
    rw [lc_cons, evalPoly_cons, evalPoly_cons, evalPoly_cons, ih (Nat.succ.inj h)]
    ring

theorem evalAt_length (pts msg : List F) : (evalAt pts msg).length = pts.length := by
  simp [evalAt]

theorem evalAt_lc (pts : List F) (a b : F) {x y : List F} (h : x.length = y.length) :
    evalAt pts (lc a x b y) = lc a (evalAt pts x) b (evalAt pts y) := by
  unfold evalAt
  rw [← lc_map]
  apply List.map_congr_left
  intro z _
  exact evalPoly_lc a b h z

theorem rs_length (ω : F) (len : Nat) (msg : List F) : (rsEncode ω len msg).length = len := by
  unfold rsEncode domainPts; rw [evalAt_length, powers_length]

theorem powers_getElem? (g ω : F) (len j : Nat) (h : j < len) :
    (powers g ω len)[j]? = some (ω ^ j * g) := by
  induction len generalizing g j with
  | zero => cases h
  | succ len ih =>
    cases j with
    | zero => rw [powers, List.getElem?_cons_zero, pow_zero, one_mul]
    | succ j =>
      rw [powers, List.getElem?_cons_succ, ih _ _ (Nat.lt_of_succ_lt_succ h), pow_succ, mul_assoc]

theorem domainPts_get (ω : F) (len j : Nat) (h : j < len) :
    (domainPts ω len)[j]? = some (ω ^ j) := by
  rw [domainPts, powers_getElem? 1 ω len j h, mul_one]

end LinCode
end PCV
