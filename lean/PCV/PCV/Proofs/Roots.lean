/-
  PCV.Proofs.Roots — exceptional sets are small: a coefficient list that is not identically zero as a
  function vanishes at no more than `length − 1` points.
-/
import PCV.Proofs.Poly
import Mathlib.Algebra.Polynomial.Roots

namespace PCV
namespace Roots
open Polynomial
variable {F : Type} [Field F]

/-- the Mathlib polynomial with the given little-endian coefficient list -/
noncomputable def toPoly : List F → F[X]
  | [] => 0
  | c :: cs => C c + X * toPoly cs

theorem eval_toPoly (l : List F) (x : F) : (toPoly l).eval x = evalPoly l x := by
  induction l with
  | nil => simp [toPoly]
  | cons c cs ih => simp [toPoly, ih]

theorem coeff_toPoly (l : List F) (i : Nat) : (toPoly l).coeff i = l.getD i 0 := by
  induction l generalizing i with
  | nil => exact coeff_zero i
  | cons c cs ih =>
    cases i with
    | zero => rw [toPoly, coeff_add, coeff_C_zero, coeff_X_mul_zero, add_zero]; rfl
    | succ i => rw [toPoly, coeff_add, coeff_C_succ, coeff_X_mul, zero_add, ih]; rfl

theorem degree_toPoly_lt (l : List F) : (toPoly l).degree < l.length :=
  (degree_lt_iff_coeff_zero _ _).2 fun i hi => by
    rw [coeff_toPoly, List.getD_eq_getElem?_getD, List.getElem?_eq_none hi]
    rfl

variable [DecidableEq F]

theorem zeros_bounded_of_toPoly_ne_zero (l : List F) (hne : toPoly l ≠ 0) :
    ∃ S : Finset F, S.card ≤ l.length - 1 ∧ ∀ β, evalPoly l β = 0 → β ∈ S := by
  classical
  refine ⟨(toPoly l).roots.toFinset, ?_, fun β hβ => ?_⟩
  · have h1 := (Multiset.toFinset_card_le _).trans (card_roots' (toPoly l))
    have h2 := (natDegree_lt_iff_degree_lt hne).2 (degree_toPoly_lt l)
    exact Nat.le_sub_one_of_lt (Nat.lt_of_le_of_lt h1 h2)
  · rw [Multiset.mem_toFinset, mem_roots hne, IsRoot, eval_toPoly]
    exact hβ

theorem zeros_bounded (l : List F) (hx : ∃ x, evalPoly l x ≠ 0) :
    ∃ S : Finset F, S.card ≤ l.length - 1 ∧ ∀ β, evalPoly l β = 0 → β ∈ S := by
  obtain ⟨x, hx⟩ := hx
  refine zeros_bounded_of_toPoly_ne_zero l fun h0 => hx ?_
  rw [← eval_toPoly, h0, eval_zero]

end Roots
end PCV
