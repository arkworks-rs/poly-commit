/-
  PCV.Proofs.RootsCoeff — the root bound from a non-zero COEFFICIENT (over a finite field a non-zero
  polynomial may vanish at every point, so "some value is non-zero" is the stronger hypothesis).
-/
import PCV.Proofs.Roots

namespace PCV
namespace Roots
open Polynomial
variable {F : Type} [Field F] [DecidableEq F]

theorem zeros_bounded_of_coeff (l : List F) (hc : ∃ i, l.getD i 0 ≠ 0) :
    ∃ S : Finset F, S.card ≤ l.length - 1 ∧ ∀ β, evalPoly l β = 0 → β ∈ S := by
  obtain ⟨i, hi⟩ := hc
  refine zeros_bounded_of_toPoly_ne_zero l fun h0 => hi ?_
  rw [← coeff_toPoly, h0, coeff_zero]

end Roots
end PCV
