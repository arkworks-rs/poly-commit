/-
  PCV.Proofs.Sonic — keys and single commitments of the SonicKZG10 model: what `trim` returns
  (arbitrary parameters, then parameters made by `setup` from a trapdoor), the refusals of
  `trim` / `commit` / `open`, and the commitment of one polynomial under a trimmed key.
-/
import PCV.Model.Sonic
import PCV.Proofs.KZG10
import PCV.Proofs.PolyMore
import PCV.Proofs.SortDedup
import Mathlib.Tactic.Ring
import Mathlib.Algebra.Field.Basic

set_option linter.unusedSectionVars false

namespace PCV
namespace Sonic
open Marlin (LPoly sortDedup checkDegreesAndBounds mem_sortDedup sorted_sortDedup le_getLastD_of_sorted
  getLastD_mem)

variable {F : Type} [Field F] [DecidableEq F]

theorem fpow_mul_inv {β bi : F} (hb : β * bi = 1) (k : Nat) : fpow β k * fpow bi k = 1 := by
  induction k with
  | zero => exact mul_one 1
  | succ k ih => rw [fpow, fpow, mul_mul_mul_comm, hb, ih, mul_one]

theorem dot_shifted_powers (p : List F) (g β : F) (k n : Nat) (h : (pnorm p).length ≤ n) :
    dot p (powers (fpow β k * g) β n) = fpow β k * g * evalPoly p β :=
  dot_powers' p _ β n h

theorem powers_window (g β : F) (D d : Nat) (hd : d ≤ D) :
    (powers g β (D + 1)).drop (D - d) = powers (fpow β (D - d) * g) β (d + 1) := by
  rw [powers_drop, mul_comm, Nat.succ_sub (Nat.sub_le D d), Nat.sub_sub_self hd]

theorem find_map_key {α : Type} (f : Nat → α) (l : List Nat) (d : Nat) :
    (l.map fun x => (x, f x)).find? (·.1 = d) = if d ∈ l then some (d, f d) else none := by
  induction l with
  | nil => rfl
  | cons x xs ih =>
    rw [List.map_cons, List.find?_cons]
    by_cases hx : x = d
    · subst hx; rw [if_pos List.mem_cons_self, decide_eq_true rfl]
    · rw [decide_eq_false hx, ih]
      exact if_congr (by rw [List.mem_cons, or_iff_right (Ne.symm hx)]) rfl rfl

theorem trimShifted_of_empty {pp : UParams F} {D s shb : Nat} {bs : Option (List Nat)}
    (h : bs = none ∨ bs = some []) : trimShifted pp D s shb bs = .ok (none, none, none) := by
  rcases h with rfl | rfl <;> rfl

theorem trimShifted_inv {pp : UParams F} {D s shb : Nat} {l : List Nat} (hne : l ≠ [])
    {x : Option (List F) × Option (List (Nat × List F)) × Option (List (Nat × F))}
    (h : trimShifted pp D s shb (some l) = .ok x) :
    l.getLastD 0 ≤ s ∧
    x = (some (pp.powers.drop (D - l.getLastD 0)),
         some (l.map fun d => (d, gammaWindow pp.gammaPowers D shb d)),
         some (l.map fun d => (d, getD' pp.negPowersH (D - d) 0))) := by
  simp only [trimShifted, List.isEmpty_iff, hne, if_false] at h
  split_ifs at h with h1
  exact ⟨Nat.not_lt.1 h1, (Except.ok.inj h).symm⟩

theorem trim_inv {pp : UParams F} {s shb : Nat} {bounds : Option (List Nat)} {ck : CK F} {vk : VK F}
    (h : trim pp s shb bounds = .ok (ck, vk)) :
    ∃ g tl sp sg nh, pp.powers = g :: tl ∧ s ≤ pp.powers.length - 1 ∧
      shb + 2 ≤ pp.gammaPowers.length ∧
      trimShifted pp (pp.powers.length - 1) s shb (bounds.map sortDedup) = .ok (sp, sg, nh) ∧
      ck = ⟨pp.powers.take (s + 1), pp.gammaPowers.take (shb + 2), sp, sg, bounds.map sortDedup,
            pp.powers.length - 1⟩ ∧
      vk = ⟨g, getD' pp.gammaPowers 0 0, pp.h, pp.betaH, nh, s, pp.powers.length - 1⟩ := by
  revert h
  fun_cases trim pp s shb bounds with
  | case1 | case2 | case3 | case4 => exact fun h => nomatch h
  | case5 g tl hp D hs bs sp sg nh hsh hshb =>
    intro h; cases h
    exact ⟨g, tl, sp, sg, nh, hp, Nat.not_lt.1 hs, Nat.not_lt.1 hshb, hsh, rfl, rfl⟩

theorem trim_refuses_too_large {pp : UParams F} {s : Nat} (shb : Nat) (bounds : Option (List Nat))
    (hp : pp.powers ≠ []) (hs : s > pp.powers.length - 1) :
    trim pp s shb bounds = .error .trimTooLarge := by
  unfold trim
  split
  · rename_i h; exact absurd h hp
  · simp only [hs, if_true]

theorem trim_refuses_empty {pp : UParams F} (s shb : Nat) (bounds : Option (List Nat))
    (hp : pp.powers = []) : trim pp s shb bounds = .error .abort := by
  unfold trim; rw [hp]

theorem trim_refuses_bound {pp : UParams F} {s : Nat} (shb : Nat) {l : List Nat} {d : Nat}
    (hp : pp.powers ≠ []) (hs : s ≤ pp.powers.length - 1) (hd : d ∈ l) (hds : d > s) :
    trim pp s shb (some l) = .error .unsupportedBound := by
  have hmem : d ∈ sortDedup l := (mem_sortDedup d l).2 hd
  have hsh : trimShifted pp (pp.powers.length - 1) s shb (some (sortDedup l))
      = .error .unsupportedBound := by
    simp only [trimShifted, List.isEmpty_iff, List.ne_nil_of_mem hmem, if_false]
    rw [if_pos (Nat.lt_of_lt_of_le hds (le_getLastD_of_sorted (sorted_sortDedup l) hmem))]
  unfold trim
  split
  · rename_i h; exact absurd h hp
  · simp only [Nat.not_lt.2 hs, if_false, Option.map_some, hsh]

theorem trim_refuses_hiding {pp : UParams F} (s : Nat) {shb : Nat} (bounds : Option (List Nat))
    (hshb : shb + 2 > pp.gammaPowers.length) : ∃ e, trim pp s shb bounds = .error e := by
  fun_cases trim pp s shb bounds with
  | case1 | case2 | case3 | case4 => exact ⟨_, rfl⟩
  | case5 _ _ _ _ _ _ _ _ _ _ h => exact absurd hshb h

theorem shiftedPowersFor_table {ck : CK F} {sp : List F} {bs : List Nat} {w : Nat → List F}
    (hsp : ck.shiftedPowers = some sp) (hsg : ck.shiftedGamma = some (bs.map fun d => (d, w d)))
    (hbs : ck.bounds = some bs) (hsorted : bs.Pairwise (· < ·)) {d : Nat} (hd : d ∈ bs)
    (hlen : bs.getLastD 0 ≤ sp.length) :
    shiftedPowersFor ck d = .ok ⟨sp.drop (bs.getLastD 0 - d), w d⟩ := by
  have hle := le_getLastD_of_sorted hsorted hd
  have hcon : bs.contains d = true := List.contains_iff_mem.2 hd
  simp only [shiftedPowersFor, hsp, hsg, hbs, List.isEmpty_iff, List.ne_nil_of_mem hd, hcon,
    if_false, not_true_eq_false]
  rw [if_neg (not_or.2 ⟨Nat.not_lt.2 hle, Nat.not_lt.2 ((Nat.sub_le _ _).trans hlen)⟩),
    find_map_key, if_pos hd]

/-- **C08/C09 (windows).**  For any parameter set (not necessarily powers of a trapdoor): a polynomial
with the enforced bound `d` is committed under `powers_of_g[D-d ..]` and the truncated window
`powers_of_gamma_g[D-d .. D-d+min(shb+2, d+2)]`. -/
theorem powersFor_general {pp : UParams F} {s shb : Nat} {l : List Nat} {ck : CK F} {vk : VK F}
    (ht : trim pp s shb (some l) = .ok (ck, vk)) {d : Nat} (hd : d ∈ l) :
    powersFor ck (some d)
      = .ok ⟨pp.powers.drop (pp.powers.length - 1 - d),
             gammaWindow pp.gammaPowers (pp.powers.length - 1) shb d⟩ ∧
    vk.shiftPower d = some (getD' pp.negPowersH (pp.powers.length - 1 - d) 0) ∧ d ≤ s := by
  obtain ⟨_, _, sp, sg, nh, _, hs, _, hsh, rfl, rfl⟩ := trim_inv ht
  have hdm : d ∈ sortDedup l := (mem_sortDedup d l).2 hd
  obtain ⟨hlast, hx⟩ := trimShifted_inv (List.ne_nil_of_mem hdm) hsh
  have hlen : (sortDedup l).getLastD 0
      ≤ (pp.powers.drop (pp.powers.length - 1 - (sortDedup l).getLastD 0)).length := by
    rw [List.length_drop]; omega
  cases hx
  have hdB := le_getLastD_of_sorted (sorted_sortDedup l) hdm
  refine ⟨?_, ?_, hdB.trans hlast⟩
  · rw [powersFor, shiftedPowersFor_table rfl rfl rfl (sorted_sortDedup l) hdm hlen, List.drop_drop,
      Nat.sub_add_sub_cancel (hlast.trans hs) hdB]
  · simp only [VK.shiftPower, find_map_key, if_pos hdm, Option.map_some]

theorem shiftPower_none {pp : UParams F} {s shb : Nat} {bounds : Option (List Nat)} {ck : CK F}
    {vk : VK F} (ht : trim pp s shb bounds = .ok (ck, vk)) {d : Nat}
    (hd : ∀ l, bounds = some l → d ∉ l) : vk.shiftPower d = none := by
  obtain ⟨_, _, sp, sg, nh, _, _, _, hsh, _, rfl⟩ := trim_inv ht
  cases bounds with
  | none => cases hsh; rfl
  | some l =>
    by_cases he : sortDedup l = []
    · rw [Option.map_some, he] at hsh
      cases hsh
      rfl
    · obtain ⟨_, hx⟩ := trimShifted_inv he hsh
      cases hx
      simp only [VK.shiftPower]
      rw [find_map_key, if_neg fun hm => hd l rfl ((mem_sortDedup d l).1 hm)]
      rfl

/-- universal parameters as `KZG10::setup(D, true)` makes them from the trapdoor `β` (`bi = β⁻¹`)
and the generator scalars `g, γ, h` -/
def wfPP (g γ β bi h : F) (D : Nat) : UParams F :=
  ⟨powers g β (D + 1), powers γ β (D + 2), h, β * h, powers h bi (D + 1)⟩

/-- exponent of the shift of a degree bound: `D - d`, `0` for unbounded polynomials -/
def kOf (D : Nat) : Option Nat → Nat
  | none => 0
  | some d => D - d

theorem trim_wf_basic (g γ β bi h : F) (D s shb : Nat) (bounds : Option (List Nat))
    (ck : CK F) (vk : VK F) (ht : trim (wfPP g γ β bi h D) s shb bounds = .ok (ck, vk)) :
    s ≤ D ∧ shb ≤ D ∧ ck.powers = powers g β (s + 1) ∧ ck.gammaPowers = powers γ β (shb + 2) ∧
    ck.bounds = bounds.map sortDedup ∧ ck.maxDegree = D ∧
    vk.g = g ∧ vk.gammaG = γ ∧ vk.h = h ∧ vk.betaH = β * h ∧ vk.supported = s ∧ vk.maxDegree = D := by
  obtain ⟨g', tl, _, _, _, hp, hs, hshb, _, rfl, rfl⟩ := trim_inv ht
  have hD : (wfPP g γ β bi h D).powers.length - 1 = D := by
    simp only [wfPP, powers_length, Nat.add_sub_cancel]
  have hG : (wfPP g γ β bi h D).gammaPowers.length = D + 2 := powers_length _ _ _
  rw [hD] at hs
  rw [hG] at hshb
  have hg : g = g' := (List.cons.inj hp).1
  exact ⟨hs, Nat.le_of_add_le_add_right hshb,
    (powers_take g β _ _).trans (by rw [Nat.min_eq_left (Nat.succ_le_succ hs)]),
    (powers_take γ β _ _).trans (by rw [Nat.min_eq_left hshb]), rfl, hD, hg.symm, rfl, rfl, rfl, rfl, hD⟩

theorem trim_ok_of_length (pp : UParams F) (s shb : Nat) (bounds : Option (List Nat))
    (hp : pp.powers ≠ []) (hs : s ≤ pp.powers.length - 1)
    (hb : ∀ l, bounds = some l → ∀ d ∈ l, d ≤ s) (hshb : shb + 2 ≤ pp.gammaPowers.length)
    (hg : pp.powers.length - 1 + 2 ≤ pp.gammaPowers.length)
    (hn : pp.powers.length - 1 < pp.negPowersH.length) :
    ∃ ck vk, trim pp s shb bounds = .ok (ck, vk) := by
  generalize hD : pp.powers.length - 1 = D at hs hg hn
  have hsh : ∃ x, trimShifted pp D s shb (bounds.map sortDedup) = .ok x := by
    cases bounds with
    | none => exact ⟨_, rfl⟩
    | some l =>
      have hall : ∀ d ∈ sortDedup l, d ≤ s := fun d hd => hb l rfl d ((mem_sortDedup d l).1 hd)
      by_cases he : sortDedup l = []
      · exact ⟨_, by rw [Option.map_some, he]; rfl⟩
      · have h1 : ¬ (sortDedup l).getLastD 0 > s := Nat.not_lt.2 (hall _ (getLastD_mem he))
        have h2 : ((sortDedup l).any fun d =>
            decide (D - d + min (shb + 2) (d + 2) > pp.gammaPowers.length)) = false :=
          List.any_eq_false.2 fun d hd => by
            have := hall d hd; simp only [decide_eq_true_eq]; omega
        have h3 : ((sortDedup l).any fun d => decide (D - d ≥ pp.negPowersH.length)) = false :=
          List.any_eq_false.2 fun d hd => by simp only [decide_eq_true_eq]; omega
        simp only [Option.map_some, trimShifted, List.isEmpty_iff, he, h1, h2, h3, if_false,
          Bool.false_eq_true]
        exact ⟨_, rfl⟩
  obtain ⟨⟨sp, sg, nh⟩, hx⟩ := hsh
  unfold trim
  split
  · rename_i h; exact absurd h hp
  · simp only [hD, Nat.not_lt.2 hs, hx, Nat.not_lt.2 hshb, if_false]
    exact ⟨_, _, rfl⟩

theorem trim_ok (g γ β bi h : F) (D s shb : Nat) (bounds : Option (List Nat))
    (hs : s ≤ D) (hshb : shb ≤ D) (hb : ∀ l, bounds = some l → ∀ d ∈ l, d ≤ s) :
    ∃ ck vk, trim (wfPP g γ β bi h D) s shb bounds = .ok (ck, vk) := by
  have h1 : (wfPP g γ β bi h D).powers.length = D + 1 := powers_length _ _ _
  have h2 : (wfPP g γ β bi h D).gammaPowers.length = D + 2 := powers_length _ _ _
  have h3 : (wfPP g γ β bi h D).negPowersH.length = D + 1 := powers_length _ _ _
  exact trim_ok_of_length _ s shb bounds (List.ne_nil_of_length_pos (h1 ▸ Nat.succ_pos D))
    (h1 ▸ hs) hb (h2 ▸ Nat.add_le_add_right hshb 2) (by rw [h1, h2]; exact le_refl _)
    (by rw [h1, h3]; exact Nat.lt_succ_self D)

/-- **What ties `trim` to `commit` and `check`, one enforced bound.**  For parameters made from a
trapdoor: a polynomial with the bound `d` is committed under the power lists of `β^k·g`, `β^k·γ`
(`k = D - d`, windows of `d+1` and `min(shb+2, d+2)` entries), and the verifier key pairs this bound
with `β^{-k}·h`. -/
theorem trim_wf_bound {g γ β bi h : F} {D s shb : Nat} {l : List Nat} {ck : CK F} {vk : VK F}
    (ht : trim (wfPP g γ β bi h D) s shb (some l) = .ok (ck, vk)) {d : Nat} (hd : d ∈ l) :
    powersFor ck (some d) = .ok (KZG.wfPowers (fpow β (D - d) * g) (fpow β (D - d) * γ) β (d + 1)
      (min (shb + 2) (d + 2))) ∧
    vk.shiftOf (some d) = some (fpow bi (D - d) * h) ∧ d ≤ s ∧ s ≤ D := by
  obtain ⟨h1, h2, hds⟩ := powersFor_general ht hd
  obtain ⟨hs, _⟩ := trim_wf_basic g γ β bi h D s shb (some l) ck vk ht
  simp only [wfPP, powers_length, Nat.add_sub_cancel] at h1 h2
  have hdD : d ≤ D := hds.trans hs
  refine ⟨?_, ?_, hds, hs⟩
  · have hγ := powers_window γ β (D + 1) (d + 1) (Nat.succ_le_succ hdD)
    rw [Nat.add_sub_add_right] at hγ
    rw [h1, KZG.wfPowers, gammaWindow, powers_window g β D d hdD, hγ, powers_take,
      Nat.min_assoc, Nat.min_self]
  · rw [VK.shiftOf, h2, powers_getD h bi (D + 1) (D - d) (Nat.lt_succ_of_le (Nat.sub_le D d)),
      mul_comm]

theorem checkDB_inv {maxDegree : Nat} {bounds : Option (List Nat)} {p : List F} {b : Nat}
    (h : checkDegreesAndBounds maxDegree bounds p (some b) = .ok ()) :
    ∃ bs, bounds = some bs ∧ b ∈ bs ∧ pdeg p ≤ b ∧ b ≤ maxDegree := by
  unfold checkDegreesAndBounds at h
  simp only at h
  split at h
  · cases h
  · rename_i bs
    split_ifs at h with hc hb
    exact ⟨bs, rfl, List.contains_iff_mem.1 hc, Nat.not_lt.1 (not_or.1 hb).1,
      Nat.not_lt.1 (not_or.1 hb).2⟩

theorem powersFor_wf {g γ β bi h : F} {D s shb : Nat} {bounds : Option (List Nat)}
    {ck : CK F} {vk : VK F} (ht : trim (wfPP g γ β bi h D) s shb bounds = .ok (ck, vk))
    {poly : List F} {bound : Option Nat}
    (hc : checkDegreesAndBounds ck.maxDegree ck.bounds poly bound = .ok ()) :
    ∃ n m, n ≤ s + 1 ∧ m ≤ shb + 2 ∧
      powersFor ck bound = .ok (KZG.wfPowers (fpow β (kOf D bound) * g) (fpow β (kOf D bound) * γ) β n m) ∧
      vk.shiftOf bound = some (fpow bi (kOf D bound) * h) := by
  obtain ⟨_, _, hp, hgp, hb, _, _, _, hh, _⟩ := trim_wf_basic g γ β bi h D s shb bounds ck vk ht
  cases bound with
  | none =>
    refine ⟨s + 1, shb + 2, le_refl _, le_refl _, ?_, ?_⟩
    · simp only [powersFor, kOf, fpow, one_mul, KZG.wfPowers, hp, hgp]
    · simp only [VK.shiftOf, kOf, fpow, one_mul, hh]
  | some d =>
    obtain ⟨bs, hbs, hdbs, _, _⟩ := checkDB_inv hc
    obtain ⟨l, rfl, rfl⟩ := Option.map_eq_some_iff.1 (hb.symm.trans hbs)
    obtain ⟨h1, h2, hds, _⟩ := trim_wf_bound ht ((mem_sortDedup d l).1 hdbs)
    exact ⟨d + 1, min (shb + 2) (d + 2), Nat.succ_le_succ hds, Nat.min_le_left _ _, h1, h2⟩

theorem checkDB_unsupported (maxDegree : Nat) (bounds : Option (List Nat)) (p : List F) (d : Nat)
    (h : ∀ bs, bounds = some bs → d ∉ bs) :
    checkDegreesAndBounds maxDegree bounds p (some d) = .error .unsupportedBound := by
  unfold checkDegreesAndBounds
  cases bounds with
  | none => rfl
  | some bs =>
    have : bs.contains d = false := by simpa using h bs rfl
    simp only [this, Bool.false_eq_true, not_false_eq_true, if_true]

theorem checkDB_incorrect (maxDegree : Nat) (bs : List Nat) (p : List F) (d : Nat)
    (hd : d ∈ bs) (h : d < pdeg p ∨ d > maxDegree) :
    checkDegreesAndBounds maxDegree (some bs) p (some d) = .error .incorrectBound := by
  unfold checkDegreesAndBounds
  have : bs.contains d = true := by simpa using hd
  simp only [this, not_true_eq_false, if_false, h, if_true]

theorem commitOne_refuses_bound {ck : CK F} {p : LPoly F} (rng : Bool) (draws : List F) {d : Nat}
    (hb : p.bound = some d) {e : Err}
    (h : checkDegreesAndBounds ck.maxDegree ck.bounds p.poly (some d) = .error e) :
    commitOne ck p rng draws = .error e := by
  unfold commitOne; rw [hb, h]

theorem commitOne_refuses_degree {ck : CK F} {p : LPoly F} (rng : Bool) (draws : List F)
    (hb : p.bound = none) (hd : pdeg p.poly + 1 > ck.powers.length) :
    commitOne ck p rng draws = .error .tooManyCoefficients := by
  unfold commitOne
  simp only [hb, checkDegreesAndBounds, powersFor, KZG.checkDegreeIsTooLarge, hd, if_true]

theorem commitOne_refuses_no_rng {ck : CK F} {p : LPoly F} (draws : List F) (hb : p.bound = none)
    (hd : ¬ (pdeg p.poly + 1 > ck.powers.length)) (hh : p.hb.isSome = true) :
    commitOne ck p false draws = .error .abort := by
  unfold commitOne
  simp only [hb, checkDegreesAndBounds, powersFor, KZG.checkDegreeIsTooLarge, hd, if_false, hh,
    and_self, if_true]

theorem commit_refuses_head {ck : CK F} {p : LPoly F} (ps : List (LPoly F)) {rng : Bool}
    {draws : List F} {e : Err} (h : commitOne ck p rng draws = .error e) :
    commit ck (p :: ps) rng draws = .error e := by
  simp only [commit, h]

theorem open_refuses_bound {ck : CK F} {p : LPoly F} (ps : List (LPoly F)) (st : List F)
    (sts : List (List F)) (z ξ : F) (ξs : List F) {e : Err}
    (h : checkDegreesAndBounds ck.maxDegree ck.bounds p.poly p.bound = .error e) :
    Sonic.open ck (p :: ps) z (st :: sts) (ξ :: ξs) = .error e := by
  unfold Sonic.open
  simp only [openLoop, h]

theorem kzg_commit_msm {pw : KZG.Powers F} {p : List F} {hb : Option Nat} {rng : Bool}
    {draws : List F} {c : F} {r rest : List F}
    (h : KZG.commit pw p hb rng draws = .ok (c, r, rest)) :
    c = dot pw.g p + dot pw.gg r ∧ (hb = none → r = []) := by
  have hfit := KZG.commit_ok_fits h
  cases hb with
  | none =>
    rw [KZG.commit_none _ _ _ _ hfit] at h
    cases h
    exact ⟨by rw [KZG.msmSkip_eq, dot_nil_right, add_zero], fun _ => rfl⟩
  | some b =>
    obtain ⟨_, _, _, rfl⟩ := (KZG.commit_some_ok_iff hfit).1 h
    exact ⟨by rw [KZG.msmSkip_eq], fun hn => nomatch hn⟩

theorem commitOne_inv {ck : CK F} {p : LPoly F} {rng : Bool} {draws : List F} {x : F × List F × List F}
    (h : commitOne ck p rng draws = .ok x) :
    checkDegreesAndBounds ck.maxDegree ck.bounds p.poly p.bound = .ok () ∧
    ¬ (p.hb.isSome ∧ rng = false) ∧
    ∃ pw, powersFor ck p.bound = .ok pw ∧ KZG.commit pw p.poly p.hb true draws = .ok x := by
  revert h
  fun_cases commitOne ck p rng draws with
  | case1 | case2 | case3 | case4 => exact fun h => nomatch h
  | case5 hdb pw hpw _ hr => exact fun h => ⟨hdb, hr, pw, hpw, h⟩

/-- Under a trapdoor-made key the commitment is `β^k·(g·p(β) + γ·r(β))` with `k = D - d` (`0` without
a bound); the length bounds are the ones `open` needs. -/
theorem commitOne_spec {g γ β bi h : F} {D s shb : Nat} {bounds : Option (List Nat)}
    {ck : CK F} {vk : VK F} (ht : trim (wfPP g γ β bi h D) s shb bounds = .ok (ck, vk))
    {p : LPoly F} {rng : Bool} {draws : List F} {c : F} {r rest : List F}
    (hc : commitOne ck p rng draws = .ok (c, r, rest)) :
    c = fpow β (kOf D p.bound) * (g * evalPoly p.poly β + γ * evalPoly r β) ∧
    (pnorm p.poly).length ≤ s + 1 ∧ (pnorm r).length ≤ shb + 2 ∧
    (p.hb = none → r = []) ∧
    checkDegreesAndBounds ck.maxDegree ck.bounds p.poly p.bound = .ok () := by
  obtain ⟨hdb, _, pw, hpw, hk⟩ := commitOne_inv hc
  obtain ⟨n, m, hn, hm, hpw', _⟩ := powersFor_wf ht hdb
  cases hpw.symm.trans hpw'
  obtain ⟨h1, h2, h3, h4⟩ := KZG.commit_spec _ _ β _ _ p.poly p.hb true draws c r rest hk
  exact ⟨by rw [h1]; ring, h2.trans hn, h3.trans hm, h4, hdb⟩

theorem open_ok_inv (ck : CK F) (ps : List (LPoly F)) (z : F) (sts : List (List F)) (ξs : List F)
    (π : KZG.Proof F) (rest : List F) (h : Sonic.open ck ps z sts ξs = .ok (π, rest)) :
    ∃ P R, openLoop ck ps sts ξs ([], []) = .ok ((P, R), rest) ∧
      KZG.open ⟨ck.powers, ck.gammaPowers⟩ P z R = .ok π := by
  revert h
  fun_cases Sonic.open ck ps z sts ξs with
  | case1 | case2 => exact fun h => nomatch h
  | case3 P R rest' hloop π' hk => intro h; cases h; exact ⟨P, R, hloop, hk⟩

end Sonic
end PCV
