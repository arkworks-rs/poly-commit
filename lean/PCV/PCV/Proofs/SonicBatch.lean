/-
  PCV.Proofs.SonicBatch — `SonicKZG10::batch_check`: the batch defect is the randomizer-weighted sum
  of the per-point defects; true batches are accepted for every randomizer list; shape and lookup
  refusals.  For the trait-default `batch_open`: honest lists are related item by item, so the label
  lookups of prover and verifier find matching triples (`gather_aligned`; completeness of
  `batch_open` → `batch_check` is drawn from it in `Proofs/SonicLC.lean`).
-/
import PCV.Proofs.SonicComplete
import PCV.Proofs.Lookup

namespace PCV
namespace Sonic
open Marlin (Label LPoly Query groupQueries lookupLast lookupEval lookupLast_forall₂)

variable {F : Type} [Field F] [DecidableEq F]

/-- the challenges left after the group `it` (`[]` if the list ran out) -/
def restAfter (it : Item F) (ξs : List F) : List F := (restOf it.1 it.2.2 ξs).getD []

/-- the defects of the individual checks, each with the challenges it would see in the batch -/
def groupDefects (vk : VK F) : List (Item F) → List (KZG.Proof F) → List F → List F
  | it :: its, π :: πs, ξs =>
    defect vk it.1 it.2.1 it.2.2 π ξs :: groupDefects vk its πs (restAfter it ξs)
  | _, _, _ => []

/-- every bound label met in the batch has a G2 element -/
def groupsOk (vk : VK F) : List (Item F) → List (KZG.Proof F) → List F → Bool
  | it :: its, _ :: πs, ξs => boundsOk vk.shiftOf it.1 it.2.2 ξs && groupsOk vk its πs (restAfter it ξs)
  | _, _, _ => true

/-- the challenge list suffices for the whole batch -/
def enough : List (Item F) → List (KZG.Proof F) → List F → Bool
  | it :: its, _ :: πs, ξs => (restOf it.1 it.2.2 ξs).isSome && enough its πs (restAfter it ξs)
  | _, _, _ => true

omit [Field F] [DecidableEq F] in
theorem restAfter_eq {it : Item F} {ξs r : List F} (h : restOf it.1 it.2.2 ξs = some r) :
    restAfter it ξs = r := by
  rw [restAfter, h]; rfl

/-- the pairing product of the accumulators, with missing partners read as 0 -/
def accVal (vk : VK F) (acc : CMap F × F × F) : F :=
  elemsDefect vk (pairSumD vk.shiftOf acc.1) acc.2.1 acc.2.2

/-- **C05 core.**  Whatever the loop of `batch_check` returns, its pairing product is the
product it started from plus `Σₖ ρₖ·Δₖ` (`ρ₀ = ρ`, later randomizers from `rs`), and its map has a
G2 partner for every key iff every bound label met has one. -/
theorem batchLoop_spec {vk : VK F} {its : List (Item F)} {πs : List (KZG.Proof F)} {ρ : F}
    {rs ξs : List F} {acc acc' : CMap F × F × F} (h : batchLoop vk its πs ρ rs ξs acc = .ok acc') :
    accVal vk acc' = accVal vk acc + KZG.wsum ρ rs (groupDefects vk its πs ξs) ∧
    keysOk vk.shiftOf acc'.1 = (keysOk vk.shiftOf acc.1 && groupsOk vk its πs ξs) := by
  fun_induction batchLoop vk its πs ρ rs ξs acc with
  | case1 => cases h
  | case2 it its π πs ρ rs ξs acc acc₁ ξs' hacc ih =>
    obtain ⟨h1, h2⟩ := ih h
    rw [accumulate_eq] at hacc
    cases hr : restOf it.1 it.2.2 ξs with
    | none => rw [hr] at hacc; cases hacc
    | some r =>
      rw [hr] at hacc
      injection hacc with hacc; injection hacc with e1 e2
      subst e1; subst e2
      have hra := restAfter_eq hr
      refine ⟨?_, ?_⟩
      · rw [h1]
        simp only [groupDefects, KZG.wsum, hra]
        unfold accVal elemsDefect defect VK.shiftD
        simp only [pairSumD_accMap]
        ring
      · rw [h2]
        simp only [groupsOk, keysOk_accMap, hra, Bool.and_assoc]
  | case3 =>
    injection h with h; subst h
    simp [groupDefects, KZG.wsum, groupsOk]

theorem batchLoop_total (vk : VK F) (its : List (Item F)) (πs : List (KZG.Proof F)) (ρ : F)
    (rs ξs : List F) (acc : CMap F × F × F) :
    (enough its πs ξs = false ∧ batchLoop vk its πs ρ rs ξs acc = .error .abort) ∨
    (enough its πs ξs = true ∧ ∃ acc', batchLoop vk its πs ρ rs ξs acc = .ok acc') := by
  fun_induction enough its πs ξs generalizing ρ rs acc with
  | case1 it its π πs ξs ih =>
    simp only [batchLoop, accumulate_eq]
    cases hr : restOf it.1 it.2.2 ξs with
    | none => exact .inl ⟨rfl, rfl⟩
    | some r =>
      rw [← restAfter_eq hr, Option.isSome_some, Bool.true_and]
      exact ih _ _ _
  | case2 => exact .inr ⟨rfl, acc, by simp [batchLoop]⟩

/-- **`batch_check` decides exactly `Σₖ ρₖ·Δₖ = 0`** (on gathered statements): abort only if the
challenge list is too short, `UnsupportedDegreeBound` iff some bound label has no G2 element. -/
theorem batchCheckItems_eq (vk : VK F) (its : List (Item F)) (πs : List (KZG.Proof F))
    (ξs rs : List F) :
    batchCheckItems vk its πs ξs rs =
      if enough its πs ξs then
        if groupsOk vk its πs ξs then
          .ok (decide (KZG.wsum 1 rs (groupDefects vk its πs ξs) = 0))
        else .error .unsupportedBound
      else .error .abort := by
  unfold batchCheckItems
  rcases batchLoop_total vk its πs 1 rs ξs ([], 0, 0) with ⟨he, hab⟩ | ⟨he, acc', hacc⟩
  · rw [hab, he]; rfl
  · obtain ⟨h1, h2⟩ := batchLoop_spec hacc
    rw [hacc]
    have hk : keysOk vk.shiftOf acc'.1 = groupsOk vk its πs ξs := by rw [h2]; simp [keysOk]
    simp only [he, if_true, checkElems, pairSum_eq, hk]
    by_cases hg : groupsOk vk its πs ξs = true
    · simp only [hg, if_true]
      congr 1
      apply decide_eq_decide.2
      have : accVal vk acc' = KZG.wsum 1 rs (groupDefects vk its πs ξs) := by
        rw [h1]; simp [accVal, elemsDefect, pairSumD]
      unfold accVal at this
      rw [this]
    · simp only [hg, Bool.false_eq_true, if_false]

/-- every group's individual `check` accepts, each on the challenges it sees in the batch -/
def AllAccept (vk : VK F) : List (Item F) → List (KZG.Proof F) → List F → Prop
  | it :: its, π :: πs, ξs =>
    ∃ r, check vk it.1 it.2.1 it.2.2 π ξs = .ok (true, r) ∧ AllAccept vk its πs r
  | _, _, _ => True

theorem allAccept_facts {vk : VK F} {its : List (Item F)} {πs : List (KZG.Proof F)} {ξs : List F}
    (h : AllAccept vk its πs ξs) :
    enough its πs ξs = true ∧ groupsOk vk its πs ξs = true ∧
      ∀ d ∈ groupDefects vk its πs ξs, d = 0 := by
  fun_induction AllAccept vk its πs ξs with
  | case1 it its π πs ξs ih =>
    obtain ⟨r, hc, hrest⟩ := h
    obtain ⟨h1, h2, h3⟩ := (check_true_iff ..).1 hc
    have hra := restAfter_eq h1
    obtain ⟨i1, i2, i3⟩ := ih r hrest
    simp only [enough, groupsOk, groupDefects, hra, h1, h2, i1, i2, Option.isSome_some,
      Bool.and_self, List.mem_cons, true_and]
    intro d hd
    rcases hd with rfl | hd
    · exact h3
    · exact i3 d hd
  | case2 => simp [enough, groupsOk, groupDefects]

theorem batch_all_true (vk : VK F) (its : List (Item F)) (πs : List (KZG.Proof F)) (ξs rs : List F)
    (h : AllAccept vk its πs ξs) : batchCheckItems vk its πs ξs rs = .ok true := by
  obtain ⟨h1, h2, h3⟩ := allAccept_facts h
  rw [batchCheckItems_eq, h1, h2]
  simp only [if_true]
  congr 1
  rw [decide_eq_true_iff, KZG.wsum_zero _ _ _ h3]

section Entry
variable (vk : VK F) (comms : List (LComm F)) (qs : List (Query F))
  (evals : List ((Label × F) × F)) (πs : List (KZG.Proof F)) (ξs rs : List F)

theorem batchCheck_shape (hl : πs.length ≠ (groupQueries qs).length) :
    batchCheck vk comms qs evals πs ξs rs = .error .abort := by
  unfold batchCheck
  simp only [hl, ne_eq, not_false_eq_true, if_true]

theorem batchCheck_gathered (hl : πs.length = (groupQueries qs).length) (its : List (Item F))
    (hg : gatherGroups comms evals (groupQueries qs) = .ok its) :
    batchCheck vk comms qs evals πs ξs rs = batchCheckItems vk its πs ξs rs := by
  unfold batchCheck
  simp only [hl, ne_eq, not_true_eq_false, if_false, hg]

theorem batchCheck_refuses_gather (e : Err)
    (hg : gatherGroups comms evals (groupQueries qs) = .error e) :
    ∃ e', batchCheck vk comms qs evals πs ξs rs = .error e' := by
  unfold batchCheck
  by_cases hl : πs.length ≠ (groupQueries qs).length
  · exact ⟨.abort, by rw [if_pos hl]⟩
  · exact ⟨e, by rw [if_neg hl, hg]⟩

end Entry

/-- commitments carry the labels of their polynomials -/
def SameLabels : List (LComm F) → List (LPoly F) → Prop
  | [], [] => True
  | c :: cs, p :: ps => c.label = p.label ∧ SameLabels cs ps
  | _, _ => False

theorem commit_labels (ck : CK F) (ps : List (LPoly F)) (rng : Bool) (draws : List F)
    (cs : List (LComm F)) (rs : List (List F)) (rest : List F)
    (hc : commit ck ps rng draws = .ok (cs, rs, rest)) : SameLabels cs ps := by
  fun_induction commit ck ps rng draws generalizing cs rs rest with
  | case1 => cases hc; trivial
  | case2 | case3 => cases hc
  | case4 p ps rng draws c r draws' hone cs' rs' d hrest ih => cases hc; exact ⟨rfl, ih _ _ _ hrest⟩

section Gather
variable (ck : CK F) (vk : VK F) (g γ β h : F) (s shb : Nat)

def Matched (x : LPoly F × List F) (c : LComm F) : Prop :=
  x.1.label = c.label ∧ Good ck vk g γ β h s shb c x.1 x.2

theorem honest_matched {cs : List (LComm F)} {ps : List (LPoly F)} {rs : List (List F)}
    (hh : Honest ck vk g γ β h s shb cs ps rs) (hl : SameLabels cs ps) :
    List.Forall₂ (Matched ck vk g γ β h s shb) (ps.zip rs) cs := by
  fun_induction Honest ck vk g γ β h s shb cs ps rs with
  | case1 => exact .nil
  | case2 c cs p ps r rs ih => exact .cons ⟨hl.1.symm, hh.1⟩ (ih hh.2 hl.2)
  | case3 cs ps rs h1 h2 => exact hh.elim

/-- the verifier's lookups for one point label find the commitments of the polynomials the prover's
lookups found, and the true values -/
theorem gather_aligned (cs : List (LComm F)) (ps : List (LPoly F)) (rs : List (List F))
    (hh : Honest ck vk g γ β h s shb cs ps rs) (hl : SameLabels cs ps)
    (evals : List ((Label × F) × F)) (z : F) (ls : List Label)
    (hev : ∀ l ∈ ls, ∀ x, lookupLast (fun (x : LPoly F × List F) => x.1.label) l (ps.zip rs) = some x →
      lookupEval evals l z = some (evalPoly x.1.poly z))
    (psg : List (LPoly F)) (ssg : List (List F))
    (hg : gatherPolys ps rs ls = .ok (psg, ssg)) :
    ∃ csg, gatherComms cs evals z ls = .ok (csg, psg.map fun p => evalPoly p.poly z) ∧
      Honest ck vk g γ β h s shb csg psg ssg := by
  fun_induction gatherPolys ps rs ls generalizing psg ssg with
  | case1 => cases hg; exact ⟨[], rfl, trivial⟩
  | case2 | case3 => cases hg
  | case4 l ls p st hlook ps' ss' hrec ih =>
    cases hg
    obtain ⟨csg, hcg, hhg⟩ := ih (fun l' hl' => hev l' (List.mem_cons_of_mem _ hl')) ps' ss' hrec
    rcases lookupLast_forall₂ _ l _ (fun c : LComm F => c.label) (fun _ _ hab => hab.1)
      (honest_matched ck vk g γ β h s shb hh hl) with ⟨hn, _⟩ | ⟨x, c, hx, hc, hxc⟩
    · rw [hn] at hlook; cases hlook
    · rw [hlook] at hx; cases hx
      refine ⟨c :: csg, ?_, hxc.2, hhg⟩
      simp only [gatherComms, hc, hev l List.mem_cons_self (p, st) hlook, hcg, List.map_cons]

end Gather

end Sonic
end PCV
