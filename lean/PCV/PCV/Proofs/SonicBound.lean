/-
  PCV.Proofs.SonicBound — soundness of SonicKZG10's degree-bound enforcement against an algebraic
  committer/prover.  A bound-`d` commitment is paired with `β^{-(D−d)}·h`; if the committed polynomial
  `q` (any combination of the published powers) is NOT of the form `X^{D−d}·p` — it has a non-zero
  coefficient below `X^{D−d}` — acceptance makes the trapdoor a root of an explicit non-zero polynomial.
-/
import PCV.Proofs.Sonic
import PCV.Proofs.SonicCheck
import PCV.Proofs.KZG10Extract
import PCV.Proofs.DegreeBound

namespace PCV
namespace Sonic
variable {F : Type} [Field F] [DecidableEq F]

/-- `ξ·q − X^k·(ξ·v + a·(X − z))` -/
def boundExtract (q a : List F) (z v ξ : F) (k : Nat) : List F :=
  padd (pscale ξ q) (pscale (-1) (pshift k (padd [ξ * v] (KZG.mulLin a z))))

omit [DecidableEq F] in
theorem eval_boundExtract (q a : List F) (z v ξ : F) (k : Nat) (x : F) :
    evalPoly (boundExtract q a z v ξ k) x
      = ξ * evalPoly q x - fpow x k * (ξ * v + evalPoly a x * (x - z)) := by
  unfold boundExtract
  simp only [eval_padd, eval_pscale, eval_pshift, KZG.eval_mulLin, evalPoly_cons, evalPoly_nil,
    mul_zero, add_zero]
  ring

theorem coeff_boundExtract_low (q a : List F) (z v ξ : F) (k i : Nat) (hi : i < k) :
    coeff (boundExtract q a z v ξ k) i = ξ * coeff q i := by
  unfold boundExtract
  rw [padd_coeff, pscale_coeff, pscale_coeff]
  have : coeff (pshift k (padd [ξ * v] (KZG.mulLin a z))) i = 0 := by
    unfold pshift coeff
    rw [List.getElem?_append_left (by simpa using hi)]
    simp [hi]
  rw [this]; ring

/-- the verifier's decision on one bound-`d` commitment of an algebraic prover, at the trapdoor -/
theorem bounded_check_root {vk : VK F} {g β bi h : F} (hb : β * bi = 1) {D d : Nat}
    (hg : vk.g = g) (hh : vk.h = h) (hbh : vk.betaH = β * h)
    (hsp : vk.shiftOf (some d) = some (fpow bi (D - d) * h))
    (hg0 : g ≠ 0) (hh0 : h ≠ 0)
    {l : Marlin.Label} {q a : List F} {z v ξ : F} {ξs rest : List F}
    (hacc : check vk [⟨l, g * evalPoly q β, some d⟩] z [v] ⟨g * evalPoly a β, none⟩ (ξ :: ξs)
      = .ok (true, rest)) :
    evalPoly (boundExtract q a z v ξ (D - d)) β = 0 := by
  have hdef := defect_of_accept hacc
  rw [defect_single] at hdef
  simp only [VK.shiftD, hsp, Option.getD_some, KZG.rvVal, hg, hh, hbh, zero_mul, add_zero] at hdef
  rw [eval_boundExtract]
  have hpow := fpow_mul_inv hb (D - d)
  have : g * h * (ξ * evalPoly q β - fpow β (D - d) * (ξ * v + evalPoly a β * (β - z))) = 0 := by
    linear_combination fpow β (D - d) * hdef - (g * h * ξ * evalPoly q β) * hpow
  exact (mul_eq_zero.1 this).resolve_left (mul_ne_zero hg0 hh0)

end Sonic
end PCV
