/-
  PCV.Proofs.SonicCheck — the verifier of SonicKZG10 on its own (any key, any transcript): `check`
  decides exactly `defect = 0` (acceptance characterisation) and never aborts while the sponge
  supplies challenges.  The defect is KZG10's on the value `Σξⱼvⱼ` plus the paired commitment side
  (`defect_eq_kzg`), so in the point and the proof it moves as KZG10's does; it is affine in the
  statement: commitments, point, values, one position of either, one bound label; and from an
  accepted transcript the changed one is accepted iff the shift vanishes (`accepted_…_iff`).
-/
import PCV.Model.Sonic
import PCV.Proofs.KZG10
import Mathlib.Tactic.Ring
import Mathlib.Tactic.LinearCombination

set_option linter.unusedSectionVars false

namespace PCV
namespace Sonic
open Marlin (Label LPoly Query)

variable {F : Type} [Field F] [DecidableEq F]

/-! The loops of `check` (`accLoop`, and with it `linC`, `linV`, `boundsOk`, `restOf`) walk down the
commitments, the values and the challenges together and stop when one of them ends.  Lemmas about
them are proved by the matching induction; the `_stop` equations dispose of the stopping case. -/

theorem zip3_induct {α β γ : Type} {motive : List α → List β → List γ → Prop}
    (stop : ∀ as bs cs, as = [] ∨ bs = [] ∨ cs = [] → motive as bs cs)
    (cons : ∀ a as b bs c cs, motive as bs cs → motive (a :: as) (b :: bs) (c :: cs)) :
    ∀ as bs cs, motive as bs cs
  | [], _, _ => stop _ _ _ (.inl rfl)
  | _ :: _, [], _ => stop _ _ _ (.inr (.inl rfl))
  | _ :: _, _ :: _, [] => stop _ _ _ (.inr (.inr rfl))
  | a :: as, b :: bs, c :: cs => cons a as b bs c cs (zip3_induct stop cons as bs cs)

section Stop
variable {σ : Option Nat → F} {τ : Option Nat → Option F} {cs : List (LComm F)} {vs ξs : List F}
  (h : cs = [] ∨ vs = [] ∨ ξs = [])
include h

theorem linC_stop : linC σ cs vs ξs = 0 := by
  unfold linC
  split
  · simp at h
  · rfl

theorem linV_stop : linV cs vs ξs = 0 := by
  unfold linV
  split
  · simp at h
  · rfl

theorem boundsOk_stop : boundsOk τ cs vs ξs = true := by
  unfold boundsOk
  split
  · simp at h
  · rfl

theorem restOf_stop : restOf cs vs ξs = ξs.tail? := by
  unfold restOf
  split
  · simp at h
  · rfl
  · rfl

end Stop

attribute [local simp] linC_stop linV_stop boundsOk_stop restOf_stop

/-- every key of the map has a G2 partner -/
def keysOk (σ : Option Nat → Option F) (m : CMap F) : Bool := m.all fun e => (σ e.1).isSome

/-- `Σ_b C_b·σ(b)`, reading a missing partner as 0 -/
def pairSumD (σ : Option Nat → Option F) : CMap F → F
  | [] => 0
  | e :: es => e.2 * (σ e.1).getD 0 + pairSumD σ es

theorem pairSum_eq (σ : Option Nat → Option F) (m : CMap F) :
    pairSum σ m = if keysOk σ m then some (pairSumD σ m) else none := by
  induction m with
  | nil => rfl
  | cons e es ih =>
    simp only [pairSum, ih, keysOk, List.all_cons, pairSumD]
    rcases Option.eq_none_or_eq_some (σ e.1) with hσ | ⟨s, hσ⟩
    · simp [hσ]
    · by_cases hk : (es.all fun e => (σ e.1).isSome) = true <;> simp [hσ, hk]

theorem pairSumD_mapAdd (σ : Option Nat → Option F) (k : Option Nat) (x : F) (m : CMap F) :
    pairSumD σ (mapAdd k x m) = x * (σ k).getD 0 + pairSumD σ m := by
  induction m with
  | nil => simp only [mapAdd, pairSumD]
  | cons e es ih =>
    simp only [mapAdd]
    split
    · rename_i h; subst h; simp only [pairSumD]; ring
    · split
      · simp only [pairSumD]
      · simp only [pairSumD, ih]; ring

theorem keysOk_mapAdd (σ : Option Nat → Option F) (k : Option Nat) (x : F) (m : CMap F) :
    keysOk σ (mapAdd k x m) = ((σ k).isSome && keysOk σ m) := by
  induction m with
  | nil => rfl
  | cons e es ih =>
    simp only [mapAdd]
    split
    · rename_i h; subst h; simp only [keysOk, List.all_cons, Bool.and_self_left]
    · split
      · rfl
      · simp only [keysOk, List.all_cons] at ih ⊢
        rw [ih, Bool.and_left_comm]

section Acc
variable {σ : Option Nat → Option F} {ρ : F} {cs : List (LComm F)} {vs ξs : List F} {m : CMap F}

/-- the map `accumulate_elems` leaves behind -/
def accMap (ρ : F) : List (LComm F) → List F → List F → CMap F → CMap F
  | c :: cs, _ :: vs, ξ :: ξs, m => accMap ρ cs vs ξs (mapAdd c.bound (ρ * (ξ * c.comm)) m)
  | _, _, _, m => m

theorem accMap_stop (h : cs = [] ∨ vs = [] ∨ ξs = []) : accMap ρ cs vs ξs m = m := by
  rcases h with rfl | rfl | rfl
  · rfl
  · cases cs <;> rfl
  · cases cs <;> cases vs <;> rfl

theorem accLoop_eq (V : F) :
    accLoop ρ cs vs ξs m V =
      match restOf cs vs ξs with
      | none => .error .abort
      | some r => .ok ((accMap ρ cs vs ξs m, V + linV cs vs ξs), r) := by
  induction cs, vs, ξs using zip3_induct generalizing m V with
  | stop cs vs ξs h =>
    rw [accMap_stop h, restOf_stop h, linV_stop h, add_zero]
    unfold accLoop
    split
    · simp at h
    · rfl
    · rfl
  | cons c cs v vs ξ ξs ih =>
    simp only [accLoop, restOf, accMap, linV, ih]
    cases restOf cs vs ξs with
    | none => rfl
    | some r => simp only [mul_comm ξ v, add_assoc]

theorem pairSumD_accMap :
    pairSumD σ (accMap ρ cs vs ξs m)
      = pairSumD σ m + ρ * linC (fun b => (σ b).getD 0) cs vs ξs := by
  induction cs, vs, ξs using zip3_induct generalizing m with
  | stop cs vs ξs h => rw [accMap_stop h, linC_stop h, mul_zero, add_zero]
  | cons c cs v vs ξ ξs ih => simp only [accMap, linC, ih, pairSumD_mapAdd]; ring

theorem keysOk_accMap :
    keysOk σ (accMap ρ cs vs ξs m) = (keysOk σ m && boundsOk σ cs vs ξs) := by
  induction cs, vs, ξs using zip3_induct generalizing m with
  | stop cs vs ξs h => rw [accMap_stop h, boundsOk_stop h, Bool.and_true]
  | cons c cs v vs ξ ξs ih =>
    simp only [accMap, boundsOk, ih, keysOk_mapAdd, Bool.and_left_comm, Bool.and_assoc]

end Acc

section Check
variable (vk : VK F) (cs : List (LComm F)) (z : F) (vs : List F) (π : KZG.Proof F) (ξs : List F)

theorem accumulate_eq (ρ : F) (acc : CMap F × F × F) :
    accumulate vk cs z vs π ξs ρ acc =
      match restOf cs vs ξs with
      | none => .error .abort
      | some r => .ok ((accMap ρ cs vs ξs acc.1, acc.2.1 + ρ * π.w,
          acc.2.2 + ρ * (vk.g * (0 + linV cs vs ξs) - π.w * z + KZG.rvVal π.rv * vk.gammaG)), r) := by
  unfold accumulate
  rw [accLoop_eq]
  cases restOf cs vs ξs <;> rfl

/-- **`check` decides exactly `defect = 0`.**  For every verifier key and every transcript:
the model aborts only if the challenge list is too short, refuses with `UnsupportedDegreeBound`
iff a bound label has no G2 element in the key, and otherwise answers `defect = 0`. -/
theorem check_eq :
    check vk cs z vs π ξs =
      match restOf cs vs ξs with
      | none => .error .abort
      | some r =>
        if boundsOk vk.shiftOf cs vs ξs then .ok (decide (defect vk cs z vs π ξs = 0), r)
        else .error .unsupportedBound := by
  unfold check
  rw [accumulate_eq]
  cases restOf cs vs ξs with
  | none => rfl
  | some r =>
    simp only [checkElems, pairSum_eq, keysOk_accMap, pairSumD_accMap]
    simp only [keysOk, List.all_nil, Bool.true_and, pairSumD]
    cases boundsOk vk.shiftOf cs vs ξs with
    | false => rfl
    | true =>
      -- with `ρ = 1` and zero starting accumulators the pairing product is the defect, term by term
      simp only [if_true, zero_add, one_mul]
      rfl

theorem check_true_iff (rest : List F) :
    check vk cs z vs π ξs = .ok (true, rest) ↔
      restOf cs vs ξs = some rest ∧ boundsOk vk.shiftOf cs vs ξs = true ∧
        defect vk cs z vs π ξs = 0 := by
  rw [check_eq]
  cases restOf cs vs ξs with
  | none => simp
  | some r =>
    cases boundsOk vk.shiftOf cs vs ξs with
    | false => simp
    | true =>
      simp only [if_true, Except.ok.injEq, Prod.mk.injEq, decide_eq_true_eq, Option.some.injEq,
        true_and]
      exact and_comm

variable {vk cs z vs π ξs} in
theorem defect_of_accept {rest : List F} (h : check vk cs z vs π ξs = .ok (true, rest)) :
    defect vk cs z vs π ξs = 0 :=
  ((check_true_iff ..).1 h).2.2

theorem check_unsupported (hr : (restOf cs vs ξs).isSome = true) (hb : boundsOk vk.shiftOf cs vs ξs = false) :
    check vk cs z vs π ξs = .error .unsupportedBound := by
  obtain ⟨r, hr⟩ := Option.isSome_iff_exists.1 hr
  simp only [check_eq, hr, hb, Bool.false_eq_true, if_false]

theorem check_total (hr : (restOf cs vs ξs).isSome = true) :
    (∃ b r, check vk cs z vs π ξs = .ok (b, r)) ∨ check vk cs z vs π ξs = .error .unsupportedBound := by
  obtain ⟨r, hr⟩ := Option.isSome_iff_exists.1 hr
  rw [check_eq, hr]
  cases boundsOk vk.shiftOf cs vs ξs with
  | true => exact .inl ⟨_, r, rfl⟩
  | false => exact .inr rfl

theorem restOf_isSome (h : min cs.length vs.length < ξs.length) : (restOf cs vs ξs).isSome = true := by
  induction cs, vs, ξs using zip3_induct with
  | stop cs vs ξs h' =>
    obtain ⟨ξ, ξs, rfl⟩ : ∃ ξ t, ξs = ξ :: t := List.exists_cons_of_length_pos (Nat.zero_lt_of_lt h)
    rw [restOf_stop h']
    rfl
  | cons c cs v vs ξ ξs ih =>
    rw [List.length_cons, List.length_cons, List.length_cons, Nat.succ_min_succ] at h
    exact ih (Nat.lt_of_succ_lt_succ h)

end Check

/-- the KZG10 part of a Sonic verifier key -/
def VK.kzg (vk : VK F) : KZG.VK F := ⟨vk.g, vk.gammaG, vk.h, vk.betaH⟩

/-- **Sonic's equation is KZG10's** on the value `Σξⱼvⱼ`, with the commitment side `Σξⱼ·Cⱼ·σ(bⱼ)`
already paired (the partners `σ(b)` live in G2, so there is no single derived commitment). -/
theorem defect_eq_kzg (vk : VK F) (cs : List (LComm F)) (z : F) (vs : List F) (π : KZG.Proof F)
    (ξs : List F) :
    defect vk cs z vs π ξs = linC vk.shiftD cs vs ξs + KZG.defect vk.kzg 0 z (linV cs vs ξs) π := by
  unfold defect KZG.defect VK.kzg
  ring

/-! the slopes in the point and the proof are KZG10's -/
section Slopes
variable (vk : VK F) (cs : List (LComm F)) (z : F) (vs ξs : List F) (d w rv : F) (o : Option F)
  (π : KZG.Proof F)

theorem defect_add_point : defect vk cs (z + d) vs π ξs = defect vk cs z vs π ξs + π.w * d * vk.h := by
  rw [defect_eq_kzg, defect_eq_kzg, KZG.defect_add_point, add_assoc]
  rfl

theorem defect_add_witness : defect vk cs z vs ⟨w + d, o⟩ ξs
    = defect vk cs z vs ⟨w, o⟩ ξs + -(d * (vk.betaH - z * vk.h)) := by
  rw [defect_eq_kzg, defect_eq_kzg, KZG.defect_add_witness, add_assoc]
  rfl

theorem defect_add_rv : defect vk cs z vs ⟨w, some (rv + d)⟩ ξs
    = defect vk cs z vs ⟨w, some rv⟩ ξs + -(d * vk.gammaG) * vk.h := by
  rw [defect_eq_kzg, defect_eq_kzg, KZG.defect_add_rv, add_assoc]
  rfl

end Slopes

theorem witness_unique {vk : VK F} {cs : List (LComm F)} {z w₁ w₂ : F} {vs ξs : List F} {rv : Option F}
    (hne : vk.betaH - z * vk.h ≠ 0)
    (h : defect vk cs z vs ⟨w₁, rv⟩ ξs = defect vk cs z vs ⟨w₂, rv⟩ ξs) : w₁ = w₂ := by
  rw [defect_eq_kzg, defect_eq_kzg] at h
  exact KZG.witness_unique (vk := vk.kzg) hne (add_left_cancel h)

section Moved
variable {vk : VK F} {cs cs' : List (LComm F)} {z z' s : F} {vs vs' ξs rest : List F}
  {π π' : KZG.Proof F} (hacc : check vk cs z vs π ξs = .ok (true, rest))
  (he : defect vk cs' z' vs' π' ξs = defect vk cs z vs π ξs + s)
include hacc he

/-- an accepted transcript whose defect is moved by `s ≠ 0` is not accepted -/
theorem rejected_of_moved (hs : s ≠ 0) {r : List F} : check vk cs' z' vs' π' ξs ≠ .ok (true, r) :=
  fun hc => hs ((moved_iff (defect_of_accept hacc) he).1 (defect_of_accept hc))

/-- … and if the loops run over it as before, it is accepted iff `s = 0` -/
theorem accepted_moved_iff (hr : restOf cs' vs' ξs = restOf cs vs ξs)
    (hb : boundsOk vk.shiftOf cs' vs' ξs = boundsOk vk.shiftOf cs vs ξs) :
    check vk cs' z' vs' π' ξs = .ok (true, rest) ↔ s = 0 := by
  obtain ⟨h1, h2, h3⟩ := (check_true_iff ..).1 hacc
  rw [check_true_iff, hr, hb, moved_iff h3 he]
  exact (and_iff_right h1).trans (and_iff_right h2)

end Moved

theorem defect_single (vk : VK F) (c : LComm F) (z v : F) (π : KZG.Proof F) (ξ : F) (ξs : List F) :
    defect vk [c] z [v] π (ξ :: ξs)
      = ξ * c.comm * vk.shiftD c.bound
        - (vk.g * (ξ * v) - π.w * z + KZG.rvVal π.rv * vk.gammaG) * vk.h - π.w * vk.betaH := by
  simp only [defect, linC, linV, add_zero]

/-- one unbounded commitment: literally `KZG10::check` of `(ξ·C, z, ξ·v)` -/
theorem defect_single_unbounded (vk : VK F) (l : Label) (c z v ξ : F) (ξs : List F)
    (π : KZG.Proof F) :
    defect vk [⟨l, c, none⟩] z [v] π (ξ :: ξs) = KZG.defect vk.kzg (ξ * c) z (ξ * v) π := by
  rw [defect_eq_kzg, ← zero_add (ξ * c), KZG.defect_add_comm, add_comm]
  simp only [linC, linV, add_zero]
  rfl

def withComms (cs : List (LComm F)) (ds : List F) : List (LComm F) :=
  List.zipWith (fun c d => { c with comm := d }) cs ds
def addComms (cs : List (LComm F)) (ds : List F) : List (LComm F) :=
  List.zipWith (fun c d => { c with comm := c.comm + d }) cs ds
def addVals (vs ds : List F) : List F := List.zipWith (· + ·) vs ds

section Cons
variable (c : LComm F) (cs : List (LComm F)) (v d : F) (vs ds : List F)

theorem withComms_cons : withComms (c :: cs) (d :: ds) = { c with comm := d } :: withComms cs ds := rfl
theorem addComms_cons :
    addComms (c :: cs) (d :: ds) = { c with comm := c.comm + d } :: addComms cs ds := rfl
theorem addVals_cons : addVals (v :: vs) (d :: ds) = (v + d) :: addVals vs ds := rfl

end Cons

theorem perturb_sums (σ : Option Nat → Option F) (σ' : Option Nat → F) (cs : List (LComm F))
    (vs ξs dcs dvs : List F) (hc : dcs.length = cs.length) (hv : dvs.length = vs.length) :
    linC σ' (addComms cs dcs) (addVals vs dvs) ξs
      = linC σ' cs vs ξs + linC σ' (withComms cs dcs) vs ξs ∧
    linV (addComms cs dcs) (addVals vs dvs) ξs = linV cs vs ξs + linV cs dvs ξs ∧
    restOf (addComms cs dcs) (addVals vs dvs) ξs = restOf cs vs ξs ∧
    boundsOk σ (addComms cs dcs) (addVals vs dvs) ξs = boundsOk σ cs vs ξs := by
  induction cs, vs, ξs using zip3_induct generalizing dcs dvs with
  | stop cs vs ξs h =>
    rcases h with rfl | rfl | rfl
    · simp [addComms, withComms]
    · simp [List.eq_nil_of_length_eq_zero hv, addVals]
    · simp
  | cons c cs v vs ξ ξs ih =>
    obtain ⟨dc, dcs, rfl⟩ := List.exists_cons_of_length_eq_add_one hc
    obtain ⟨dv, dvs, rfl⟩ := List.exists_cons_of_length_eq_add_one hv
    obtain ⟨h1, h2, h3, h4⟩ := ih dcs dvs (Nat.succ.inj hc) (Nat.succ.inj hv)
    simp only [addComms_cons, withComms_cons, addVals_cons, linC, linV, restOf, boundsOk, h1, h2, h3,
      h4, and_true]
    exact ⟨by rw [mul_add, add_mul, add_add_add_comm], by rw [mul_add, add_add_add_comm]⟩

/-- **The defect is affine in the statement.**  Changing the commitments by `dcs`, the point by
`dz` and the values by `dvs` (same proof, same challenges) changes the defect by
`Σ ξⱼ·dcⱼ·σ(bⱼ) − g·h·Σ ξⱼ·dvⱼ + W·dz·h`. -/
theorem defect_perturb (vk : VK F) (cs : List (LComm F)) (z : F) (vs : List F) (π : KZG.Proof F)
    (ξs dcs dvs : List F) (dz : F) (hc : dcs.length = cs.length) (hv : dvs.length = vs.length) :
    defect vk (addComms cs dcs) (z + dz) (addVals vs dvs) π ξs
      = defect vk cs z vs π ξs
        + (linC vk.shiftD (withComms cs dcs) vs ξs - vk.g * linV cs dvs ξs * vk.h + π.w * dz * vk.h) := by
  obtain ⟨h1, h2, _⟩ := perturb_sums vk.shiftOf vk.shiftD cs vs ξs dcs dvs hc hv
  unfold defect
  rw [h1, h2]
  ring

theorem addComms_zero (cs : List (LComm F)) : addComms cs (List.replicate cs.length 0) = cs := by
  induction cs with
  | nil => rfl
  | cons c cs ih => rw [List.length_cons, List.replicate_succ, addComms_cons, ih, add_zero]

theorem addVals_zero (vs : List F) : addVals vs (List.replicate vs.length 0) = vs := by
  induction vs with
  | nil => rfl
  | cons v vs ih => rw [List.length_cons, List.replicate_succ, addVals_cons, ih, add_zero]

/-- the list `0, …, 0, δ, 0, …, 0` of length `n` with `δ` at position `j` -/
def spike : Nat → F → Nat → List F
  | _, _, 0 => []
  | 0, δ, n + 1 => δ :: List.replicate n 0
  | j + 1, δ, n + 1 => 0 :: spike j δ n

theorem spike_length (j : Nat) (δ : F) (n : Nat) : (spike j δ n).length = n := by
  induction j generalizing n with
  | zero => cases n <;> simp [spike]
  | succ j ih => cases n <;> simp [spike, ih]

theorem linV_zero (cs : List (LComm F)) (n : Nat) (ξs : List F) :
    linV cs (List.replicate n 0) ξs = 0 := by
  induction cs generalizing n ξs with
  | nil => rfl
  | cons c cs ih =>
    cases n with
    | zero => exact linV_stop (.inr (.inl rfl))
    | succ n =>
      cases ξs with
      | nil => exact linV_stop (.inr (.inr rfl))
      | cons ξ ξs => simp only [List.replicate_succ, linV, ih, mul_zero, add_zero]

theorem linC_zero (σ : Option Nat → F) (cs : List (LComm F)) (n : Nat) (vs ξs : List F) :
    linC σ (withComms cs (List.replicate n 0)) vs ξs = 0 := by
  induction cs, vs, ξs using zip3_induct generalizing n with
  | stop cs vs ξs h => rcases h with rfl | rfl | rfl <;> simp [withComms]
  | cons c cs v vs ξ ξs ih =>
    cases n with
    | zero => exact linC_stop (.inl rfl)
    | succ n => rw [List.replicate_succ, withComms_cons, linC, ih n, mul_zero, zero_mul, add_zero]

theorem defect_add_values (vk : VK F) (cs : List (LComm F)) (z : F) (vs : List F) (π : KZG.Proof F)
    (ξs dvs : List F) (hv : dvs.length = vs.length) :
    defect vk cs z (addVals vs dvs) π ξs
      = defect vk cs z vs π ξs + -(vk.g * linV cs dvs ξs * vk.h) := by
  have := defect_perturb vk cs z vs π ξs (List.replicate cs.length 0) dvs 0 List.length_replicate hv
  rwa [addComms_zero, add_zero, linC_zero, zero_sub, mul_zero, zero_mul, add_zero] at this

section Accepted
variable {vk : VK F} {cs : List (LComm F)} {z : F} {vs ξs rest : List F} {π : KZG.Proof F}
  (hacc : check vk cs z vs π ξs = .ok (true, rest))
include hacc

/-- **From any accepted transcript, under any key**: commitments moved by `dcs`, point by `dz`,
values by `dvs` are accepted iff the shift of `defect_perturb` vanishes. -/
theorem accepted_check_iff (dcs dvs : List F) (dz : F) (hc : dcs.length = cs.length)
    (hv : dvs.length = vs.length) :
    check vk (addComms cs dcs) (z + dz) (addVals vs dvs) π ξs = .ok (true, rest) ↔
      linC vk.shiftD (withComms cs dcs) vs ξs - vk.g * linV cs dvs ξs * vk.h + π.w * dz * vk.h = 0 :=
  have e := perturb_sums vk.shiftOf vk.shiftD cs vs ξs dcs dvs hc hv
  accepted_moved_iff hacc (defect_perturb vk cs z vs π ξs dcs dvs dz hc hv) e.2.2.1 e.2.2.2

theorem accepted_point_iff (dz : F) :
    check vk cs (z + dz) vs π ξs = .ok (true, rest) ↔ π.w * dz * vk.h = 0 :=
  accepted_moved_iff hacc (defect_add_point ..) rfl rfl

theorem accepted_comms_iff (dcs : List F) (hc : dcs.length = cs.length) :
    check vk (addComms cs dcs) z vs π ξs = .ok (true, rest) ↔
      linC vk.shiftD (withComms cs dcs) vs ξs = 0 := by
  have := accepted_check_iff hacc dcs (List.replicate vs.length 0) 0 hc List.length_replicate
  rw [addVals_zero, add_zero] at this
  rw [this, linV_zero, mul_zero, zero_mul, sub_zero, mul_zero, zero_mul, add_zero]

end Accepted

/-- `ξⱼ·δ` when position `j` is inside the loop's range, else 0 -/
def valTerm (δ : F) : Nat → List (LComm F) → List F → F
  | 0, _ :: _, ξ :: _ => ξ * δ
  | j + 1, _ :: cs, _ :: ξs => valTerm δ j cs ξs
  | _, _, _ => 0

/-- `ξⱼ·δ·σ(bⱼ)` when position `j` is inside the loop's range, else 0 -/
def commTerm (σ : Option Nat → F) (δ : F) : Nat → List (LComm F) → List F → List F → F
  | 0, c :: _, _ :: _, ξ :: _ => ξ * δ * σ c.bound
  | j + 1, _ :: cs, _ :: vs, _ :: ξs => commTerm σ δ j cs vs ξs
  | _, _, _, _ => 0

theorem commTerm_stop {σ : Option Nat → F} {δ : F} {j : Nat} {cs : List (LComm F)} {vs ξs : List F}
    (h : cs = [] ∨ vs = [] ∨ ξs = []) : commTerm σ δ j cs vs ξs = 0 := by
  unfold commTerm
  split
  · simp at h
  · simp at h
  · rfl

theorem linV_spike (δ : F) (j : Nat) (cs : List (LComm F)) (n : Nat) (ξs : List F) (hj : j < n) :
    linV cs (spike j δ n) ξs = valTerm δ j cs ξs := by
  induction cs generalizing j n ξs with
  | nil => cases j <;> rfl
  | cons c cs ih =>
    cases ξs with
    | nil => rw [linV_stop (.inr (.inr rfl))]; cases j <;> rfl
    | cons ξ ξs =>
      cases n with
      | zero => exact absurd hj (Nat.not_lt_zero j)
      | succ n =>
        cases j with
        | zero => rw [spike, linV, linV_zero, add_zero, valTerm]
        | succ j =>
          rw [spike, linV, ih j n ξs (Nat.lt_of_succ_lt_succ hj), mul_zero, zero_add, valTerm]

theorem linC_spike (σ : Option Nat → F) (δ : F) (j : Nat) (cs : List (LComm F)) (n : Nat)
    (vs ξs : List F) (hj : j < n) :
    linC σ (withComms cs (spike j δ n)) vs ξs = commTerm σ δ j cs vs ξs := by
  induction cs, vs, ξs using zip3_induct generalizing j n with
  | stop cs vs ξs h =>
    rw [commTerm_stop h]
    rcases h with rfl | rfl | rfl <;> simp [withComms]
  | cons c cs v vs ξ ξs ih =>
    cases n with
    | zero => exact absurd hj (Nat.not_lt_zero j)
    | succ n =>
      cases j with
      | zero => rw [spike, withComms_cons, linC, linC_zero, add_zero, commTerm]
      | succ j =>
        rw [spike, withComms_cons, linC, ih j n (Nat.lt_of_succ_lt_succ hj), mul_zero, zero_mul,
          zero_add, commTerm]

/-- present the `j`-th commitment under the bound label `b` -/
def relabelAt : Nat → Option Nat → List (LComm F) → List (LComm F)
  | _, _, [] => []
  | 0, b, c :: cs => { c with bound := b } :: cs
  | j + 1, b, c :: cs => c :: relabelAt j b cs

/-- `ξⱼ·Cⱼ·(σ(b) − σ(bⱼ))` for the position `j` (0 outside the loop's range) -/
def relabelTerm (σ : Option Nat → F) (b : Option Nat) : Nat → List (LComm F) → List F → List F → F
  | 0, c :: _, _ :: _, ξ :: _ => ξ * c.comm * (σ b - σ c.bound)
  | j + 1, _ :: cs, _ :: vs, _ :: ξs => relabelTerm σ b j cs vs ξs
  | _, _, _, _ => 0

theorem relabelTerm_stop {σ : Option Nat → F} {b : Option Nat} {j : Nat} {cs : List (LComm F)}
    {vs ξs : List F} (h : cs = [] ∨ vs = [] ∨ ξs = []) : relabelTerm σ b j cs vs ξs = 0 := by
  unfold relabelTerm
  split
  · simp at h
  · simp at h
  · rfl

section Relabel
variable (σ : Option Nat → F) (τ : Option Nat → Option F) (b : Option Nat) (j : Nat)
  (cs : List (LComm F)) (vs ξs : List F)

theorem relabelAt_nil : relabelAt j b ([] : List (LComm F)) = [] := by
  cases j <;> rfl

attribute [local simp] relabelAt_nil

theorem linC_relabel :
    linC σ (relabelAt j b cs) vs ξs = linC σ cs vs ξs + relabelTerm σ b j cs vs ξs := by
  induction cs, vs, ξs using zip3_induct generalizing j with
  | stop cs vs ξs h =>
    rw [relabelTerm_stop h]
    rcases h with rfl | rfl | rfl <;> simp
  | cons c cs v vs ξ ξs ih =>
    cases j with
    | zero => rw [relabelAt, linC, linC, relabelTerm, mul_sub, add_right_comm, add_sub_cancel]
    | succ j => rw [relabelAt, linC, linC, relabelTerm, ih, add_assoc]

theorem shape_relabel :
    linV (relabelAt j b cs) vs ξs = linV cs vs ξs ∧
    restOf (relabelAt j b cs) vs ξs = restOf cs vs ξs ∧
    ((τ b).isSome = true → boundsOk τ cs vs ξs = true →
      boundsOk τ (relabelAt j b cs) vs ξs = true) := by
  induction cs, vs, ξs using zip3_induct generalizing j with
  | stop cs vs ξs h => rcases h with rfl | rfl | rfl <;> simp
  | cons c cs v vs ξ ξs ih =>
    cases j with
    | zero =>
      simp only [relabelAt, linV, restOf, boundsOk, Bool.and_eq_true, true_and]
      exact fun hb h => ⟨hb, h.2⟩
    | succ j =>
      obtain ⟨h1, h2, h3⟩ := ih j
      simp only [relabelAt, linV, restOf, boundsOk, Bool.and_eq_true, h1, h2, true_and]
      exact fun hb h => ⟨h.1, h3 hb h.2⟩

end Relabel

theorem defect_relabel (vk : VK F) (b : Option Nat) (j : Nat) (cs : List (LComm F)) (z : F)
    (vs : List F) (π : KZG.Proof F) (ξs : List F) :
    defect vk (relabelAt j b cs) z vs π ξs
      = defect vk cs z vs π ξs + relabelTerm vk.shiftD b j cs vs ξs := by
  unfold defect
  rw [linC_relabel, (shape_relabel vk.shiftOf b j cs vs ξs).1, add_sub_right_comm, add_sub_right_comm]

end Sonic
end PCV
