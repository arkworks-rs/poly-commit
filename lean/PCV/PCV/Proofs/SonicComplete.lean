/-
  PCV.Proofs.SonicComplete — honest SonicKZG10 transcripts: what `commit` returns for a list of
  polynomials, the prover's and the verifier's loops in lock-step, completeness of `open` → `check`,
  and the exact acceptance condition of a changed statement against an honest proof (commitments,
  point and values at once, then the point or the commitments alone, and one relabelled degree bound).
-/
import PCV.Proofs.Sonic
import PCV.Proofs.SonicCheck

namespace PCV
namespace Sonic
open Marlin (Label LPoly Query sortDedup checkDegreesAndBounds)

variable {F : Type} [Field F] [DecidableEq F]

/-- one honest (commitment, polynomial, blinding polynomial) triple under the keys `(ck, vk)`:
paired with its G2 partner the commitment is `h·(g·p(β) + γ·r(β))` — the shift is cancelled -/
def Good (ck : CK F) (vk : VK F) (g γ β h : F) (s shb : Nat) (c : LComm F) (p : LPoly F)
    (r : List F) : Prop :=
  c.bound = p.bound ∧
  (∃ σ, vk.shiftOf c.bound = some σ ∧ c.comm * σ = h * (g * evalPoly p.poly β + γ * evalPoly r β)) ∧
  (pnorm p.poly).length ≤ s + 1 ∧ (pnorm r).length ≤ shb + 2 ∧
  checkDegreesAndBounds ck.maxDegree ck.bounds p.poly p.bound = .ok ()

/-- aligned lists of honest triples -/
def Honest (ck : CK F) (vk : VK F) (g γ β h : F) (s shb : Nat) :
    List (LComm F) → List (LPoly F) → List (List F) → Prop
  | [], [], [] => True
  | c :: cs, p :: ps, r :: rs => Good ck vk g γ β h s shb c p r ∧ Honest ck vk g γ β h s shb cs ps rs
  | _, _, _ => False

theorem commit_honest (g γ β bi h : F) (hb : β * bi = 1) (D s shb : Nat)
    (bounds : Option (List Nat)) (ck : CK F) (vk : VK F)
    (ht : trim (wfPP g γ β bi h D) s shb bounds = .ok (ck, vk))
    (ps : List (LPoly F)) (rng : Bool) (draws : List F) (cs : List (LComm F)) (rs : List (List F))
    (rest : List F) (hc : commit ck ps rng draws = .ok (cs, rs, rest)) :
    Honest ck vk g γ β h s shb cs ps rs := by
  fun_induction commit ck ps rng draws generalizing cs rs rest with
  | case1 => cases hc; trivial
  | case2 | case3 => cases hc
  | case4 p ps rng draws c r draws' hone cs' rs' d hrest ih =>
    cases hc
    refine ⟨?_, ih _ _ _ hrest⟩
    obtain ⟨hcv, hpl, hrl, _, hdb⟩ := commitOne_spec ht hone
    obtain ⟨_, _, _, _, _, hσ⟩ := powersFor_wf ht hdb
    refine ⟨rfl, ⟨_, hσ, ?_⟩, hpl, hrl, hdb⟩
    simp only
    rw [hcv]
    linear_combination (h * (g * evalPoly p.poly β + γ * evalPoly r β)) * fpow_mul_inv hb (kOf D p.bound)

/-- **Prover and verifier loops in lock-step** on an honest list: the verifier's loop accumulates
`h·(g·P(β) + γ·R(β))` and `P(z)`, relative to the starting accumulators `acc` of the prover's loop. -/
theorem honest_loops {ck : CK F} {vk : VK F} {g γ β h : F} {s shb : Nat} (z : F)
    {cs : List (LComm F)} {ps : List (LPoly F)} {rs : List (List F)}
    (hh : Honest ck vk g γ β h s shb cs ps rs) {ξs : List F} {acc : List F × List F}
    {P R rest : List F} (ho : openLoop ck ps rs ξs acc = .ok ((P, R), rest)) :
    restOf cs (ps.map fun p => evalPoly p.poly z) ξs = some rest ∧
    boundsOk vk.shiftOf cs (ps.map fun p => evalPoly p.poly z) ξs = true ∧
    linC vk.shiftD cs (ps.map fun p => evalPoly p.poly z) ξs
      = h * (g * (evalPoly P β - evalPoly acc.1 β) + γ * (evalPoly R β - evalPoly acc.2 β)) ∧
    linV cs (ps.map fun p => evalPoly p.poly z) ξs = evalPoly P z - evalPoly acc.1 z ∧
    ((pnorm acc.1).length ≤ s + 1 → (pnorm P).length ≤ s + 1) ∧
    ((pnorm acc.2).length ≤ shb + 2 → (pnorm R).length ≤ shb + 2) := by
  fun_induction Honest ck vk g γ β h s shb cs ps rs generalizing ξs acc with
  | case1 =>
    cases ξs with
    | nil => cases ho
    | cons ξ ξs =>
      cases ho
      simp [restOf, boundsOk, linC, linV]
  | case2 c cs p ps r rs ih =>
    obtain ⟨⟨hbd, ⟨σ, hσ, hcσ⟩, hpl, hrl, hdb⟩, hrest⟩ := hh
    cases ξs with
    | nil => cases ho
    | cons ξ ξs =>
      simp only [openLoop, hdb] at ho
      obtain ⟨h1, h2, h3, h4, h5, h6⟩ := ih hrest ho
      simp only [eval_padd, eval_pscale] at h3 h4
      have hsD : vk.shiftD c.bound = σ := by rw [VK.shiftD, hσ]; rfl
      refine ⟨h1, ?_, ?_, ?_, fun ha => h5 (pnorm_padd_le _ _ _ ha (pnorm_pscale_le _ _ _ hpl)),
        fun ha => h6 (pnorm_padd_le _ _ _ ha (pnorm_pscale_le _ _ _ hrl))⟩
      · simp only [List.map_cons, boundsOk, hσ, Option.isSome_some, Bool.true_and]; exact h2
      · rw [List.map_cons, linC, hsD, h3, mul_assoc, hcσ]
        ring
      · rw [List.map_cons, linV, h4, sub_add_eq_sub_sub, add_sub_cancel]
  | case3 cs ps rs h1 h2 => exact hh.elim

theorem openLoop_ok {ck : CK F} {vk : VK F} {g γ β h : F} {s shb : Nat}
    {cs : List (LComm F)} {ps : List (LPoly F)} {rs : List (List F)}
    (hh : Honest ck vk g γ β h s shb cs ps rs) {ξs : List F} (hξ : ps.length < ξs.length)
    (acc : List F × List F) : ∃ res, openLoop ck ps rs ξs acc = .ok res := by
  fun_induction Honest ck vk g γ β h s shb cs ps rs generalizing ξs acc with
  | case1 =>
    cases ξs with
    | nil => cases hξ
    | cons ξ ξs => exact ⟨(acc, ξs), rfl⟩
  | case2 c cs p ps r rs ih =>
    cases ξs with
    | nil => cases hξ
    | cons ξ ξs =>
      simp only [openLoop, hh.1.2.2.2.2]
      exact ih hh.2 (Nat.lt_of_succ_lt_succ hξ) _
  | case3 cs ps rs h1 h2 => exact hh.elim

section WF
variable (g γ β bi h : F) (D s shb : Nat) (bounds : Option (List Nat))
  (ck : CK F) (vk : VK F) (ht : trim (wfPP g γ β bi h D) s shb bounds = .ok (ck, vk))
include ht

theorem open_ok_of_honest (cs : List (LComm F)) (ps : List (LPoly F)) (rs : List (List F))
    (hh : Honest ck vk g γ β h s shb cs ps rs) (z : F) (ξs : List F) (hξ : ps.length < ξs.length) :
    ∃ π rest, Sonic.open ck ps z rs ξs = .ok (π, rest) := by
  obtain ⟨_, _, hp, hgp, _, _, _, _, _, _, _, _⟩ := trim_wf_basic g γ β bi h D s shb bounds ck vk ht
  obtain ⟨⟨⟨P, R⟩, rest⟩, hloop⟩ := openLoop_ok hh hξ ([], [])
  obtain ⟨_, _, _, _, h5, _⟩ := honest_loops z hh hloop
  have hpl : (pnorm P).length ≤ s + 1 := h5 (Nat.zero_le _)
  have hdeg : ¬ (pdeg P + 1 > (⟨ck.powers, ck.gammaPowers⟩ : KZG.Powers F).g.length) := by
    simp only [hp, powers_length]; unfold pdeg; omega
  obtain ⟨π, hπ⟩ := KZG.open_ok ⟨ck.powers, ck.gammaPowers⟩ P R z hdeg
  exact ⟨π, rest, by unfold Sonic.open; rw [hloop]; simp only [hπ]⟩

section Single
variable (cs : List (LComm F)) (ps : List (LPoly F)) (rs : List (List F))
  (hh : Honest ck vk g γ β h s shb cs ps rs) (z : F) (ξs : List F) (π : KZG.Proof F)
  (rest : List F) (ho : Sonic.open ck ps z rs ξs = .ok (π, rest))
include hh ho

/-- **Completeness of `open` → `check`** for an honest list of commitments (any number of
polynomials, any mix of degree bounds and hiding bounds, any point, any challenges): the verifier
accepts the true values and leaves the same unused challenges as the prover. -/
theorem open_check_complete :
    check vk cs z (ps.map fun p => evalPoly p.poly z) π ξs = .ok (true, rest) := by
  obtain ⟨_, _, hp, hgp, _, _, hg, hgg, hvh, hbh, _, _⟩ :=
    trim_wf_basic g γ β bi h D s shb bounds ck vk ht
  obtain ⟨P, R, hloop, hk⟩ := open_ok_inv ck ps z rs ξs π rest ho
  obtain ⟨h1, h2, h3, h4, _, h6⟩ := honest_loops z hh hloop
  rw [hp, hgp] at hk
  obtain ⟨hw, hrv⟩ := KZG.open_spec g γ β (s + 1) (shb + 2) P R z _ (h6 (Nat.zero_le _)) hk
  simp only [evalPoly_nil, sub_zero] at h3 h4
  rw [check_true_iff]
  refine ⟨h1, h2, ?_⟩
  unfold defect
  rw [h3, h4, hrv, hw, hg, hgg, hvh, hbh]
  linear_combination (h * g) * divLin_quot P z β + (h * γ) * divLin_quot R z β

/-! **Acceptance of a changed statement against an honest proof** (C02 core): completeness, then
the `accepted_…_iff` of `SonicCheck` on the key's `g`, `h`. -/

theorem honest_check_iff (dcs dvs : List F) (dz : F) (hc : dcs.length = cs.length) (hv : dvs.length = ps.length) :
    check vk (addComms cs dcs) (z + dz) (addVals (ps.map fun p => evalPoly p.poly z) dvs) π ξs
        = .ok (true, rest) ↔
      linC vk.shiftD (withComms cs dcs) (ps.map fun p => evalPoly p.poly z) ξs
        - g * linV cs dvs ξs * h + π.w * dz * h = 0 := by
  obtain ⟨_, _, _, _, _, _, hg, _, hvh, _⟩ := trim_wf_basic g γ β bi h D s shb bounds ck vk ht
  have := accepted_check_iff (open_check_complete g γ β bi h D s shb bounds ck vk ht cs ps rs hh z ξs π rest ho)
    dcs dvs dz hc (hv.trans (List.length_map _).symm)
  rwa [hg, hvh] at this

theorem honest_value_rejected (dvs : List F) (hv : dvs.length = ps.length)
    (hne : g * linV cs dvs ξs * h ≠ 0) {r : List F} :
    check vk cs z (addVals (ps.map fun p => evalPoly p.poly z) dvs) π ξs ≠ .ok (true, r) := by
  obtain ⟨_, _, _, _, _, _, hg, _, hvh, _⟩ := trim_wf_basic g γ β bi h D s shb bounds ck vk ht
  rw [← hg, ← hvh] at hne
  exact rejected_of_moved (open_check_complete g γ β bi h D s shb bounds ck vk ht cs ps rs hh z ξs π rest ho)
    (defect_add_values vk cs z _ π ξs dvs (hv.trans (List.length_map _).symm)) (neg_ne_zero.2 hne)

theorem honest_point_iff (dz : F) :
    check vk cs (z + dz) (ps.map fun p => evalPoly p.poly z) π ξs = .ok (true, rest) ↔
      π.w * dz * h = 0 := by
  obtain ⟨_, _, _, _, _, _, _, _, hvh, _⟩ := trim_wf_basic g γ β bi h D s shb bounds ck vk ht
  have := accepted_point_iff (open_check_complete g γ β bi h D s shb bounds ck vk ht cs ps rs hh z ξs π rest ho) dz
  rwa [hvh] at this

theorem honest_comm_iff (dcs : List F) (hc : dcs.length = cs.length) :
    check vk (addComms cs dcs) z (ps.map fun p => evalPoly p.poly z) π ξs = .ok (true, rest) ↔
      linC vk.shiftD (withComms cs dcs) (ps.map fun p => evalPoly p.poly z) ξs = 0 :=
  accepted_comms_iff (open_check_complete g γ β bi h D s shb bounds ck vk ht cs ps rs hh z ξs π rest ho) dcs hc

/-- **Mislabelled degree bound.**  The `j`-th commitment presented under another bound label `b` the
key supports: accepted iff `ξⱼ·Cⱼ·(σ(b) − σ(bⱼ)) = 0`. -/
theorem honest_relabel_iff (b : Option Nat) (hbs : (vk.shiftOf b).isSome = true) (j : Nat) :
    check vk (relabelAt j b cs) z (ps.map fun p => evalPoly p.poly z) π ξs = .ok (true, rest) ↔
      relabelTerm vk.shiftD b j cs (ps.map fun p => evalPoly p.poly z) ξs = 0 := by
  have hacc := open_check_complete g γ β bi h D s shb bounds ck vk ht cs ps rs hh z ξs π rest ho
  have h2 := ((check_true_iff ..).1 hacc).2.1
  obtain ⟨_, e2, e3⟩ := shape_relabel vk.shiftOf b j cs (ps.map fun p => evalPoly p.poly z) ξs
  exact accepted_moved_iff hacc (defect_relabel ..) e2 ((e3 hbs h2).trans h2.symm)

end Single

end WF

end Sonic
end PCV
