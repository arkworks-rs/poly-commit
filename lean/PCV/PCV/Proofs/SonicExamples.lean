/-
  PCV.Proofs.SonicExamples — one concrete SonicKZG10 transcript over `K = ZMod 101`
  (trapdoor β = 2, β⁻¹ = 51, g = 3, γ = 5, h = 7, D = 4), evaluated by `decide +kernel`; the non-vacuity
  examples next to the property theorems refer to it.
-/
import PCV.Proofs.SonicBatch
import PCV.Props.Examples

namespace PCV
namespace Sonic
namespace Ex
open Marlin (LPoly)

def pp : UParams K := wfPP 3 5 2 51 7 4
def ck : CK K :=
  ⟨[3, 6, 12, 24], [5, 10, 20], some [6, 12, 24, 48], some [(2, [20, 40, 80]), (3, [10, 20, 40])],
   some [2, 3], 4⟩
def vk : VK K := ⟨3, 5, 7, 14, some [(2, 27), (3, 54)], 3, 4⟩
/-- a bounded hiding polynomial, an unbounded one, a bounded non-hiding one -/
def polys : List (LPoly K) :=
  [⟨[112, 48], [1, 2, 3], some 3, some 1⟩, ⟨[112, 49], [4, 0, 1], none, none⟩,
   ⟨[112, 50], [6, 1], some 2, none⟩]
def comms : List (LComm K) :=
  [⟨[112, 48], 27, some 3⟩, ⟨[112, 49], 24, none⟩, ⟨[112, 50], 96, some 2⟩]
def rands : List (List K) := [[7, 0, 9], [], []]
def xis : List K := [11, 13, 17, 19, 23]
def vals : List K := polys.map fun p => evalPoly p.poly 5
def proof : KZG.Proof K := ⟨3, some 27⟩

theorem inv : (2 : K) * 51 = 1 := by decide +kernel
theorem trim_eq : trim pp 3 1 (some [3, 2, 3]) = .ok (ck, vk) := by decide +kernel
theorem commit_eq : commit ck polys true [7, 0, 9, 4] = .ok (comms, rands, [4]) := by decide +kernel
theorem open_eq : Sonic.open ck polys 5 rands xis = .ok (proof, [23]) := by decide +kernel
theorem check_eq : check vk comms 5 vals proof xis = .ok (true, [23]) := by decide +kernel
end Ex
end Sonic
end PCV
