/-
  PCV.Proofs.SonicHistory — SonicKZG10 on ONE sponge: the loops of `open` and `check` squeeze `1 + n`
  challenges; the exact acceptance condition of an honest proof verified under other challenges
  (`displaced_iff`); and the histories of `open` / `batch_open` / `open_combinations` operations with
  their checks, over which C11 states the lock-step.
-/
import PCV.Proofs.SonicLC

namespace PCV
namespace Sonic
open Marlin (Label LPoly Query sortDedup checkDegreesAndBounds groupQueries lookupLast lookupEval)

variable {F : Type} [Field F] [DecidableEq F]

theorem min_length_eq_zero {α β : Type} {xs : List α} {ys : List β}
    (h : ∀ x xs' y ys', xs = x :: xs' → ys = y :: ys' → False) : min xs.length ys.length = 0 := by
  cases xs with
  | nil => exact Nat.zero_min _
  | cons x xs =>
    cases ys with
    | nil => exact Nat.min_zero _
    | cons y ys => exact (h x xs y ys rfl rfl).elim

theorem openLoop_rest {ck : CK F} {ps : List (LPoly F)} {sts : List (List F)} {ξs : List F}
    {acc res : List F × List F} {rest : List F}
    (h : openLoop ck ps sts ξs acc = .ok (res, rest)) :
    rest = ξs.drop (min ps.length sts.length + 1) := by
  fun_induction openLoop ck ps sts ξs acc with
  | case1 => cases h
  | case2 p ps st sts ξ ξs acc _ ih =>
    rw [ih h, List.length_cons, List.length_cons, Nat.add_min_add_right, List.drop_succ_cons]
  | case3 ps sts ξ ξs acc hne =>
    cases h
    rw [min_length_eq_zero hne]; rfl
  | case4 => cases h

omit [Field F] [DecidableEq F] in
theorem restOf_drop {cs : List (LComm F)} {vs ξs rest : List F} (h : restOf cs vs ξs = some rest) :
    rest = ξs.drop (min cs.length vs.length + 1) := by
  fun_induction restOf cs vs ξs with
  | case1 c cs v vs ξ ξs ih =>
    rw [ih h, List.length_cons, List.length_cons, Nat.add_min_add_right, List.drop_succ_cons]
  | case2 cs vs ξ ξs hne =>
    cases h
    rw [min_length_eq_zero hne]; rfl
  | case3 => cases h

/-- `Σⱼ ξⱼ·(g·(pⱼ(β) − pⱼ(z)) + γ·rⱼ(β))`: what the verifier's equation retains of the challenges -/
def dispT (g γ β z : F) : List (LPoly F) → List (List F) → List F → F
  | p :: ps, r :: rs, ξ :: ξs =>
    ξ * (g * (evalPoly p.poly β - evalPoly p.poly z) + γ * evalPoly r β) + dispT g γ β z ps rs ξs
  | _, _, _ => 0

theorem honest_disp {ck : CK F} {vk : VK F} {g γ β h : F} {s shb : Nat} (z : F)
    {cs : List (LComm F)} {ps : List (LPoly F)} {rs : List (List F)}
    (hh : Honest ck vk g γ β h s shb cs ps rs) (ξs : List F) :
    linC vk.shiftD cs (ps.map fun p => evalPoly p.poly z) ξs
        - g * linV cs (ps.map fun p => evalPoly p.poly z) ξs * h
      = h * dispT g γ β z ps rs ξs ∧
    boundsOk vk.shiftOf cs (ps.map fun p => evalPoly p.poly z) ξs = true := by
  fun_induction Honest ck vk g γ β h s shb cs ps rs generalizing ξs with
  | case1 => exact ⟨by simp only [linC, linV, dispT, mul_zero, zero_mul, sub_zero], rfl⟩
  | case2 c cs p ps r rs ih =>
    obtain ⟨⟨_, ⟨σ, hσ, hcσ⟩, _, _, _⟩, hrest⟩ := hh
    cases ξs with
    | nil => exact ⟨by simp only [List.map_cons, linC, linV, dispT, mul_zero, zero_mul, sub_zero], rfl⟩
    | cons ξ ξs =>
      obtain ⟨h1, h2⟩ := ih hrest ξs
      refine ⟨?_, ?_⟩
      · simp only [List.map_cons, linC, linV, dispT, VK.shiftD, hσ, Option.getD_some]
        linear_combination h1 + ξ * hcσ
      · show ((vk.shiftOf c.bound).isSome && _) = true
        rw [hσ, h2]; rfl
  | case3 => exact hh.elim

/-- **A proof is bound to the challenges it was made under.**  The honest proof for `(ps, z)` made
under the challenges `ξs`, verified (same commitments, same true values) under `ξs'`, is accepted
iff `h·(T(ξs') − T(ξs)) = 0` with `T(ξ) = Σⱼ ξⱼ·(g·(pⱼ(β) − pⱼ(z)) + γ·rⱼ(β))`. -/
theorem displaced_iff {g γ β bi h : F} {D s shb : Nat} {bounds : Option (List Nat)}
    {ck : CK F} {vk : VK F} (ht : trim (wfPP g γ β bi h D) s shb bounds = .ok (ck, vk))
    {cs : List (LComm F)} {ps : List (LPoly F)} {rs : List (List F)}
    (hh : Honest ck vk g γ β h s shb cs ps rs) {z : F} {ξs : List F} {π : KZG.Proof F}
    {rest : List F} (ho : Sonic.open ck ps z rs ξs = .ok (π, rest))
    {ξs' rest' : List F} (hr : restOf cs (ps.map fun p => evalPoly p.poly z) ξs' = some rest') :
    check vk cs z (ps.map fun p => evalPoly p.poly z) π ξs' = .ok (true, rest') ↔
      h * (dispT g γ β z ps rs ξs' - dispT g γ β z ps rs ξs) = 0 := by
  obtain ⟨_, _, _, _, _, _, hg, _, hvh, _⟩ := trim_wf_basic g γ β bi h D s shb bounds ck vk ht
  obtain ⟨_, _, h3⟩ := (check_true_iff ..).1
    (open_check_complete g γ β bi h D s shb bounds ck vk ht cs ps rs hh z ξs π rest ho)
  obtain ⟨d1, _⟩ := honest_disp z hh ξs
  obtain ⟨d2, b2⟩ := honest_disp z hh ξs'
  -- the defect depends on the challenges through `linC − g·linV·h` alone, and vanishes under `ξs`
  have key : defect vk cs z (ps.map fun p => evalPoly p.poly z) π ξs'
      = h * (dispT g γ β z ps rs ξs' - dispT g γ β z ps rs ξs) := by
    rw [← sub_zero (defect vk cs z _ π ξs'), ← h3, mul_sub, ← d1, ← d2, defect, defect, hg, hvh]
    ring
  rw [check_true_iff, key]
  exact ⟨fun h' => h'.2.2, fun h' => ⟨hr, b2, h'⟩⟩

/-- one operation of a history on the committed lists -/
inductive Op (F : Type)
  /-- `open` of some of the committed polynomials (with their states and commitments) at `z` -/
  | single (l : List (Trip F)) (z : F)
  /-- `batch_open` / `batch_check` of a query set with claimed evaluations -/
  | batch (qs : List (Query F)) (evals : List ((Label × F) × F))
  /-- `open_combinations` / `check_combinations` -/
  | comb (lcs : List (LC.LinComb F)) (qs : List (Query F)) (evals : List ((Label × F) × F))

/-- the prover performs the operations in order on one challenge stream; one proof list per operation -/
def proverRun (ck : CK F) (ps : List (LPoly F)) (rs : List (List F)) (cs : List (LComm F)) :
    List (Op F) → List F → Except Err (List (List (KZG.Proof F)) × List F)
  | [], ξs => .ok ([], ξs)
  | op :: ops, ξs =>
    match (match op with
      | .single l z =>
        (match Sonic.open ck (l.map (·.1)) z (l.map (·.2.1)) ξs with
         | .error e => .error e
         | .ok (π, r) => .ok ([π], r))
      | .batch qs _ => batchOpen ck ps rs qs ξs
      | .comb lcs qs _ => openCombinations ck ps rs cs lcs qs ξs :
        Except Err (List (KZG.Proof F) × List F)) with
    | .error e => .error e
    | .ok (πs, ξs') =>
      match proverRun ck ps rs cs ops ξs' with
      | .error e => .error e
      | .ok (πss, rest) => .ok (πs :: πss, rest)

/-- the check belonging to one operation (true values for `single`), with the unused challenges -/
def verifyOp (vk : VK F) (cs : List (LComm F)) (op : Op F) (πs : List (KZG.Proof F)) (vrs ξs : List F) :
    Except Err (Bool × List F) :=
  match op with
  | .single l z =>
    match πs with
    | [π] => check vk (l.map (·.2.2)) z (l.map fun t => evalPoly t.1.poly z) π ξs
    | _ => .error .abort
  | .batch qs evals => batchCheckT vk cs qs evals πs ξs vrs
  | .comb lcs qs evals => checkCombinationsT vk cs lcs qs evals πs ξs vrs

/-- the verifier performs the corresponding checks in the same order on an identical stream
(`vrss`: its randomizers, per operation); the conjunction of the decisions and the remaining stream -/
def verifierRun (vk : VK F) (cs : List (LComm F)) :
    List (Op F) → List (List (KZG.Proof F)) → List (List F) → List F → Except Err (Bool × List F)
  | [], _, _, ξs => .ok (true, ξs)
  | _ :: _, [], _, _ => .error .abort
  | op :: ops, πs :: πss, vrss, ξs =>
    match verifyOp vk cs op πs (vrss.headD []) ξs with
    | .error e => .error e
    | .ok (b, ξs') =>
      match verifierRun vk cs ops πss vrss.tail ξs' with
      | .error e => .error e
      | .ok (b', rest) => .ok (b && b', rest)

def Truthful (ck : CK F) (vk : VK F) (g γ β h : F) (s shb : Nat)
    (ps : List (LPoly F)) (rs : List (List F)) (cs : List (LComm F)) : Op F → Prop
  | .single l _ => Honest ck vk g γ β h s shb (l.map (·.2.2)) (l.map (·.1)) (l.map (·.2.1))
  | .batch qs evals => ∀ gr ∈ groupQueries qs, ∀ l ∈ gr.2.2, ∀ x,
      lookupLast (fun (x : LPoly F × List F) => x.1.label) l (ps.zip rs) = some x →
      lookupEval evals l gr.2.1 = some (evalPoly x.1.poly gr.2.1)
  | .comb lcs qs evals => ∀ gr ∈ groupQueries qs, ∀ l ∈ gr.2.2, ∀ lc,
      lookupLast (fun (lc : LC.LinComb F) => lc.label) l lcs = some lc →
      lookupEval evals l gr.2.1
        = some (lcPolyValue (labelMap ps rs cs) gr.2.1 lc.terms + constSum lcs l)

-- The claims of a `batch` or `comb` operation are finitely many equations: on a concrete history they
-- are settled by evaluation.  The instances for quantifiers over lists and options are put in front of
-- Mathlib's for multisets, finsets and finite types, which are tried first and fail slowly.
attribute [local instance 2000] List.decidableBAll Option.decidableForallMem in
instance Truthful.decidableBatch (ck : CK F) (vk : VK F) (g γ β h : F) (s shb : Nat)
    (ps : List (LPoly F)) (rs : List (List F)) (cs : List (LComm F)) (qs : List (Query F))
    (evals : List ((Label × F) × F)) :
    Decidable (Truthful ck vk g γ β h s shb ps rs cs (.batch qs evals)) := by
  unfold Truthful
  exact inferInstance

attribute [local instance 2000] List.decidableBAll Option.decidableForallMem in
instance Truthful.decidableComb (ck : CK F) (vk : VK F) (g γ β h : F) (s shb : Nat)
    (ps : List (LPoly F)) (rs : List (List F)) (cs : List (LComm F)) (lcs : List (LC.LinComb F))
    (qs : List (Query F)) (evals : List ((Label × F) × F)) :
    Decidable (Truthful ck vk g γ β h s shb ps rs cs (.comb lcs qs evals)) := by
  unfold Truthful
  exact inferInstance

end Sonic
end PCV
