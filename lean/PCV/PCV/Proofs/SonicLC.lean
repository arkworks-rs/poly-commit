/-
  PCV.Proofs.SonicLC — SonicKZG10's own `open_combinations` / `check_combinations`.
  Prover: one step of the combination loop keeps the accumulators an honest triple (`lcStep_good`), so
  `combineAll` turns honest triples into honest triples and the completeness of `batch_open` →
  `batch_check` carries over (`lc_complete`).
  Verifier: on commitments aligned with the prover's triples its pass is the prover's pass seen through
  a view (`combineAllV_eq`).  Every commitment list is aligned with its `bare` triples, so the
  refusals and the evaluation map of the verifier's pass on ANY commitments are the prover's.
-/
import PCV.Model.SonicLC
import PCV.Proofs.SonicBatch
import PCV.Proofs.Lookup
import PCV.Proofs.LC
import PCV.Proofs.MapOk

set_option linter.unusedSectionVars false

namespace PCV
namespace Sonic
open Marlin (Label LPoly Query sortDedup checkDegreesAndBounds groupQueries lookupLast lookupEval)

variable {F : Type} [Field F] [DecidableEq F]

theorem lookupLast_map {α β : Type} (la : α → Label) (lb : β → Label) (f : α → β)
    (hf : ∀ a, lb (f a) = la a) (l : Label) (xs : List α) :
    lookupLast lb l (xs.map f) = (lookupLast la l xs).map f :=
  Marlin.lookupLast_map la l lb f xs fun a _ => hf a

/-- every entry of `label_map` is an honest (polynomial, state, commitment) triple whose commitment
carries the polynomial's label -/
def TripsGood (ck : CK F) (vk : VK F) (g γ β h : F) (s shb : Nat) (trips : List (Trip F)) : Prop :=
  ∀ t ∈ trips, Good ck vk g γ β h s shb t.2.2 t.1 t.2.1 ∧ t.2.2.label = t.1.label

section
variable {ck : CK F} {vk : VK F} {g γ β h : F} {s shb : Nat}

theorem labelMap_good {cs : List (LComm F)} {ps : List (LPoly F)} {rs : List (List F)}
    (hh : Honest ck vk g γ β h s shb cs ps rs) (hl : SameLabels cs ps) :
    TripsGood ck vk g γ β h s shb (labelMap ps rs cs) := by
  fun_induction Honest ck vk g γ β h s shb cs ps rs with
  | case1 => exact fun t ht => nomatch ht
  | case2 c cs p ps r rs ih =>
    intro t ht
    rcases List.mem_cons.1 ht with rfl | ht
    · exact ⟨hh.1, hl.1⟩
    · exact ih hh.2 hl.2 t ht
  | case3 => exact hh.elim

theorem labelMap_comms {cs : List (LComm F)} {ps : List (LPoly F)} {rs : List (List F)}
    (hh : Honest ck vk g γ β h s shb cs ps rs) :
    (labelMap ps rs cs).map (fun (t : Trip F) => t.2.2) = cs := by
  fun_induction Honest ck vk g γ β h s shb cs ps rs with
  | case1 => rfl
  | case2 c cs p ps r rs ih => exact congrArg (c :: ·) (ih hh.2)
  | case3 => exact hh.elim

/-- the contribution of one term to the combined polynomial's value at `z` (constants: none) -/
def termPolyValue (trips : List (Trip F)) (z : F) (t : F × LC.LCTerm) : F :=
  match t.2 with
  | .one => 0
  | .poly l =>
    match lookupLast (fun (t : Trip F) => t.1.label) l trips with
    | none => 0
    | some x => t.1 * evalPoly x.1.poly z

/-- `Σ cᵢ·pᵢ(z)` over the polynomial terms of a combination: the value of the combined polynomial -/
def lcPolyValue (trips : List (Trip F)) (z : F) : List (F × LC.LCTerm) → F
  | [] => 0
  | t :: ts => termPolyValue trips z t + lcPolyValue trips z ts

theorem lcStep_one (trips : List (Trip F)) (k : Nat) (acc : LCAcc F) (term : F × LC.LCTerm)
    (ht : term.2 = .one) : lcStep trips k acc term = .ok acc := by
  unfold lcStep; rw [ht]

theorem lcStep_unknown (trips : List (Trip F)) (k : Nat) (acc : LCAcc F) (coeff : F) (l : Label)
    (hl : lookupLast (fun (t : Trip F) => t.1.label) l trips = none) :
    lcStep trips k acc (coeff, .poly l) = .error .missingPolynomial := by
  unfold lcStep; simp only [hl]

theorem lcStep_unbounded (trips : List (Trip F)) (k : Nat) (acc : LCAcc F) (term : F × LC.LCTerm)
    (l : Label) (x : Trip F) (ht : term.2 = .poly l)
    (hl : lookupLast (fun (t : Trip F) => t.1.label) l trips = some x) (hb : x.1.bound = none) :
    lcStep trips k acc term = .ok (acc.addTerm term.1 x) := by
  unfold lcStep
  rw [ht]
  simp only [hl, hb, Option.isSome_none, Bool.false_eq_true, and_false, if_false]

theorem lcStep_policy (trips : List (Trip F)) (k : Nat) (acc : LCAcc F) (coeff : F) (l : Label)
    (x : Trip F) (hl : lookupLast (fun (t : Trip F) => t.1.label) l trips = some x)
    (hb : x.1.bound.isSome = true) :
    (k ≠ 1 → lcStep trips k acc (coeff, .poly l) = .error .equationHasDegreeBounds) ∧
    (k = 1 → coeff ≠ 1 → lcStep trips k acc (coeff, .poly l) = .error .abort) := by
  unfold lcStep
  simp only [hl]
  exact ⟨fun hk => by rw [if_neg (fun hx => hk hx.1), if_pos hb],
    fun hk hc => by rw [if_pos ⟨hk, hb⟩, if_pos hc]⟩

theorem lcStep_cases {trips : List (Trip F)} {k : Nat} {acc acc' : LCAcc F} {term : F × LC.LCTerm}
    (hs : lcStep trips k acc term = .ok acc') :
    (term.2 = .one ∧ acc' = acc) ∨
    (∃ l t, term.2 = .poly l ∧ lookupLast (fun (t : Trip F) => t.1.label) l trips = some t ∧
      t.1.bound = none ∧ acc' = acc.addTerm term.1 t) ∨
    (∃ l t, term.2 = .poly l ∧ lookupLast (fun (t : Trip F) => t.1.label) l trips = some t ∧
      t.1.bound.isSome = true ∧ k = 1 ∧ term.1 = 1 ∧
      acc' = ({ acc with bound := t.1.bound } : LCAcc F).addTerm 1 t) := by
  unfold lcStep at hs
  split at hs
  next ht => exact .inl ⟨ht, (Except.ok.inj hs).symm⟩
  next l ht =>
    split at hs
    next => cases hs
    next t hl =>
      split_ifs at hs with hkb hc hb
      · rw [not_not] at hc
        exact .inr (.inr ⟨l, t, ht, hl, hkb.2, hkb.1, hc, by rw [← Except.ok.inj hs, hc]⟩)
      · exact .inr (.inl ⟨l, t, ht, hl, Option.not_isSome_iff_eq_none.1 hb, (Except.ok.inj hs).symm⟩)

/-- the accumulators form an honest triple (labels play no role in `Good`) -/
def AccGood (ck : CK F) (vk : VK F) (g γ β h : F) (s shb : Nat) (a : LCAcc F) : Prop :=
  Good ck vk g γ β h s shb ⟨[], a.comm, a.bound⟩ ⟨[], a.poly, a.bound, a.hb⟩ a.rand

theorem accGood_init : AccGood ck vk g γ β h s shb (LCAcc.init : LCAcc F) :=
  ⟨rfl, ⟨vk.h, rfl, by simp [LCAcc.init]⟩, Nat.zero_le _, Nat.zero_le _, rfl⟩

/-- **One step of the prover's loop keeps the accumulators an honest triple**, and moves the value
of the accumulated polynomial by the term's.  While no degree bound has been taken over
(`acc.bound = none`) an unbounded term is added under the common partner `vk.h`; a bounded term passes
only as the single term of its combination, when the accumulators are still empty, and hands its
triple over unchanged. -/
theorem lcStep_good {trips : List (Trip F)} (htr : TripsGood ck vk g γ β h s shb trips) {k : Nat}
    {acc acc' : LCAcc F} {term : F × LC.LCTerm}
    (hg : AccGood ck vk g γ β h s shb acc) (hb : acc.bound = none) (h1 : k = 1 → acc = LCAcc.init)
    (hs : lcStep trips k acc term = .ok acc') (z : F) :
    AccGood ck vk g γ β h s shb acc' ∧ (k ≠ 1 → acc'.bound = none) ∧
      evalPoly acc'.poly z = evalPoly acc.poly z + termPolyValue trips z term := by
  rcases lcStep_cases hs with ⟨ht, rfl⟩ | ⟨l, x, ht, hl, hxb, rfl⟩ |
      ⟨l, x, ht, hl, _, hk, hc, rfl⟩
  · exact ⟨hg, fun _ => hb, by simp [termPolyValue, ht]⟩
  · obtain ⟨_, ⟨σ, hσ, hcσ⟩, hpl, hrl, _⟩ := hg
    obtain ⟨hbd, ⟨τ, hτ, hcτ⟩, hpl', hrl', _⟩ := (htr x (Marlin.lookupLast_mem _ _ _ _ hl).1).1
    simp only [hb, hbd, hxb, VK.shiftOf, Option.some.injEq] at hσ hτ
    subst hσ hτ
    refine ⟨⟨rfl, ⟨vk.h, by simp only [LCAcc.addTerm, hb, VK.shiftOf], ?_⟩,
      pnorm_padd_le _ _ _ hpl (pnorm_pscale_le _ _ _ hpl'),
      pnorm_padd_le _ _ _ hrl (pnorm_pscale_le _ _ _ hrl'), by simp only [LCAcc.addTerm, hb]; rfl⟩,
      fun _ => hb, ?_⟩
    · simp only [LCAcc.addTerm, eval_padd, eval_pscale]
      linear_combination hcσ + term.1 * hcτ
    · simp only [LCAcc.addTerm, eval_padd, eval_pscale, termPolyValue, ht, hl]
  · have hx := (htr x (Marlin.lookupLast_mem _ _ _ _ hl).1).1
    rw [h1 hk]
    refine ⟨?_, fun hk' => absurd hk hk', ?_⟩
    · simp only [AccGood, LCAcc.addTerm, LCAcc.init, padd_nil_left, pscale_one, zero_add, one_mul]
      exact ⟨rfl, hx.1 ▸ hx.2.1, hx.2.2.1, hx.2.2.2.1, hx.2.2.2.2⟩
    · simp only [LCAcc.addTerm, LCAcc.init, padd_nil_left, pscale_one, termPolyValue, ht, hl, hc,
        evalPoly_nil, zero_add, one_mul]

/-- the loop keeps the accumulators an honest triple: with `lc.len() ≠ 1` only unbounded terms pass and
the bound stays `none`; with `lc.len() = 1` there is the one step from the empty accumulators -/
theorem lcLoop_good {trips : List (Trip F)} (htr : TripsGood ck vk g γ β h s shb trips) {k : Nat}
    {ts : List (F × LC.LCTerm)} {acc acc' : LCAcc F} (hg : AccGood ck vk g γ β h s shb acc)
    (hb : acc.bound = none) (h1 : k = 1 → acc = LCAcc.init ∧ ts.length ≤ 1)
    (hs : lcLoop trips k acc ts = .ok acc') (z : F) :
    AccGood ck vk g γ β h s shb acc' ∧
      evalPoly acc'.poly z = evalPoly acc.poly z + lcPolyValue trips z ts := by
  fun_induction lcLoop trips k acc ts with
  | case1 acc => cases hs; exact ⟨hg, (add_zero _).symm⟩
  | case2 acc t ts e hst => cases hs
  | case3 acc t ts acc1 hst ih =>
    obtain ⟨hg1, hb1, hv1⟩ := lcStep_good htr hg hb (fun hk => (h1 hk).1) hst z
    by_cases hk : k = 1
    · cases List.eq_nil_of_length_eq_zero (Nat.le_zero.1 (Nat.le_of_succ_le_succ (h1 hk).2))
      cases hs
      exact ⟨hg1, by rw [hv1, lcPolyValue, lcPolyValue, add_zero]⟩
    · obtain ⟨hg2, hv2⟩ := ih hg1 (hb1 hk) (fun h => absurd h hk) hs
      exact ⟨hg2, by rw [hv2, hv1, lcPolyValue, add_assoc]⟩

/-- **C06 core (Sonic).**  A combination that `open_combinations` accepts, over honest triples, is
itself an honest triple under the same keys — with a degree bound exactly when it is a single term
of coefficient one naming a bounded polynomial — its commitment carries the combination's label,
and its polynomial evaluates to the combination of the evaluations. -/
theorem combineLC_good {trips : List (Trip F)} (htr : TripsGood ck vk g γ β h s shb trips)
    {lc : LC.LinComb F} {res : Trip F} (hc : combineLC trips lc = .ok res) :
    Good ck vk g γ β h s shb res.2.2 res.1 res.2.1 ∧ res.2.2.label = lc.label ∧
      res.1.label = lc.label ∧ ∀ z, evalPoly res.1.poly z = lcPolyValue trips z lc.terms := by
  unfold combineLC at hc
  split at hc
  next => cases hc
  next a ha =>
    cases hc
    have hlp := lcLoop_good htr accGood_init rfl (fun hk => ⟨rfl, hk.le⟩) ha
    exact ⟨(hlp 0).1, rfl, rfl, fun z => by rw [(hlp z).2]; exact zero_add _⟩

theorem combineAll_mapOk (trips : List (Trip F)) (lcs : List (LC.LinComb F)) :
    combineAll trips lcs = mapOk (combineLC trips) lcs :=
  mapOk_unique (combineAll trips) rfl (fun lc lcs => by
    rw [combineAll]
    cases combineLC trips lc with
    | error e => rfl
    | ok t => cases combineAll trips lcs <;> rfl) lcs

theorem combineAll_forall₂ {trips : List (Trip F)} {lcs : List (LC.LinComb F)} {ts : List (Trip F)}
    (hc : combineAll trips lcs = .ok ts) :
    List.Forall₂ (fun lc t => combineLC trips lc = .ok t) lcs ts := by
  rw [combineAll_mapOk] at hc
  exact mapOk_ok_iff.1 hc

theorem combineAll_good {trips : List (Trip F)} (htr : TripsGood ck vk g γ β h s shb trips)
    {lcs : List (LC.LinComb F)} {ts : List (Trip F)} (hc : combineAll trips lcs = .ok ts) :
    Honest ck vk g γ β h s shb (ts.map (·.2.2)) (ts.map (·.1)) (ts.map (·.2.1)) ∧
      SameLabels (ts.map (·.2.2)) (ts.map (·.1)) ∧
      ∀ z, (ts.map (·.1)).map (fun p => evalPoly p.poly z)
        = lcs.map fun lc => lcPolyValue trips z lc.terms := by
  have hf := combineAll_forall₂ hc
  clear hc
  induction hf with
  | nil => exact ⟨trivial, trivial, fun _ => rfl⟩
  | cons h1 _ ih =>
    obtain ⟨hg, hl1, hl2, hv⟩ := combineLC_good htr h1
    exact ⟨⟨hg, ih.1⟩, ⟨hl1.trans hl2.symm, ih.2.1⟩,
      fun z => by rw [List.map_cons, List.map_cons, List.map_cons, hv z, ih.2.2 z]⟩

/-- the commitments the verifier holds are the ones of `label_map`, found under the same labels and
carrying the polynomials' bounds -/
def Aligned (trips : List (Trip F)) (comms : List (LComm F)) : Prop :=
  (∀ l, lookupLast (fun (c : LComm F) => c.label) l comms
      = (lookupLast (fun (t : Trip F) => t.1.label) l trips).map (·.2.2)) ∧
  ∀ t ∈ trips, t.2.2.bound = t.1.bound

theorem aligned_of_good {trips : List (Trip F)}
    (htr : TripsGood ck vk g γ β h s shb trips) :
    Aligned trips (trips.map (·.2.2)) :=
  ⟨fun l => Marlin.lookupLast_map _ l _ (·.2.2) trips fun t ht => (htr t ht).2,
    fun t ht => (htr t ht).1.1⟩

/-- what one term does to the verifier's evaluation map -/
def termEvals (lbl : Label) (term : F × LC.LCTerm) (evals : List ((Label × F) × F)) :
    List ((Label × F) × F) :=
  match term.2 with
  | .one => subConst lbl term.1 evals
  | .poly _ => evals

/-- what one combination does to the verifier's evaluation map -/
def termsEvals (lbl : Label) : List (F × LC.LCTerm) → List ((Label × F) × F) → List ((Label × F) × F)
  | [], evals => evals
  | t :: ts, evals => termsEvals lbl ts (termEvals lbl t evals)

/-- what all combinations do to the verifier's evaluation map -/
def adjustEvals : List (LC.LinComb F) → List ((Label × F) × F) → List ((Label × F) × F)
  | [], evals => evals
  | lc :: lcs, evals => adjustEvals lcs (termsEvals lc.label lc.terms evals)

theorem lcStepV_one (comms : List (LComm F)) (lbl : Label) (k : Nat) (acc : VAcc F)
    (term : F × LC.LCTerm) (ht : term.2 = .one) :
    lcStepV comms lbl k acc term = .ok { acc with evals := subConst lbl term.1 acc.evals } := by
  unfold lcStepV; rw [ht]

theorem lcStepV_unknown (comms : List (LComm F)) (lbl : Label) (k : Nat) (acc : VAcc F) (coeff : F)
    (l : Label) (hl : lookupLast (fun (c : LComm F) => c.label) l comms = none) :
    lcStepV comms lbl k acc (coeff, .poly l) = .error .missingPolynomial := by
  unfold lcStepV; simp only [hl]

theorem lcStepV_unbounded (comms : List (LComm F)) (lbl : Label) (k : Nat) (acc : VAcc F)
    (term : F × LC.LCTerm) (l : Label) (c : LComm F) (ht : term.2 = .poly l)
    (hl : lookupLast (fun (c : LComm F) => c.label) l comms = some c) (hb : c.bound = none) :
    lcStepV comms lbl k acc term = .ok { acc with comm := acc.comm + term.1 * c.comm } := by
  unfold lcStepV
  rw [ht]
  simp only [hl, hb, Option.isSome_none, Bool.false_eq_true, and_false, if_false]

theorem lcStepV_policy (comms : List (LComm F)) (lbl : Label) (k : Nat) (acc : VAcc F) (coeff : F)
    (l : Label) (c : LComm F) (hl : lookupLast (fun (c : LComm F) => c.label) l comms = some c)
    (hb : c.bound.isSome = true) :
    (k ≠ 1 → lcStepV comms lbl k acc (coeff, .poly l) = .error .equationHasDegreeBounds) ∧
    (k = 1 → coeff ≠ 1 → lcStepV comms lbl k acc (coeff, .poly l) = .error .abort) := by
  unfold lcStepV
  simp only [hl]
  exact ⟨fun hk => by rw [if_neg (fun hx => hk hx.1), if_pos hb],
    fun hk hc => by rw [if_pos ⟨hk, hb⟩, if_pos hc]⟩

/-- the verifier's view of the prover's accumulators: commitment and bound, beside the evaluation
map `evals` -/
def accView (evals : List ((Label × F) × F)) : Except Err (LCAcc F) → Except Err (VAcc F)
  | .error e => .error e
  | .ok a => .ok ⟨a.comm, a.bound, evals⟩

/-- **Prover and verifier apply the same policy and form the same commitment**, term by term:
same refusal (same error), same accumulated commitment, same degree bound. -/
theorem lcStepV_eq {trips : List (Trip F)} {comms : List (LComm F)} (hal : Aligned trips comms)
    (lbl : Label) (k : Nat) {acc : LCAcc F} {vacc : VAcc F} (term : F × LC.LCTerm)
    (hc : vacc.comm = acc.comm) (hb : vacc.bound = acc.bound) :
    lcStepV comms lbl k vacc term
      = accView (termEvals lbl term vacc.evals) (lcStep trips k acc term) := by
  unfold lcStepV lcStep termEvals
  cases term.2 with
  | one => simp only [accView, hc, hb]
  | poly l =>
    simp only [hal.1 l]
    cases hl : lookupLast (fun (t : Trip F) => t.1.label) l trips with
    | none => rfl
    | some t =>
      simp only [Option.map_some, hal.2 t (Marlin.lookupLast_mem _ _ _ _ hl).1, apply_ite (accView _)]
      simp only [accView, LCAcc.addTerm, hc, hb]

theorem lcLoopV_eq {trips : List (Trip F)} {comms : List (LComm F)} (hal : Aligned trips comms)
    (lbl : Label) (k : Nat) (ts : List (F × LC.LCTerm)) (acc : LCAcc F) (vacc : VAcc F)
    (hc : vacc.comm = acc.comm) (hb : vacc.bound = acc.bound) :
    lcLoopV comms lbl k vacc ts = accView (termsEvals lbl ts vacc.evals) (lcLoop trips k acc ts) := by
  induction ts generalizing acc vacc with
  | nil => cases vacc; cases hc; cases hb; rfl
  | cons t ts ih =>
    rw [lcLoopV, lcLoop, lcStepV_eq hal lbl k t hc hb]
    cases lcStep trips k acc t with
    | error e => rfl
    | ok acc1 => exact ih acc1 ⟨acc1.comm, acc1.bound, termEvals lbl t vacc.evals⟩ rfl rfl

def lcView (lc : LC.LinComb F) (evals : List ((Label × F) × F)) :
    Except Err (Trip F) → Except Err (LComm F × List ((Label × F) × F))
  | .error e => .error e
  | .ok t => .ok (t.2.2, termsEvals lc.label lc.terms evals)

theorem combineLCV_eq {trips : List (Trip F)} {comms : List (LComm F)} (hal : Aligned trips comms)
    (evals : List ((Label × F) × F)) (lc : LC.LinComb F) :
    combineLCV comms evals lc = lcView lc evals (combineLC trips lc) := by
  unfold combineLCV combineLC
  rw [lcLoopV_eq hal lc.label lc.terms.length lc.terms LCAcc.init ⟨0, none, evals⟩ rfl rfl]
  cases lcLoop trips lc.terms.length LCAcc.init lc.terms <;> rfl

def allView (lcs : List (LC.LinComb F)) (evals : List ((Label × F) × F)) :
    Except Err (List (Trip F)) → Except Err (List (LComm F) × List ((Label × F) × F))
  | .error e => .error e
  | .ok ts => .ok (ts.map (·.2.2), adjustEvals lcs evals)

/-- **The verifier's pass over the combinations** returns the prover's combined commitments (or
the prover's refusal), and the evaluation map with every constant subtracted. -/
theorem combineAllV_eq {trips : List (Trip F)} {comms : List (LComm F)} (hal : Aligned trips comms)
    (lcs : List (LC.LinComb F)) (evals : List ((Label × F) × F)) :
    combineAllV comms lcs evals = allView lcs evals (combineAll trips lcs) := by
  induction lcs generalizing evals with
  | nil => rfl
  | cons lc lcs ih =>
    rw [combineAllV, combineAll, combineLCV_eq hal evals lc]
    cases combineLC trips lc with
    | error e => rfl
    | ok t =>
      dsimp only [lcView]
      rw [ih]
      cases combineAll trips lcs <;> rfl

/-- The triples a commitment list stands for when nothing is known of the polynomials behind it.
They are aligned with the list, so through `combineAllV_eq` the verifier's pass on ANY commitment
list is the view of a prover's pass: its refusals and its evaluation map are the prover's. -/
def bare (comms : List (LComm F)) : List (Trip F) :=
  comms.map fun c => (⟨c.label, [], c.bound, none⟩, [], c)

theorem aligned_bare (comms : List (LComm F)) : Aligned (bare comms) comms := by
  refine ⟨fun l => ?_, fun t ht => ?_⟩
  · rw [bare, lookupLast_map (fun (c : LComm F) => c.label) (fun (t : Trip F) => t.1.label) _
      (fun _ => rfl), Option.map_map]
    exact Option.map_id'.symm
  · obtain ⟨c, _, rfl⟩ := List.mem_map.1 ht
    rfl

theorem combineAllV_evals {comms : List (LComm F)} {lcs : List (LC.LinComb F)}
    {evals : List ((Label × F) × F)} {cs' : List (LComm F)} {ev' : List ((Label × F) × F)}
    (h : combineAllV comms lcs evals = .ok (cs', ev')) : ev' = adjustEvals lcs evals := by
  rw [combineAllV_eq (aligned_bare comms)] at h
  cases hca : combineAll (bare comms) lcs with
  | error e => rw [hca] at h; cases h
  | ok ts => rw [hca] at h; cases h; rfl

/-- the sum of the constant terms of a combination -/
def lcConstant : List (F × LC.LCTerm) → F
  | [] => 0
  | t :: ts => (match t.2 with | .one => t.1 | .poly _ => 0) + lcConstant ts

/-- the constants subtracted from a claimed value labelled `l`: those of EVERY combination carrying
the label `l` (for distinct combination labels: of the one combination) -/
def constSum (lcs : List (LC.LinComb F)) (l : Label) : F :=
  match lcs with
  | [] => 0
  | lc :: rest => (if l = lc.label then lcConstant lc.terms else 0) + constSum rest l

theorem lcConstant_eq (ts : List (F × LC.LCTerm)) : lcConstant ts = LC.constPart ts := by
  induction ts with
  | nil => rfl
  | cons t ts ih => rw [lcConstant, LC.constPart, ih]; cases t.2 <;> rfl

theorem constSum_eq (lcs : List (LC.LinComb F)) (l : Label) : constSum lcs l = LC.constAt lcs l := by
  induction lcs with
  | nil => rfl
  | cons lc lcs ih => rw [constSum, LC.constAt, ih, lcConstant_eq]; simp only [eq_comm]

theorem termsEvals_shift (lbl : Label) (ts : List (F × LC.LCTerm)) (evals : List ((Label × F) × F)) :
    termsEvals lbl ts evals = LC.shift (fun l => if l = lbl then LC.constPart ts else 0) evals := by
  rw [← LC.foldl_subAt]
  induction ts generalizing evals with
  | nil => rfl
  | cons t ts ih => rw [termsEvals, List.foldl_cons, ih, termEvals]; cases t.2 <;> rfl

theorem adjustEvals_shift (lcs : List (LC.LinComb F)) (evals : List ((Label × F) × F)) :
    adjustEvals lcs evals = LC.shift (LC.constAt lcs) evals := by
  induction lcs generalizing evals with
  | nil => exact (LC.shift_zero evals).symm
  | cons lc lcs ih => rw [adjustEvals, ih, termsEvals_shift, LC.shift_constAt_cons]

/-- **What the batch verifier is handed for a claim**: the claimed value minus the constants of the
combinations carrying its label. -/
theorem lookupEval_adjust (lcs : List (LC.LinComb F)) (evals : List ((Label × F) × F)) (l : Label)
    (z : F) :
    lookupEval (adjustEvals lcs evals) l z = (lookupEval evals l z).map (· - constSum lcs l) := by
  rw [adjustEvals_shift, constSum_eq]
  exact Marlin.lookupEval_map l z (fun k v => v - LC.constAt lcs k.1) evals

theorem constSum_of_nodup {lcs : List (LC.LinComb F)} (hnd : (lcs.map (·.label)).Nodup)
    {lc : LC.LinComb F} (hm : lc ∈ lcs) : constSum lcs lc.label = lcConstant lc.terms := by
  rw [constSum_eq, lcConstant_eq, LC.constAt_of_nodup hnd hm]

theorem batchLoopT_fst (vk : VK F) (its : List (Item F)) (πs : List (KZG.Proof F)) (ρ : F)
    (rs ξs : List F) (acc : CMap F × F × F) :
    batchLoop vk its πs ρ rs ξs acc = (batchLoopT vk its πs ρ rs ξs acc).map (·.1) := by
  fun_induction batchLoopT vk its πs ρ rs ξs acc with
  | case1 it its π πs ρ rs ξs acc e h => rw [batchLoop, h]; rfl
  | case2 it its π πs ρ rs ξs acc acc' ξs' h ih => rw [batchLoop, h]; exact ih
  | case3 its πs ρ rs ξs acc hne =>
    unfold batchLoop
    split
    · exact (hne _ _ _ _ rfl rfl).elim
    · rfl

theorem batchCheckT_fst (vk : VK F) (comms : List (LComm F)) (qs : List (Query F))
    (evals : List ((Label × F) × F)) (πs : List (KZG.Proof F)) (ξs rs : List F) :
    batchCheck vk comms qs evals πs ξs rs = (batchCheckT vk comms qs evals πs ξs rs).map (·.1) := by
  unfold batchCheck batchCheckT batchCheckItems
  dsimp only
  split
  · rfl
  · cases gatherGroups comms evals (groupQueries qs) with
    | error e => rfl
    | ok its =>
      dsimp only
      rw [batchLoopT_fst]
      cases batchLoopT vk its πs 1 rs ξs ([], 0, 0) with
      | error e => rfl
      | ok x => dsimp only [Except.map]; cases checkElems vk x.1.1 x.1.2.1 x.1.2.2 <;> rfl

theorem checkCombinationsT_fst (vk : VK F) (comms : List (LComm F)) (lcs : List (LC.LinComb F))
    (qs : List (Query F)) (evals : List ((Label × F) × F)) (πs : List (KZG.Proof F)) (ξs rs : List F) :
    checkCombinations vk comms lcs qs evals πs ξs rs
      = (checkCombinationsT vk comms lcs qs evals πs ξs rs).map (·.1) := by
  unfold checkCombinations checkCombinationsT
  cases combineAllV comms lcs evals with
  | error e => rfl
  | ok x => exact batchCheckT_fst vk x.1 qs x.2 πs ξs rs

/-- every group's individual `check` accepts, and the last one leaves the challenges `rest` -/
def AllAcceptTo (vk : VK F) : List (Item F) → List (KZG.Proof F) → List F → List F → Prop
  | it :: its, π :: πs, ξs, rest =>
    ∃ r, check vk it.1 it.2.1 it.2.2 π ξs = .ok (true, r) ∧ AllAcceptTo vk its πs r rest
  | [], [], ξs, rest => ξs = rest
  | _, _, _, _ => False

theorem allAcceptTo_allAccept {its : List (Item F)} {πs : List (KZG.Proof F)}
    {ξs rest : List F} (h : AllAcceptTo vk its πs ξs rest) : AllAccept vk its πs ξs := by
  fun_induction AllAcceptTo vk its πs ξs rest with
  | case1 it its π πs ξs rest ih => exact h.imp fun r hr => ⟨hr.1, ih r hr.2⟩
  | case2 => trivial
  | case3 => exact h.elim

theorem batchLoopT_rest {its : List (Item F)} {πs : List (KZG.Proof F)} (ρ : F)
    (rs : List F) {ξs rest : List F} (acc : CMap F × F × F) (hall : AllAcceptTo vk its πs ξs rest) :
    batchLoopT vk its πs ρ rs ξs acc = (batchLoop vk its πs ρ rs ξs acc).map (·, rest) := by
  fun_induction AllAcceptTo vk its πs ξs rest generalizing ρ rs acc with
  | case1 it its π πs ξs rest ih =>
    obtain ⟨r, hc, hrest⟩ := hall
    rw [batchLoopT, batchLoop, accumulate_eq, ((check_true_iff ..).1 hc).1]
    exact ih r _ _ _ hrest
  | case2 ξs rest => cases hall; rfl
  | case3 => exact hall.elim

theorem batchOpen_allAcceptTo {bi : F} {D : Nat} {bounds : Option (List Nat)}
    (ht : trim (wfPP g γ β bi h D) s shb bounds = .ok (ck, vk))
    {cs : List (LComm F)} {ps : List (LPoly F)} {rs : List (List F)}
    (hh : Honest ck vk g γ β h s shb cs ps rs) (hl : SameLabels cs ps)
    {evals : List ((Label × F) × F)} {gs : List (Label × (F × List Label))}
    (hev : ∀ gr ∈ gs, ∀ l ∈ gr.2.2, ∀ x,
      lookupLast (fun (x : LPoly F × List F) => x.1.label) l (ps.zip rs) = some x →
      lookupEval evals l gr.2.1 = some (evalPoly x.1.poly gr.2.1))
    {ξs : List F} {πs : List (KZG.Proof F)} {rest : List F}
    (ho : batchOpenGroups ck ps rs gs ξs = .ok (πs, rest)) :
    ∃ its, gatherGroups cs evals gs = .ok its ∧ AllAcceptTo vk its πs ξs rest ∧
      πs.length = gs.length := by
  fun_induction batchOpenGroups ck ps rs gs ξs generalizing πs rest with
  | case1 ξs => cases ho; exact ⟨[], rfl, rfl, rfl⟩
  | case2 | case3 | case4 => cases ho
  | case5 gr gs ξs psg ssg hgp π ξs' hopen πs' rest' hrec ih =>
    cases ho
    obtain ⟨csg, hcg, hhg⟩ := gather_aligned ck vk g γ β h s shb cs ps rs hh hl evals gr.2.1 gr.2.2
      (hev gr (List.mem_cons_self ..)) psg ssg hgp
    obtain ⟨its, hits, hacc, hlen⟩ := ih (fun gr' hgr' => hev gr' (List.mem_cons_of_mem _ hgr')) hrec
    have hchk := open_check_complete g γ β bi h D s shb bounds ck vk ht csg psg ssg hhg gr.2.1 ξs π ξs'
      hopen
    exact ⟨(csg, gr.2.1, psg.map fun p => evalPoly p.poly gr.2.1) :: its, by rw [gatherGroups, hcg, hits],
      ⟨ξs', hchk, hacc⟩, congrArg (· + 1) hlen⟩

theorem batchCheckT_of_allAcceptTo {comms : List (LComm F)} {qs : List (Query F)}
    {evals : List ((Label × F) × F)} {πs : List (KZG.Proof F)} {ξs rest : List F} (rs : List F)
    (hlen : πs.length = (groupQueries qs).length) {its : List (Item F)}
    (hits : gatherGroups comms evals (groupQueries qs) = .ok its)
    (hall : AllAcceptTo vk its πs ξs rest) :
    batchCheckT vk comms qs evals πs ξs rs = .ok (true, rest) := by
  have hb := batch_all_true vk its πs ξs rs (allAcceptTo_allAccept hall)
  unfold batchCheckItems at hb
  unfold batchCheckT
  simp only [hlen, ne_eq, not_true_eq_false, if_false, hits,
    batchLoopT_rest 1 rs ([], 0, 0) hall]
  cases hloop : batchLoop vk its πs 1 rs ξs ([], 0, 0) with
  | error e => rw [hloop] at hb; cases hb
  | ok x => rw [hloop] at hb; simp only [Except.map, hb]

/-- `batch_open` (trait default) → `batch_check` (Sonic) on any honest, equally labelled lists: accepted
for every randomizer list, and the verifier's sponge ends where the prover's does -/
theorem batchCheckT_complete {bi : F} {D : Nat} {bounds : Option (List Nat)}
    (ht : trim (wfPP g γ β bi h D) s shb bounds = .ok (ck, vk))
    {cs : List (LComm F)} {ps : List (LPoly F)} {rs : List (List F)}
    (hh : Honest ck vk g γ β h s shb cs ps rs) (hl : SameLabels cs ps)
    {qs : List (Query F)} {evals : List ((Label × F) × F)}
    (hev : ∀ gr ∈ groupQueries qs, ∀ l ∈ gr.2.2, ∀ x,
      lookupLast (fun (x : LPoly F × List F) => x.1.label) l (ps.zip rs) = some x →
      lookupEval evals l gr.2.1 = some (evalPoly x.1.poly gr.2.1))
    {ξs : List F} {πs : List (KZG.Proof F)} {rest : List F}
    (ho : batchOpen ck ps rs qs ξs = .ok (πs, rest)) (vrs : List F) :
    batchCheckT vk cs qs evals πs ξs vrs = .ok (true, rest) := by
  obtain ⟨its, hits, hacc, hlen⟩ := batchOpen_allAcceptTo ht hh hl hev ho
  exact batchCheckT_of_allAcceptTo vrs hlen hits hacc

/-- **Completeness of `open_combinations` → `check_combinations`**: commitments from `commit`, any
combinations the prover answers, every claimed value the value of the combined polynomial plus the
constants subtracted for its label.  Accepted for every randomizer list, with the prover's unused
challenges left. -/
theorem lc_complete {bi : F} (hb : β * bi = 1) {D : Nat} {bounds : Option (List Nat)}
    (ht : trim (wfPP g γ β bi h D) s shb bounds = .ok (ck, vk))
    {ps : List (LPoly F)} {rng : Bool} {draws : List F} {cs : List (LComm F)} {rs : List (List F)}
    {drest : List F} (hc : commit ck ps rng draws = .ok (cs, rs, drest))
    {lcs : List (LC.LinComb F)} {qs : List (Query F)} {evals : List ((Label × F) × F)}
    (hev : ∀ gr ∈ groupQueries qs, ∀ l ∈ gr.2.2, ∀ lc,
      lookupLast (fun (lc : LC.LinComb F) => lc.label) l lcs = some lc →
      lookupEval evals l gr.2.1
        = some (lcPolyValue (labelMap ps rs cs) gr.2.1 lc.terms + constSum lcs l))
    {ξs : List F} {πs : List (KZG.Proof F)} {rest : List F}
    (ho : openCombinations ck ps rs cs lcs qs ξs = .ok (πs, rest)) (vrs : List F) :
    checkCombinationsT vk cs lcs qs evals πs ξs vrs = .ok (true, rest) := by
  have hh := commit_honest g γ β bi h hb D s shb bounds ck vk ht ps rng draws cs rs drest hc
  have htr := labelMap_good hh (commit_labels ck ps rng draws cs rs drest hc)
  have hal := aligned_of_good htr
  rw [labelMap_comms hh] at hal
  unfold openCombinations at ho
  unfold checkCombinationsT
  rw [combineAllV_eq hal lcs evals]
  cases hca : combineAll (labelMap ps rs cs) lcs with
  | error e => rw [hca] at ho; cases ho
  | ok ts =>
    rw [hca] at ho
    obtain ⟨hh2, hl2, _⟩ := combineAll_good htr hca
    refine batchCheckT_complete ht hh2 hl2 ?_ ho vrs
    -- the batch prover opens the combined polynomial of the last combination labelled `l`;
    -- the verifier looks up the claim for `l` with that combination's constants subtracted
    intro gr hgr l hlg x hx
    rw [List.zip_map', lookupLast_map (fun (t : Trip F) => t.1.label)
      (fun (x : LPoly F × List F) => x.1.label) (fun t => (t.1, t.2.1)) (fun _ => rfl)] at hx
    obtain ⟨t, hlt, rfl⟩ := Option.map_eq_some_iff.1 hx
    rcases Marlin.lookupLast_forall₂ _ l (fun lc t => combineLC (labelMap ps rs cs) lc = .ok t) _
      (fun _ _ h => (combineLC_good htr h).2.2.1.symm) (combineAll_forall₂ hca) with
      ⟨_, h2⟩ | ⟨lc, t', h1, h2, h3⟩
    · cases h2.symm.trans hlt
    · cases h2.symm.trans hlt
      rw [lookupEval_adjust, hev gr hgr l hlg lc h1, Option.map_some,
        (combineLC_good htr h3).2.2.2 gr.2.1, add_sub_cancel_right]

end

/-- the term names no polynomial, or one the lookup knows -/
def termKnown (bounded : Label → Option Bool) (t : F × LC.LCTerm) : Bool :=
  match t.2 with
  | .one => true
  | .poly l => (bounded l).isSome

/-- the term names a degree-bounded polynomial -/
def termBounded (bounded : Label → Option Bool) (t : F × LC.LCTerm) : Bool :=
  match t.2 with
  | .one => false
  | .poly l => bounded l == some true

/-- a term list that names only known polynomials, one of them degree-bounded -/
def Mixed (bounded : Label → Option Bool) (ts : List (F × LC.LCTerm)) : Prop :=
  ts.all (termKnown bounded) = true ∧ ts.any (termBounded bounded) = true

/-- the prover's view of the labels: `some (has a bound)` for a known polynomial -/
def pBounded (trips : List (Trip F)) (l : Label) : Option Bool :=
  (lookupLast (fun (t : Trip F) => t.1.label) l trips).map fun t => t.1.bound.isSome

/-- the verifier's view of the labels -/
def vBounded (comms : List (LComm F)) (l : Label) : Option Bool :=
  (lookupLast (fun (c : LComm F) => c.label) l comms).map fun c => c.bound.isSome

/-- with `lc.len() ≠ 1` the loop skips constants and adds unbounded polynomials until it meets the
bounded one, which it refuses; no unknown label stops it earlier -/
theorem lcLoop_mixed (trips : List (Trip F)) (k : Nat) (hk : k ≠ 1) (ts : List (F × LC.LCTerm))
    (hm : Mixed (pBounded trips) ts) (acc : LCAcc F) :
    lcLoop trips k acc ts = .error .equationHasDegreeBounds := by
  induction ts generalizing acc with
  | nil => cases hm.2
  | cons t ts ih =>
    obtain ⟨hknown, hany⟩ := hm
    rw [List.all_cons, Bool.and_eq_true] at hknown
    rw [List.any_cons, Bool.or_eq_true] at hany
    obtain ⟨c, tm⟩ := t
    rw [lcLoop]
    cases tm with
    | one =>
      rw [lcStep_one trips k acc _ rfl]
      exact ih ⟨hknown.2, hany.resolve_left nofun⟩ acc
    | poly l =>
      cases hl : lookupLast (fun (t : Trip F) => t.1.label) l trips with
      | none =>
        simp only [termKnown, pBounded, hl, Option.map_none, Option.isSome_none] at hknown
        exact nomatch hknown.1
      | some x =>
        cases hb : x.1.bound.isSome with
        | true => rw [(lcStep_policy trips k acc c l x hl hb).1 hk]
        | false =>
          rw [lcStep_unbounded trips k acc _ l x rfl hl (Option.not_isSome_iff_eq_none.1 (hb ▸ nofun))]
          refine ih ⟨hknown.2, hany.resolve_left ?_⟩ _
          simp only [termBounded, pBounded, hl, Option.map_some, hb]
          nofun

/-- **Refused mixture, prover.**  A combination with `len ≠ 1` (constants counted) whose polynomial
labels are all known and one of which names a degree-bounded polynomial — at any position, with any
coefficients — is refused with `EquationHasDegreeBounds`. -/
theorem combineLC_mixed (trips : List (Trip F)) (lc : LC.LinComb F) (hk : lc.terms.length ≠ 1)
    (hm : Mixed (pBounded trips) lc.terms) :
    combineLC trips lc = .error .equationHasDegreeBounds := by
  unfold combineLC
  rw [lcLoop_mixed trips _ hk lc.terms hm]

theorem pBounded_bare (comms : List (LComm F)) : pBounded (bare comms) = vBounded comms := by
  funext l
  rw [pBounded, vBounded, bare, lookupLast_map (fun (c : LComm F) => c.label)
    (fun (t : Trip F) => t.1.label) _ (fun _ => rfl), Option.map_map]
  rfl

theorem combineAll_refuses {trips : List (Trip F)} {pre : List (LC.LinComb F)}
    (post : List (LC.LinComb F)) {lc : LC.LinComb F} {e : Err} {tsp : List (Trip F)}
    (hp : combineAll trips pre = .ok tsp) (hlc : combineLC trips lc = .error e) :
    combineAll trips (pre ++ lc :: post) = .error e := by
  rw [combineAll_mapOk] at hp
  rw [combineAll_mapOk, mapOk_append, hp, mapOk, hlc]
  rfl

theorem combineAllV_refuses {comms : List (LComm F)} {pre : List (LC.LinComb F)}
    (post : List (LC.LinComb F)) {lc : LC.LinComb F} {e : Err} {evals : List ((Label × F) × F)}
    {csp : List (LComm F)} {evp : List ((Label × F) × F)}
    (hp : combineAllV comms pre evals = .ok (csp, evp))
    (hlc : ∀ ev, combineLCV comms ev lc = .error e) :
    combineAllV comms (pre ++ lc :: post) evals = .error e := by
  fun_induction combineAllV comms pre evals generalizing csp evp with
  | case1 => rw [List.nil_append, combineAllV, hlc]
  | case2 | case3 => cases hp
  | case4 x xs evals c ev1 h1 cs' ev2 h2 ih =>
    simp only [List.cons_append, combineAllV, h1, ih h2]

theorem lcStepV_comm_add (comms : List (LComm F)) (lbl : Label) (k : Nat) (a : VAcc F) (d : F)
    (t : F × LC.LCTerm) :
    lcStepV comms lbl k { a with comm := a.comm + d } t
      = (lcStepV comms lbl k a t).map fun a' => { a' with comm := a'.comm + d } := by
  unfold lcStepV
  cases t.2 with
  | one => rfl
  | poly l =>
    dsimp only
    cases lookupLast (fun (c : LComm F) => c.label) l comms with
    | none => rfl
    | some c =>
      simp only [apply_ite (Except.map _)]
      simp only [Except.map, add_right_comm a.comm d]

theorem lcLoopV_comm_add (comms : List (LComm F)) (lbl : Label) (k : Nat)
    (ts : List (F × LC.LCTerm)) (a : VAcc F) (d : F) :
    lcLoopV comms lbl k { a with comm := a.comm + d } ts
      = (lcLoopV comms lbl k a ts).map fun a' => { a' with comm := a'.comm + d } := by
  induction ts generalizing a with
  | nil => rfl
  | cons t ts ih =>
    rw [lcLoopV, lcLoopV, lcStepV_comm_add]
    cases lcStepV comms lbl k a t with
    | error e => rfl
    | ok a' => exact ih a'

/-- **A changed coefficient** of a term naming the unbounded commitment `cl`: the same refusals, the
same bound and evaluations, and the combined commitment moves by `δ·cl`. -/
theorem lcLoopV_coeff (comms : List (LComm F)) (lbl : Label) (k : Nat)
    (pre post : List (F × LC.LCTerm)) (c δ : F) (l : Label) (cl : LComm F)
    (hl : lookupLast (fun (c : LComm F) => c.label) l comms = some cl) (hb : cl.bound = none)
    (v0 : VAcc F) :
    lcLoopV comms lbl k v0 (pre ++ (c + δ, .poly l) :: post)
      = (lcLoopV comms lbl k v0 (pre ++ (c, .poly l) :: post)).map
          fun a => { a with comm := a.comm + δ * cl.comm } := by
  induction pre generalizing v0 with
  | nil =>
    rw [List.nil_append, List.nil_append, lcLoopV, lcLoopV,
      lcStepV_unbounded comms lbl k v0 (c + δ, .poly l) l cl rfl hl hb,
      lcStepV_unbounded comms lbl k v0 (c, .poly l) l cl rfl hl hb,
      ← lcLoopV_comm_add comms lbl k post _ (δ * cl.comm)]
    dsimp only
    rw [add_mul, add_assoc]
  | cons t ts ih =>
    rw [List.cons_append, List.cons_append, lcLoopV, lcLoopV]
    cases lcStepV comms lbl k v0 t with
    | error e => rfl
    | ok v1 => exact ih v1

theorem lcConstant_append (xs ys : List (F × LC.LCTerm)) :
    lcConstant (xs ++ ys) = lcConstant xs + lcConstant ys := by
  simp only [lcConstant_eq, LC.constPart_append]

theorem lcConstant_change (pre post : List (F × LC.LCTerm)) (c δ : F) :
    lcConstant (pre ++ (c + δ, .one) :: post) = lcConstant (pre ++ (c, .one) :: post) + δ := by
  simp only [lcConstant_append, lcConstant]
  ring

theorem lcConstant_coeff (pre post : List (F × LC.LCTerm)) (c c' : F) (l : Label) :
    lcConstant (pre ++ (c', .poly l) :: post) = lcConstant (pre ++ (c, .poly l) :: post) := by
  simp only [lcConstant_append, lcConstant]

theorem constSum_append (A B : List (LC.LinComb F)) (l : Label) :
    constSum (A ++ B) l = constSum A l + constSum B l := by
  simp only [constSum_eq, LC.constAt_append]

/-- the assignment "label ↦ evaluation at `z` of the committed polynomial with that label" -/
def evalAssign (trips : List (Trip F)) (z : F) (l : Label) : F :=
  match lookupLast (fun (t : Trip F) => t.1.label) l trips with
  | none => 0
  | some x => evalPoly x.1.poly z

theorem lcPolyValue_eq (trips : List (Trip F)) (z : F) (ts : List (F × LC.LCTerm)) :
    lcPolyValue trips z ts = LC.polyPart (evalAssign trips z) ts := by
  induction ts with
  | nil => rfl
  | cons t ts ih =>
    rw [lcPolyValue, LC.polyPart, ih, termPolyValue]
    cases t.2 with
    | one => rfl
    | poly l =>
      simp only [evalAssign]
      cases lookupLast (fun (t : Trip F) => t.1.label) l trips <;> simp only [mul_zero]

/-- `LinearCombination`'s value under the true evaluations = combined polynomial's value + constants -/
theorem lc_value_split (trips : List (Trip F)) (z : F) (ts : List (F × LC.LCTerm)) :
    LC.termsValue (evalAssign trips z) ts = lcPolyValue trips z ts + lcConstant ts := by
  rw [lcPolyValue_eq, lcConstant_eq]
  exact LC.termsValue_split _ ts

end Sonic
end PCV
