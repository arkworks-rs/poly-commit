/-
  PCV.Proofs.SonicLCExamples — concrete combination openings over `K = ZMod 101` on the transcript of
  `PCV.Proofs.SonicExamples` (bounded hiding `p0`, unbounded `p1`, bounded `p2`), evaluated by `decide +kernel`;
  the non-vacuity examples of C06 / C11 / C19 (Sonic) refer to them.
-/
import PCV.Proofs.SonicHistory
import PCV.Proofs.SonicExamples

namespace PCV
namespace Sonic
namespace ExLC
open Marlin (Query)

def trips : List (Trip K) := labelMap Ex.polys Ex.rands Ex.comms
/-- `2·p1 − 1·p1 + 5 + 0·p1`: repeated label, negative and zero coefficients, a constant -/
def lcA : LC.LinComb K :=
  ⟨[108, 48], [(2, .poly [112, 49]), (-1, .poly [112, 49]), (5, .one), (0, .poly [112, 49])]⟩
/-- `1·p0`: a single degree-bounded (and hiding) term -/
def lcB : LC.LinComb K := ⟨[108, 49], [(1, .poly [112, 48])]⟩
/-- `3 − 4·p1 − 2`: two constants around a polynomial term -/
def lcC : LC.LinComb K := ⟨[108, 50], [(3, .one), (-4, .poly [112, 49]), (-2, .one)]⟩
def lcs : List (LC.LinComb K) := [lcA, lcB, lcC]
/-- `p0 + 3·p1`: a degree-bounded polynomial mixed with another term -/
def lcMixed : LC.LinComb K := ⟨[98], [(1, .poly [112, 48]), (3, .poly [112, 49])]⟩
/-- `p2 + 0`: a degree-bounded polynomial with a (zero) constant -/
def lcMixedConst : LC.LinComb K := ⟨[98], [(1, .poly [112, 50]), (0, .one)]⟩
/-- `2·p0`: a single degree-bounded term with coefficient ≠ 1 -/
def lcScaled : LC.LinComb K := ⟨[98], [(2, .poly [112, 48])]⟩
/-- three point labels, the first and the last share the point 5; two combinations at the first two -/
def qs : List (Query K) :=
  [([108, 48], ([97], 5)), ([108, 48], ([98], 9)), ([108, 49], ([97], 5)), ([108, 50], ([98], 9)),
   ([108, 50], ([99], 5))]
def xis : List K := [11, 13, 17, 19, 23, 29, 31, 37, 41]
/-- the true combination values -/
def evals : List ((LC.Label × K) × K) :=
  [(([108, 48], 5), 34), (([108, 48], 9), 90), (([108, 49], 5), 86), (([108, 50], 9), 65),
   (([108, 50], 5), 87)]
def proofs : List (KZG.Proof K) := [⟨72, some 87⟩, ⟨15, none⟩, ⟨22, none⟩]
def combined : List (Trip K) :=
  [(⟨[108, 48], [4, 0, 1], none, none⟩, [], ⟨[108, 48], 24, none⟩),
   (⟨[108, 49], [1, 2, 3], some 3, some 1⟩, [7, 0, 9], ⟨[108, 49], 27, some 3⟩),
   (⟨[108, 50], [85, 0, 97], none, none⟩, [], ⟨[108, 50], 5, none⟩)]

theorem combine_eq : combineAll trips lcs = .ok combined := by decide +kernel
theorem open_eq :
    openCombinations Ex.ck Ex.polys Ex.rands Ex.comms lcs qs xis = .ok (proofs, [41]) := by decide +kernel
theorem check_eq :
    checkCombinationsT Ex.vk Ex.comms lcs qs evals proofs xis [7, 8] = .ok (true, [41]) := by decide +kernel

theorem honest : Honest Ex.ck Ex.vk (3 : K) 5 2 7 3 1 Ex.comms Ex.polys Ex.rands :=
  commit_honest 3 5 2 51 7 Ex.inv 4 3 1 _ Ex.ck Ex.vk Ex.trim_eq Ex.polys true _ Ex.comms Ex.rands _
    Ex.commit_eq
theorem trips_good : TripsGood Ex.ck Ex.vk (3 : K) 5 2 7 3 1 trips :=
  labelMap_good honest (commit_labels Ex.ck Ex.polys true _ Ex.comms Ex.rands _ Ex.commit_eq)

/-- the claimed values `evals` are the true ones: the hypothesis of `lc_complete` on the example, which
is `Truthful … (.comb lcs qs evals)` written out -/
theorem claims_true : ∀ gr ∈ Marlin.groupQueries qs, ∀ l ∈ gr.2.2, ∀ lc,
    Marlin.lookupLast (fun (lc : LC.LinComb K) => lc.label) l lcs = some lc →
    Marlin.lookupEval evals l gr.2.1
      = some (lcPolyValue (labelMap Ex.polys Ex.rands Ex.comms) gr.2.1 lc.terms + constSum lcs l) :=
  (by decide +kernel :
    Truthful Ex.ck Ex.vk (3 : K) 5 2 7 3 1 Ex.polys Ex.rands Ex.comms (.comb lcs qs evals))

/-! a history: combination opening, plain opening of the first two polynomials, batch opening -/
def bqs : List (Query K) :=
  [([112, 48], ([97], 5)), ([112, 49], ([97], 5)), ([112, 49], ([98], 9)), ([112, 50], ([98], 9))]
def bevals : List ((LC.Label × K) × K) :=
  [(([112, 48], 5), 86), (([112, 49], 5), 29), (([112, 49], 9), 85), (([112, 50], 9), 15)]
def ops : List (Op K) :=
  [.comb lcs qs evals, .single (trips.take 2) 6, .batch bqs bevals]
def stream : List K := [11, 13, 17, 19, 23, 29, 31, 37, 41, 43, 47, 53, 59, 61, 67, 71, 73, 79, 83]
def histProofs : List (List (KZG.Proof K)) :=
  [[⟨72, some 87⟩, ⟨15, none⟩, ⟨22, none⟩], [⟨2, some 37⟩], [⟨78, some 75⟩, ⟨0, none⟩]]

theorem prover_eq :
    proverRun Ex.ck Ex.polys Ex.rands Ex.comms ops stream = .ok (histProofs, [79, 83]) := by decide +kernel
theorem verifier_eq :
    verifierRun Ex.vk Ex.comms ops histProofs [[7, 8], [], [9]] stream = .ok (true, [79, 83]) := by
  decide +kernel

end ExLC
end Sonic
end PCV
