/-
  PCV.Proofs.SortDedup — `Marlin.sortDedup` (`v.sort(); v.dedup()` on the enforced degree bounds,
  used by the Marlin and the Sonic `trim`): same members, strictly ascending, so its last element is
  the largest bound.
-/
import PCV.Proofs.QuerySet

namespace PCV
namespace Marlin

open TraitDefault (setInsert mem_setInsert sorted_setInsert)

/-- `Ord for usize` -/
def ltNat (a b : Nat) : Bool := decide (a < b)

theorem strictTotal_ltNat : QS.StrictTotal ltNat :=
  ⟨fun _ _ _ h1 h2 => decide_eq_true (Nat.lt_trans (of_decide_eq_true h1) (of_decide_eq_true h2)),
   fun _ _ hne h =>
    decide_eq_true (Nat.lt_of_le_of_ne (Nat.le_of_not_lt (of_decide_eq_false h)) hne.symm)⟩

/-- the model tests `<` before `=`, `setInsert` the other way round -/
theorem insertSorted_eq (x : Nat) (l : List Nat) : insertSorted x l = setInsert ltNat x l := by
  induction l with
  | nil => rfl
  | cons y ys ih =>
    rw [insertSorted, setInsert, ih]
    by_cases h : x = y
    · rw [if_pos h, if_pos h, if_neg (h ▸ Nat.lt_irrefl x)]
    · rw [if_neg h, if_neg h]; exact if_congr decide_eq_true_iff.symm rfl rfl

theorem mem_insertSorted (x y : Nat) (l : List Nat) : y ∈ insertSorted x l ↔ y = x ∨ y ∈ l :=
  insertSorted_eq x l ▸ mem_setInsert ltNat x y l

theorem mem_sortDedup (y : Nat) (l : List Nat) : y ∈ sortDedup l ↔ y ∈ l := by
  induction l with
  | nil => rfl
  | cons a as ih => rw [sortDedup, mem_insertSorted, ih, List.mem_cons]

theorem sorted_insertSorted (x : Nat) (l : List Nat) (h : l.Pairwise (· < ·)) :
    (insertSorted x l).Pairwise (· < ·) := by
  have hs := sorted_setInsert strictTotal_ltNat x (l := l) (h.imp decide_eq_true)
  exact insertSorted_eq x l ▸ hs.imp of_decide_eq_true

theorem sorted_sortDedup (l : List Nat) : (sortDedup l).Pairwise (· < ·) := by
  induction l with
  | nil => exact List.Pairwise.nil
  | cons a as ih => exact sorted_insertSorted a _ ih

theorem le_getLastD_of_sorted {l : List Nat} (h : l.Pairwise (· < ·)) {a : Nat} (ha : a ∈ l) :
    a ≤ l.getLastD 0 := by
  induction l generalizing a with
  | nil => cases ha
  | cons x xs ih =>
    rw [List.pairwise_cons] at h
    cases xs with
    | nil => exact Nat.le_of_eq (List.mem_singleton.1 ha)
    | cons y ys =>
      have hy : y ≤ (y :: ys).getLastD 0 := ih h.2 List.mem_cons_self
      rcases List.mem_cons.1 ha with rfl | ha
      · exact Nat.le_trans (Nat.le_of_lt (h.1 y List.mem_cons_self)) hy
      · exact ih h.2 ha

theorem getLastD_mem {l : List Nat} (h : l ≠ []) : l.getLastD 0 ∈ l := by
  cases l with
  | nil => exact absurd rfl h
  | cons x xs => rw [List.getLastD_cons]; exact List.getLastD_mem_cons

end Marlin
end PCV
