/-
  PCV.Proofs.StreamKZG — single-point part of the streaming-KZG model: the time- and the
  space-efficient prover run the same synthetic division (Horner recurrence), both committers the
  same MSM; the verifier keys derived from a key made by `new`; the verdict of `verify` as one
  equation (the pairing equation holds iff its defect vanishes).
-/
import PCV.Model.StreamKZG
import PCV.Proofs.PolyMore

namespace PCV
namespace SKZG
variable {F : Type} [Field F]

theorem dot_reverse {a b : List F} (h : a.length = b.length) :
    dot a.reverse b.reverse = dot a b := by
  induction a generalizing b with
  | nil => cases b with
    | nil => rfl
    | cons _ _ => cases h
  | cons x xs ih => cases b with
    | nil => cases h
    | cons y ys =>
      rw [List.reverse_cons, List.reverse_cons,
        dot_append _ _ _ _ (by rw [List.length_reverse, List.length_reverse]; exact Nat.succ.inj h),
        ih (Nat.succ.inj h)]
      simp only [dot_cons, dot_nil_left, add_zero]
      exact add_comm _ _

omit [Field F] in
theorem reverse_drop_sub {l : List F} {n : Nat} (h : n ≤ l.length) :
    l.reverse.drop (l.length - n) = (l.take n).reverse := by
  rw [List.drop_reverse, Nat.sub_sub_self h]

/-- the MSM of a big-endian stream with the reversed key, skipped to alignment (`len(srs) - len(f)`),
is the MSM of the coefficient vector with the key -/
theorem dot_stream (a q : List F) (h : q.length ≤ a.length) :
    dot (a.reverse.drop (a.length - q.length)) q.reverse = dot a q := by
  rw [reverse_drop_sub h, dot_reverse (by rw [List.length_take, Nat.min_eq_left h]),
    dot_take (Nat.le_refl _)]

theorem time_openLoop_snoc (α c d : F) (xs : List F) (prev : F) (q : List F)
    (h : prev = (q ++ [d]).headD 0) :
    Time.openLoop α (xs ++ [c]) prev q
      = (c + (Time.openLoop α xs prev q ++ [d]).headD 0 * α) :: Time.openLoop α xs prev q := by
  induction xs generalizing prev q with
  | nil => simp only [List.nil_append, Time.openLoop, h]
  | cons x xs ih => exact ih _ _ rfl

/-- the vector built by `CommitterKey::open` is the synthetic division of `p` by `X - α`:
remainder first, then the quotient (whose padded top coefficient is the initial `previous = 0`). -/
theorem time_openLoop_divLin (α : F) (p : List F) :
    (divLin p α).2 :: (divLin p α).1 = Time.openLoop α p.reverse 0 [] ++ [0] := by
  induction p with
  | nil => rfl
  | cons c cs ih =>
    rw [List.reverse_cons, time_openLoop_snoc α c 0 cs.reverse 0 [] rfl, List.cons_append, ← ih,
      divLin_cons, List.headD_cons, mul_comm]

/-- **`CommitterKey::open` is synthetic division**: the evaluation is the remainder, the proof the
MSM of the quotient. -/
theorem time_openBody_eq (ck : CK F) (p : List F) (α : F) :
    Time.openBody ck p α = (evalPoly p α, dot ck.powersOfG (divLin p α).1) := by
  have h := time_openLoop_divLin α p
  rw [divLin_rem] at h
  unfold Time.openBody
  generalize evalPoly p α = e, (divLin p α).1 = q, Time.openLoop α p.reverse 0 [] = L at h ⊢
  cases L with
  | nil => cases h; rfl
  | cons ev quot =>
    cases h
    exact congrArg (Prod.mk _) (dot_append_zeros ck.powersOfG _ 1).symm

variable {ck : CK F} {p : List F} {g g2 τ : F} {D m : Nat}

theorem time_open_eq (α : F) (h : p.length ≤ ck.powersOfG.length) :
    Time.open ck p α = .ok (evalPoly p α, dot ck.powersOfG (divLin p α).1) := by
  unfold Time.open
  rw [if_neg (Nat.not_lt.2 h), time_openBody_eq]

/-- a polynomial with more coefficients than the key has powers: `CommitterKey::open` aborts (fix D24) -/
theorem time_open_abort (α : F) (h : ck.powersOfG.length < p.length) :
    Time.open ck p α = .error .abort :=
  if_pos h

theorem time_commit_eq (h : p.length ≤ ck.powersOfG.length) :
    Time.commit ck p = .ok (dot ck.powersOfG p) :=
  if_neg (Nat.not_lt.2 h)

/-- likewise `CommitterKey::commit` (fix D24) -/
theorem time_commit_abort (h : ck.powersOfG.length < p.length) :
    Time.commit ck p = .error .abort :=
  if_pos h

theorem time_commit_ok (ck : CK F) (p : List F) (c : F) (h : Time.commit ck p = .ok c) :
    p.length ≤ ck.powersOfG.length ∧ c = dot ck.powersOfG p := by
  rcases Nat.lt_or_ge ck.powersOfG.length p.length with hlt | hge
  · rw [time_commit_abort hlt] at h; cases h
  · rw [time_commit_eq hge] at h; cases h; exact ⟨hge, rfl⟩

theorem time_open_ok (ck : CK F) (p : List F) (α : F) (o : F × F) (h : Time.open ck p α = .ok o) :
    p.length ≤ ck.powersOfG.length ∧ o = (evalPoly p α, dot ck.powersOfG (divLin p α).1) := by
  rcases Nat.lt_or_ge ck.powersOfG.length p.length with hlt | hge
  · rw [time_open_abort α hlt] at h; cases h
  · rw [time_open_eq α hge] at h; cases h; exact ⟨hge, rfl⟩

theorem time_batchCommit_eq {ps : List (List F)}
    (h : ∀ p ∈ ps, p.length ≤ ck.powersOfG.length) :
    Time.batchCommit ck ps = .ok (ps.map (dot ck.powersOfG)) := by
  induction ps with
  | nil => rfl
  | cons p ps ih =>
    simp only [Time.batchCommit, time_commit_eq (h p List.mem_cons_self),
      ih (fun q hq => h q (List.mem_cons_of_mem _ hq)), List.map_cons]

theorem space_openLoop_append (α : F) (xs xs' ys ys' : List F) (prev quot : F)
    (h : xs.length = ys.length) :
    Space.openLoop α (xs ++ xs') (ys ++ ys') prev quot
      = Space.openLoop α xs' ys' (Space.openLoop α xs ys prev quot).1
          (Space.openLoop α xs ys prev quot).2 := by
  induction xs generalizing ys prev quot with
  | nil => cases ys with
    | nil => rfl
    | cons _ _ => cases h
  | cons x xs ih => cases ys with
    | nil => cases h
    | cons y ys => exact ih ys _ _ (Nat.succ.inj h)

theorem space_openLoop_divLin (α : F) (p bs : List F) (h : bs.length = p.length) :
    Space.openLoop α p.reverse bs.reverse 0 0 = (evalPoly p α, dot bs (divLin p α).1) := by
  induction p generalizing bs with
  | nil => cases bs with
    | nil => rfl
    | cons _ _ => cases h
  | cons c cs ih =>
    cases bs with
    | nil => cases h
    | cons b bs =>
      simp only [List.reverse_cons]
      rw [space_openLoop_append α _ _ _ _ 0 0 (by simpa using h.symm), ih bs (Nat.succ.inj h)]
      simp only [Space.openLoop, divLin, dot_cons, evalPoly_cons, divLin_rem]
      refine Prod.ext ?_ ?_ <;> ring

/-- **`CommitterKeyStream::open` = `CommitterKey::open`** on every coefficient list, every point and
every key (`Reverse` of the key and of the coefficients): both carry the same assertion, and past it
the two recurrences are the same synthetic division. -/
theorem space_open_eq_time_open (ck : CK F) (p : List F) (α : F) :
    Space.open (CKS.ofTime ck) p.reverse α = Time.open ck p α := by
  unfold Space.open Time.open CKS.ofTime
  simp only [List.length_reverse]
  by_cases h : ck.powersOfG.length < p.length
  · rw [if_pos h, if_pos h]
  · rw [if_neg h, if_neg h, time_openBody_eq, reverse_drop_sub (Nat.le_of_not_lt h),
      space_openLoop_divLin α p _ (by rw [List.length_take, Nat.min_eq_left (Nat.le_of_not_lt h)]),
      dot_take (by rw [divLin_len])]

/-- **`CommitterKeyStream::commit` = `CommitterKey::commit`**, likewise on every input. -/
theorem space_commit_eq_time_commit (ck : CK F) (p : List F) :
    Space.commit (CKS.ofTime ck) p.reverse = Time.commit ck p := by
  unfold Space.commit Time.commit CKS.ofTime
  simp only [List.length_reverse]
  by_cases h : ck.powersOfG.length < p.length
  · rw [if_pos h, if_pos h]
  · rw [if_neg h, if_neg h, dot_stream _ _ (Nat.le_of_not_lt h)]

theorem vk_ofTime_new (g g2 τ : F) (D m : Nat) :
    VK.ofTime (CK.new g g2 τ D m)
      = .ok ⟨PCV.powers g τ (min D m), PCV.powers g2 τ (min D m + 1)⟩ := by
  classical
  unfold VK.ofTime CK.new
  simp only [powers_length, powers_take, Nat.add_min_add_right, Nat.add_sub_cancel]
  have h : min D m ≤ D + 1 := Nat.le_succ_of_le (Nat.min_le_left D m)
  rw [if_neg (Nat.succ_ne_zero _), if_neg (Nat.not_lt.2 h), Nat.min_eq_left h]

omit [Field F] in
/-- the verifier key derived from a stream key keeps the first `min (max m 1) len` G1 powers,
`m = |powers_of_g2| - 1`, where the one derived from the time key keeps the first `m` (and aborts
when there are fewer): the same key unless `m = 0` or `m > len` -/
theorem vk_ofSpace_ofTime (ck : CK F) (h : ck.powersOfG.length ≠ 0) :
    VK.ofSpace (CKS.ofTime ck)
      = .ok ⟨ck.powersOfG.take (min (max (ck.powersOfG2.length - 1) 1) ck.powersOfG.length),
             ck.powersOfG2⟩ := by
  unfold VK.ofSpace CKS.ofTime
  simp only [List.length_reverse]
  rw [if_neg h, reverse_drop_sub (Nat.min_le_right _ _), List.reverse_reverse]

theorem vk_ofSpace_new (g g2 τ : F) (D m : Nat) :
    VK.ofSpace (CKS.ofTime (CK.new g g2 τ D m))
      = .ok ⟨PCV.powers g τ (max (min D m) 1), PCV.powers g2 τ (min D m + 1)⟩ := by
  classical
  rw [vk_ofSpace_ofTime _ (by simp only [CK.new, powers_length]; exact Nat.succ_ne_zero D)]
  simp only [CK.new, powers_length, powers_take, Nat.add_min_add_right, Nat.add_sub_cancel]
  have h : max (min D m) 1 ≤ D + 1 :=
    Nat.max_le.2 ⟨Nat.le_succ_of_le (Nat.min_le_left D m), Nat.succ_le_succ (Nat.zero_le D)⟩
  rw [Nat.min_eq_left h, Nat.min_eq_left h]

theorem vk_new_shape {vk : VK F}
    (hvk : VK.ofTime (CK.new g g2 τ D m) = .ok vk
      ∨ VK.ofSpace (CKS.ofTime (CK.new g g2 τ D m)) = .ok vk) :
    ∃ a, min D m ≤ a ∧ vk = ⟨PCV.powers g τ a, PCV.powers g2 τ (min D m + 1)⟩ := by
  rw [vk_ofTime_new, vk_ofSpace_new] at hvk
  rcases hvk with hvk | hvk <;> cases hvk
  · exact ⟨_, Nat.le_refl _, rfl⟩
  · exact ⟨_, Nat.le_max_left _ _, rfl⟩

theorem time_commit_new (h : p.length ≤ D + 1) :
    Time.commit (CK.new g g2 τ D m) p = .ok (g * evalPoly p τ) := by
  rw [time_commit_eq (by simp only [CK.new, powers_length]; exact h)]
  simp only [CK.new]
  rw [dot_comm, dot_powers _ _ _ _ h]

theorem time_open_new (α : F) (h : p.length ≤ D + 1) :
    Time.open (CK.new g g2 τ D m) p α = .ok (evalPoly p α, g * evalPoly (divLin p α).1 τ) := by
  rw [time_open_eq _ (by simp only [CK.new, powers_length]; exact h)]
  simp only [CK.new]
  rw [dot_comm, dot_powers _ _ _ _ (by rw [divLin_len]; exact h)]

theorem eq_iff_of_sub_eq {a b c : F} (h : b - a = c) : a = b ↔ c = 0 := by
  rw [← h, sub_eq_zero, eq_comm]

theorem verify_wf [DecidableEq F] {a b : Nat} (ha : 1 ≤ a) (hb : 2 ≤ b) (c α v π : F) :
    verify ⟨PCV.powers g τ a, PCV.powers g2 τ b⟩ c α v π
      = .ok (decide ((c - g * v) * g2 = π * ((τ - α) * g2))) := by
  obtain ⟨k, rfl⟩ := Nat.exists_eq_add_of_le' ha
  obtain ⟨k2, rfl⟩ := Nat.exists_eq_add_of_le' hb
  unfold verify
  simp only [PCV.powers, dot_cons, dot_nil_right]
  rw [if_neg (by simp only [List.length_cons]; omega)]
  congr 4
  ring

/-- **the verdict of `verify` on an honest opening with the value shifted by `δ`**: accepted iff
`g·g2·δ = 0`. -/
theorem verify_honest [DecidableEq F] (g g2 τ : F) {a b : Nat} (ha : 1 ≤ a) (hb : 2 ≤ b)
    (p : List F) (α δ : F) :
    verify ⟨PCV.powers g τ a, PCV.powers g2 τ b⟩ (g * evalPoly p τ) α
        (evalPoly p α + δ) (g * evalPoly (divLin p α).1 τ) = .ok (decide (g * g2 * δ = 0)) := by
  rw [verify_wf ha hb]
  congr 2
  exact propext (eq_iff_of_sub_eq (by linear_combination (-(g * g2)) * divLin_quot p α τ))

/-- … for a key made by `CommitterKey::new(D, m)` with `D, m ≥ 1`, the verifier key derived from it
or from its stream key, and what `commit` and `open` return -/
theorem verify_new [DecidableEq F] (hD : 1 ≤ D) (hm : 1 ≤ m) {α : F} (δ : F) (hp : p.length ≤ D + 1) {vk : VK F}
    (hvk : VK.ofTime (CK.new g g2 τ D m) = .ok vk
      ∨ VK.ofSpace (CKS.ofTime (CK.new g g2 τ D m)) = .ok vk)
    {c : F} {o : F × F} (hc : Time.commit (CK.new g g2 τ D m) p = .ok c)
    (ho : Time.open (CK.new g g2 τ D m) p α = .ok o) :
    verify vk c α (o.1 + δ) o.2 = .ok (decide (g * g2 * δ = 0)) := by
  obtain ⟨a, ha, rfl⟩ := vk_new_shape hvk
  rw [time_commit_new hp] at hc
  rw [time_open_new _ hp] at ho
  cases hc
  cases ho
  have h1 : 1 ≤ min D m := Nat.le_min.2 ⟨hD, hm⟩
  exact verify_honest g g2 τ (h1.trans ha) (Nat.succ_le_succ h1) p α δ

theorem wrong_value_rejected [DecidableEq F] (g g2 τ : F) (D m : Nat) (hD : 1 ≤ D) (hm : 1 ≤ m)
    (p : List F) (α δ : F) (hp : p.length ≤ D + 1) (vk : VK F)
    (hvk : VK.ofTime (CK.new g g2 τ D m) = .ok vk) (hg : g ≠ 0) (hg2 : g2 ≠ 0) (hδ : δ ≠ 0)
    (c : F) (o : F × F) (hc : Time.commit (CK.new g g2 τ D m) p = .ok c)
    (ho : Time.open (CK.new g g2 τ D m) p α = .ok o) :
    verify vk c α (o.1 + δ) o.2 = .ok false := by
  rw [verify_new hD hm δ hp (Or.inl hvk) hc ho,
    decide_eq_false (mul_ne_zero (mul_ne_zero hg hg2) hδ)]

end SKZG
end PCV
