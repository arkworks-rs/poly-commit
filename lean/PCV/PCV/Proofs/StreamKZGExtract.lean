/-
  PCV.Proofs.StreamKZGExtract — what an algebraic forger against `verify_multi_points` gives away.  The
  verifier tests `(Σ ηⁱCᵢ − g·I_η(τ))·g2 = π·g2·Z(τ)`.  With a proof element that is a combination of the
  published G1 powers, `π = g·a(τ)`, and honest commitments `Cᵢ = g·pᵢ(τ)`, the trapdoor is a root of
  `Q = Σ ηⁱpᵢ − I_η − a·Z`, and `Q(z_j) = Σᵢ ηⁱ(pᵢ(z_j) − eᵢ[j])`, the η-combined errors of column `j` of the
  claimed table.  So a table with a false entry is accepted only if η is a root of that column's non-zero
  error polynomial, or τ is a root of the non-zero `Q`.  Likewise for the single-point `verify`.
-/
import PCV.Proofs.StreamKZGVerify
import PCV.Proofs.Roots
import PCV.Proofs.RootsCoeff
import PCV.Proofs.KZG10Extract

namespace PCV
namespace SKZG

variable {F : Type} [Field F] [DecidableEq F]

omit [DecidableEq F] in
theorem pmul_length_le (p q : List F) : (pmul p q).length ≤ p.length + q.length := by
  induction p with
  | nil => simp [pmul]
  | cons a p ih =>
    simp only [pmul, padd_len, pscale_len, List.length_cons]
    omega

/-- the values of the forger's relation: `Σ ηⁱpᵢ(x) − I_η(x) − a(x)·Z(x)` -/
def forgeFun (ps : List (List F)) (pts : List F) (evals : List (List F)) (a : List F) (η x : F) : F :=
  dot (ps.map (evalPoly · x)) (powersOf η evals.length) - interpAt pts evals η x
    - evalPoly a x * prodLin pts x

/-- the η-combination of the errors of column `j` of the claimed table -/
def colErr (ps : List (List F)) (evals : List (List F)) (η z : F) (j : Nat) : F :=
  dot (ps.map (evalPoly · z)) (powersOf η evals.length)
    - dot (evals.map (fun e => e.getD j 0)) (powersOf η evals.length)

/-- **The relation an accepted algebraic proof satisfies.** Well-formed key, distinct points, a table of
the right shape, honest commitments, `π = g·a(τ)`: acceptance is `forgeFun … τ = 0`. -/
theorem multi_forgery_root {g g2 τ : F} {a' b : Nat} {ps : List (List F)} {pts : List F}
    {evals : List (List F)} {a : List F} {η : F} (hg : g ≠ 0) (hg2 : g2 ≠ 0)
    (hnd : pts.Nodup) (ha : pts.length ≤ a') (hb : pts.length + 1 ≤ b) (hev : evals ≠ [])
    (hcl : ps.length = evals.length) (hrows : ∀ e ∈ evals, e.length = pts.length) :
    verifyMultiPoints ⟨PCV.powers g τ a', PCV.powers g2 τ b⟩ (ps.map (fun p => g * evalPoly p τ)) pts evals
        (g * evalPoly a τ) η = .ok true
      ↔ forgeFun ps pts evals a η τ = 0 := by
  rw [verifyMulti_wf hnd ha hb hev (by rw [List.length_map, hcl]) hrows,
    dot_map_smul, Except.ok.injEq, decide_eq_true_eq, forgeFun,
    eq_iff_of_sub_eq (c := -(g * g2) * (dot (ps.map (evalPoly · τ)) (powersOf η evals.length)
      - interpAt pts evals η τ - evalPoly a τ * prodLin pts τ)) (by ring),
    mul_eq_zero_iff_left (neg_ne_zero.2 (mul_ne_zero hg hg2))]

omit [DecidableEq F] in
/-- **Value of the relation at an evaluation point**: the vanishing polynomial kills the forger's term, the
interpolant reproduces the claimed column. -/
theorem forgeFun_at_point (ps : List (List F)) {pts : List F} (evals : List (List F)) (a : List F) (η : F)
    (hnd : pts.Nodup) {j : Nat} (hj : j < pts.length) :
    forgeFun ps pts evals a η pts[j] = colErr ps evals η pts[j] j := by
  unfold forgeFun colErr
  rw [interpAt_point evals η hnd hj,
    prodLin_eq_zero_of_mem pts pts[j] (List.getElem_mem hj)]
  ring

omit [DecidableEq F] in
theorem forgeFun_poly {ps : List (List F)} (pts : List F) {evals : List (List F)} (a : List F) (η : F)
    {n : Nat} (hps : ∀ p ∈ ps, p.length ≤ n) (hev : evals ≠ []) (hcl : ps.length = evals.length) :
    ∃ Q : List F, Q.length ≤ max (max n pts.length) (a.length + (pts.length + 1)) ∧
      ∀ x, evalPoly Q x = forgeFun ps pts evals a η x := by
  have hps0 : ps ≠ [] := by
    intro h; apply hev; rw [h] at hcl; exact List.length_eq_zero_iff.1 hcl.symm
  obtain ⟨B, _, hBl, hBe⟩ := linearCombination_spec ps (powersOf η evals.length) n hps0
    (powersOf_ne_nil η evals.length (fun h => hev (List.length_eq_zero_iff.1 h))) hps
  obtain ⟨I, _, hIl, hIe⟩ := interpAt_poly pts evals η hev
  refine ⟨psub (psub B I) (pmul a (vanishing pts)), ?_, ?_⟩
  · rw [psub_len, psub_len]
    exact max_le_max (max_le_max hBl hIl) (vanishing_length pts ▸ pmul_length_le a (vanishing pts))
  · intro x
    rw [eval_psub, eval_psub, eval_pmul, eval_vanishing, hBe, hIe]
    rfl

omit [DecidableEq F] in
theorem colErr_eq_evalPoly {ps : List (List F)} {evals : List (List F)} (η z : F) (j : Nat)
    (hcl : ps.length = evals.length) :
    colErr ps evals η z j
      = evalPoly ((ps.zip evals).map (fun pe => evalPoly pe.1 z - pe.2.getD j 0)) η := by
  unfold colErr powersOf
  rw [← hcl, dot_powers _ _ _ _ (Nat.le_of_eq (List.length_map _)),
    dot_powers _ _ _ _ (by rw [List.length_map, hcl]), one_mul, one_mul]
  induction ps generalizing evals with
  | nil =>
    cases evals with
    | nil => exact sub_self _
    | cons _ _ => cases hcl
  | cons p ps ih =>
    cases evals with
    | nil => cases hcl
    | cons e evals =>
      simp only [List.map_cons, List.zip_cons_cons, evalPoly_cons, ← ih (Nat.succ.inj hcl)]
      ring

omit [DecidableEq F] in
theorem extractPoly_at_point_ne {p : List F} (a : List F) {α v : F} (hv : v ≠ evalPoly p α) :
    evalPoly (KZG.extractPoly p a α v) α ≠ 0 := by
  rw [KZG.eval_extractPoly, sub_self, mul_zero, sub_zero]
  exact fun h0 => hv (sub_eq_zero.1 h0).symm

/-- **`verify`, algebraic proof element.** `C = g·p(τ)`, `π = g·a(τ)`, any claimed value `v`: acceptance is
`p(τ) − v − a(τ)(τ − α) = 0`, the KZG10 extraction polynomial at the trapdoor. -/
theorem single_forgery_root {g g2 τ : F} {a' b : Nat} (ha : 1 ≤ a') (hb : 2 ≤ b) {p a : List F}
    {α v : F} (hg : g ≠ 0) (hg2 : g2 ≠ 0) :
    verify ⟨PCV.powers g τ a', PCV.powers g2 τ b⟩ (g * evalPoly p τ) α v (g * evalPoly a τ) = .ok true
      ↔ evalPoly (KZG.extractPoly p a α v) τ = 0 := by
  rw [verify_wf ha hb, KZG.eval_extractPoly, Except.ok.injEq, decide_eq_true_eq,
    eq_iff_of_sub_eq (c := -(g * g2) * (evalPoly p τ - v - evalPoly a τ * (τ - α))) (by ring),
    mul_eq_zero_iff_left (neg_ne_zero.2 (mul_ne_zero hg hg2))]

end SKZG
end PCV
