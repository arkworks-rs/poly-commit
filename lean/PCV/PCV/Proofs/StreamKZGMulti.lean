/-
  PCV.Proofs.StreamKZGMulti — multi-point openings of the streaming-KZG model: the vanishing
  polynomial, schoolbook long division (`Time.divLoop`) and the sliding window of `space.rs`
  (`Space.mpLoop`) are the same computation; the division identity `f = q·Z + r`.
-/
import PCV.Proofs.StreamKZG

namespace PCV
namespace SKZG
variable {F : Type} [Field F]

theorem eval_append (l1 l2 : List F) (x : F) :
    evalPoly (l1 ++ l2) x = evalPoly l1 x + x ^ l1.length * evalPoly l2 x := by
  rw [evalPoly_append, fpow_eq_pow]

theorem evalBE_cons (a : F) (rest : List F) (x : F) :
    evalPoly (a :: rest).reverse x = evalPoly rest.reverse x + x ^ rest.length * a := by
  rw [List.reverse_cons, eval_append]; simp

theorem pnorm_append_zeros [DecidableEq F] (p : List F) :
    ∃ j, p = pnorm p ++ List.replicate j 0 := by
  induction p with
  | nil => exact ⟨0, rfl⟩
  | cons c cs ih =>
    obtain ⟨j, hj⟩ := ih
    simp only [pnorm]
    split
    · rename_i h
      rw [h, List.nil_append] at hj
      split
      · rename_i hc
        exact ⟨j + 1, by rw [hc, hj]; rfl⟩
      · exact ⟨j, by rw [← hj]; rfl⟩
    · exact ⟨j, by rw [List.cons_append, ← hj]⟩

def prodLin : List F → F → F
  | [], _ => 1
  | a :: as, x => (x - a) * prodLin as x

theorem eval_pmul (p q : List F) (x : F) : evalPoly (pmul p q) x = evalPoly p x * evalPoly q x := by
  induction p with
  | nil => simp [pmul]
  | cons a p ih =>
    rw [pmul, eval_padd, eval_pscale, evalPoly_cons, evalPoly_cons, ih, zero_add, add_mul, mul_assoc]

theorem eval_foldl_mulLin (pts acc : List F) (x : F) :
    evalPoly (pts.foldl (fun acc pt => pmul acc [-pt, 1]) acc) x = evalPoly acc x * prodLin pts x := by
  induction pts generalizing acc with
  | nil => simp [prodLin]
  | cons a as ih =>
    simp only [List.foldl_cons, ih, eval_pmul, prodLin, evalPoly_cons, evalPoly_nil]; ring

theorem eval_vanishing (pts : List F) (x : F) : evalPoly (vanishing pts) x = prodLin pts x := by
  unfold vanishing; rw [eval_foldl_mulLin]; simp

theorem prodLin_append (l1 l2 : List F) (x : F) :
    prodLin (l1 ++ l2) x = prodLin l1 x * prodLin l2 x := by
  induction l1 with
  | nil => simp [prodLin]
  | cons a l ih => rw [List.cons_append, prodLin, prodLin, ih, mul_assoc]

theorem prodLin_eq_zero_of_mem (l : List F) (x : F) (h : x ∈ l) : prodLin l x = 0 := by
  induction l with
  | nil => simp at h
  | cons a l ih =>
    simp only [prodLin]
    rcases List.mem_cons.1 h with h | h
    · rw [h, sub_self, zero_mul]
    · rw [ih h, mul_zero]

theorem prodLin_ne_zero_of_not_mem (l : List F) (x : F) (h : x ∉ l) : prodLin l x ≠ 0 := by
  induction l with
  | nil => simp [prodLin]
  | cons a l ih =>
    simp only [prodLin]
    simp only [List.mem_cons, not_or] at h
    exact mul_ne_zero (sub_ne_zero.2 h.1) (ih h.2)

theorem pmul_lin_snoc (init : List F) (l c : F) :
    ∃ s S, pmul (init ++ [l]) [c, 1] = s :: S ++ [l] ∧ S.length = init.length := by
  induction init with
  | nil => exact ⟨l * c + 0, [], by simp [pmul, padd, pscale], rfl⟩
  | cons a init ih =>
    obtain ⟨s, S, hS, hlen⟩ := ih
    refine ⟨a * c + 0, (a * 1 + s) :: S, ?_, congrArg (· + 1) hlen⟩
    simp only [List.cons_append, pmul] at hS ⊢
    rw [hS]
    rfl

theorem foldl_mulLin_snoc (pts S0 : List F) :
    ∃ S, pts.foldl (fun acc pt => pmul acc [-pt, 1]) (S0 ++ [1]) = S ++ [1]
      ∧ S.length = S0.length + pts.length := by
  induction pts generalizing S0 with
  | nil => exact ⟨S0, rfl, rfl⟩
  | cons a as ih =>
    obtain ⟨s, S1, h1, hl1⟩ := pmul_lin_snoc S0 (1 : F) (-a)
    obtain ⟨S, h, hl⟩ := ih (s :: S1)
    refine ⟨S, ?_, by rw [hl, List.length_cons, hl1, List.length_cons, Nat.add_right_comm]; rfl⟩
    simp only [List.foldl_cons, h1, h]

theorem vanishing_monic (pts : List F) :
    ∃ S, vanishing pts = S ++ [1] ∧ S.length = pts.length := by
  obtain ⟨S, h, hl⟩ := foldl_mulLin_snoc pts []
  exact ⟨S, by simpa [vanishing] using h, by simpa using hl⟩

theorem vanishing_length (pts : List F) : (vanishing pts).length = pts.length + 1 := by
  obtain ⟨S, h, hl⟩ := vanishing_monic pts
  rw [h]; simp [hl]

theorem subPrefix_zero (l zs : List F) : Time.subPrefix 0 l zs = l := by
  induction l generalizing zs with
  | nil => cases zs <;> rfl
  | cons r rs ih => cases zs with
    | nil => rfl
    | cons z zs => simp [Time.subPrefix, ih]

theorem subPrefix_length (a : F) (l zs : List F) : (Time.subPrefix a l zs).length = l.length := by
  induction l generalizing zs with
  | nil => cases zs <;> rfl
  | cons r rs ih => cases zs with
    | nil => rfl
    | cons z zs => simp [Time.subPrefix, ih]

theorem subPrefix_append (a : F) {l : List F} (l' : List F) {zs : List F} (h : zs.length ≤ l.length) :
    Time.subPrefix a (l ++ l') zs = Time.subPrefix a l zs ++ l' := by
  induction l generalizing zs with
  | nil => cases zs with
    | nil => cases l' <;> rfl
    | cons _ _ => simp at h
  | cons r rs ih => cases zs with
    | nil => rfl
    | cons z zs =>
      simp only [List.cons_append, Time.subPrefix]
      rw [ih (Nat.le_of_succ_le_succ h)]

theorem evalBE_subPrefix (a : F) {l zs : List F} {k : Nat} (x : F) (h : l.length = k + zs.length) :
    evalPoly (Time.subPrefix a l zs).reverse x
      = evalPoly l.reverse x - a * x ^ k * evalPoly zs.reverse x := by
  induction zs generalizing l with
  | nil => cases l <;> simp [Time.subPrefix]
  | cons z zs ih =>
    cases l with
    | nil => cases h
    | cons r rs =>
      have h' : rs.length = k + zs.length := Nat.succ.inj h
      simp only [Time.subPrefix, evalBE_cons, subPrefix_length, ih h', h', pow_add]
      ring

theorem divLoop_length (linv : F) (zs : List F) (k : Nat) (rem : List F) (h : k ≤ rem.length) :
    (Time.divLoop linv zs k rem).1.length = k
      ∧ (Time.divLoop linv zs k rem).2.length = rem.length - k := by
  induction k generalizing rem with
  | zero => exact ⟨rfl, rfl⟩
  | succ k ih =>
    cases rem with
    | nil => cases h
    | cons a rest =>
      obtain ⟨h1, h2⟩ := ih (Time.subPrefix (a * linv) rest zs)
        (by rw [subPrefix_length]; exact Nat.le_of_succ_le_succ h)
      rw [subPrefix_length] at h2
      exact ⟨congrArg (· + 1) h1, h2.trans (Nat.succ_sub_succ _ _).symm⟩

/-- **schoolbook division is division**: for a monic divisor `X^m + zs` and a dividend with
`k + m` coefficients, `rem = q·(X^m + zs) + r` (all big-endian) -/
theorem divLoop_spec (zs : List F) (k : Nat) (rem : List F) (x : F)
    (h : rem.length = k + zs.length) :
    evalPoly rem.reverse x
      = evalPoly (Time.divLoop 1 zs k rem).1.reverse x * (x ^ zs.length + evalPoly zs.reverse x)
        + evalPoly (Time.divLoop 1 zs k rem).2.reverse x := by
  induction k generalizing rem with
  | zero => simp only [Time.divLoop, List.reverse_nil, evalPoly_nil, zero_mul, zero_add]
  | succ k ih =>
    cases rem with
    | nil => exact absurd (h.trans (Nat.succ_add _ _)) (Nat.succ_ne_zero _).symm
    | cons a rest =>
      have hr : rest.length = k + zs.length :=
        Nat.succ.inj ((List.length_cons (a := a)).symm.trans (h.trans (Nat.succ_add _ _)))
      have hlen := divLoop_length 1 zs k (Time.subPrefix (a * 1) rest zs)
        (by rw [subPrefix_length, hr]; exact Nat.le_add_right _ _)
      have := ih (Time.subPrefix (a * 1) rest zs) (by rw [subPrefix_length]; exact hr)
      rw [evalBE_subPrefix _ _ hr] at this
      simp only [Time.divLoop, evalBE_cons, hlen.1]
      rw [hr, pow_add]
      linear_combination this

theorem divLoop_leading_zeros (linv : F) (zs : List F) (j k : Nat) (l : List F) :
    Time.divLoop linv zs (j + k) (List.replicate j 0 ++ l)
      = (List.replicate j 0 ++ (Time.divLoop linv zs k l).1, (Time.divLoop linv zs k l).2) := by
  induction j with
  | zero => simp
  | succ j ih =>
    rw [Nat.succ_add, List.replicate_succ, List.cons_append]
    simp only [Time.divLoop, zero_mul, subPrefix_zero, ih, List.cons_append]

/-- leading zeros of the dividend cost a step each and shift the bases of the quotient's MSM -/
theorem dot_divLoop_zeros (linv : F) (zs bases : List F) (j k : Nat) (l : List F) :
    dot bases (Time.divLoop linv zs (j + k) (List.replicate j 0 ++ l)).1
      = dot (bases.drop j) (Time.divLoop linv zs k l).1 := by
  rw [divLoop_leading_zeros, ← pshift, ← dot_drop_pshift]

/-- the window division of a dividend `l` behind `m + j` zeros (`m = |zs|` for the initial window, `j`
high-order zero coefficients), with the bases aligned to the `|l| + j` coefficients, commits to the
quotient of the plain division of `l` -/
theorem dot_window_quot (a zs l : List F) (j : Nat) (hL : l.length + j ≤ a.length) :
    dot (a.reverse.drop (a.length - (l.length + j)))
        (Time.divLoop 1 zs (l.length + j) (List.replicate (zs.length + j) 0 ++ l)).1
      = dot a (Time.divLoop 1 zs (l.length - zs.length) l).1.reverse := by
  rcases Nat.lt_or_ge l.length zs.length with hlt | hge
  · -- fewer coefficients than points: only zeros are popped, and the plain division makes no step
    obtain ⟨e, he⟩ := Nat.exists_eq_add_of_lt hlt
    have h := dot_divLoop_zeros 1 zs (a.reverse.drop (a.length - (l.length + j))) (l.length + j) 0
      (List.replicate (e + 1) 0 ++ l)
    rw [← List.append_assoc, List.replicate_append_replicate, Nat.add_zero, Nat.add_right_comm,
      ← Nat.add_assoc l.length, ← he] at h
    rw [h, Nat.sub_eq_zero_of_le (Nat.le_of_lt hlt)]
    simp only [Time.divLoop, List.reverse_nil, dot_nil_right]
  · obtain ⟨e, he⟩ := Nat.exists_eq_add_of_le hge
    rw [he] at hL ⊢
    rw [Nat.add_sub_cancel_left]
    have hl := (divLoop_length 1 zs e l (he ▸ Nat.le_add_left _ _)).1
    have h := dot_stream a (Time.divLoop 1 zs e l).1.reverse
      (by rw [List.length_reverse, hl]
          exact Nat.le_trans (Nat.le_trans (Nat.le_add_left e _) (Nat.le_add_right _ j)) hL)
    rw [List.reverse_reverse, List.length_reverse, hl] at h
    rw [Nat.add_right_comm, dot_divLoop_zeros, List.drop_drop, ← h,
      show a.length - (zs.length + j + e) + (zs.length + j) = a.length - e by omega]

theorem mpLoop_eq_divLoop {zs state rest bases : List F} (acc : F)
    (hs : state.length = zs.length) (hpos : 1 ≤ state.length) (hb : rest.length ≤ bases.length) :
    Space.mpLoop zs state rest bases acc
      = .ok ((Time.divLoop 1 zs rest.length (state ++ rest)).2,
             acc + dot bases (Time.divLoop 1 zs rest.length (state ++ rest)).1) := by
  induction rest generalizing state bases acc with
  | nil => simp [Space.mpLoop, Time.divLoop]
  | cons c cs ih =>
    cases state with
    | nil => cases hpos
    | cons q st =>
      cases bases with
      | nil => cases hb
      | cons b bs =>
        have hst : (st ++ [c]).length = zs.length := by
          rw [List.length_append, List.length_singleton]; exact hs
        simp only [Space.mpLoop, List.length_cons, List.cons_append, Time.divLoop, mul_one]
        rw [ih (acc + b * q)
          (by rw [subPrefix_length]; exact hst)
          (by rw [subPrefix_length, hst, ← hs]; exact hpos)
          (Nat.le_of_succ_le_succ hb),
          List.append_cons st c cs, subPrefix_append _ _ (Nat.le_of_eq hst.symm), dot_cons,
          add_assoc]

theorem mpLoop_nil (zs state bases : List F) (acc : F) :
    Space.mpLoop zs state [] bases acc = .ok (state, acc) := by
  simp only [Space.mpLoop]

/-- zeros at the front of the window are popped for free: each lets one stream item in and skips
one base -/
theorem mpLoop_zeros (zs : List F) (j : Nat) (st xs cs bases : List F) (acc : F)
    (hx : xs.length = j) (hb : j ≤ bases.length) :
    Space.mpLoop zs (List.replicate j 0 ++ st) (xs ++ cs) bases acc
      = Space.mpLoop zs (st ++ xs) cs (bases.drop j) acc := by
  induction j generalizing st xs bases with
  | zero =>
    obtain rfl := List.length_eq_zero_iff.1 hx
    simp
  | succ j ih =>
    cases xs with
    | nil => cases hx
    | cons x xs =>
      cases bases with
      | nil => simp at hb
      | cons b bs =>
        simp only [List.replicate_succ, List.cons_append, Space.mpLoop, mul_zero, add_zero,
          subPrefix_zero, List.drop_succ_cons, List.append_assoc]
        rw [ih (st ++ [x]) xs bs (Nat.succ.inj hx) (Nat.le_of_succ_le_succ hb)]
        simp

/-- **the streaming prover as `open_folding` runs it**: the window starts as `m` zeros and every
coefficient of the stream is pushed through it (`open_multi_points` itself pre-loads the window with
the first `m` coefficients and skips `m` more bases) -/
theorem space_openMulti_window {cks : CKS F} {s : List F} (pts : List F)
    (hL : s.length ≤ cks.powersOfG.length) :
    Space.openMultiPoints cks s pts
      = Space.mpLoop (vanishing pts).reverse.tail (List.replicate pts.length 0) s
          (cks.powersOfG.drop (cks.powersOfG.length - s.length)) 0 := by
  unfold Space.openMultiPoints
  simp only [vanishing_length, Nat.add_sub_cancel]
  rw [if_neg (Nat.not_lt.2 hL)]
  have hbl : (cks.powersOfG.drop (cks.powersOfG.length - s.length)).length = s.length := by
    rw [List.length_drop, Nat.sub_sub_self hL]
  rcases Nat.lt_or_ge s.length pts.length with hlt | hge
  · -- the whole stream fits into the initial window
    have h := mpLoop_zeros (vanishing pts).reverse.tail s.length
      (List.replicate (pts.length - s.length) 0) s []
      (cks.powersOfG.drop (cks.powersOfG.length - s.length)) 0 rfl (Nat.le_of_eq hbl.symm)
    rw [List.append_nil, List.replicate_append_replicate, mpLoop_nil,
      Nat.add_sub_cancel' (Nat.le_of_lt hlt)] at h
    rw [h, Nat.sub_sub_self (Nat.le_of_lt hlt), List.take_length, List.drop_length, mpLoop_nil]
  · have h := mpLoop_zeros (vanishing pts).reverse.tail pts.length [] (s.take pts.length)
      (s.drop pts.length) (cks.powersOfG.drop (cks.powersOfG.length - s.length)) 0
      (by rw [List.length_take, Nat.min_eq_left hge]) (by rw [hbl]; exact hge)
    rw [List.append_nil, List.take_append_drop, List.nil_append, List.drop_drop] at h
    rw [h, Nat.sub_eq_zero_of_le hge]
    rfl

/-- the long division `open_multi_points` performs on the stream: a window of `m` zeros in front, one
step per coefficient; big-endian quotient (one entry per coefficient) and remainder (`m` entries) -/
def winDiv (p pts : List F) : List F × List F :=
  Time.divLoop 1 (vanishing pts).reverse.tail p.length (List.replicate pts.length 0 ++ p.reverse)

/-- what `CommitterKeyStream::open_multi_points` returns: the remainder window and the quotient
commitment -/
def spaceRes (ck : CK F) (p pts : List F) : List F × F :=
  ((winDiv p pts).2,
   dot (ck.powersOfG.reverse.drop (ck.powersOfG.length - p.length)) (winDiv p pts).1)

theorem vanishing_tail_length (pts : List F) : (vanishing pts).reverse.tail.length = pts.length := by
  rw [List.length_tail, List.length_reverse, vanishing_length, Nat.add_sub_cancel]

variable {ck : CK F} {p : List F}

theorem space_openMulti_eq {pts : List F} (hm : 1 ≤ pts.length)
    (hL : p.length ≤ ck.powersOfG.length) :
    Space.openMultiPoints (CKS.ofTime ck) p.reverse pts = .ok (spaceRes ck p pts) := by
  rw [space_openMulti_window _ (by simpa [CKS.ofTime] using hL),
    mpLoop_eq_divLoop _ (by rw [vanishing_tail_length, List.length_replicate])
      (by rw [List.length_replicate]; exact hm)
      (by simp only [CKS.ofTime, List.length_drop, List.length_reverse]; rw [Nat.sub_sub_self hL]),
    zero_add]
  simp only [CKS.ofTime, List.length_reverse, spaceRes, winDiv]

theorem eval_monic (S : List F) (x : F) :
    evalPoly (S ++ [1]) x = x ^ S.length + evalPoly S x := by
  rw [eval_append, evalPoly_cons, evalPoly_nil]; ring

theorem winDiv_length (p pts : List F) :
    (winDiv p pts).1.length = p.length ∧ (winDiv p pts).2.length = pts.length := by
  have h := divLoop_length 1 (vanishing pts).reverse.tail p.length
    (List.replicate pts.length 0 ++ p.reverse)
    (by rw [List.length_append, List.length_reverse]; exact Nat.le_add_left _ _)
  rw [List.length_append, List.length_replicate, List.length_reverse, Nat.add_sub_cancel] at h
  exact h

/-- **the division identity of the window division** `p = q·Z + r`; in particular the remainder
takes the values of `p` on the evaluation points -/
theorem winDiv_spec (p pts : List F) (x : F) :
    evalPoly p x = evalPoly (winDiv p pts).1.reverse x * prodLin pts x
      + evalPoly (winDiv p pts).2.reverse x := by
  obtain ⟨S, hS, hSl⟩ := vanishing_monic pts
  have hzs : (vanishing pts).reverse.tail = S.reverse := by rw [hS, List.reverse_append]; rfl
  have h := divLoop_spec S.reverse p.length (List.replicate pts.length 0 ++ p.reverse) x
    (by rw [List.length_append, List.length_replicate, List.length_reverse, List.length_reverse, hSl,
      Nat.add_comm])
  rw [List.reverse_reverse, List.length_reverse, ← eval_monic, ← hS, eval_vanishing,
    List.reverse_append, List.reverse_reverse, List.reverse_replicate, evalPoly_append_zeros,
    ← hzs] at h
  exact h

theorem spaceRes_snd (pts : List F) (hL : p.length ≤ ck.powersOfG.length) :
    (spaceRes ck p pts).2 = dot ck.powersOfG (winDiv p pts).1.reverse := by
  have h := dot_stream ck.powersOfG (winDiv p pts).1.reverse
    (by rw [List.length_reverse, (winDiv_length p pts).1]; exact hL)
  rw [List.reverse_reverse, List.length_reverse, (winDiv_length p pts).1] at h
  exact h

theorem divide_monic [DecidableEq F] (p S : List F) :
    Time.divideWithQAndR p (S ++ [1])
      = .ok (if (pnorm p).length < S.length + 1 then ([], pnorm p) else
          (pnorm (Time.divLoop 1 S.reverse ((pnorm p).length - S.length) (pnorm p).reverse).1.reverse,
           pnorm (Time.divLoop 1 S.reverse ((pnorm p).length - S.length) (pnorm p).reverse).2.reverse)) := by
  unfold Time.divideWithQAndR
  have hne : S ++ [(1 : F)] ≠ [] := List.append_ne_nil_of_right_ne_nil _ (List.cons_ne_nil _ _)
  rw [pnorm_of_last_ne_zero (r := S ++ [1]) (by
      rw [List.getLast?_concat]
      exact fun h => one_ne_zero (Option.some.inj h)),
    List.length_append, List.length_singleton, if_neg hne]
  by_cases h0 : pnorm p = []
  · rw [if_pos h0, h0]
    rfl
  · rw [if_neg h0]
    by_cases hlt : (pnorm p).length < S.length + 1
    · rw [if_pos hlt, if_pos hlt]
    · rw [if_neg hlt, if_neg hlt, List.reverse_append, List.reverse_singleton, List.singleton_append]
      dsimp only [List.headD_cons, List.tail_cons]
      rw [inv_one, Nat.sub_add_eq, Nat.sub_add_cancel (Nat.le_sub_of_add_le' (Nat.le_of_not_lt hlt))]

/-- `CommitterKey::open_multi_points` commits to the long-division quotient of the coefficient vector
without its high-order zeros (the empty quotient when fewer than `m + 1` coefficients are left) -/
theorem time_openMulti_eq [DecidableEq F] {pts S : List F}
    (hS : vanishing pts = S ++ [1]) (hL : p.length ≤ ck.powersOfG.length) :
    Time.openMultiPoints ck p pts
      = .ok (dot ck.powersOfG
          (Time.divLoop 1 S.reverse ((pnorm p).length - S.length) (pnorm p).reverse).1.reverse) := by
  unfold Time.openMultiPoints
  rw [if_neg (Nat.not_lt.2 hL), hS, divide_monic]
  by_cases hlt : (pnorm p).length < S.length + 1
  · simp only [if_pos hlt]
    rw [time_commit_eq (p := []) (Nat.zero_le _), Nat.sub_eq_zero_of_le (Nat.le_of_lt_succ hlt)]
    rfl
  · have hl := (divLoop_length 1 S.reverse ((pnorm p).length - S.length) (pnorm p).reverse
      (by rw [List.length_reverse]; exact Nat.sub_le _ _)).1
    have h2 := pnorm_length_le (Time.divLoop 1 S.reverse ((pnorm p).length - S.length)
      (pnorm p).reverse).1.reverse
    rw [List.length_reverse] at h2
    simp only [if_neg hlt]
    -- |pnorm q| ≤ |q| = |pnorm p| - |S| ≤ |pnorm p| ≤ |p| ≤ |key|
    rw [time_commit_eq (h2.trans ((Nat.le_of_eq hl).trans ((Nat.sub_le _ _).trans
      ((pnorm_length_le p).trans hL)))), dot_pnorm_right]

/-- **`CommitterKeyStream::open_multi_points` returns the proof of `CommitterKey::open_multi_points`**
for every coefficient list (shorter than, as long as, or longer than the point set, normalised or
not), every non-empty point list and every key with at least as many elements as coefficients. -/
theorem time_openMulti_spaceRes [DecidableEq F] (pts : List F)
    (hL : p.length ≤ ck.powersOfG.length) :
    Time.openMultiPoints ck p pts = .ok (spaceRes ck p pts).2 := by
  obtain ⟨S, hS, hSl⟩ := vanishing_monic pts
  have hzs : (vanishing pts).reverse.tail = S.reverse := by rw [hS, List.reverse_append]; rfl
  -- the stream is the normal form behind `j` zeros (the high-order zero coefficients)
  obtain ⟨j, hp⟩ := pnorm_append_zeros p
  have hj : p.length = (pnorm p).length + j := by
    conv_lhs => rw [hp]
    rw [List.length_append, List.length_replicate]
  have hrev : p.reverse = List.replicate j 0 ++ (pnorm p).reverse := by
    conv_lhs => rw [hp]
    rw [List.reverse_append, List.reverse_replicate]
  have h := dot_window_quot ck.powersOfG S.reverse (pnorm p).reverse j
    (by rw [List.length_reverse, ← hj]; exact hL)
  simp only [List.length_reverse] at h
  rw [time_openMulti_eq hS hL, ← h]
  unfold spaceRes winDiv
  dsimp only
  rw [hzs, hrev, ← List.append_assoc, List.replicate_append_replicate, hj, hSl]

/-- a polynomial with more coefficients than the key has powers: `CommitterKey::open_multi_points`
aborts (fix D24) whatever the points -/
theorem time_openMulti_abort [DecidableEq F] (pts : List F)
    (h : ck.powersOfG.length < p.length) :
    Time.openMultiPoints ck p pts = .error .abort :=
  if_pos h

end SKZG
end PCV
