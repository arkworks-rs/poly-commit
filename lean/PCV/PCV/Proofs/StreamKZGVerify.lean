/-
  PCV.Proofs.StreamKZGVerify — `verify_multi_points`: Lagrange interpolation over the evaluation
  points, the η-combination, uniqueness of a polynomial of degree `< m` through `m` distinct points
  (from the root bound), the verifier's verdict on an honest batch proof with arbitrary claimed
  evaluations; shifting one claimed value moves the combined interpolant everywhere off the point set.
-/
import PCV.Proofs.StreamKZGMulti
import PCV.Proofs.Roots

namespace PCV
namespace SKZG
variable {F : Type} [Field F]

/-- the difference has at most `m` coefficients, so it is zero or has fewer than `m` roots -/
theorem eval_eq_of_agree (r s pts : List F) (hr : r.length ≤ pts.length) (hs : s.length ≤ pts.length)
    (hnd : pts.Nodup) (h : ∀ a ∈ pts, evalPoly r a = evalPoly s a) (x : F) :
    evalPoly r x = evalPoly s x := by
  classical
  by_contra hx
  have hev := eval_psub r s
  have hl : (psub r s).length ≤ pts.length := by
    rw [psub_len]; exact max_le hr hs
  have h0 : (psub r s).length ≠ 0 := fun h0 => by
    have := hev x
    rw [List.length_eq_zero_iff.1 h0] at this
    exact hx (sub_eq_zero.1 this.symm)
  obtain ⟨Z, hcard, hZ⟩ := Roots.zeros_bounded (psub r s) ⟨x, by rw [hev]; exact sub_ne_zero.2 hx⟩
  have hc := Finset.card_le_card (s := pts.toFinset) (t := Z)
    (fun a ha => hZ a (by rw [hev, h a (List.mem_toFinset.1 ha), sub_self]))
  rw [List.toFinset_card_of_nodup hnd] at hc
  omega

theorem eval_lcAux (ps : List (List F)) (cs acc : List F) (x : F) :
    evalPoly (lcAux ps cs acc) x = evalPoly acc x + dot (ps.map (evalPoly · x)) cs := by
  induction ps generalizing cs acc with
  | nil => simp [lcAux]
  | cons p ps ih =>
    cases cs with
    | nil => simp [lcAux]
    | cons c cs =>
      simp only [lcAux, ih, eval_padd, eval_pscale, List.map_cons, dot_cons]; ring

theorem lcAux_length (ps : List (List F)) (cs acc : List F) (n : Nat)
    (h : ∀ p ∈ ps, p.length ≤ n) (ha : acc.length ≤ n) : (lcAux ps cs acc).length ≤ n := by
  induction ps generalizing cs acc with
  | nil => simpa [lcAux]
  | cons p ps ih =>
    cases cs with
    | nil => simpa [lcAux]
    | cons c cs =>
      simp only [lcAux]
      apply ih _ _ (fun q hq => h q (List.mem_cons_of_mem _ hq))
      rw [padd_len, pscale_len]
      exact max_le ha (h p List.mem_cons_self)

theorem linearCombination_spec (ps : List (List F)) (cs : List F) (n : Nat) (hps : ps ≠ [])
    (hcs : cs ≠ []) (h : ∀ p ∈ ps, p.length ≤ n) :
    ∃ B, linearCombination ps cs = some B ∧ B.length ≤ n
      ∧ ∀ x, evalPoly B x = dot (ps.map (evalPoly · x)) cs := by
  cases ps with
  | nil => exact absurd rfl hps
  | cons p ps =>
    cases cs with
    | nil => exact absurd rfl hcs
    | cons c cs =>
      refine ⟨_, rfl, ?_, ?_⟩
      · exact lcAux_length _ _ _ _ (fun q hq => h q (List.mem_cons_of_mem _ hq))
          (by rw [pscale_len]; exact h p List.mem_cons_self)
      · intro x
        simp only [eval_lcAux, eval_pscale, List.map_cons, dot_cons]; ring

theorem powersOf_ne_nil (η : F) (k : Nat) (h : k ≠ 0) : powersOf η k ≠ [] := by
  cases k with
  | zero => exact absurd rfl h
  | succ k => simp [powersOf, PCV.powers]

theorem foldl_mul_eq_prodLin (l : List F) (xj a : F) :
    l.foldl (fun acc xk => acc * (xj - xk)) a = a * prodLin l xj := by
  induction l generalizing a with
  | nil => simp [prodLin]
  | cons b l ih => simp only [List.foldl_cons, ih, prodLin]; ring

theorem scaAll_cons (pre : List F) (xj : F) (post : List F) :
    scaAll pre (xj :: post) = prodLin (pre ++ post) xj :: scaAll (pre ++ [xj]) post := by
  rw [scaAll, foldl_mul_eq_prodLin, one_mul]

theorem interpolateAux_eq_lcAux (ss : List F) (ls : List (List F)) (ys acc : List F) :
    interpolateAux ss ls ys acc = lcAux ls (List.zipWith (· * ·) ss ys) acc := by
  induction ss generalizing ls ys acc with
  | nil => cases ls <;> rfl
  | cons s ss ih =>
    cases ls with
    | nil => rfl
    | cons l ls =>
      cases ys with
      | nil => rfl
      | cons y ys => exact ih ls ys _

def isum (ss : List F) (ls : List (List F)) (ys : List F) (x : F) : F :=
  dot (ls.map (evalPoly · x)) (List.zipWith (· * ·) ss ys)

theorem isum_cons (s : F) (ss : List F) (l : List F) (ls : List (List F)) (y : F) (ys : List F)
    (x : F) : isum (s :: ss) (l :: ls) (y :: ys) x = evalPoly l x * (s * y) + isum ss ls ys x :=
  rfl

theorem eval_interpolate (pts ys : List F) (x : F) :
    evalPoly (interpolate pts ys) x = isum ((scaAll [] pts).map (·⁻¹)) (langAll [] pts) ys x := by
  rw [interpolate, interpolateAux_eq_lcAux, eval_lcAux, evalPoly_nil, zero_add, isum]

theorem langAll_length (pre rest : List F) :
    ∀ l ∈ langAll pre rest, l.length ≤ pre.length + rest.length := by
  induction rest generalizing pre with
  | nil => exact fun l hl => nomatch hl
  | cons xj post ih =>
    intro l hl
    rcases List.mem_cons.1 hl with rfl | hl
    · rw [vanishing_length, List.length_append]
      exact Nat.le_refl _
    · refine (ih (pre ++ [xj]) l hl).trans ?_
      rw [List.length_append, List.length_singleton, List.length_cons, Nat.add_right_comm]
      exact Nat.le_refl _

theorem scaAll_ne_zero (pre rest : List F) (hnd : (pre ++ rest).Nodup) :
    ∀ s ∈ scaAll pre rest, s ≠ 0 := by
  induction rest generalizing pre with
  | nil => simp [scaAll]
  | cons xj post ih =>
    intro s hs
    rw [scaAll_cons, List.mem_cons] at hs
    rcases hs with rfl | hs
    · exact prodLin_ne_zero_of_not_mem _ _ (List.nodup_cons.1 (List.nodup_middle.1 hnd)).1
    · exact ih (pre ++ [xj]) (by simpa using hnd) s hs

/-- the Lagrange property of the interpolant the verifier builds: zero on the points already
passed, the prescribed value on each remaining point -/
theorem lagrange_aux (pre rest ys : List F) (hnd : (pre ++ rest).Nodup) :
    (∀ a ∈ pre, isum ((scaAll pre rest).map (·⁻¹)) (langAll pre rest) ys a = 0) ∧
    (∀ t (h : t < rest.length),
      isum ((scaAll pre rest).map (·⁻¹)) (langAll pre rest) ys rest[t] = ys.getD t 0) := by
  induction rest generalizing pre ys with
  | nil => exact ⟨fun a _ => rfl, fun t h => nomatch h⟩
  | cons xj post ih =>
    cases ys with
    | nil => simp only [isum, List.zipWith_nil_right, dot_nil_right, List.getD_nil, implies_true,
        and_self]
    | cons y ys =>
      have hmid := List.nodup_cons.1 (List.nodup_middle.1 hnd)
      have hnd' : ((pre ++ [xj]) ++ post).Nodup := by simpa using hnd
      obtain ⟨ih1, ih2⟩ := ih (pre ++ [xj]) ys hnd'
      simp only [scaAll_cons, langAll, List.map_cons, isum_cons, eval_vanishing]
      constructor
      · intro a ha
        rw [prodLin_eq_zero_of_mem (pre ++ post) a (List.mem_append_left _ ha),
          ih1 a (List.mem_append_left _ ha), zero_mul, add_zero]
      · intro t h
        cases t with
        | zero =>
          rw [List.getElem_cons_zero, List.getD_cons_zero,
            ih1 xj (List.mem_append_right _ (List.mem_singleton_self xj)), add_zero,
            mul_inv_cancel_left₀ (prodLin_ne_zero_of_not_mem _ _ hmid.1)]
        | succ t =>
          rw [List.getElem_cons_succ, List.getD_cons_succ,
            prodLin_eq_zero_of_mem _ _ (List.mem_append_right pre (List.getElem_mem _)),
            ih2 t (Nat.lt_of_succ_lt_succ h), zero_mul, zero_add]

theorem interpolate_length (pts evals : List F) :
    (interpolate pts evals).length ≤ pts.length := by
  rw [interpolate, interpolateAux_eq_lcAux]
  exact lcAux_length _ _ _ _ (fun l hl => by simpa using langAll_length [] pts l hl) (Nat.zero_le _)

theorem interpolate_eval (pts ys : List F) (hnd : pts.Nodup) {t : Nat} (h : t < pts.length) :
    evalPoly (interpolate pts ys) pts[t] = ys.getD t 0 := by
  rw [eval_interpolate]
  exact (lagrange_aux [] pts ys hnd).2 t h

/-- the η-combination of the interpolants' values at `τ` -/
def interpAt (pts : List F) (evals : List (List F)) (η τ : F) : F :=
  dot (evals.map (fun e => evalPoly (interpolate pts e) τ)) (powersOf η evals.length)

theorem interpAt_poly (pts : List F) (evals : List (List F)) (η : F) (hev : evals ≠ []) :
    ∃ I, linearCombination (evals.map (interpolate pts)) (powersOf η evals.length) = some I
      ∧ I.length ≤ pts.length ∧ ∀ x, evalPoly I x = interpAt pts evals η x := by
  obtain ⟨I, hI, hIl, hIe⟩ := linearCombination_spec (evals.map (interpolate pts))
    (powersOf η evals.length) pts.length (by simpa using hev)
    (powersOf_ne_nil η _ fun h => hev (List.length_eq_zero_iff.1 h))
    (by intro p hp
        obtain ⟨e, _, rfl⟩ := List.mem_map.1 hp
        exact interpolate_length pts e)
  exact ⟨I, hI, hIl, fun x => by rw [hIe x, interpAt, List.map_map]; rfl⟩

theorem interpAt_point {pts : List F} (evals : List (List F)) (η : F) (hnd : pts.Nodup) {j : Nat}
    (hj : j < pts.length) :
    interpAt pts evals η pts[j] = dot (evals.map (fun e => e.getD j 0)) (powersOf η evals.length) := by
  unfold interpAt
  congr 1
  exact List.map_congr_left fun e _ => interpolate_eval pts e hnd hj

/-- `verify_multi_points` under a well-formed verifier key, for distinct points and at least one
evaluation vector, does not abort and decides the pairing equation
`(Σ ηⁱCᵢ − g·I(τ))·g2 = π·g2·Z(τ)`. -/
theorem verifyMulti_wf [DecidableEq F] {g g2 τ : F} {a b : Nat} {comms pts : List F}
    {evals : List (List F)} {π η : F} (hnd : pts.Nodup) (ha : pts.length ≤ a)
    (hb : pts.length + 1 ≤ b) (hev : evals ≠ [])
    (hcl : comms.length = evals.length) (hrows : ∀ e ∈ evals, e.length = pts.length) :
    verifyMultiPoints ⟨PCV.powers g τ a, PCV.powers g2 τ b⟩ comms pts evals π η
      = .ok (decide ((dot comms (powersOf η evals.length) - g * interpAt pts evals η τ) * g2
            = π * (g2 * prodLin pts τ))) := by
  unfold verifyMultiPoints
  rw [if_neg (by
    rw [powers_length, powers_length]
    rintro (h1 | h1 | h1 | h1)
    · exact Nat.not_le.2 hb h1
    · exact Nat.not_lt.2 ha h1
    · exact h1 hcl
    · obtain ⟨e, he, hd⟩ := List.any_eq_true.1 h1
      exact of_decide_eq_true hd (hrows e he))]
  rw [if_neg (by
    rw [Bool.not_eq_true, List.any_eq_false]
    exact fun s hs => by simpa using scaAll_ne_zero [] pts hnd s hs)]
  obtain ⟨B, hB, hBl, hBe⟩ := interpAt_poly pts evals η hev
  simp only [hB]
  have hz : dot (PCV.powers g2 τ b) (vanishing pts) = g2 * prodLin pts τ := by
    rw [dot_comm, dot_powers _ _ _ _ (by rw [vanishing_length]; exact hb), eval_vanishing]
  have hi : dot (PCV.powers g τ a) B = g * interpAt pts evals η τ := by
    rw [dot_comm, dot_powers _ _ _ _ (hBl.trans ha), hBe]
  rw [hz, hi]
  obtain ⟨b', rfl⟩ := Nat.exists_eq_add_of_le' (Nat.le_trans (Nat.le_add_left 1 _) hb)
  simp only [PCV.powers]

variable {g g2 τ : F} {D m : Nat} {ps : List (List F)} {pts : List F} {η π : F}

theorem time_batchCommit_new
    (h : ∀ p ∈ ps, p.length ≤ D + 1) :
    Time.batchCommit (CK.new g g2 τ D m) ps = .ok (ps.map (fun p => g * evalPoly p τ)) := by
  rw [time_batchCommit_eq fun p hp => by simpa only [CK.new, powers_length] using h p hp]
  congr 1
  refine List.map_congr_left fun p hp => ?_
  simp only [CK.new]
  rw [dot_comm, dot_powers _ _ _ _ (h p hp)]

/-- what `batch_open_multi_points` returns under a key made by `new`: `g·q(τ)` for a quotient `q`
of the η-combination `B` by the vanishing polynomial, `B = q·Z + r`, `|r| ≤ m` -/
theorem time_batchOpen_new [DecidableEq F] (hps : ps ≠ []) (h : ∀ p ∈ ps, p.length ≤ D + 1)
    (hπ : Time.batchOpenMultiPoints (CK.new g g2 τ D m) ps pts η = .ok π) :
    ∃ q r : List F, π = g * evalPoly q τ ∧ r.length ≤ pts.length ∧
      ∀ x, dot (ps.map (evalPoly · x)) (powersOf η ps.length)
        = evalPoly q x * prodLin pts x + evalPoly r x := by
  unfold Time.batchOpenMultiPoints at hπ
  split at hπ
  · cases hπ
  · obtain ⟨B, hB, hBl, hBe⟩ := linearCombination_spec ps (powersOf η ps.length) (D + 1) hps
      (powersOf_ne_nil η _ fun h => hps (List.length_eq_zero_iff.1 h)) h
    have hnl := (pnorm_length_le B).trans hBl
    have hL : (pnorm B).length ≤ (CK.new g g2 τ D m).powersOfG.length := by
      simp only [CK.new, powers_length]; exact hnl
    rw [hB] at hπ
    simp only at hπ
    -- the proof is the commitment of the window division's quotient
    rw [time_openMulti_spaceRes _ hL, spaceRes_snd _ hL] at hπ
    cases hπ
    refine ⟨(winDiv (pnorm B) pts).1.reverse, (winDiv (pnorm B) pts).2.reverse, ?_, ?_, ?_⟩
    · simp only [CK.new]
      rw [dot_comm, dot_powers _ _ _ _
        (by rw [List.length_reverse, (winDiv_length _ _).1]; exact hnl)]
    · rw [List.length_reverse, (winDiv_length _ _).2]
    · intro x
      rw [← hBe, ← eval_pnorm, winDiv_spec]

theorem evalTable_rows (ps : List (List F)) (pts : List F) :
    ∀ e ∈ ps.map (fun p => pts.map (evalPoly p)), e.length = pts.length := by
  intro e he
  obtain ⟨p, _, rfl⟩ := List.mem_map.1 he
  exact List.length_map _

/-- **the verdict of `verify_multi_points` on an honest batch proof with arbitrary claimed
evaluations**: accepted iff `g·g2·(I_claimed(τ) − I_true(τ)) = 0`, the η-combinations of the Lagrange
interpolants of the claimed and of the true evaluation vectors at the trapdoor. -/
theorem verifyMulti_honest [DecidableEq F] {a b : Nat} {claimed : List (List F)} (hps : ps ≠ [])
    (h : ∀ p ∈ ps, p.length ≤ D + 1) (hnd : pts.Nodup) (ha : pts.length ≤ a)
    (hb : pts.length + 1 ≤ b) (hcl : claimed.length = ps.length)
    (hrows : ∀ e ∈ claimed, e.length = pts.length)
    (hπ : Time.batchOpenMultiPoints (CK.new g g2 τ D m) ps pts η = .ok π)
    {cs : List F} (hcs : Time.batchCommit (CK.new g g2 τ D m) ps = .ok cs) :
    verifyMultiPoints ⟨PCV.powers g τ a, PCV.powers g2 τ b⟩ cs pts claimed π η
      = .ok (decide (g * g2 * (interpAt pts claimed η τ
          - interpAt pts (ps.map (fun p => pts.map (evalPoly p))) η τ) = 0)) := by
  have hcne : claimed ≠ [] := by
    intro hc; rw [hc] at hcl; exact hps (List.length_eq_zero_iff.1 hcl.symm)
  rw [time_batchCommit_new h] at hcs
  cases hcs
  rw [verifyMulti_wf hnd ha hb hcne
      (by rw [List.length_map, hcl]) hrows, dot_map_smul, hcl]
  obtain ⟨q, r, hq, hrl, hspec⟩ := time_batchOpen_new hps h hπ
  -- the remainder and the η-combination of the true interpolants agree on the points, hence at τ
  obtain ⟨I, -, hIl, hIe⟩ := interpAt_poly pts (ps.map (fun p => pts.map (evalPoly p))) η
    (by simpa using hps)
  have hagree : ∀ a ∈ pts, evalPoly r a = evalPoly I a := by
    intro a ha
    obtain ⟨t, ht, rfl⟩ := List.mem_iff_getElem.1 ha
    have h1 := hspec pts[t]
    rw [prodLin_eq_zero_of_mem pts _ ha, mul_zero, zero_add] at h1
    rw [hIe, interpAt_point _ η hnd ht, ← h1, List.length_map,
      List.map_map]
    congr 1
    apply List.map_congr_left
    intro p _
    simp [ht]
  have hrI := eval_eq_of_agree r I pts hrl hIl hnd hagree τ
  rw [← hIe τ, ← hrI, hq]
  congr 2
  exact propext (eq_iff_of_sub_eq (by linear_combination (-(g * g2)) * hspec τ))

/-- … for a key made by `CommitterKey::new(D, m)`, `m ≤ D`, at most `m` points, and the verifier key
derived from it or from its stream key -/
theorem verifyMulti_new [DecidableEq F] {claimed : List (List F)} (hps : ps ≠ [])
    (h : ∀ p ∈ ps, p.length ≤ D + 1) (hnd : pts.Nodup) (hm : pts.length ≤ m) (hD : m ≤ D)
    (hcl : claimed.length = ps.length) (hrows : ∀ e ∈ claimed, e.length = pts.length)
    (hπ : Time.batchOpenMultiPoints (CK.new g g2 τ D m) ps pts η = .ok π) {vk : VK F}
    (hvk : VK.ofTime (CK.new g g2 τ D m) = .ok vk
      ∨ VK.ofSpace (CKS.ofTime (CK.new g g2 τ D m)) = .ok vk)
    {cs : List F} (hcs : Time.batchCommit (CK.new g g2 τ D m) ps = .ok cs) :
    verifyMultiPoints vk cs pts claimed π η
      = .ok (decide (g * g2 * (interpAt pts claimed η τ
          - interpAt pts (ps.map (fun p => pts.map (evalPoly p))) η τ) = 0)) := by
  obtain ⟨a, ha, rfl⟩ := vk_new_shape hvk
  rw [Nat.min_eq_right hD] at ha ⊢
  exact verifyMulti_honest hps h hnd (Nat.le_trans hm ha) (Nat.succ_le_succ hm) hcl hrows hπ hcs

def bump : List F → Nat → F → List F
  | [], _, _ => []
  | y :: ys, 0, δ => (y + δ) :: ys
  | y :: ys, j + 1, δ => y :: bump ys j δ

/-- the evaluation table with `δ` added to the value of polynomial `a` at point `b` -/
def bumpAt : List (List F) → Nat → Nat → F → List (List F)
  | [], _, _, _ => []
  | e :: es, 0, b, δ => bump e b δ :: es
  | e :: es, a + 1, b, δ => e :: bumpAt es a b δ

theorem bumpAt_length (es : List (List F)) (a b : Nat) (δ : F) :
    (bumpAt es a b δ).length = es.length := by
  induction es generalizing a with
  | nil => rfl
  | cons e es ih => cases a <;> simp [bumpAt, ih]

theorem bump_length (ys : List F) (j : Nat) (δ : F) : (bump ys j δ).length = ys.length := by
  induction ys generalizing j with
  | nil => rfl
  | cons y ys ih => cases j <;> simp [bump, ih]

theorem bumpAt_rows (es : List (List F)) (a b : Nat) (δ : F) (n : Nat)
    (h : ∀ e ∈ es, e.length = n) : ∀ e ∈ bumpAt es a b δ, e.length = n := by
  induction es generalizing a with
  | nil => exact fun e he => nomatch he
  | cons x xs ih =>
    rw [List.forall_mem_cons] at h
    cases a with
    | zero => exact List.forall_mem_cons.2 ⟨(bump_length x b δ).trans h.1, h.2⟩
    | succ a => exact List.forall_mem_cons.2 ⟨h.1, ih a h.2⟩

theorem isum_bump (ss : List F) (ls : List (List F)) (ys : List F) (j : Nat) (δ x : F)
    (hj : j < ys.length) :
    isum ss ls (bump ys j δ) x
      = isum ss ls ys x + δ * (ss.getD j 0 * evalPoly (ls.getD j []) x) := by
  induction ys generalizing ss ls j with
  | nil => cases hj
  | cons y ys ih =>
    cases ss with
    | nil => simp only [isum, List.zipWith_nil_left, dot_nil_right, List.getD_nil, zero_mul, mul_zero,
        add_zero]
    | cons s ss =>
      cases ls with
      | nil => simp only [isum, List.map_nil, dot_nil_left, List.getD_nil, evalPoly_nil, mul_zero,
          add_zero]
      | cons l ls =>
        cases j with
        | zero => simp only [bump, isum_cons, List.getD_cons_zero]; ring
        | succ j =>
          simp only [bump, isum_cons, List.getD_cons_succ, ih ss ls j (Nat.lt_of_succ_lt_succ hj)]
          ring

theorem lagrange_coeff_ne_zero (pre rest : List F) (j : Nat) (τ : F) (hj : j < rest.length)
    (hnd : (pre ++ rest).Nodup) (hτ : τ ∉ pre ++ rest) :
    ((scaAll pre rest).map (·⁻¹)).getD j 0 * evalPoly ((langAll pre rest).getD j []) τ ≠ 0 := by
  induction rest generalizing pre j with
  | nil => simp at hj
  | cons xj post ih =>
    have hmid := List.nodup_cons.1 (List.nodup_middle.1 hnd)
    cases j with
    | zero =>
      simp only [scaAll_cons, langAll, List.map_cons, List.getD_cons_zero, eval_vanishing]
      apply mul_ne_zero
      · exact inv_ne_zero (prodLin_ne_zero_of_not_mem _ _ hmid.1)
      · exact prodLin_ne_zero_of_not_mem _ _ fun hmem =>
          hτ (((List.sublist_cons_self xj post).append_left pre).subset hmem)
    | succ j =>
      simp only [scaAll_cons, langAll, List.map_cons, List.getD_cons_succ]
      exact ih (pre ++ [xj]) j (by simpa using hj) (by simpa using hnd) (by simpa using hτ)

theorem powers_getD_ne_zero (g β : F) (n a : Nat) (hg : g ≠ 0) (hβ : β ≠ 0) (h : a < n) :
    (PCV.powers g β n).getD a 0 ≠ 0 := by
  induction n generalizing g a with
  | zero => cases h
  | succ n ih =>
    cases a with
    | zero => exact hg
    | succ a => exact ih (β * g) a (mul_ne_zero hβ hg) (Nat.lt_of_succ_lt_succ h)

theorem dot_map_bumpAt (f : List F → F) (es : List (List F)) (cs : List F) (a b : Nat) (δ : F)
    (ha : a < es.length) :
    dot ((bumpAt es a b δ).map f) cs
      = dot (es.map f) cs + cs.getD a 0 * (f (bump (es.getD a []) b δ) - f (es.getD a [])) := by
  induction es generalizing cs a with
  | nil => cases ha
  | cons e es ih =>
    cases cs with
    | nil => simp only [dot_nil_right, List.getD_nil, zero_mul, add_zero]
    | cons c cs =>
      cases a with
      | zero => simp only [bumpAt, List.map_cons, dot_cons, List.getD_cons_zero]; ring
      | succ a =>
        simp only [bumpAt, List.map_cons, dot_cons, List.getD_cons_succ,
          ih cs a (Nat.lt_of_succ_lt_succ ha)]
        ring

/-- the η-combined interpolant moves by `ηᵃ·δ·ℓ_b(τ)` when the value of polynomial `a` at point `b`
is shifted by `δ`; the Lagrange basis value `ℓ_b(τ)` is non-zero off the point set -/
theorem interpAt_bump_ne (pts : List F) (evals : List (List F)) (η τ δ : F) (a b : Nat)
    (ha : a < evals.length) (hb : b < (evals.getD a []).length) (hbp : b < pts.length)
    (hnd : pts.Nodup) (hτ : τ ∉ pts) (hη : η ≠ 0) (hδ : δ ≠ 0) :
    interpAt pts (bumpAt evals a b δ) η τ - interpAt pts evals η τ ≠ 0 := by
  unfold interpAt
  rw [bumpAt_length, dot_map_bumpAt (fun e => evalPoly (interpolate pts e) τ) evals _ a b δ ha]
  simp only [add_sub_cancel_left]
  rw [eval_interpolate, eval_interpolate, isum_bump _ _ _ _ _ _ hb, add_sub_cancel_left]
  have hc := lagrange_coeff_ne_zero [] pts b τ hbp hnd hτ
  exact mul_ne_zero (powers_getD_ne_zero 1 η _ a one_ne_zero hη ha) (mul_ne_zero hδ hc)

end SKZG
end PCV
