/-
  PCV.Proofs.Succinct — `SuccinctCheckPolynomial`: the coefficient vector produced by the loops of
  `compute_coeffs` satisfies `coeffs (u :: us) = coeffs us ++ u · coeffs us`; hence its length is
  `2^k` and its Horner value is the product computed by `evaluate`.
-/
import PCV.Model.Succinct
import PCV.Proofs.Poly

namespace PCV
namespace Succinct
variable {F : Type} [Field F]

theorem evalPoly_map_mul (l : List F) (u z : F) :
    evalPoly (l.map (· * u)) z = evalPoly l z * u := by
  induction l with
  | nil => simp
  | cons c cs ih => simp only [List.map_cons, evalPoly_cons, ih]; ring

theorem scalePass_length (ed : Nat) (u : F) (j : Nat) (l : List F) :
    (scalePass ed u j l).length = l.length := by
  induction l generalizing j with
  | nil => rfl
  | cons c cs ih => simp [scalePass, ih]

theorem scalePass_append (ed : Nat) (u : F) (j : Nat) (a b : List F) :
    scalePass ed u j (a ++ b) = scalePass ed u j a ++ scalePass ed u (j + a.length) b := by
  induction a generalizing j with
  | nil => simp [scalePass]
  | cons c cs ih =>
    simp only [List.cons_append, scalePass, ih, List.length_cons]
    rw [Nat.add_assoc j 1, Nat.add_comm 1]

theorem scalePass_shift (ed : Nat) (hed : 0 < ed) (u : F) (j m : Nat) (l : List F) :
    scalePass ed u (j + 2 * ed * m) l = scalePass ed u j l := by
  induction l generalizing j with
  | nil => rfl
  | cons c cs ih =>
    have h1 : (j + 2 * ed * m) / ed = j / ed + 2 * m := by
      rw [Nat.mul_comm 2 ed, Nat.mul_assoc, Nat.add_mul_div_left _ _ hed]
    have h2 : (j / ed + 2 * m) % 2 = (j / ed) % 2 := Nat.add_mul_mod_self_left _ _ _
    have h3 : j + 2 * ed * m + 1 = (j + 1) + 2 * ed * m := Nat.add_right_comm _ _ _
    simp only [scalePass, h1, h2, h3, ih]

theorem scalePass_low (ed : Nat) (u : F) (j : Nat) (l : List F) (h : j + l.length ≤ ed) :
    scalePass ed u j l = l := by
  induction l generalizing j with
  | nil => rfl
  | cons c cs ih =>
    simp only [List.length_cons] at h
    have h0 : j / ed = 0 :=
      Nat.div_eq_of_lt (Nat.lt_of_lt_of_le (Nat.lt_add_of_pos_right (Nat.succ_pos _)) h)
    rw [scalePass, h0, ih (j + 1) (by rw [Nat.add_right_comm]; exact h)]
    rfl

theorem scalePass_high (ed : Nat) (u : F) (j : Nat) (l : List F) (h1 : ed ≤ j)
    (h2 : j + l.length ≤ 2 * ed) : scalePass ed u j l = l.map (· * u) := by
  induction l generalizing j with
  | nil => rfl
  | cons c cs ih =>
    simp only [List.length_cons] at h2
    have h0 : j / ed = 1 := Nat.div_eq_of_lt_le (by rwa [Nat.one_mul])
      (Nat.lt_of_lt_of_le (Nat.lt_add_of_pos_right (Nat.succ_pos _)) h2)
    rw [scalePass, h0, ih (j + 1) (Nat.le_succ_of_le h1) (by rw [Nat.add_right_comm]; exact h2)]
    rfl

theorem scalePass_map (ed : Nat) (u v : F) (j : Nat) (l : List F) :
    scalePass ed u j (l.map (· * v)) = (scalePass ed u j l).map (· * v) := by
  induction l generalizing j with
  | nil => rfl
  | cons c cs ih =>
    simp only [List.map_cons, scalePass, ih]
    split
    · congr 1; ring
    · rfl

theorem coeffsLoop_length (k i : Nat) (us l : List F) :
    (coeffsLoop k i us l).length = l.length := by
  induction us generalizing i l with
  | nil => rfl
  | cons u us ih => simp only [coeffsLoop, ih, scalePass_length]

theorem coeffsLoop_succ (k i : Nat) (us l : List F) :
    coeffsLoop (k + 1) (i + 1) us l = coeffsLoop k i us l := by
  induction us generalizing i l with
  | nil => rfl
  | cons u us ih =>
    simp only [coeffsLoop]
    rw [ih, Nat.add_sub_add_right]

theorem coeffsLoop_map (k i : Nat) (v : F) (us l : List F) :
    coeffsLoop k i us (l.map (· * v)) = (coeffsLoop k i us l).map (· * v) := by
  induction us generalizing i l with
  | nil => rfl
  | cons u us ih => simp only [coeffsLoop, scalePass_map, ih]

theorem scalePass_append_of_dvd (ed : Nat) (hed : 0 < ed) (u : F) (a b : List F)
    (h : 2 * ed ∣ a.length) :
    scalePass ed u 0 (a ++ b) = scalePass ed u 0 a ++ scalePass ed u 0 b := by
  obtain ⟨m, hm⟩ := h
  rw [scalePass_append, hm, scalePass_shift ed hed]

theorem coeffsLoop_append (k i : Nat) (us a b : List F) (hi : 1 ≤ i) (hk : i + us.length ≤ k)
    (ha : a.length = 2 ^ (k - 1)) :
    coeffsLoop k i us (a ++ b) = coeffsLoop k i us a ++ coeffsLoop k i us b := by
  induction us generalizing i a b with
  | nil => rfl
  | cons u us ih =>
    simp only [List.length_cons] at hk
    simp only [coeffsLoop]
    rw [scalePass_append_of_dvd _ (Nat.pow_pos Nat.two_pos) _ _ _
      (by rw [ha, ← Nat.pow_succ']; exact Nat.pow_dvd_pow 2 (by omega))]
    exact ih (i + 1) _ _ (Nat.le_add_left 1 i) (by rw [Nat.add_right_comm]; exact hk)
      (by rw [scalePass_length]; exact ha)

/-- **The recursion behind `compute_coeffs`**: the first challenge multiplies the upper half. -/
theorem computeCoeffs_cons (u : F) (us : List F) :
    computeCoeffs (u :: us) = computeCoeffs us ++ (computeCoeffs us).map (· * u) := by
  unfold computeCoeffs
  simp only [List.length_cons, coeffsLoop]
  have hrep : List.replicate (2 ^ (us.length + 1)) (1 : F)
      = List.replicate (2 ^ us.length) 1 ++ List.replicate (2 ^ us.length) 1 := by
    rw [List.replicate_append_replicate, ← Nat.two_mul, ← Nat.pow_succ']
  have hsub : us.length + 1 - (0 + 1) = us.length := Nat.add_sub_add_right us.length 1 0
  have hl : (List.replicate (2 ^ us.length) (1 : F)).length = 2 ^ us.length := List.length_replicate
  -- the first pass has `elem_degree = 2^k`: it leaves the lower half and multiplies the upper one;
  -- the later passes have a period dividing `2^k` and treat the two halves separately
  rw [hrep, hsub, scalePass_append, hl, Nat.zero_add (2 ^ us.length),
    scalePass_low _ _ _ _ (Nat.le_of_eq (by rw [Nat.zero_add, hl])),
    scalePass_high _ _ _ _ (Nat.le_refl _) (Nat.le_of_eq (by rw [hl, Nat.two_mul])),
    coeffsLoop_append _ _ _ _ _ (Nat.le_refl 1) (Nat.le_of_eq (Nat.add_comm _ _)) hl, coeffsLoop_map,
    coeffsLoop_succ]

@[simp] theorem computeCoeffs_nil : computeCoeffs ([] : List F) = [1] := rfl

theorem computeCoeffs_length (us : List F) : (computeCoeffs us).length = 2 ^ us.length := by
  induction us with
  | nil => rfl
  | cons u us ih =>
    rw [computeCoeffs_cons, List.length_append, List.length_map, ih, List.length_cons, Nat.pow_succ',
      Nat.two_mul]

theorem evalLoop_succ (k : Nat) (z : F) (i : Nat) (us : List F) (p : F) :
    evalLoop (k + 1) z (i + 1) us p = evalLoop k z i us p := by
  induction us generalizing i p with
  | nil => rfl
  | cons u us ih =>
    simp only [evalLoop]
    rw [ih, Nat.add_sub_add_right]

theorem evalLoop_mul (k : Nat) (z : F) (i : Nat) (us : List F) (p : F) :
    evalLoop k z i us p = p * evalLoop k z i us 1 := by
  induction us generalizing i p with
  | nil => simp [evalLoop]
  | cons u us ih =>
    simp only [evalLoop]
    rw [ih (i + 1) (p * _), ih (i + 1) (1 * _)]; ring

@[simp] theorem evaluate_nil (z : F) : evaluate ([] : List F) z = 1 := rfl

theorem evaluate_cons (u : F) (us : List F) (z : F) :
    evaluate (u :: us) z = (1 + fpow z (2 ^ us.length) * u) * evaluate us z := by
  unfold evaluate
  simp only [List.length_cons, evalLoop]
  have hsub : us.length + 1 - (0 + 1) = us.length := Nat.add_sub_add_right us.length 1 0
  rw [hsub, evalLoop_succ, evalLoop_mul]; ring

/-- `SuccinctCheckPolynomial::evaluate` is the Horner value of the vector of `compute_coeffs`. -/
theorem evaluate_eq_horner (us : List F) (z : F) :
    evaluate us z = evalPoly (computeCoeffs us) z := by
  induction us with
  | nil => simp [evalPoly]
  | cons u us ih =>
    rw [evaluate_cons, computeCoeffs_cons, evalPoly_append, evalPoly_map_mul,
      computeCoeffs_length, ih]
    ring

/-- the product `∏ᵢ (1 + uᵢ · z^(2^(k-i)))`, `i = 1..k` -/
def prodForm (z : F) : List F → F
  | [] => 1
  | u :: us => (1 + u * z ^ (2 ^ us.length)) * prodForm z us

theorem evaluate_eq_prodForm (us : List F) (z : F) : evaluate us z = prodForm z us := by
  induction us with
  | nil => rfl
  | cons u us ih => rw [evaluate_cons, ih, fpow_eq_pow]; simp only [prodForm]; ring

end Succinct
end PCV
