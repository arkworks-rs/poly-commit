/-
  PCV.Proofs.TraitDefault — lemmas about the model of the trait-default methods
  (`PCV.Model.TraitDefault`): the two last-write-wins lookups agree, the keys and values of
  `evaluate_query_set`, the query set.
-/
import PCV.Model.TraitDefault
import PCV.Proofs.QuerySet
import PCV.Proofs.Lookup

namespace PCV
namespace TraitDefault
open QS (StrictTotal ltLabel ltKey)

section Lookup
variable {α : Type}

theorem lookupLast_nil (lbl : α → Label) (l : Label) : Marlin.lookupLast lbl l [] = none := rfl

theorem lastWith_map_label (lbl : α → Label) (l : Label) (xs : List α) :
    QS.lastWith l (xs.map fun x => (lbl x, x)) = Marlin.lookupLast lbl l xs := by
  induction xs with
  | nil => rfl
  | cons x xs ih =>
    rw [List.map_cons, QS.lastWith, Marlin.lookupLast_cons, ih]
    cases Marlin.lookupLast lbl l xs with
    | some y => rfl
    | none =>
      by_cases h : lbl x = l <;> simp only [h, eq_comm (a := l), if_true, if_false, Option.none_or]

theorem lookupLast_some_mem (lbl : α → Label) (l : Label) (xs : List α) (x : α)
    (h : Marlin.lookupLast lbl l xs = some x) : x ∈ xs ∧ lbl x = l :=
  Marlin.lookupLast_mem lbl l xs x h

theorem lookupLast_perm (lbl : α → Label) (l : Label) (xs ys : List α) (hp : xs.Perm ys)
    (hnd : (xs.map lbl).Nodup) : Marlin.lookupLast lbl l xs = Marlin.lookupLast lbl l ys :=
  Marlin.lookupLast_perm lbl l hp hnd

end Lookup

section Orders
variable {Pt : Type} [DecidableEq Pt]

theorem keys_evalLoop {P F : Type} {ltK : Label × Pt → Label × Pt → Bool} {evalP : P → Pt → F}
    {pm : List (Label × P)} {qs : List (Query Pt)} {acc m : List ((Label × Pt) × F)}
    (h : QS.evalLoop ltK evalP pm qs acc = .ok m) :
    QS.keys m = (qs.map QS.keyOf).foldl (fun a k => setInsert ltK k a) (QS.keys acc) := by
  induction qs generalizing acc with
  | nil => cases h; rfl
  | cons q qs ih =>
    obtain ⟨p, _, h⟩ := QS.evalLoop_cons_ok.1 h
    rw [ih h, keys_insert]; rfl

/-- **`evaluate_query_set`**: the keys of the returned map are the `(label, point)` of the queries, and
each is mapped to the evaluation at `point` of the polynomial listed last under `label`. -/
theorem _root_.PCV.QS.evaluateQuerySet_spec {P F : Type} {ltL : Label → Label → Bool}
    {ltK : Label × Pt → Label × Pt → Bool} {evalP : P → Pt → F} {polys : List (Label × P)}
    {qs : List (Query Pt)} {m : List ((Label × Pt) × F)}
    (h : QS.evaluateQuerySet ltL ltK evalP polys qs = .ok m) :
    (∀ k, k ∈ QS.keys m ↔ ∃ q ∈ qs, QS.keyOf q = k) ∧
    (∀ q ∈ qs, ∃ p, QS.lastWith q.1 polys = some p ∧
      QS.lookup (QS.keyOf q) m = some (evalP p q.2.2)) := by
  refine ⟨fun k => ?_, fun q hq => ?_⟩
  · rw [keys_evalLoop h, mem_foldl_setInsert, List.mem_map]
    exact or_iff_right List.not_mem_nil
  · obtain ⟨p, hp, hv⟩ := (QS.evalLoop_spec h).1 q hq
    exact ⟨p, (QS.lookup_fromList_nil ltL q.1 polys).symm.trans hp, hv⟩

theorem _root_.PCV.QS.evalLoop_sorted {P F : Type} {ltK : Label × Pt → Label × Pt → Bool}
    (hlt : StrictTotal ltK) {evalP : P → Pt → F} {pm : List (Label × P)} {qs : List (Query Pt)}
    {acc m : List ((Label × Pt) × F)} (hacc : QS.Sorted ltK acc)
    (h : QS.evalLoop ltK evalP pm qs acc = .ok m) : QS.Sorted ltK m := by
  induction qs generalizing acc with
  | nil => cases h; exact hacc
  | cons q qs ih =>
    obtain ⟨p, _, h⟩ := QS.evalLoop_cons_ok.1 h
    exact ih (QS.sorted_insert hlt _ _ hacc) h

omit [DecidableEq Pt] in
theorem strictTotal_ltQuery (ltP : Pt → Pt → Bool) (h : StrictTotal ltP) :
    StrictTotal (ltQuery ltP) :=
  QS.strictTotal_ltKey _ (QS.strictTotal_ltKey ltP h)

omit [DecidableEq Pt] in
theorem ltQuery_irrefl (ltP : Pt → Pt → Bool) (h : ∀ a, ltP a a = false) (q : Query Pt) :
    ltQuery ltP q q = false :=
  QS.ltKey_irrefl _ (QS.ltKey_irrefl ltP h) q

theorem mem_querySet (ltP : Pt → Pt → Bool) {q : Query Pt} {qs : List (Query Pt)} :
    q ∈ querySet ltP qs ↔ q ∈ qs := mem_setOfList _ q qs

/-- **the query set does not depend on the order or multiplicity of the listed queries** -/
theorem querySet_congr (ltP : Pt → Pt → Bool) (hlt : StrictTotal ltP) (hirr : ∀ a, ltP a a = false)
    (qs qs' : List (Query Pt)) (h : ∀ q, q ∈ qs ↔ q ∈ qs') : querySet ltP qs = querySet ltP qs' :=
  setOfList_congr (strictTotal_ltQuery ltP hlt) (ltQuery_irrefl ltP hirr) h

theorem querySet_idem (ltP : Pt → Pt → Bool) (hlt : StrictTotal ltP) (hirr : ∀ a, ltP a a = false)
    (qs : List (Query Pt)) : querySet ltP (querySet ltP qs) = querySet ltP qs :=
  setOfList_of_sorted (strictTotal_ltQuery ltP hlt) (ltQuery_irrefl ltP hirr)
    (sorted_setOfList (strictTotal_ltQuery ltP hlt) qs)

end Orders

end TraitDefault
end PCV
