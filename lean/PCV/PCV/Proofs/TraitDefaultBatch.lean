/-
  PCV.Proofs.TraitDefaultBatch — the default `batch_open` / `batch_check`: exact characterisation of
  the verifier's loop, independence of list orders, lock-step of the two loops, completeness relative
  to the scheme's own `open` / `check`.
-/
import PCV.Proofs.TraitDefault

namespace PCV
namespace TraitDefault
open QS (StrictTotal ltLabel ltKey)

variable {Pt : Type} [DecidableEq Pt]

section Check
variable {C V PF σ : Type}

/-- The per-group runs of the scheme's `check`, in map order with the state threaded: group `i` finds its
commitments and values, `checkF` answers `bsᵢ` without refusing and hands its state to group `i+1`. -/
def Chain (lblC : C → Label) (checkF : List C → Pt → List V → PF → σ → Except Err (Bool × σ))
    (comms : List C) (evals : List ((Label × Pt) × V)) :
    List (Group Pt) → List PF → List Bool → σ → σ → Prop
  | [], πs, bs, s, s' => πs = [] ∧ bs = [] ∧ s' = s
  | g :: gs, πs, bs, s, s' =>
    ∃ π πs' b bs' cs vs s1, πs = π :: πs' ∧ bs = b :: bs' ∧
      gatherCheck lblC comms evals g.2.1 g.2.2 = .ok (cs, vs) ∧
      checkF cs g.2.1 vs π s = .ok (b, s1) ∧
      Chain lblC checkF comms evals gs πs' bs' s1 s'

variable {lblC : C → Label} {checkF : List C → Pt → List V → PF → σ → Except Err (Bool × σ)}
  {comms comms' : List C} {evals evals' : List ((Label × Pt) × V)} {z : Pt} {l : Label}
  {ls : List Label} {cs : List C} {vs : List V} {g : Group Pt} {gs : List (Group Pt)} {π : PF}
  {πs : List PF} {bs : List Bool} {acc r : Bool} {s s' : σ} {qset : List (Query Pt)}

theorem gatherCheck_cons_ok (h : gatherCheck lblC comms evals z (l :: ls) = .ok (cs, vs)) :
    ∃ c v cs' vs', Marlin.lookupLast lblC l comms = some c ∧ QS.lastWith (l, z) evals = some v ∧
      gatherCheck lblC comms evals z ls = .ok (cs', vs') ∧ cs = c :: cs' ∧ vs = v :: vs' := by
  rw [gatherCheck] at h
  split at h
  · cases h
  · next c hc =>
    split at h
    · cases h
    · next v hv =>
      split at h
      · cases h
      · next cs' vs' hr => cases h; exact ⟨c, v, cs', vs', hc, hv, hr, rfl, rfl⟩

theorem batchCheckLoop_cons_ok
    (h : batchCheckLoop lblC checkF comms evals (g :: gs) (π :: πs) acc s = .ok (r, s')) :
    ∃ cs vs b s1, gatherCheck lblC comms evals g.2.1 g.2.2 = .ok (cs, vs) ∧
      checkF cs g.2.1 vs π s = .ok (b, s1) ∧
      batchCheckLoop lblC checkF comms evals gs πs (acc && b) s1 = .ok (r, s') := by
  rw [batchCheckLoop] at h
  split at h
  · cases h
  · next cs vs hg =>
    split at h
    · cases h
    · next b s1 hc => exact ⟨cs, vs, b, s1, hg, hc, h⟩

theorem chain_lengths (h : Chain lblC checkF comms evals gs πs bs s s') :
    πs.length = gs.length ∧ bs.length = gs.length := by
  induction gs generalizing πs bs s with
  | nil => obtain ⟨rfl, rfl, _⟩ := h; exact ⟨rfl, rfl⟩
  | cons g gs ih =>
    obtain ⟨π, πs', b, bs', cs, vs, s1, rfl, rfl, _, _, hc⟩ := h
    obtain ⟨h1, h2⟩ := ih hc
    exact ⟨congrArg (· + 1) h1, congrArg (· + 1) h2⟩

theorem loop_ok_iff (hl : πs.length = gs.length) :
    batchCheckLoop lblC checkF comms evals gs πs acc s = .ok (r, s') ↔
      ∃ bs, Chain lblC checkF comms evals gs πs bs s s' ∧ r = (acc && bs.all id) := by
  induction gs generalizing πs acc s with
  | nil =>
    cases πs with
    | cons _ _ => cases hl
    | nil =>
      constructor
      · intro h; cases h
        exact ⟨[], ⟨rfl, rfl, rfl⟩, (Bool.and_true _).symm⟩
      · rintro ⟨bs, ⟨_, rfl, rfl⟩, rfl⟩
        exact congrArg (fun b => Except.ok (b, _)) (Bool.and_true _).symm
  | cons g gs ih =>
    cases πs with
    | nil => cases hl
    | cons π πs =>
      constructor
      · intro h
        obtain ⟨cs, vs, b, s1, hg, hc, h⟩ := batchCheckLoop_cons_ok h
        obtain ⟨bs, hch, rfl⟩ := (ih (Nat.succ.inj hl)).1 h
        exact ⟨b :: bs, ⟨π, πs, b, bs, cs, vs, s1, rfl, rfl, hg, hc, hch⟩, Bool.and_assoc ..⟩
      · rintro ⟨_, ⟨_, _, b, bs, cs, vs, s1, h1, rfl, hg, hc, hch⟩, rfl⟩
        cases h1
        simp only [batchCheckLoop, hg, hc]
        exact (ih (Nat.succ.inj hl)).2 ⟨bs, hch, (Bool.and_assoc ..).symm⟩

theorem batchCheckSet_wrong_count (hl : πs.length ≠ (groups qset).length) :
    batchCheckSet lblC checkF comms qset evals πs s = .error .abort :=
  if_pos hl

theorem batchCheckSet_of_length (hl : πs.length = (groups qset).length) :
    batchCheckSet lblC checkF comms qset evals πs s =
      batchCheckLoop lblC checkF comms evals (groups qset) πs true s :=
  if_neg (not_not.2 hl)

/-- an answer of the default `batch_check` is an answer of its loop on the right number of proofs -/
theorem batchCheckSet_ok_iff_loop {r : Bool × σ} :
    batchCheckSet lblC checkF comms qset evals πs s = .ok r ↔
      πs.length = (groups qset).length ∧
      batchCheckLoop lblC checkF comms evals (groups qset) πs true s = .ok r := by
  by_cases hl : πs.length = (groups qset).length
  · rw [batchCheckSet_of_length hl]
    exact (and_iff_right hl).symm
  · rw [batchCheckSet_wrong_count hl]
    exact ⟨fun h => (nomatch h), fun h => absurd h.1 hl⟩

/-- **default `batch_check`, exactly**: it answers `r` in state `s'` iff the number of proofs is the
number of point labels and every group's `check` answers (none refuses), `r` being the conjunction -/
theorem batchCheckSet_ok_iff :
    batchCheckSet lblC checkF comms qset evals πs s = .ok (r, s') ↔
      πs.length = (groups qset).length ∧
      ∃ bs, Chain lblC checkF comms evals (groups qset) πs bs s s' ∧ r = bs.all id :=
  batchCheckSet_ok_iff_loop.trans (and_congr_right loop_ok_iff)

theorem batchCheckLoop_of_ok {r : Bool × σ}
    (h : batchCheckSet lblC checkF comms qset evals πs s = .ok r) :
    batchCheckLoop lblC checkF comms evals (groups qset) πs true s = .ok r :=
  (batchCheckSet_ok_iff_loop.1 h).2

/-- the first refusal in map order is the refusal of the batch -/
def Refuses (lblC : C → Label) (checkF : List C → Pt → List V → PF → σ → Except Err (Bool × σ))
    (comms : List C) (evals : List ((Label × Pt) × V)) : List (Group Pt) → List PF → σ → Err → Prop
  | [], _, _, _ => False
  | _ :: _, [], _, _ => False
  | g :: gs, π :: πs, s, e =>
    gatherCheck lblC comms evals g.2.1 g.2.2 = .error e ∨
    ∃ cs vs, gatherCheck lblC comms evals g.2.1 g.2.2 = .ok (cs, vs) ∧
      (checkF cs g.2.1 vs π s = .error e ∨
       ∃ b s1, checkF cs g.2.1 vs π s = .ok (b, s1) ∧ Refuses lblC checkF comms evals gs πs s1 e)

/-- "`x` is the refusal `e`, or an answer with `P`": the shape of each clause of `Refuses`, by cases on `x` -/
theorem error_or_ok_iff {α β : Type} {x : Except Err (α × β)} {e : Err} {P : α → β → Prop} :
    (x = .error e ∨ ∃ a b, x = .ok (a, b) ∧ P a b) ↔
      match x with
      | .error e' => e' = e
      | .ok ab => P ab.1 ab.2 := by
  cases x with
  | error e' =>
    refine ⟨?_, fun h => Or.inl (congrArg _ h)⟩
    rintro (h | ⟨_, _, h, _⟩)
    · exact Except.error.inj h
    · cases h
  | ok ab =>
    refine ⟨?_, fun h => Or.inr ⟨_, _, rfl, h⟩⟩
    rintro (h | ⟨_, _, h, hp⟩)
    · cases h
    · cases h; exact hp

theorem loop_error_iff {e : Err} :
    batchCheckLoop lblC checkF comms evals gs πs acc s = .error e ↔
      Refuses lblC checkF comms evals gs πs s e := by
  induction gs generalizing πs acc s with
  | nil => exact ⟨fun h => (nomatch h), False.elim⟩
  | cons g gs ih =>
    cases πs with
    | nil => exact ⟨fun h => (nomatch h), False.elim⟩
    | cons π πs =>
      rw [batchCheckLoop, Refuses, error_or_ok_iff]
      cases gatherCheck lblC comms evals g.2.1 g.2.2 with
      | error e' => exact ⟨Except.error.inj, congrArg _⟩
      | ok cv =>
        obtain ⟨cs, vs⟩ := cv
        dsimp only
        rw [error_or_ok_iff]
        cases checkF cs g.2.1 vs π s with
        | error e' => exact ⟨Except.error.inj, congrArg _⟩
        | ok bs => exact ih

theorem gatherCheck_congr
    (hc : ∀ l, Marlin.lookupLast lblC l comms = Marlin.lookupLast lblC l comms')
    (he : ∀ k, QS.lastWith k evals = QS.lastWith k evals') :
    gatherCheck lblC comms evals z ls = gatherCheck lblC comms' evals' z ls := by
  induction ls with
  | nil => rfl
  | cons l ls ih => simp only [gatherCheck, hc, he, ih]

theorem batchCheckLoop_congr
    (hc : ∀ l, Marlin.lookupLast lblC l comms = Marlin.lookupLast lblC l comms')
    (he : ∀ k, QS.lastWith k evals = QS.lastWith k evals') :
    batchCheckLoop lblC checkF comms evals gs πs acc s =
      batchCheckLoop lblC checkF comms' evals' gs πs acc s := by
  induction gs generalizing πs acc s with
  | nil => cases πs <;> rfl
  | cons g gs ih =>
    cases πs with
    | nil => rfl
    | cons π πs => simp only [batchCheckLoop, gatherCheck_congr hc he, ih]

theorem batchCheckSet_congr
    (hc : ∀ l, Marlin.lookupLast lblC l comms = Marlin.lookupLast lblC l comms')
    (he : ∀ k, QS.lastWith k evals = QS.lastWith k evals') :
    batchCheckSet lblC checkF comms qset evals πs s =
      batchCheckSet lblC checkF comms' qset evals' πs s := by
  unfold batchCheckSet
  rw [batchCheckLoop_congr hc he]

theorem gatherCheck_labels (h : gatherCheck lblC comms evals z ls = .ok (cs, vs)) :
    cs.map lblC = ls ∧
      ∀ x ∈ ls.zip (cs.zip vs), Marlin.lookupLast lblC x.1 comms = some x.2.1 ∧
        QS.lastWith (x.1, z) evals = some x.2.2 := by
  induction ls generalizing cs vs with
  | nil => cases h; exact ⟨rfl, fun _ hx => (nomatch hx)⟩
  | cons l ls ih =>
    obtain ⟨c, v, cs', vs', hc, hv, hr, rfl, rfl⟩ := gatherCheck_cons_ok h
    obtain ⟨h1, h3⟩ := ih hr
    refine ⟨?_, fun x hx => ?_⟩
    · rw [List.map_cons, h1, (Marlin.lookupLast_mem lblC l comms c hc).2]
    · rcases List.mem_cons.1 hx with rfl | hx
      · exact ⟨hc, hv⟩
      · exact h3 x hx

theorem gatherCheck_forall {f : C → V}
    (h : gatherCheck lblC comms evals z ls = .ok (cs, vs)) (hv : vs = cs.map f) :
    ∀ l ∈ ls, ∃ c, Marlin.lookupLast lblC l comms = some c ∧
      QS.lastWith (l, z) evals = some (f c) := by
  induction ls generalizing cs vs with
  | nil => exact fun _ hl => (nomatch hl)
  | cons l ls ih =>
    obtain ⟨c, v, cs', vs', hc, hval, hr, rfl, rfl⟩ := gatherCheck_cons_ok h
    obtain ⟨rfl, hvs⟩ := List.cons.inj hv
    intro l' hl'
    rcases List.mem_cons.1 hl' with rfl | hl'
    · exact ⟨c, hc, hval⟩
    · exact ih hr hvs l' hl'

theorem chain_all_true_zip
    (h : Chain lblC checkF comms evals gs πs bs s s')
    (hb : ∀ b ∈ bs, b = true) :
    ∀ x ∈ gs.zip πs, ∃ cs vs s1 s2, gatherCheck lblC comms evals x.1.2.1 x.1.2.2 = .ok (cs, vs) ∧
      checkF cs x.1.2.1 vs x.2 s1 = .ok (true, s2) := by
  induction gs generalizing πs bs s with
  | nil => exact fun _ hx => (nomatch hx)
  | cons g gs ih =>
    obtain ⟨π, πs', b, bs', cs, vs, s1, rfl, rfl, hg, hc, hch⟩ := h
    obtain rfl : b = true := hb b List.mem_cons_self
    intro x hx
    rcases List.mem_cons.1 hx with rfl | hx
    · exact ⟨cs, vs, s, s1, hg, hc⟩
    · exact ih hch (fun b hb' => hb b (List.mem_cons_of_mem _ hb')) x hx

theorem chain_all_true_groups
    (h : Chain lblC checkF comms evals gs πs bs s s')
    (hb : ∀ b ∈ bs, b = true) :
    ∀ g ∈ gs, ∃ cs vs π s1 s2, gatherCheck lblC comms evals g.2.1 g.2.2 = .ok (cs, vs) ∧
      checkF cs g.2.1 vs π s1 = .ok (true, s2) := by
  intro g hg
  -- there are as many proofs as groups, so `g` is the first component of a pair of `gs.zip πs`
  rw [← List.map_fst_zip (l₁ := gs) (l₂ := πs) (Nat.le_of_eq (chain_lengths h).1.symm),
    List.mem_map] at hg
  obtain ⟨x, hx, rfl⟩ := hg
  obtain ⟨cs, vs, s1, s2, hgc, hck⟩ := chain_all_true_zip h hb x hx
  exact ⟨cs, vs, x.2, s1, s2, hgc, hck⟩

theorem chain_false_mem (bs : List Bool) : bs.all id = false ↔ false ∈ bs := by
  induction bs with
  | nil => simp
  | cons b bs ih => cases b <;> simp [ih]

end Check

section Open
variable {LP S C PF σ : Type} {lblP : LP → Label} {trips : List ((LP × S) × C)}
  {openF : List ((LP × S) × C) → Pt → σ → Except Err (PF × σ)} {trips' ts : List ((LP × S) × C)}
  {l : Label} {ls : List Label} {g : Group Pt} {gs : List (Group Pt)} {s s' : σ} {πs : List PF}

theorem gatherOpen_congr
    (h : ∀ l, Marlin.lookupLast (fun (t : (LP × S) × C) => lblP t.1.1) l trips =
      Marlin.lookupLast (fun (t : (LP × S) × C) => lblP t.1.1) l trips') :
    gatherOpen lblP trips ls = gatherOpen lblP trips' ls := by
  induction ls with
  | nil => rfl
  | cons l ls ih => simp only [gatherOpen, h, ih]

omit [DecidableEq Pt] in
theorem batchOpenLoop_congr
    (h : ∀ l, Marlin.lookupLast (fun (t : (LP × S) × C) => lblP t.1.1) l trips =
      Marlin.lookupLast (fun (t : (LP × S) × C) => lblP t.1.1) l trips') :
    batchOpenLoop lblP openF trips gs s = batchOpenLoop lblP openF trips' gs s := by
  induction gs generalizing s with
  | nil => rfl
  | cons g gs ih => simp only [batchOpenLoop, gatherOpen_congr h, ih]

theorem gatherOpen_cons_ok (h : gatherOpen lblP trips (l :: ls) = .ok ts) :
    ∃ t ts', Marlin.lookupLast (fun (t : (LP × S) × C) => lblP t.1.1) l trips = some t ∧
      gatherOpen lblP trips ls = .ok ts' ∧ ts = t :: ts' := by
  rw [gatherOpen] at h
  split at h
  · cases h
  · next t hc =>
    split at h
    · cases h
    · next ts' hr => cases h; exact ⟨t, ts', hc, hr, rfl⟩

omit [DecidableEq Pt] in
theorem batchOpenLoop_cons_ok
    (h : batchOpenLoop lblP openF trips (g :: gs) s = .ok (πs, s')) :
    ∃ ts π s1 πs', gatherOpen lblP trips g.2.2 = .ok ts ∧ openF ts g.2.1 s = .ok (π, s1) ∧
      batchOpenLoop lblP openF trips gs s1 = .ok (πs', s') ∧ πs = π :: πs' := by
  rw [batchOpenLoop] at h
  split at h
  · cases h
  · next ts hg =>
    split at h
    · cases h
    · next π s1 ho =>
      split at h
      · cases h
      · next πs' s2 hr => cases h; exact ⟨ts, π, s1, πs', hg, ho, hr, rfl⟩

/-- what `gatherOpen` returns are triples of `trips`, carrying the asked labels in order -/
theorem gatherOpen_labels (h : gatherOpen lblP trips ls = .ok ts) :
    ts.map (fun t => lblP t.1.1) = ls ∧ ∀ t ∈ ts, t ∈ trips := by
  induction ls generalizing ts with
  | nil => cases h; exact ⟨rfl, fun _ ht => (nomatch ht)⟩
  | cons l ls ih =>
    obtain ⟨t, ts', hc, hr, rfl⟩ := gatherOpen_cons_ok h
    obtain ⟨hmem, hlbl⟩ := Marlin.lookupLast_mem _ l trips t hc
    obtain ⟨h1, h2⟩ := ih hr
    exact ⟨by rw [List.map_cons, h1, hlbl], List.forall_mem_cons.2 ⟨hmem, h2⟩⟩

theorem gatherOpen_mem (lblP : LP → Label) (trips : List ((LP × S) × C)) (ls : List Label)
    (ts : List ((LP × S) × C)) (h : gatherOpen lblP trips ls = .ok ts) : ∀ t ∈ ts, t ∈ trips :=
  (gatherOpen_labels h).2

omit [DecidableEq Pt] in
theorem batchOpenLoop_length
    (h : batchOpenLoop lblP openF trips gs s = .ok (πs, s')) : πs.length = gs.length := by
  induction gs generalizing s πs with
  | nil => cases h; rfl
  | cons g gs ih =>
    obtain ⟨ts, π, s1, πs', _, _, hr, rfl⟩ := batchOpenLoop_cons_ok h
    exact congrArg (· + 1) (ih hr)

end Open

section Both
variable {LP S C V PF σp σv : Type} {lblP : LP → Label} {lblC : C → Label} {evalP : LP → Pt → V}
  {openF : List ((LP × S) × C) → Pt → σp → Except Err (PF × σp)}
  {checkF : List C → Pt → List V → PF → σv → Except Err (Bool × σv)}
  {R : σp → σv → Prop} {trips ts : List ((LP × S) × C)} {comms : List C}
  {evals : List ((Label × Pt) × V)} {z : Pt} {ls : List Label} {gs : List (Group Pt)} {πs : List PF}
  {sp sp' : σp} {sv sv' : σv}

/-- **Lock-step.** If one `open` and the `check` of the same group (same labels, same point) keep a
relation `R` between the prover's and the verifier's state, the default `batch_open` and `batch_check`
over the same groups keep it — whatever the verdicts (a `false` does not end the verifier's loop). -/
theorem loops_lockstep
    (hstep : ∀ ts cs z vs π sp sp' sv sv' b, R sp sv →
      ts.map (fun t => lblP t.1.1) = cs.map lblC →
      openF ts z sp = .ok (π, sp') → checkF cs z vs π sv = .ok (b, sv') → R sp' sv')
    {acc b : Bool} (h0 : R sp sv)
    (ho : batchOpenLoop lblP openF trips gs sp = .ok (πs, sp'))
    (hc : batchCheckLoop lblC checkF comms evals gs πs acc sv = .ok (b, sv')) : R sp' sv' := by
  induction gs generalizing sp sv πs acc with
  | nil => cases ho; cases hc; exact h0
  | cons g gs ih =>
    obtain ⟨ts, π, sp1, πs', hg, hop, hr, rfl⟩ := batchOpenLoop_cons_ok ho
    obtain ⟨cs, vs, b1, sv1, hgc, hck, hc⟩ := batchCheckLoop_cons_ok hc
    exact ih (hstep ts cs g.2.1 vs π sp sp1 sv sv1 b1 h0
      ((gatherOpen_labels hg).1.trans (gatherCheck_labels hgc).1.symm) hop hck) hr hc

theorem gatherCheck_of_gatherOpen
    (hcm : ∀ l ∈ ls, ∀ t, Marlin.lookupLast (fun (t : (LP × S) × C) => lblP t.1.1) l trips = some t →
      Marlin.lookupLast lblC l comms = some t.2)
    (hev : ∀ l ∈ ls, ∀ t, Marlin.lookupLast (fun (t : (LP × S) × C) => lblP t.1.1) l trips = some t →
      QS.lastWith (l, z) evals = some (evalP t.1.1 z))
    (h : gatherOpen lblP trips ls = .ok ts) :
    gatherCheck lblC comms evals z ls = .ok (ts.map (·.2), ts.map fun t => evalP t.1.1 z) := by
  induction ls generalizing ts with
  | nil => cases h; rfl
  | cons l ls ih =>
    obtain ⟨t, ts', hc, hr, rfl⟩ := gatherOpen_cons_ok h
    simp only [gatherCheck, hcm l List.mem_cons_self t hc, hev l List.mem_cons_self t hc,
      ih (fun l' h' => hcm l' (List.mem_cons_of_mem _ h'))
        (fun l' h' => hev l' (List.mem_cons_of_mem _ h')) hr, List.map_cons]

/-- **Completeness of the default batch, relative to the scheme.** Suppose the scheme's `open`/`check`
pair is complete on the triples the batch can gather (`Good`), keeping `R`: a proof `open` produces from
a state related to the verifier's is accepted for the true evaluations and the states stay related.
Then the proofs `batch_open` returns are accepted by `batch_check` — for ANY verifier-side commitment
list and evaluation map that agree with the prover's data on the queried labels — and the final states
are related. -/
theorem loops_complete {Good : List ((LP × S) × C) → Prop}
    (hcomplete : ∀ ts z π sp sp' sv, Good ts → R sp sv → openF ts z sp = .ok (π, sp') →
      ∃ sv', checkF (ts.map (·.2)) z (ts.map fun t => evalP t.1.1 z) π sv = .ok (true, sv') ∧ R sp' sv')
    (hgood : ∀ g ∈ gs, ∀ ts, gatherOpen lblP trips g.2.2 = .ok ts → Good ts)
    (hcm : ∀ g ∈ gs, ∀ l ∈ g.2.2, ∀ t,
      Marlin.lookupLast (fun (t : (LP × S) × C) => lblP t.1.1) l trips = some t →
      Marlin.lookupLast lblC l comms = some t.2)
    (hev : ∀ g ∈ gs, ∀ l ∈ g.2.2, ∀ t,
      Marlin.lookupLast (fun (t : (LP × S) × C) => lblP t.1.1) l trips = some t →
      QS.lastWith (l, g.2.1) evals = some (evalP t.1.1 g.2.1))
    (h0 : R sp sv) (ho : batchOpenLoop lblP openF trips gs sp = .ok (πs, sp')) :
    ∃ sv', batchCheckLoop lblC checkF comms evals gs πs true sv = .ok (true, sv') ∧ R sp' sv' := by
  induction gs generalizing sp sv πs with
  | nil => cases ho; exact ⟨sv, rfl, h0⟩
  | cons g gs ih =>
    obtain ⟨ts, π, sp1, πs', hg, hop, hr, rfl⟩ := batchOpenLoop_cons_ok ho
    obtain ⟨sv1, hck, hR⟩ := hcomplete ts g.2.1 π sp sp1 sv (hgood g List.mem_cons_self ts hg) h0 hop
    obtain ⟨sv2, hloop, hR2⟩ := ih
      (fun g' h' => hgood g' (List.mem_cons_of_mem _ h'))
      (fun g' h' => hcm g' (List.mem_cons_of_mem _ h'))
      (fun g' h' => hev g' (List.mem_cons_of_mem _ h')) hR hr
    refine ⟨sv2, ?_, hR2⟩
    simp only [batchCheckLoop, gatherCheck_of_gatherOpen (hcm g List.mem_cons_self)
      (hev g List.mem_cons_self) hg, hck, Bool.and_self]
    exact hloop

end Both


end TraitDefault
end PCV
