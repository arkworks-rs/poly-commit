/-
  PCV.Proofs.TraitDefaultComplete — the honest default `open_combinations` output is accepted by the
  default `check_combinations` when the scheme's own `open`/`check` pair is complete: what
  `query_to_labels_map` contains, what the derived polynomial query set contains, how the verifier
  re-associates the transmitted evaluations with their `(polynomial, point)` keys.
-/
import PCV.Proofs.TraitDefaultLC

namespace PCV
namespace TraitDefault
open QS (StrictTotal ltLabel ltKey)

section Groups
variable {Pt : Type}

/-- no point label is used with two different points (otherwise "behaviour is undefined", says the
doc comment of `batch_open`) -/
def ConsistentPoints (qs : List (Query Pt)) : Prop :=
  ∀ q ∈ qs, ∀ q' ∈ qs, q.2.1 = q'.2.1 → q.2.2 = q'.2.2

theorem group_label_query {qset : List (Query Pt)} (hc : ConsistentPoints qset) {g : Group Pt}
    (hg : g ∈ groups qset) {l : Label} (hl : l ∈ g.2.2) : (l, (g.1, g.2.1)) ∈ qset := by
  obtain ⟨⟨q0, hq0, h0, h0'⟩, hls⟩ := Marlin.groupQueries_from qset g hg
  obtain ⟨q, hq, h1, h2⟩ := hls l hl
  rw [← h1, ← h2, ← h0', ← hc q hq q0 hq0 (h2.trans h0.symm)]
  exact hq

end Groups

section PolyQS
variable {Pt : Type} [DecidableEq Pt] {F : Type} {ltP : Pt → Pt → Bool} {lcs : List (LC.LinComb F)}
  {acc qset : List (Query Pt)} {q x : Query Pt}

theorem mem_lcPolyLabels {lc : LC.LinComb F} {l : Label} :
    l ∈ lcPolyLabels lc ↔ ∃ c, (c, LC.LCTerm.poly l) ∈ lc.terms := by
  unfold lcPolyLabels
  rw [List.mem_filterMap]
  constructor
  · rintro ⟨⟨c, t⟩, hm, ht⟩
    cases t with
    | one => cases ht
    | poly l' => cases ht; exact ⟨c, hm⟩
  · rintro ⟨c, hm⟩; exact ⟨(c, .poly l), hm, rfl⟩

theorem mem_foldl_labels {lt : Query Pt → Query Pt → Bool} {pq : Label × Pt} {ls : List Label} :
    x ∈ ls.foldl (fun a l => setInsert lt (l, pq) a) acc ↔ x ∈ acc ∨ (x.1 ∈ ls ∧ x.2 = pq) :=
  (mem_foldl_of_step (fun a l => (mem_setInsert lt (l, pq) x a).trans or_comm) ls acc).trans
    (or_congr_right ⟨fun ⟨_, hl, e⟩ => e ▸ ⟨hl, rfl⟩, fun ⟨h1, h2⟩ => ⟨x.1, h1, Prod.ext rfl h2⟩⟩)

theorem mem_lcQueryStep :
    x ∈ lcQueryStep ltP lcs acc q ↔
      x ∈ acc ∨ ∃ lc, lcGet lcs q.1 = some lc ∧ x.1 ∈ lcPolyLabels lc ∧ x.2 = q.2 := by
  unfold lcQueryStep
  cases lcGet lcs q.1 with
  | none => exact ⟨Or.inl, fun h => h.elim id fun ⟨_, h, _⟩ => (nomatch h)⟩
  | some lc =>
    rw [mem_foldl_labels]
    exact or_congr_right ⟨fun h => ⟨lc, rfl, h⟩, fun ⟨_, h, h'⟩ => Option.some.inj h ▸ h'⟩

/-- **the derived polynomial query set**: `(l, (point_label, point))` is in it iff some queried and
supplied equation mentions the polynomial `l` (with whatever coefficient) and is queried there -/
theorem mem_lcToPolyQuerySet :
    x ∈ lcToPolyQuerySet ltP lcs qset ↔
      ∃ q ∈ qset, ∃ lc, lcGet lcs q.1 = some lc ∧ x.1 ∈ lcPolyLabels lc ∧ x.2 = q.2 :=
  (mem_foldl_of_step (step := lcQueryStep ltP lcs) (fun _ _ => mem_lcQueryStep) qset []).trans
    (or_iff_right List.not_mem_nil)

theorem consistent_lcToPolyQuerySet (ltP : Pt → Pt → Bool) (lcs : List (LC.LinComb F))
    (qset : List (Query Pt)) (h : ConsistentPoints qset) :
    ConsistentPoints (lcToPolyQuerySet ltP lcs qset) := by
  intro x hx x' hx' hpl
  obtain ⟨q, hq, _, _, _, h2⟩ := mem_lcToPolyQuerySet.1 hx
  obtain ⟨q', hq', _, _, _, h2'⟩ := mem_lcToPolyQuerySet.1 hx'
  rw [h2, h2'] at hpl ⊢
  exact h q hq q' hq' hpl

end PolyQS

section Evals
variable {Pt : Type} [DecidableEq Pt] {F LP : Type}

/-- **`evaluate_query_set`, read back by key**: its keys in order are the sorted `(polynomial, point)`
set of the query set — so pairing them with the values in order (what the verifier does) gives the map
back; and `(l, z)` maps to the evaluation at `z` of the polynomial listed last under `l`. -/
theorem polyEvals_evaluateQuerySet {ltP : Pt → Pt → Bool} (hlt : StrictTotal ltP)
    (hirr : ∀ a, ltP a a = false) {lblP : LP → Label} {evalP : LP → Pt → F} {polys : List LP}
    {pqs : List (Query Pt)} {evs : List ((Label × Pt) × F)}
    (h : QS.evaluateQuerySet ltLabel (ltKey ltP) evalP (polys.map fun p => (lblP p, p)) pqs = .ok evs) :
    polyEvals ltP pqs (evs.map (·.2)) = evs ∧
    ∀ q ∈ pqs, ∃ p, Marlin.lookupLast lblP q.1 polys = some p ∧
      QS.lastWith (q.1, q.2.2) evs = some (evalP p q.2.2) := by
  refine ⟨?_, fun q hq => ?_⟩
  · -- the key list of the map is the verifier's key set by construction
    have hk : evalKeys ltP pqs = QS.keys evs := (keys_evalLoop h).symm
    rw [polyEvals, hk]
    exact (List.zip_of_prod rfl rfl).symm
  · have hnd := QS.sorted_keys_nodup (QS.ltKey_irrefl ltP hirr)
      (QS.evalLoop_sorted (QS.strictTotal_ltKey ltP hlt) List.Pairwise.nil h)
    obtain ⟨p, hp, hv⟩ := (QS.evaluateQuerySet_spec h).2 q hq
    exact ⟨p, (lastWith_map_label lblP q.1 polys).symm.trans hp, (QS.lastWith_eq_lookup hnd).trans hv⟩

end Evals

section Complete
variable {Pt : Type} [DecidableEq Pt] {F : Type} [Field F] [DecidableEq F]
variable {LP S C PF σp σv : Type}

/-- the true evaluation of the polynomial listed (last) under `l`; `0` if there is none -/
def trueEval (lblP : LP → Label) (evalP : LP → Pt → F) (polys : List LP) (z : Pt) (l : Label) : F :=
  match Marlin.lookupLast lblP l polys with
  | some p => evalP p z
  | none => 0

/-- **Completeness of the default combination opening, relative to the scheme** (statement and
hypotheses: see `C06.default_combinations_complete`). -/
theorem combinations_complete (ltP : Pt → Pt → Bool) (hlt : StrictTotal ltP) (hirr : ∀ a, ltP a a = false)
    (lblP : LP → Label) (lblC : C → Label) (evalP : LP → Pt → F)
    (openF : List ((LP × S) × C) → Pt → σp → Except Err (PF × σp))
    (checkF : List C → Pt → List F → PF → σv → Except Err (Bool × σv))
    (R : σp → σv → Prop) (Good : List ((LP × S) × C) → Prop)
    (hcomplete : ∀ ts z π sp sp' sv, Good ts → R sp sv → openF ts z sp = .ok (π, sp') →
      ∃ sv', checkF (ts.map (·.2)) z (ts.map fun t => evalP t.1.1 z) π sv = .ok (true, sv') ∧ R sp' sv')
    (lcs : List (LC.LinComb F)) (polys : List LP) (sts : List S) (comms vcomms : List C)
    (qs : List (Query Pt)) (ee : List ((Label × Pt) × F))
    (hpts : ConsistentPoints qs)
    (hsupplied : ∀ q ∈ qs, (lcGet lcs q.1).isSome = true)
    (hclaims : ∀ q ∈ qs, ∀ lc, lcGet lcs q.1 = some lc →
      QS.lastWith (q.1, q.2.2) ee = some (LC.termsValue (trueEval lblP evalP polys q.2.2) lc.terms))
    (htrip : ∀ l t, Marlin.lookupLast (fun (t : (LP × S) × C) => lblP t.1.1) l
        (polyStComm polys sts comms) = some t → Marlin.lookupLast lblP l polys = some t.1.1)
    (hgood : ∀ ls ts, gatherOpen lblP (polyStComm polys sts comms) ls = .ok ts → Good ts)
    (hcm : ∀ l t, Marlin.lookupLast (fun (t : (LP × S) × C) => lblP t.1.1) l
        (polyStComm polys sts comms) = some t → Marlin.lookupLast lblC l vcomms = some t.2)
    (sp : σp) (sv : σv) (πs : List PF) (evals : Option (List F)) (sp' : σp) (h0 : R sp sv)
    (ho : openCombinations ltP lblP evalP openF lcs polys sts comms qs sp = .ok ((πs, evals), sp')) :
    ∃ sv', checkCombinations ltP lblC checkF lcs vcomms qs ee πs evals sv = .ok (true, sv') ∧
      R sp' sv' := by
  obtain ⟨evs, hev, hbo, rfl⟩ := openCombinations_ok ho
  obtain ⟨hpe, hvals⟩ := polyEvals_evaluateQuerySet hlt hirr hev
  have hpcons := consistent_lcToPolyQuerySet ltP lcs _ fun q hq q' hq' =>
    hpts q ((mem_querySet ltP).1 hq) q' ((mem_querySet ltP).1 hq')
  have hterm : ∀ q ∈ qs, ∀ lc, lcGet lcs q.1 = some lc → ∀ c l, (c, LC.LCTerm.poly l) ∈ lc.terms →
      QS.lastWith (l, q.2.2) evs = some (trueEval lblP evalP polys q.2.2 l) := by
    intro q hq lc hlc c l hm
    obtain ⟨p, hp, hv⟩ := hvals (l, q.2) (mem_lcToPolyQuerySet.2
      ⟨q, (mem_querySet ltP).2 hq, lc, hlc, mem_lcPolyLabels.2 ⟨c, hm⟩, rfl⟩)
    rw [hv, trueEval, hp]
  obtain ⟨sv', hloop, hR⟩ := loops_complete (comms := vcomms) (evals := evs) hcomplete
    (fun g _ ts h => hgood g.2.2 ts h) (fun g _ l _ t h => hcm l t h)
    (fun g hg l hl t ht => by
      obtain ⟨p, hp, hv⟩ := hvals _ (group_label_query hpcons hg hl)
      cases (htrip l t ht).symm.trans hp
      exact hv)
    h0 hbo
  refine ⟨sv', checkCombinations_true_iff.2 ⟨evs.map (·.2), rfl, ?_⟩, hR⟩
  rw [verifierPolyQuerySet_eq, hpe]
  refine ⟨fun q hq => ?_, ?_⟩
  · obtain ⟨lc, hlc⟩ := Option.isSome_iff_exists.1 (hsupplied q hq)
    refine ⟨lc, hlc, fun t ht l htl => ?_, ?_⟩
    · rw [hterm q hq lc hlc t.1 l (htl ▸ ht)]; rfl
    · rw [hclaims q hq lc hlc]
      refine congrArg some (LC.termsValue_congr fun c l hm => ?_)
      rw [assign, hterm q hq lc hlc c l hm]; rfl
  · rw [batchCheckSet_of_length (batchOpenLoop_length hbo)]
    exact hloop

end Complete

end TraitDefault
end PCV
