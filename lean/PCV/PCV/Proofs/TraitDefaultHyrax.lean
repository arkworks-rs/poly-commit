/-
  PCV.Proofs.TraitDefaultHyrax — the trait-default `batch_open` / `batch_check` instantiated with the
  Hyrax model (`PCV.Model.Hyrax`; `HyraxPC` does not override them).  The threaded state is the pair
  (RNG draws still to come, sponge challenges still to come) on the prover's side and the challenges still
  to come on the verifier's side.  `Hyrax.open` / `Hyrax.check` take these lists as inputs and do not
  return the remainder, so the adapters below drop what an ACCEPTING run consumes (`dim + 3` draws and one
  challenge per polynomial): they are exact on the runs the completeness theorem speaks about.
-/
import PCV.Proofs.TraitDefaultBatch
import PCV.Proofs.Hyrax

namespace PCV
namespace TraitDefault
namespace HyraxInst
open Hyrax

variable {F : Type} [Field F] [DecidableEq F]

/-- a labelled polynomial / a labelled commitment (`row_coms`) -/
abbrev HP (F : Type) := Label × MLPoly F
abbrev HC (F : Type) := Label × List F
abbrev HTrip (F : Type) := (HP F × State F) × HC F

/-- what `HyraxPC::open` reads of one triple -/
def item (t : HTrip F) : OpenItem F := ⟨t.1.1.1, t.2.1, t.1.1.2.nv, t.1.2⟩

/-- `HyraxPC::open` as the `open` of the generic model -/
def openF (ks : List F) (hh : F) (ts : List (HTrip F)) (z : List F) (s : List F × List F) :
    Except Err (List (Proof F) × (List F × List F)) :=
  match Hyrax.open ks hh (ts.map item) z s.1 s.2 with
  | .error e => .error e
  | .ok πs => .ok (πs, (s.1.drop (ts.length * (2 ^ (z.length / 2) + 3)), s.2.drop ts.length))

/-- `HyraxPC::check` as the `check` of the generic model -/
def checkF (ks : List F) (hh : F) (cs : List (HC F)) (z : List F) (vs : List F) (πs : List (Proof F))
    (s : List F) : Except Err (Bool × List F) :=
  match Hyrax.check ks hh (cs.map (·.2)) z vs πs s with
  | .error e => .error e
  | .ok b => .ok (b, s.drop πs.length)

/-- the claimed value of a labelled polynomial: ark-poly's evaluation of the extension -/
def evalP (p : HP F) (z : List F) : F := mleEval p.2.evals z

/-- the triple is an output of `commit` for its polynomial (some blinding draws) -/
def HonestTriple (ks : List F) (hh : F) (t : HTrip F) : Prop :=
  ∃ ρ, commitOne ks hh t.1.1.2 ρ = .ok (t.2.2, t.1.2)

variable (ks : List F) (hh : F)

/-- **one Hyrax group is complete**: the generic completeness hypothesis holds for the Hyrax pair, with
`R` = "the same challenges are still to come" and `Good` = every triple is honest -/
theorem pair_complete (ts : List (HTrip F)) (z : List F)
    (πs : List (Proof F)) (sp sp' : List F × List F) (sv : List F)
    (hgood : ∀ t ∈ ts, HonestTriple ks hh t) (hR : sp.2 = sv)
    (ho : openF ks hh ts z sp = .ok (πs, sp')) :
    ∃ sv', checkF ks hh (ts.map (·.2)) z (ts.map fun t => evalP t.1.1 z) πs sv = .ok (true, sv') ∧
      sp'.2 = sv' := by
  unfold openF at ho
  cases hop : Hyrax.open ks hh (ts.map item) z sp.1 sp.2 with
  | error e => rw [hop] at ho; cases ho
  | ok πs' =>
    rw [hop] at ho
    cases ho
    -- the honest triples are the output of one `commit` run
    obtain ⟨ρs, rest, hc⟩ := commit_of_commitOne (polys := ts.map (·.1.1.2))
      (outs := ts.map fun t => (t.2.2, t.1.2))
      (by exact List.forall₂_map_left_iff.2 (List.forall₂_map_right_iff.2 (List.forall₂_same.2 hgood)))
    obtain ⟨h1, _, h3, _⟩ := Hyrax.complete (items := ts.map item) hc (by simp only [List.map_map]; rfl) hop
    refine ⟨sv.drop πs.length, ?_, by simp [hR, h3]⟩
    unfold checkF evalP
    simp only [List.map_map, Function.comp_def] at h1 ⊢
    rw [← hR, h1]

end HyraxInst
end TraitDefault
end PCV
