/-
  PCV.Proofs.TraitDefaultLC — the default `check_combinations`: what the equation stage computes, when it
  lets a claim through, that prover and verifier derive the same polynomial query set, and the exact
  decision of the whole method; what a successful `open_combinations` did.
-/
import PCV.Proofs.TraitDefaultBatch
import PCV.Proofs.LC
set_option linter.unusedSectionVars false

namespace PCV
namespace TraitDefault
open QS (StrictTotal ltLabel ltKey)

variable {Pt : Type} [DecidableEq Pt] {F : Type} [Field F] [DecidableEq F]

/-- the assignment of polynomial evaluations at `z` the verifier reads off the transmitted values
(absent ones never matter: `AllPresent` is required wherever it is used) -/
def assign (pe : List ((Label × Pt) × F)) (z : Pt) (l : Label) : F :=
  (QS.lastWith (l, z) pe).getD 0

/-- every polynomial term of the equation has a transmitted evaluation at `z` -/
def AllPresent (pe : List ((Label × Pt) × F)) (z : Pt) (terms : List (F × LC.LCTerm)) : Prop :=
  ∀ t ∈ terms, ∀ l, t.2 = .poly l → (QS.lastWith (l, z) pe).isSome = true

section Equations
variable {lcs : List (LC.LinComb F)} {ee pe : List ((Label × Pt) × F)} {z : Pt} {q : Query Pt}
  {qs : List (Query Pt)}

theorem allPresent_cons {ct : F × LC.LCTerm} {rest : List (F × LC.LCTerm)} :
    AllPresent pe z (ct :: rest) ↔
      (∀ l, ct.2 = .poly l → (QS.lastWith (l, z) pe).isSome = true) ∧ AllPresent pe z rest :=
  List.forall_mem_cons

/-- **the recomputed right-hand side is `Σ coeff·eval + constants`** over the transmitted evaluations,
and the loop refuses exactly when one of them is absent -/
theorem lcActual_ok_iff {terms : List (F × LC.LCTerm)} {acc v : F} :
    lcActual pe z terms acc = .ok v ↔
      AllPresent pe z terms ∧ v = acc + LC.termsValue (assign pe z) terms := by
  induction terms generalizing acc with
  | nil =>
    rw [lcActual, LC.termsValue_nil, add_zero]
    exact ⟨fun h => ⟨fun _ ht => (nomatch ht), (Except.ok.inj h).symm⟩, fun h => congrArg _ h.2.symm⟩
  | cons ct rest ih =>
    obtain ⟨c, t⟩ := ct
    rw [allPresent_cons, LC.termsValue_cons, ← add_assoc, lcActual]
    -- a term whose evaluation is there adds nothing to `AllPresent` and its product to the sum
    cases t with
    | one => exact ih.trans (and_congr_left' (and_iff_right fun _ e => nomatch e).symm)
    | poly l =>
      dsimp only
      cases hv : QS.lastWith (l, z) pe with
      | none =>
        exact ⟨fun h => (nomatch h),
          fun h => (nomatch (hv ▸ h.1.1 l rfl : (none : Option F).isSome = true))⟩
      | some x =>
        have hx : LC.termVal (assign pe z) (.poly l) = x := by rw [LC.termVal, assign, hv]; rfl
        rw [hx]
        exact ih.trans (and_congr_left' (and_iff_right fun l' e => by cases e; rw [hv]; rfl).symm)

theorem lcActual_error (pe : List ((Label × Pt) × F)) (z : Pt) (terms : List (F × LC.LCTerm))
    (acc : F) (e : Err) (h : lcActual pe z terms acc = .error e) : e = .missingEvaluation := by
  induction terms generalizing acc with
  | nil => cases h
  | cons ct rest ih =>
    obtain ⟨c, t⟩ := ct
    cases t with
    | one => simp only [lcActual] at h; exact ih _ h
    | poly l =>
      simp only [lcActual] at h
      cases hv : QS.lastWith (l, z) pe with
      | none => rw [hv] at h; injection h with h; exact h.symm
      | some x => rw [hv] at h; exact ih _ h

/-- the claim of one query of the equation query set: the equation is supplied, all its polynomial
evaluations are transmitted, and the claimed value is the combination of them -/
def EqnHolds (lcs : List (LC.LinComb F)) (ee pe : List ((Label × Pt) × F)) (q : Query Pt) : Prop :=
  ∃ lc, lcGet lcs q.1 = some lc ∧ AllPresent pe q.2.2 lc.terms ∧
    QS.lastWith (q.1, q.2.2) ee = some (LC.termsValue (assign pe q.2.2) lc.terms)

/-- the claim of one query is false: everything is there, the claimed value is another one -/
def EqnFails (lcs : List (LC.LinComb F)) (ee pe : List ((Label × Pt) × F)) (q : Query Pt) : Prop :=
  ∃ lc c, lcGet lcs q.1 = some lc ∧ AllPresent pe q.2.2 lc.terms ∧
    QS.lastWith (q.1, q.2.2) ee = some c ∧ c ≠ LC.termsValue (assign pe q.2.2) lc.terms

theorem eqnLoop_cons {rest : List (Query Pt)} {b : Bool} :
    eqnLoop lcs ee pe (q :: rest) = .ok b ↔
      (EqnHolds lcs ee pe q ∧ eqnLoop lcs ee pe rest = .ok b) ∨ (EqnFails lcs ee pe q ∧ b = false) := by
  constructor
  · intro h
    rw [eqnLoop] at h
    split at h
    · cases h
    · next lc hl =>
      split at h
      · cases h
      · next c hc =>
        split at h
        · cases h
        · next a ha =>
          obtain ⟨hp, rfl⟩ := lcActual_ok_iff.1 ha
          rw [zero_add] at h
          split at h
          · next hne => cases h; exact Or.inr ⟨⟨lc, c, hl, hp, hc, hne⟩, rfl⟩
          · next heq => exact Or.inl ⟨⟨lc, hl, hp, hc.trans (congrArg some (not_not.1 heq))⟩, h⟩
  · rintro (⟨⟨lc, hl, hp, hc⟩, h⟩ | ⟨⟨lc, c, hl, hp, hc, hne⟩, rfl⟩)
    · simp only [eqnLoop, hl, hc, lcActual_ok_iff.2 ⟨hp, (zero_add _).symm⟩,
        ne_eq, not_true_eq_false, if_false]
      exact h
    · simp only [eqnLoop, hl, hc, lcActual_ok_iff.2 ⟨hp, (zero_add _).symm⟩, if_pos hne]

/-- **the equation stage lets the claims through iff every one of them holds** -/
theorem eqnLoop_true_iff :
    eqnLoop lcs ee pe qs = .ok true ↔ ∀ q ∈ qs, EqnHolds lcs ee pe q := by
  induction qs with
  | nil => exact ⟨fun _ _ hq => (nomatch hq), fun _ => rfl⟩
  | cons q rest ih =>
    rw [eqnLoop_cons, ih, List.forall_mem_cons]
    exact ⟨fun h => h.elim id fun h => (nomatch h.2), Or.inl⟩

/-- it answers `false` iff the first claim that does not hold is a wrong value (not a missing item) -/
theorem eqnLoop_false_iff :
    eqnLoop lcs ee pe qs = .ok false ↔
      ∃ pre q post, qs = pre ++ q :: post ∧ (∀ q' ∈ pre, EqnHolds lcs ee pe q') ∧
        EqnFails lcs ee pe q := by
  induction qs with
  | nil => exact ⟨fun h => (nomatch h), fun ⟨pre, _, _, h, _⟩ => by cases pre <;> cases h⟩
  | cons q rest ih =>
    rw [eqnLoop_cons, ih]
    constructor
    · rintro (⟨h1, pre, q', post, rfl, h2, h3⟩ | ⟨h1, _⟩)
      · exact ⟨q :: pre, q', post, rfl, List.forall_mem_cons.2 ⟨h1, h2⟩, h3⟩
      · exact ⟨[], q, rest, rfl, fun _ h => (nomatch h), h1⟩
    · rintro ⟨pre, q', post, heq, h2, h3⟩
      cases pre with
      | nil => cases heq; exact Or.inr ⟨h3, rfl⟩
      | cons p pre =>
        cases heq
        exact Or.inl ⟨h2 _ List.mem_cons_self, pre, q', post, rfl,
          fun x hx => h2 x (List.mem_cons_of_mem _ hx), h3⟩

theorem eqnHolds_not_fails (lcs : List (LC.LinComb F)) (ee pe : List ((Label × Pt) × F)) (q : Query Pt)
    (h : EqnHolds lcs ee pe q) : ¬ EqnFails lcs ee pe q := by
  obtain ⟨lc, h1, _, h3⟩ := h
  rintro ⟨lc', c, h1', _, h3', hne⟩
  cases h1.symm.trans h1'
  exact hne (Option.some.inj (h3'.symm.trans h3))

end Equations

section Values
omit [DecidableEq F]

/-- reading the equations through `lc_s.values()` re-collected into a map is reading the caller's list
with later duplicates winning -/
theorem lcGet_lcValues (lcs : List (LC.LinComb F)) (l : Label) :
    lcGet (lcValues lcs) l = lcGet lcs l := by
  have hm : ∀ m : List (Label × LC.LinComb F), (∀ kv ∈ m, kv.1 = kv.2.label) →
      (m.map (·.2)).map (fun lc => (lc.label, lc)) = m := fun m hk => by
    rw [List.map_map]
    refine (List.map_congr_left (g := id) fun kv hkv => ?_).trans (List.map_id m)
    exact Prod.ext (hk kv hkv).symm rfl
  have hk : ∀ kv ∈ QS.fromList ltLabel (lcs.map fun lc => (lc.label, lc)) [], kv.1 = kv.2.label :=
    fun kv hkv => by
      rcases QS.mem_fromList hkv with h | h
      · obtain ⟨lc, _, rfl⟩ := List.mem_map.1 h; rfl
      · cases h
  have hnd := QS.sorted_keys_nodup QS.ltLabel_irrefl
    (QS.sorted_fromList QS.strictTotal_ltLabel (lcs.map fun lc => (lc.label, lc)) List.Pairwise.nil)
  unfold lcGet lcValues
  rw [← lastWith_map_label, hm _ hk, QS.lastWith_eq_lookup hnd, QS.lookup_fromList_nil,
    lastWith_map_label]

end Values

section PolyQuerySet
omit [DecidableEq F]

theorem lcQueryStep_eq (ltP : Pt → Pt → Bool) (lcs : List (LC.LinComb F)) (acc : List (Query Pt))
    (q : Query Pt) :
    lcQueryStep ltP lcs acc q =
      match (lcGet lcs q.1).map lcPolyLabels with
      | none => acc
      | some ls => ls.foldl (fun a l => setInsert (ltQuery ltP) (l, q.2) a) acc := by
  unfold lcQueryStep
  cases lcGet lcs q.1 <;> rfl

theorem lcToPolyQuerySet_congr {ltP : Pt → Pt → Bool} {lcs lcs' : List (LC.LinComb F)}
    (h : ∀ l, (lcGet lcs l).map lcPolyLabels = (lcGet lcs' l).map lcPolyLabels)
    {qset : List (Query Pt)} :
    lcToPolyQuerySet ltP lcs qset = lcToPolyQuerySet ltP lcs' qset := by
  have : lcQueryStep ltP lcs = lcQueryStep ltP lcs' := by
    funext acc q
    rw [lcQueryStep_eq, lcQueryStep_eq, h]
  rw [lcToPolyQuerySet, this]; rfl

/-- the polynomial query set `check_combinations` derives -/
def verifierPolyQuerySet (ltP : Pt → Pt → Bool) (lcs : List (LC.LinComb F)) (qs : List (Query Pt)) :
    List (Query Pt) :=
  lcToPolyQuerySet ltP (lcValues lcs) (querySet ltP qs)

/-- **prover and verifier derive the same polynomial query set** from the same equation list -/
theorem verifierPolyQuerySet_eq (ltP : Pt → Pt → Bool) (lcs : List (LC.LinComb F))
    (qs : List (Query Pt)) :
    verifierPolyQuerySet ltP lcs qs = lcToPolyQuerySet ltP lcs (querySet ltP qs) :=
  lcToPolyQuerySet_congr fun l => by rw [lcGet_lcValues]

end PolyQuerySet

section Whole
variable {C PF σ : Type} {ltP : Pt → Pt → Bool} {lblC : C → Label}
  {checkF : List C → Pt → List F → PF → σ → Except Err (Bool × σ)} {lcs : List (LC.LinComb F)}
  {comms : List C} {qs : List (Query Pt)} {ee : List ((Label × Pt) × F)} {πs : List PF} {s s' : σ}

/-- **default `check_combinations`, any verdict**: with evaluations in the proof it answers `b` in state
`s'` iff the equation stage finds a wrong value (`b = false`, the sponge untouched) or lets all claims
through and the inner `batch_check` answers `(b, s')`. -/
theorem checkCombinations_ok_iff {evs : List F} {b : Bool} :
    checkCombinations ltP lblC checkF lcs comms qs ee πs (some evs) s = .ok (b, s') ↔
      (eqnLoop lcs ee (polyEvals ltP (verifierPolyQuerySet ltP lcs qs) evs) (querySet ltP qs)
          = .ok false ∧ b = false ∧ s' = s) ∨
      (eqnLoop lcs ee (polyEvals ltP (verifierPolyQuerySet ltP lcs qs) evs) (querySet ltP qs)
          = .ok true ∧
        batchCheckSet lblC checkF comms (verifierPolyQuerySet ltP lcs qs)
          (polyEvals ltP (verifierPolyQuerySet ltP lcs qs) evs) πs s = .ok (b, s')) := by
  unfold checkCombinations verifierPolyQuerySet
  simp only
  generalize eqnLoop lcs ee _ (querySet ltP qs) = r
  match r with
  | .error e => exact ⟨fun h => (nomatch h), fun h => h.elim (fun h => (nomatch h.1)) fun h => (nomatch h.1)⟩
  | .ok false =>
    refine ⟨fun h => ?_, fun h => h.elim (fun h => ?_) fun h => (nomatch h.1)⟩
    · cases h; exact Or.inl ⟨rfl, rfl, rfl⟩
    · rw [h.2.1, h.2.2]
  | .ok true => exact ⟨fun h => Or.inr ⟨rfl, h⟩, fun h => h.elim (fun h => (nomatch h.1)) (·.2)⟩

/-- **default `check_combinations` accepts iff** the proof carries evaluations, every queried equation
holds over them with its claimed value, and the inner `batch_check` of the polynomial queries with those
evaluations accepts. -/
theorem checkCombinations_true_iff {evals : Option (List F)} :
    checkCombinations ltP lblC checkF lcs comms qs ee πs evals s = .ok (true, s') ↔
      ∃ evs, evals = some evs ∧
        (∀ q ∈ qs, EqnHolds lcs ee (polyEvals ltP (verifierPolyQuerySet ltP lcs qs) evs) q) ∧
        batchCheckSet lblC checkF comms (verifierPolyQuerySet ltP lcs qs)
          (polyEvals ltP (verifierPolyQuerySet ltP lcs qs) evs) πs s = .ok (true, s') := by
  cases evals with
  | none => exact ⟨fun h => (nomatch h), fun ⟨_, h, _⟩ => (nomatch h)⟩
  | some evs =>
    rw [checkCombinations_ok_iff, eqnLoop_true_iff]
    constructor
    · rintro (⟨_, h, _⟩ | ⟨h1, h2⟩)
      · cases h
      · exact ⟨evs, rfl, fun q hq => h1 q ((mem_querySet ltP).2 hq), h2⟩
    · rintro ⟨_, he, h1, h2⟩
      cases he
      exact Or.inr ⟨fun q hq => h1 q ((mem_querySet ltP).1 hq), h2⟩

/-- an accepting run certifies every queried claim: the claimed value of a queried equation is the
combination of the transmitted evaluations -/
theorem claim_of_accepts {evs : List F}
    (h : checkCombinations ltP lblC checkF lcs comms qs ee πs (some evs) s = .ok (true, s'))
    {q : Query Pt} (hq : q ∈ qs) {lc : LC.LinComb F} (hlc : lcGet lcs q.1 = some lc) :
    QS.lastWith (q.1, q.2.2) ee = some (LC.termsValue
      (assign (polyEvals ltP (verifierPolyQuerySet ltP lcs qs) evs) q.2.2) lc.terms) := by
  obtain ⟨_, he, hall, _⟩ := checkCombinations_true_iff.1 h
  cases he
  obtain ⟨lc', h1, _, h3⟩ := hall q hq
  cases hlc.symm.trans h1
  exact h3

/-- it answers `false` iff the evaluations are there and either the equation stage finds a wrong value
(then the sponge is untouched) or all equations hold and the inner `batch_check` answers `false` -/
theorem checkCombinations_false_iff {evals : Option (List F)} :
    checkCombinations ltP lblC checkF lcs comms qs ee πs evals s = .ok (false, s') ↔
      ∃ evs, evals = some evs ∧
        ((eqnLoop lcs ee (polyEvals ltP (verifierPolyQuerySet ltP lcs qs) evs) (querySet ltP qs)
            = .ok false ∧ s' = s) ∨
         (eqnLoop lcs ee (polyEvals ltP (verifierPolyQuerySet ltP lcs qs) evs) (querySet ltP qs)
            = .ok true ∧
          batchCheckSet lblC checkF comms (verifierPolyQuerySet ltP lcs qs)
            (polyEvals ltP (verifierPolyQuerySet ltP lcs qs) evs) πs s = .ok (false, s'))) := by
  cases evals with
  | none => exact ⟨fun h => (nomatch h), fun ⟨_, h, _⟩ => (nomatch h)⟩
  | some evs =>
    rw [checkCombinations_ok_iff]
    exact ⟨fun h => ⟨evs, rfl, h.imp (fun h => ⟨h.1, h.2.2⟩) id⟩,
      fun ⟨_, he, h⟩ => by cases he; exact h.imp (fun h => ⟨h.1, rfl, h.2⟩) id⟩

end Whole

/-- what a successful `open_combinations` did: it evaluated the derived polynomial queries, opened them
as a batch, and sent the values of the evaluation map in key order -/
theorem openCombinations_ok {LP S C PF σ : Type} {ltP : Pt → Pt → Bool} {lblP : LP → Label}
    {evalP : LP → Pt → F} {openF : List ((LP × S) × C) → Pt → σ → Except Err (PF × σ)}
    {lcs : List (LC.LinComb F)} {polys : List LP} {sts : List S} {comms : List C}
    {qs : List (Query Pt)} {s s' : σ} {πs : List PF} {evals : Option (List F)}
    (h : openCombinations ltP lblP evalP openF lcs polys sts comms qs s = .ok ((πs, evals), s')) :
    ∃ evs, QS.evaluateQuerySet ltLabel (ltKey ltP) evalP (polys.map fun p => (lblP p, p))
        (lcToPolyQuerySet ltP lcs (querySet ltP qs)) = .ok evs ∧
      batchOpenSet lblP openF polys sts comms (lcToPolyQuerySet ltP lcs (querySet ltP qs)) s
        = .ok (πs, s') ∧
      evals = some (evs.map (·.2)) := by
  unfold openCombinations at h
  simp only at h
  split at h
  · cases h
  · next evs hev =>
    split at h
    · cases h
    · next πs' s1 hbo => cases h; exact ⟨evs, hev, hbo, rfl⟩

end TraitDefault
end PCV
