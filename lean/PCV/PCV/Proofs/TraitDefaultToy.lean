/-
  PCV.Proofs.TraitDefaultToy — a tiny concrete scheme over `ZMod 101` on which the non-vacuity examples
  of the `*_Default` property files evaluate the model of the trait-default methods by `decide +kernel`.
  Polynomial = (label, a) standing for `a·X`; its commitment is the same pair; a proof is the prover's
  call counter; `check` accepts iff the values are the true ones and the counters agree.
-/
import PCV.Model.TraitDefault
import PCV.Props.Examples

namespace PCV
namespace TraitDefault
namespace Toy

abbrev TC := Label × K

def ltK (a b : K) : Bool := decide (a.val < b.val)

def lbl (c : TC) : Label := c.1
def evalP (p : TC) (z : K) : K := p.2 * z

def openF (_ts : List ((TC × Unit) × TC)) (_z : K) (s : Nat) : Except Err (Nat × Nat) := .ok (s, s + 1)

def checkF (cs : List TC) (z : K) (vs : List K) (π : Nat) (s : Nat) : Except Err (Bool × Nat) :=
  .ok (decide (vs = cs.map fun c => evalP c z) && decide (π = s), s + 1)

/-- `a` = 2X, `b` = 3X, `c` = 5X -/
def polys : List TC := [([97], 2), ([98], 3), ([99], 5)]
def sts : List Unit := [(), (), ()]

/-- `a`, `b` at `x = 4`; `a`, `c` at `y = 4` (same point value); `b` at `z = 7`; one query listed twice -/
def qs : List (Query K) :=
  [([98], ([122], 7)), ([97], ([120], 4)), ([99], ([121], 4)), ([98], ([120], 4)), ([97], ([121], 4)),
   ([97], ([120], 4))]

/-- the true evaluations -/
def evals : List ((Label × K) × K) :=
  [(([97], 4), 8), (([98], 4), 12), (([99], 4), 20), (([98], 7), 21)]

/-- `e = 2·a − b + 5`, `f = 0·c + a` -/
def lcs : List (LC.LinComb K) :=
  [⟨[101], [(2, .poly [97]), (-1, .poly [98]), (5, .one)]⟩, ⟨[102], [(0, .poly [99]), (1, .poly [97])]⟩]

/-- `e` at `x = 4` and at `z = 7`, `f` at `x = 4` -/
def eqs : List (Query K) := [([101], ([122], 7)), ([102], ([120], 4)), ([101], ([120], 4))]

/-- `e(4) = 16 − 12 + 5 = 9`, `e(7) = 28 − 21 + 5 = 12`, `f(4) = 8` -/
def eqEvals : List ((Label × K) × K) := [(([101], 4), 9), (([101], 7), 12), (([102], 4), 8)]

end Toy
end TraitDefault
end PCV
