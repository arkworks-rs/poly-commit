/-
  PCV.Proofs.TranscriptHistory — histories of operations on ONE sponge for the schemes that use the
  trait defaults of `lib.rs` (Hyrax, Ligero, Brakedown): a list of `open`, default `batch_open` and
  default `open_combinations` calls by a prover whose `&mut` state (sponge, RNG) is threaded through
  them, and the corresponding `check`, `batch_check`, `check_combinations` calls by a verifier on its
  own state.  `history_lockstep` lifts a per-call completeness-with-state hypothesis (`hcomplete`,
  proved per scheme on its transcript model) to every history.
-/
import PCV.Proofs.TraitDefaultComplete

namespace PCV
namespace TrHistory
open TraitDefault
open QS (StrictTotal)

variable {Pt : Type} [DecidableEq Pt] {F : Type} {LP S C PF σp σv : Type}

/-- one prover operation: `open` on explicit triples at a point; default `batch_open` on a query
list; default `open_combinations` on equations and a query list (both over the committed lists) -/
inductive Op (Pt F LP S C : Type)
  | single (ts : List ((LP × S) × C)) (z : Pt)
  | batch (qs : List (Query Pt))
  | combo (lcs : List (LC.LinComb F)) (qs : List (Query Pt))
  deriving DecidableEq, Repr

/-- what an operation returns: `Proof`, `BatchProof`, `BatchLCProof` -/
inductive OpProof (F PF : Type)
  | single (π : PF)
  | batch (πs : List PF)
  | combo (πs : List PF) (evals : Option (List F))
  deriving DecidableEq, Repr

/-- one verifier operation with its claims: `check` (commitments, point, values), `batch_check`
(queries, evaluations), `check_combinations` (equations, queries, claimed equation values) -/
inductive VOp (Pt F C : Type)
  | single (cs : List C) (z : Pt) (vs : List F)
  | batch (qs : List (Query Pt)) (evals : List ((Label × Pt) × F))
  | combo (lcs : List (LC.LinComb F)) (qs : List (Query Pt)) (ee : List ((Label × Pt) × F))
  deriving DecidableEq, Repr

section Prover
variable (ltP : Pt → Pt → Bool) (lblP : LP → Label) (evalP : LP → Pt → F)
  (openF : List ((LP × S) × C) → Pt → σp → Except Err (PF × σp))
  (polys : List LP) (sts : List S) (comms : List C)

def proverStep : Op Pt F LP S C → σp → Except Err (OpProof F PF × σp)
  | .single ts z, s =>
    match openF ts z s with
    | .error e => .error e
    | .ok (π, s') => .ok (.single π, s')
  | .batch qs, s =>
    match batchOpen ltP lblP openF polys sts comms qs s with
    | .error e => .error e
    | .ok (πs, s') => .ok (.batch πs, s')
  | .combo lcs qs, s =>
    match openCombinations ltP lblP evalP openF lcs polys sts comms qs s with
    | .error e => .error e
    | .ok ((πs, ev), s') => .ok (.combo πs ev, s')

/-- the prover's history: operations in order on one state; the first refusal ends it -/
def proverRun : List (Op Pt F LP S C) → σp → Except Err (List (OpProof F PF) × σp)
  | [], s => .ok ([], s)
  | op :: ops, s =>
    match proverStep ltP lblP evalP openF polys sts comms op s with
    | .error e => .error e
    | .ok (π, s1) =>
      match proverRun ops s1 with
      | .error e => .error e
      | .ok (πs, s2) => .ok (π :: πs, s2)

end Prover

section Verifier
variable [Add F] [Mul F] [Zero F] [One F] [DecidableEq F]
variable (ltP : Pt → Pt → Bool) (lblC : C → Label)
  (checkF : List C → Pt → List F → PF → σv → Except Err (Bool × σv)) (vcomms : List C)

/-- one operation of the verifier (a proof of another operation's type does not type-check in
Rust; the model refuses it) -/
def verifierStep : VOp Pt F C → OpProof F PF → σv → Except Err (Bool × σv)
  | .single cs z vs, .single π, s => checkF cs z vs π s
  | .batch qs evals, .batch πs, s => batchCheck ltP lblC checkF vcomms qs evals πs s
  | .combo lcs qs ee, .combo πs ev, s => checkCombinations ltP lblC checkF lcs vcomms qs ee πs ev s
  | _, _, _ => .error .abort

/-- the verifier's history: the checks in order on one state; the answer is the conjunction of the
verdicts, a refusal ends the run -/
def verifierRun : List (VOp Pt F C) → List (OpProof F PF) → σv → Except Err (Bool × σv)
  | v :: vs, π :: πs, s =>
    match verifierStep ltP lblC checkF vcomms v π s with
    | .error e => .error e
    | .ok (b, s1) =>
      match verifierRun vs πs s1 with
      | .error e => .error e
      | .ok (b', s2) => .ok (b && b', s2)
  | _, _, s => .ok (true, s)

end Verifier

section Lockstep
variable [Field F] [DecidableEq F]
variable (ltP : Pt → Pt → Bool) (lblP : LP → Label) (lblC : C → Label) (evalP : LP → Pt → F)
  (Good : List ((LP × S) × C) → Prop) (polys : List LP) (sts : List S) (comms vcomms : List C)

/-- The verifier's operation makes the TRUE claims about the prover's operation: the same triples'
commitments / point / true values; the same queries with evaluations that hold the true value for
every queried (label, point); the same equations and queries with the true equation values. -/
def Truthful : Op Pt F LP S C → VOp Pt F C → Prop
  | .single ts z, .single cs z' vs =>
    Good ts ∧ cs = ts.map (·.2) ∧ z' = z ∧ vs = ts.map (fun t => evalP t.1.1 z)
  | .batch qs, .batch qs' evals =>
    qs' = qs ∧ ∀ g ∈ groups (querySet ltP qs), ∀ l ∈ g.2.2, ∀ t,
      Marlin.lookupLast (fun (t : (LP × S) × C) => lblP t.1.1) l (polyStComm polys sts comms) = some t →
      QS.lastWith (l, g.2.1) evals = some (evalP t.1.1 g.2.1)
  | .combo lcs qs, .combo lcs' qs' ee =>
    lcs' = lcs ∧ qs' = qs ∧ ConsistentPoints qs ∧ (∀ q ∈ qs, (lcGet lcs q.1).isSome = true) ∧
      ∀ q ∈ qs, ∀ lc, lcGet lcs q.1 = some lc →
        QS.lastWith (q.1, q.2.2) ee = some (LC.termsValue (trueEval lblP evalP polys q.2.2) lc.terms)
  | _, _ => False

-- The claims of a `batch` or `combo` operation are finitely many equations: on a concrete history they
-- are settled by evaluation.  (`single` asks for `Good ts`, which is the scheme's to prove.)  The
-- instances for quantifiers over lists and options are put in front of Mathlib's for multisets, finsets
-- and finite types, which are tried first and fail slowly.
attribute [local instance 2000] List.decidableBAll Option.decidableForallMem in
instance Truthful.decidableBatch (qs qs' : List (Query Pt)) (evals : List ((Label × Pt) × F)) :
    Decidable (Truthful ltP lblP evalP Good polys sts comms (.batch qs) (.batch qs' evals)) := by
  unfold Truthful
  exact inferInstance

attribute [local instance 2000] List.decidableBAll Option.decidableForallMem in
instance Truthful.decidableCombo (lcs lcs' : List (LC.LinComb F)) (qs qs' : List (Query Pt))
    (ee : List ((Label × Pt) × F)) :
    Decidable (Truthful ltP lblP evalP Good polys sts comms (.combo lcs qs) (.combo lcs' qs' ee)) := by
  unfold Truthful ConsistentPoints
  exact inferInstance

variable (hlt : StrictTotal ltP) (hirr : ∀ a, ltP a a = false)
  (openF : List ((LP × S) × C) → Pt → σp → Except Err (PF × σp))
  (checkF : List C → Pt → List F → PF → σv → Except Err (Bool × σv))
  (R : σp → σv → Prop)
  (hcomplete : ∀ ts z π sp sp' sv, Good ts → R sp sv → openF ts z sp = .ok (π, sp') →
    ∃ sv', checkF (ts.map (·.2)) z (ts.map fun t => evalP t.1.1 z) π sv = .ok (true, sv') ∧ R sp' sv')
  (htrip : ∀ l t, Marlin.lookupLast (fun (t : (LP × S) × C) => lblP t.1.1) l
      (polyStComm polys sts comms) = some t → Marlin.lookupLast lblP l polys = some t.1.1)
  (hgood : ∀ ls ts, gatherOpen lblP (polyStComm polys sts comms) ls = .ok ts → Good ts)
  (hcm : ∀ l t, Marlin.lookupLast (fun (t : (LP × S) × C) => lblP t.1.1) l
      (polyStComm polys sts comms) = some t → Marlin.lookupLast lblC l vcomms = some t.2)
include hlt hirr hcomplete htrip hgood hcm

theorem verifierStep_complete {op : Op Pt F LP S C} {vop : VOp Pt F C}
    (h1 : Truthful ltP lblP evalP Good polys sts comms op vop)
    {sp : σp} {sv : σv} {π : OpProof F PF} {sp1 : σp} (h0 : R sp sv)
    (hs : proverStep ltP lblP evalP openF polys sts comms op sp = .ok (π, sp1)) :
    ∃ sv1, verifierStep ltP lblC checkF vcomms vop π sv = .ok (true, sv1) ∧ R sp1 sv1 := by
  cases op with
  | single ts z =>
    cases vop with
    | single cs z' vs =>
      obtain ⟨hg, rfl, rfl, rfl⟩ := h1
      rw [proverStep] at hs
      split at hs
      · cases hs
      · next π' sp' ho => cases hs; exact hcomplete ts z' _ sp _ sv hg h0 ho
    | _ => exact h1.elim
  | batch qs =>
    cases vop with
    | batch qs' evals =>
      obtain ⟨rfl, hev⟩ := h1
      rw [proverStep] at hs
      split at hs
      · cases hs
      · next πs sp' ho =>
        cases hs
        rw [verifierStep, batchCheck, batchCheckSet_of_length (batchOpenLoop_length ho)]
        exact loops_complete hcomplete (fun g _ ts h => hgood g.2.2 ts h) (fun g _ l _ t h => hcm l t h)
          hev h0 ho
    | _ => exact h1.elim
  | combo lcs qs =>
    cases vop with
    | combo lcs' qs' ee =>
      obtain ⟨rfl, rfl, hpts, hsup, hcl⟩ := h1
      rw [proverStep] at hs
      split at hs
      · cases hs
      · next πs ev sp' ho =>
        cases hs
        exact combinations_complete ltP hlt hirr lblP lblC evalP openF checkF R Good hcomplete
          lcs' polys sts comms vcomms qs' ee hpts hsup hcl htrip hgood hcm sp sv _ _ _ h0 ho
    | _ => exact h1.elim

/-- **Lock-step over any history.**  Let the scheme's `open`/`check` pair keep a relation `R`
between prover and verifier state while accepting, on honest triples (`hcomplete`); let every
committed triple be honest and the verifier hold the prover's commitments (`hgood`, `hcm`, `htrip`).
Then for EVERY list of operations with true claims: if the prover answers them all from a state
related to the verifier's, the verifier accepts every proof and the final states are related. -/
theorem history_lockstep (ops : List (Op Pt F LP S C)) (vops : List (VOp Pt F C))
    (ht : List.Forall₂ (Truthful ltP lblP evalP Good polys sts comms) ops vops) :
    ∀ (sp : σp) (sv : σv) (πs : List (OpProof F PF)) (sp' : σp), R sp sv →
      proverRun ltP lblP evalP openF polys sts comms ops sp = .ok (πs, sp') →
      ∃ sv', verifierRun ltP lblC checkF vcomms vops πs sv = .ok (true, sv') ∧ R sp' sv' := by
  induction ht with
  | nil =>
    intro sp sv πs sp' h0 hp
    cases hp
    exact ⟨sv, rfl, h0⟩
  | @cons op vop ops vops h1 _ ih =>
    intro sp sv πs sp' h0 hp
    rw [proverRun] at hp
    split at hp
    · cases hp
    · next π sp1 hs =>
      split at hp
      · cases hp
      · next πs' sp2 hr =>
        cases hp
        obtain ⟨sv1, hv, hR⟩ := verifierStep_complete ltP lblP lblC evalP Good polys sts comms vcomms
          hlt hirr openF checkF R hcomplete htrip hgood hcm h1 h0 hs
        obtain ⟨sv2, hv2, hR2⟩ := ih sp1 sv1 _ _ hR hr
        refine ⟨sv2, ?_, hR2⟩
        simp only [verifierRun, hv, hv2, Bool.and_self]

end Lockstep

section Side
variable (lblP : LP → Label)

-- `gatherOpen` returns triples of the list it looks in: the scheme files discharge `hgood` with it
export TraitDefault (gatherOpen_mem)

theorem htrip_of_length (polys : List LP) (sts : List S) (comms : List C)
    (h1 : sts.length = polys.length) (h2 : comms.length = polys.length) :
    ∀ l t, Marlin.lookupLast (fun (t : (LP × S) × C) => lblP t.1.1) l
        (polyStComm polys sts comms) = some t → Marlin.lookupLast lblP l polys = some t.1.1 := by
  intro l t h
  have hp : ((polyStComm polys sts comms).map Prod.fst).map Prod.fst = polys := by
    rw [polyStComm, List.map_fst_zip (by rw [List.length_zip, h1, h2, Nat.min_self]),
      List.map_fst_zip (h1 ▸ Nat.le_refl _)]
  rw [← hp, List.map_map]
  exact (Marlin.lookupLast_map _ l lblP (Prod.fst ∘ Prod.fst) _ fun _ _ => rfl).trans
    (congrArg (Option.map _) h)

/-- a verifier that holds the prover's own commitment list (`vcomms = comms`) finds under every label
the commitment of the prover's triple, provided commitment and polynomial labels agree -/
theorem hcm_of_labels (lblC : C → Label) (polys : List LP) (sts : List S) (comms : List C)
    (h1 : sts.length = polys.length) (h2 : comms.length = polys.length)
    (hl : ∀ t ∈ polyStComm polys sts comms, lblC t.2 = lblP t.1.1) :
    ∀ l t, Marlin.lookupLast (fun (t : (LP × S) × C) => lblP t.1.1) l
        (polyStComm polys sts comms) = some t → Marlin.lookupLast lblC l comms = some t.2 := by
  intro l t h
  have hc : (polyStComm polys sts comms).map Prod.snd = comms := by
    rw [polyStComm, List.map_snd_zip (by rw [List.length_zip, h1, h2, Nat.min_self])]
  rw [← hc]
  exact (Marlin.lookupLast_map _ l lblC Prod.snd _ hl).trans (congrArg (Option.map _) h)

end Side

end TrHistory
end PCV
