/-
  Property C01 — completeness: honest proofs of true evaluation claims are always accepted.
  Only property theorems live here; lemmas are in PCV/Proofs.
-/
import PCV.Proofs.KZG10
import PCV.Props.Examples

namespace PCV.C01
open PCV
variable {F : Type} [Field F] [DecidableEq F]

/-- **KZG10.** For a key made from any trapdoor `β` and generators `g, γ, h` (any sizes `n, m`),
any polynomial `p`, hiding bound, RNG stream and point `z`: if the committer returns
`(c, r)` and the prover returns `π`, the verifier accepts the true value `p(z)`. -/
theorem kzg10_complete (g γ β h : F) (n m : Nat) (p : List F) (hb : Option Nat)
    (rng : Bool) (draws : List F) (c : F) (r rest : List F) (z : F) (π : KZG.Proof F)
    (hc : KZG.commit (KZG.wfPowers g γ β n m) p hb rng draws = .ok (c, r, rest))
    (ho : KZG.open (KZG.wfPowers g γ β n m) p z r = .ok π) :
    KZG.check (KZG.wfVK g γ β h) c z (evalPoly p z) π = true := by
  obtain ⟨hcs, _, hrlen, _⟩ := KZG.commit_spec g γ β n m p hb rng draws c r rest hc
  rw [hcs]
  exact KZG.open_check_complete g γ β h n m p r z π hrlen ho

/-- **KZG10.** The prover never refuses or aborts on a polynomial the committer accepted. -/
theorem kzg10_open_total (pw : KZG.Powers F) (p : List F) (hb : Option Nat) (rng : Bool)
    (draws : List F) (x : F × List F × List F) (z : F)
    (hc : KZG.commit pw p hb rng draws = .ok x) : ∃ π, KZG.open pw p z x.2.1 = .ok π :=
  KZG.open_ok pw p _ z (KZG.commit_ok_fits hc)

/-- **KZG10 batch.** A batch in which every individual claim verifies is accepted by
`batch_check` for every list of verifier randomizers. -/
theorem kzg10_batch_complete (vk : KZG.VK F) (cs zs vs : List F) (πs : List (KZG.Proof F))
    (rs : List F) (hl : cs.length = zs.length ∧ cs.length = vs.length ∧ cs.length = πs.length)
    (h : ∀ d ∈ KZG.defects vk cs zs vs πs, d = 0) :
    KZG.batchCheck vk cs zs vs πs rs = .ok true := by
  rw [KZG.batchCheck_ok vk cs zs vs πs rs hl]
  congr 1
  rw [decide_eq_true_iff, KZG.batchDefect_eq, KZG.wsum_zero _ _ _ h]

/-- non-vacuity: a hiding commitment and its opening exist in the model (over `ZMod 101`) -/
example : KZG.commit (KZG.wfPowers (3 : K) 5 2 3 4) [1, 2, 3] (some 1) true [7, 0, 9, 4]
    = .ok (64, [7, 0, 9], [4]) := by decide +kernel
example : KZG.open (KZG.wfPowers (3 : K) 5 2 3 4) [1, 2, 3] 5 [7, 0, 9] = .ok ⟨81, some 30⟩ := by
  decide +kernel
example : KZG.check (KZG.wfVK (3 : K) 5 2 1) 64 5 (evalPoly [1, 2, 3] 5) ⟨81, some 30⟩ = true := by
  decide +kernel

end PCV.C01
