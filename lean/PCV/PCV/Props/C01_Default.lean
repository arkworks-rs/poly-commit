/-
  Property C01 (completeness, order independence) — the trait-default `batch_open` / `batch_check` of
  `poly-commit/src/lib.rs` (Hyrax, Ligero, Brakedown use them unchanged).  Model:
  `PCV.Model.TraitDefault`, generic in the scheme's `open` / `check`.
  Only property theorems live here; lemmas are in PCV/Proofs/TraitDefault*.lean.
-/
import PCV.Proofs.TraitDefaultBatch
import PCV.Proofs.TraitDefaultHyrax
import PCV.Proofs.TraitDefaultToy

namespace PCV.C01
open PCV TraitDefault
variable {Pt : Type} [DecidableEq Pt] {LP S C V PF σp σv : Type}

/-- **Completeness of the default batch, relative to the scheme.** Let the scheme's own `open`/`check`
pair be complete on the (polynomial, state, commitment) triples a group can consist of (`Good`), with
`R` relating the prover's and the verifier's sponge/RNG state: a proof that `open` makes from a state
related to the verifier's is accepted for the true evaluations, and the states stay related.  Then
whatever `batch_open` returns is accepted by `batch_check` — for ANY verifier-side commitment list and
evaluation map that agree with the prover's data on the queried labels (so in particular for every
reordering of the verifier's list), the proof count is right, and the final states are related. -/
theorem default_batch_complete (ltP : Pt → Pt → Bool) (lblP : LP → Label) (lblC : C → Label)
    (evalP : LP → Pt → V)
    (openF : List ((LP × S) × C) → Pt → σp → Except Err (PF × σp))
    (checkF : List C → Pt → List V → PF → σv → Except Err (Bool × σv))
    (R : σp → σv → Prop) (Good : List ((LP × S) × C) → Prop)
    (hcomplete : ∀ ts z π sp sp' sv, Good ts → R sp sv → openF ts z sp = .ok (π, sp') →
      ∃ sv', checkF (ts.map (·.2)) z (ts.map fun t => evalP t.1.1 z) π sv = .ok (true, sv') ∧ R sp' sv')
    (polys : List LP) (sts : List S) (comms vcomms : List C) (qs : List (Query Pt))
    (evals : List ((Label × Pt) × V))
    (hgood : ∀ g ∈ groups (querySet ltP qs), ∀ ts,
      gatherOpen lblP (polyStComm polys sts comms) g.2.2 = .ok ts → Good ts)
    (hcm : ∀ g ∈ groups (querySet ltP qs), ∀ l ∈ g.2.2, ∀ t,
      Marlin.lookupLast (fun (t : (LP × S) × C) => lblP t.1.1) l (polyStComm polys sts comms) = some t →
      Marlin.lookupLast lblC l vcomms = some t.2)
    (hev : ∀ g ∈ groups (querySet ltP qs), ∀ l ∈ g.2.2, ∀ t,
      Marlin.lookupLast (fun (t : (LP × S) × C) => lblP t.1.1) l (polyStComm polys sts comms) = some t →
      QS.lastWith (l, g.2.1) evals = some (evalP t.1.1 g.2.1))
    (sp : σp) (sv : σv) (πs : List PF) (sp' : σp) (h0 : R sp sv)
    (ho : batchOpen ltP lblP openF polys sts comms qs sp = .ok (πs, sp')) :
    ∃ sv', batchCheck ltP lblC checkF vcomms qs evals πs sv = .ok (true, sv') ∧ R sp' sv' := by
  rw [batchCheck, batchCheckSet_of_length (batchOpenLoop_length ho)]
  exact loops_complete hcomplete hgood hcm hev h0 ho

/-- **The prover's lists may come in any order**: a consistent permutation of the
(polynomial, state, commitment) lists — i.e. a permutation of the zipped triples — with pairwise distinct
polynomial labels does not change what `batch_open` does. -/
theorem default_batch_open_perm (ltP : Pt → Pt → Bool) (lblP : LP → Label)
    (openF : List ((LP × S) × C) → Pt → σp → Except Err (PF × σp))
    (polys polys' : List LP) (sts sts' : List S) (comms comms' : List C) (qs : List (Query Pt)) (s : σp)
    (hp : (polyStComm polys sts comms).Perm (polyStComm polys' sts' comms'))
    (hnd : ((polyStComm polys sts comms).map fun t => lblP t.1.1).Nodup) :
    batchOpen ltP lblP openF polys sts comms qs s = batchOpen ltP lblP openF polys' sts' comms' qs s := by
  unfold batchOpen batchOpenSet
  exact batchOpenLoop_congr
    (fun l => Marlin.lookupLast_perm (fun (t : (LP × S) × C) => lblP t.1.1) l hp hnd)

/-- **The verifier's commitment list may come in any order** (independently of the prover's): with
pairwise distinct labels a permutation does not change what `batch_check` does. -/
theorem default_batch_check_perm (ltP : Pt → Pt → Bool) (lblC : C → Label)
    (checkF : List C → Pt → List V → PF → σv → Except Err (Bool × σv))
    (comms comms' : List C) (qs : List (Query Pt)) (evals : List ((Label × Pt) × V)) (πs : List PF)
    (s : σv) (hp : comms.Perm comms') (hnd : (comms.map lblC).Nodup) :
    batchCheck ltP lblC checkF comms qs evals πs s = batchCheck ltP lblC checkF comms' qs evals πs s :=
  batchCheckSet_congr (fun l => Marlin.lookupLast_perm lblC l hp hnd) fun _ => rfl

/-- **The queries may be listed in any order and any number of times** (they go into a `BTreeSet`):
two lists with the same elements give the same `batch_open` and the same `batch_check`.  `ltP` is the
`Ord` of the point type — a strict total order. -/
theorem default_batch_query_order (ltP : Pt → Pt → Bool) (hlt : QS.StrictTotal ltP)
    (hirr : ∀ a, ltP a a = false) (lblP : LP → Label) (lblC : C → Label)
    (openF : List ((LP × S) × C) → Pt → σp → Except Err (PF × σp))
    (checkF : List C → Pt → List V → PF → σv → Except Err (Bool × σv))
    (polys : List LP) (sts : List S) (comms vcomms : List C) (qs qs' : List (Query Pt))
    (evals : List ((Label × Pt) × V)) (πs : List PF) (sp : σp) (sv : σv)
    (h : ∀ q, q ∈ qs ↔ q ∈ qs') :
    batchOpen ltP lblP openF polys sts comms qs sp = batchOpen ltP lblP openF polys sts comms qs' sp ∧
    batchCheck ltP lblC checkF vcomms qs evals πs sv = batchCheck ltP lblC checkF vcomms qs' evals πs sv := by
  unfold batchOpen batchCheck
  rw [querySet_congr ltP hlt hirr qs qs' h]
  exact ⟨rfl, rfl⟩

/-- the evaluation map is only ever read by key: two insertion lists with the same last value per key
(e.g. any order of distinct keys) are interchangeable -/
theorem default_batch_evals_order (ltP : Pt → Pt → Bool) (lblC : C → Label)
    (checkF : List C → Pt → List V → PF → σv → Except Err (Bool × σv))
    (comms : List C) (qs : List (Query Pt)) (evals evals' : List ((Label × Pt) × V)) (πs : List PF)
    (s : σv) (h : ∀ k, QS.lastWith k evals = QS.lastWith k evals') :
    batchCheck ltP lblC checkF comms qs evals πs s = batchCheck ltP lblC checkF comms qs evals' πs s :=
  batchCheckSet_congr (fun _ => rfl) h

/-- **Hyrax batches (Hyrax uses the default methods unchanged).** For every Pedersen key `ks, hh`, every
list of (labelled polynomial, state, labelled commitment) triples each of which is an output of
`HyraxPC::commit` for its polynomial (`HonestTriple`: some blinding draws), every query list (any order,
repetitions, several polynomials per point label, labels sharing a point, one polynomial at several
points), all RNG draws and all sponge challenges: if the default `batch_open` over `HyraxPC::open`
returns proofs, the default `batch_check` over `HyraxPC::check` accepts them for the true evaluations
(ark-poly's `evaluate` of the extensions) — with ANY verifier-side commitment list / evaluation map that
agrees with the prover's data on the queried labels — and the verifier has then consumed exactly the
challenges the prover consumed. -/
theorem hyrax_default_batch_complete {F : Type} [Field F] [DecidableEq F]
    (ltP : List F → List F → Bool) (ks : List F) (hh : F)
    (polys : List (HyraxInst.HP F)) (sts : List (Hyrax.State F)) (comms vcomms : List (HyraxInst.HC F))
    (qs : List (Query (List F))) (evals : List ((Label × List F) × F))
    (hhonest : ∀ t ∈ polyStComm polys sts comms, HyraxInst.HonestTriple ks hh t)
    (hcm : ∀ g ∈ groups (querySet ltP qs), ∀ l ∈ g.2.2, ∀ t,
      Marlin.lookupLast (fun (t : HyraxInst.HTrip F) => t.1.1.1) l (polyStComm polys sts comms) = some t →
      Marlin.lookupLast (fun (c : HyraxInst.HC F) => c.1) l vcomms = some t.2)
    (hev : ∀ g ∈ groups (querySet ltP qs), ∀ l ∈ g.2.2, ∀ t,
      Marlin.lookupLast (fun (t : HyraxInst.HTrip F) => t.1.1.1) l (polyStComm polys sts comms) = some t →
      QS.lastWith (l, g.2.1) evals = some (HyraxInst.evalP t.1.1 g.2.1))
    (draws cs : List F) (πs : List (List (Hyrax.Proof F))) (sp' : List F × List F)
    (ho : batchOpen ltP (fun (p : HyraxInst.HP F) => p.1) (HyraxInst.openF ks hh) polys sts comms qs
      (draws, cs) = .ok (πs, sp')) :
    ∃ sv', batchCheck ltP (fun (c : HyraxInst.HC F) => c.1) (HyraxInst.checkF ks hh) vcomms qs evals πs cs
      = .ok (true, sv') ∧ sp'.2 = sv' :=
  default_batch_complete ltP (fun (p : HyraxInst.HP F) => p.1) (fun (c : HyraxInst.HC F) => c.1)
    HyraxInst.evalP (HyraxInst.openF ks hh) (HyraxInst.checkF ks hh) (fun sp sv => sp.2 = sv)
    (fun ts => ∀ t ∈ ts, HyraxInst.HonestTriple ks hh t)
    (fun ts z π sp sp' sv hg hR ho => HyraxInst.pair_complete ks hh ts z π sp sp' sv hg hR ho)
    polys sts comms vcomms qs evals
    (fun g _ ts hgo t ht => hhonest t (gatherOpen_mem _ _ g.2.2 ts hgo t ht))
    hcm hev (draws, cs) cs πs sp' rfl ho

/-! non-vacuity over `ZMod 101` (`PCV.TraitDefault.Toy`): an honest batch over three point labels (two
sharing a point value, one query listed twice) is opened and accepted; the reversed lists and the
reversed query list give the same results -/
example : batchOpen Toy.ltK Toy.lbl Toy.openF Toy.polys Toy.sts Toy.polys Toy.qs 0 = .ok ([0, 1, 2], 3) := by
  decide +kernel
example : batchCheck Toy.ltK Toy.lbl Toy.checkF Toy.polys Toy.qs Toy.evals [0, 1, 2] 0 = .ok (true, 3) := by
  decide +kernel
example : batchCheck Toy.ltK Toy.lbl Toy.checkF Toy.polys.reverse Toy.qs.reverse Toy.evals.reverse [0, 1, 2] 0
    = .ok (true, 3) := by decide +kernel
example : (polyStComm Toy.polys Toy.sts Toy.polys).Perm (polyStComm Toy.polys.reverse Toy.sts Toy.polys.reverse) ∧
    ((polyStComm Toy.polys Toy.sts Toy.polys).map fun t => Toy.lbl t.1.1).Nodup := by decide +kernel
example : ∀ q, q ∈ Toy.qs ↔ q ∈ Toy.qs.reverse := fun _ => List.mem_reverse.symm

/-! non-vacuity of the Hyrax instance over `ZMod 101` (the data of `C01_Hyrax`: key `[3,5]`, `h = 7`, two
polynomials in 2 variables): both triples are honest, the batch over two point labels opens and is
accepted -/
def hyraxBatchPolys : List (HyraxInst.HP K) := [([97], ⟨2, [1, 2, 3, 4]⟩), ([98], ⟨2, [0, 0, 9, 0]⟩)]
def hyraxBatchStates : List (Hyrax.State K) :=
  [⟨[10, 20], ⟨2, 2, [[1, 3], [2, 4]]⟩⟩, ⟨[2, 4], ⟨2, 2, [[0, 9], [0, 0]]⟩⟩]
def hyraxBatchComms : List (HyraxInst.HC K) := [([97], [88, 65]), ([98], [59, 28])]
def hyraxBatchQs : List (Query (List K)) :=
  [([98], ([121], [6, 17])), ([97], ([120], [6, 17])), ([98], ([120], [6, 17]))]
def hyraxLtP (a b : List K) : Bool := decide (a.map ZMod.val < b.map ZMod.val)

example : Hyrax.commitOne ([3, 5] : List K) 7 ⟨2, [1, 2, 3, 4]⟩ [10, 20] = .ok ([88, 65], ⟨[10, 20], ⟨2, 2, [[1, 3], [2, 4]]⟩⟩) ∧
    Hyrax.commitOne ([3, 5] : List K) 7 ⟨2, [0, 0, 9, 0]⟩ [2, 4] = .ok ([59, 28], ⟨[2, 4], ⟨2, 2, [[0, 9], [0, 0]]⟩⟩) := by
  decide +kernel
def hyraxBatchProofs : List (List (Hyrax.Proof K)) :=
  match batchOpen hyraxLtP (fun (p : HyraxInst.HP K) => p.1) (HyraxInst.openF ([3, 5] : List K) 7)
      hyraxBatchPolys hyraxBatchStates hyraxBatchComms hyraxBatchQs
      ([1, 2, 3, 4, 5, 6, 7, 8, 9, 10, 11, 12, 13, 14, 15], [11, 13, 17]) with
  | .ok (πs, _) => πs
  | .error _ => []
example : hyraxBatchProofs.map List.length = [2, 1] ∧
    batchCheck hyraxLtP (fun (c : HyraxInst.HC K) => c.1) (HyraxInst.checkF ([3, 5] : List K) 7)
      hyraxBatchComms hyraxBatchQs
      [(([97], [6, 17]), Hyrax.mleEval [1, 2, 3, 4] [6, 17]), (([98], [6, 17]), Hyrax.mleEval [0, 0, 9, 0] [6, 17])]
      hyraxBatchProofs [11, 13, 17] = .ok (true, []) := by decide +kernel

end PCV.C01
