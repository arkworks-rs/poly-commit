/-
  Property C01 (completeness) — Hyrax.  Model: `PCV.Model.Hyrax` (exponent form, arbitrary Pedersen
  key scalars `ks`, `hh`; RNG draws and sponge challenges are explicit inputs).
  Only property theorems live here; lemmas are in PCV/Proofs/Hyrax*.lean.
-/
import PCV.Proofs.Hyrax
import PCV.Props.Examples

namespace PCV.C01
open PCV
variable {F : Type} [Field F] [DecidableEq F]

omit [DecidableEq F] in
/-- **Hyrax, the algebraic core.** For EVERY even number of variables `n`, every table of `2^n`
hypercube evaluations and every point: the value ark-poly's `DenseMultilinearExtension::evaluate`
computes (little-endian variable order) equals `Lᵀ·M·R`, where `M` is the matrix
`flat_to_matrix_column_major` builds, `Lᵀ·M` is `Matrix::row_mul`, and `L`, `R` are the
`tensor_prime` vectors of the two halves of the reversed point, exactly as `open` computes them. -/
theorem hyrax_eval_is_LMR (evals point : List F) (rows : List (List F)) (lt : List F)
    (hn : point.length % 2 = 0) (he : evals.length = 2 ^ point.length)
    (hm : Hyrax.flatToMatrixColumnMajor evals (2 ^ (point.length / 2)) (2 ^ (point.length / 2))
            = .ok rows)
    (hl : Hyrax.Matrix.rowMul ⟨2 ^ (point.length / 2), 2 ^ (point.length / 2), rows⟩
            (Hyrax.tensorL point) = .ok lt) :
    Hyrax.mleEval evals point = Hyrax.innerProduct lt (Hyrax.tensorR point) := by
  rw [Hyrax.flatToMatrix_ok _ _ _ (he.trans (Hyrax.two_pow_half_sq hn).symm)] at hm
  cases hm
  rw [Hyrax.rowMul_rowsOf (Hyrax.tensorL_length point hn)] at hl
  cases hl
  exact Hyrax.mleEval_eq_LMR evals point hn he

/-- **Hyrax completeness.** For every Pedersen key `ks, hh` (arbitrary scalars, so in particular
the hash-derived generators), every list of polynomials, every point, all blinding draws of
`commit`, all draws of `open` and every list of sponge challenges: if `commit` returns
`(coms, sts)` and `open`, run with these states (whatever the labels), returns `πs`, then `check`
accepts the evaluations `f̃ᵢ(point)` — the values ark-poly computes. (An even number of variables,
`2^n` evaluations and `nv = n` are enforced by `commit` / `open` themselves: the hypotheses `hc`,
`ho` carry them.) -/
theorem hyrax_complete (ks : List F) (hh : F) (polys : List (Hyrax.MLPoly F)) (point : List F)
    (ρdraws odraws cs : List F) (coms : List (List F)) (sts : List (Hyrax.State F)) (rest : List F)
    (items : List (Hyrax.OpenItem F)) (πs : List (Hyrax.Proof F))
    (hc : Hyrax.commit ks hh polys ρdraws = .ok (coms, sts, rest))
    (hst : items.map (·.st) = sts)
    (ho : Hyrax.open ks hh items point odraws cs = .ok πs) :
    Hyrax.check ks hh coms point (polys.map fun p => Hyrax.mleEval p.evals point) πs cs
      = .ok true :=
  (Hyrax.complete hc hst ho).1

omit [DecidableEq F] in
/-- **Hyrax, the honest run never refuses.** With a key of `2^(n/2)` generators, polynomials in
`n` (even) variables and enough draws / challenges, `commit` and `open` succeed — so the
hypotheses of `hyrax_complete` are satisfiable for every such input. -/
theorem hyrax_honest_total (ks : List F) (hh : F) (point : List F) (hn : point.length % 2 = 0)
    (hks : ks.length = 2 ^ (point.length / 2)) (polys : List (Hyrax.MLPoly F))
    (ρdraws odraws cs : List F)
    (hp : ∀ p ∈ polys, p.nv = point.length ∧ p.evals.length = 2 ^ p.nv)
    (h1 : polys.length * 2 ^ (point.length / 2) ≤ ρdraws.length)
    (h2 : polys.length * (2 ^ (point.length / 2) + 3) ≤ odraws.length)
    (h3 : polys.length ≤ cs.length) :
    ∃ coms sts rest πs, Hyrax.commit ks hh polys ρdraws = .ok (coms, sts, rest) ∧
      (Hyrax.honestItems polys sts).map (·.st) = sts ∧
      Hyrax.open ks hh (Hyrax.honestItems polys sts) point odraws cs = .ok πs :=
  Hyrax.honest_total hn hks hp h1 h2 h3

/-! non-vacuity over `ZMod 101`: two polynomials in 2 variables, key `[3,5]`, `h = 7` -/

def hyraxExPolys : List (Hyrax.MLPoly K) := [⟨2, [1, 2, 3, 4]⟩, ⟨2, [0, 0, 9, 0]⟩]
def hyraxExComs : List (List K) := [[88, 65], [59, 28]]
def hyraxExStates : List (Hyrax.State K) :=
  [⟨[10, 20], ⟨2, 2, [[1, 3], [2, 4]]⟩⟩, ⟨[2, 4], ⟨2, 2, [[0, 9], [0, 0]]⟩⟩]
def hyraxExProofs : List (Hyrax.Proof K) :=
  (match Hyrax.open ([3, 5] : List K) 7 (Hyrax.honestItems hyraxExPolys hyraxExStates) [6, 17]
      [1, 2, 3, 4, 5, 6, 7, 8, 9, 10] [11, 13] with
   | .ok πs => πs
   | .error _ => [])

example : Hyrax.commit ([3, 5] : List K) 7 hyraxExPolys [10, 20, 2, 4] = .ok (hyraxExComs, hyraxExStates, []) := by
  decide +kernel
example : Hyrax.open ([3, 5] : List K) 7 (Hyrax.honestItems hyraxExPolys hyraxExStates) [6, 17]
    [1, 2, 3, 4, 5, 6, 7, 8, 9, 10] [11, 13] = .ok hyraxExProofs ∧ hyraxExProofs.length = 2 := by decide +kernel
example : Hyrax.check ([3, 5] : List K) 7 hyraxExComs [6, 17]
    (hyraxExPolys.map fun p => Hyrax.mleEval p.evals [6, 17]) hyraxExProofs [11, 13] = .ok true := by decide +kernel
example : Hyrax.mleEval ([1, 2, 3, 4] : List K) [1, 17] = 36 := by decide +kernel

end PCV.C01
