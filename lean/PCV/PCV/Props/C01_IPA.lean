/-
  Property C01 — completeness, inner-product-argument scheme (`ipa_pc`).
  Model: PCV/Model/IPA.lean; lemmas: PCV/Proofs/IPA.lean.
-/
import PCV.Proofs.IPA
import PCV.Proofs.IPABatch
import PCV.Props.Examples

namespace PCV.C01
open PCV
variable {F : Type} [Field F] [DecidableEq F]

/-- **IPA.** For universal parameters made of arbitrary scalars (`comm_key`, `h`, `s`), any
requested degree (`trim` rounds it up to `2^k − 1`), any list of polynomials in `ark-poly`'s
normal form (no trailing zero coefficient) with any degree bounds and hiding bounds, any RNG
draws, any point, any sponge challenges `ξs` and any random-oracle outputs `ros`: if the
committer returns `(comms, sts)` and the prover returns `π`, then `check` accepts the true values.
Covers several polynomials per point, degree bounds (shifted commitments), hiding, the zero
polynomial and every power-of-two key size. -/
theorem ipa_complete (pp : IPA.UParams F) (supported : Nat) (ck vk : IPA.CK F)
    (ht : IPA.trim pp supported = .ok (ck, vk))
    (polys : List (IPA.LPoly F)) (hnf : ∀ p ∈ polys, pnorm p.poly = p.poly)
    (rng : Bool) (draws : List F) (comms : List (IPA.LComm F)) (sts : List (IPA.Rand F))
    (rest : List F) (hc : IPA.commit ck polys rng draws = .ok (comms, sts, rest))
    (z : F) (ξs ros : List F) (rng' : Bool) (draws' : List F) (π : IPA.Proof F)
    (ξr ror dr : List F)
    (ho : IPA.open ck polys comms z sts ξs ros rng' draws' = .ok (π, ξr, ror, dr)) :
    IPA.check vk comms z (polys.map fun p => evalPoly p.poly z) π ξs ros = .ok true := by
  obtain ⟨hvk, ⟨k, hk⟩, _⟩ := IPA.trim_spec pp supported ck vk ht
  subst hvk
  exact (IPA.open_check_complete hk (IPA.commit_spec vk rng polys draws comms sts rest hc) hnf ho).1

/-- **IPA**, the same for a hand-made key of any power-of-two length. -/
theorem ipa_complete_key (ck : IPA.CK F) (k : Nat) (hk : ck.commKey.length = 2 ^ k)
    (polys : List (IPA.LPoly F)) (hnf : ∀ p ∈ polys, pnorm p.poly = p.poly)
    (rng : Bool) (draws : List F) (comms : List (IPA.LComm F)) (sts : List (IPA.Rand F))
    (rest : List F) (hc : IPA.commit ck polys rng draws = .ok (comms, sts, rest))
    (z : F) (ξs ros : List F) (rng' : Bool) (draws' : List F) (π : IPA.Proof F)
    (ξr ror dr : List F)
    (ho : IPA.open ck polys comms z sts ξs ros rng' draws' = .ok (π, ξr, ror, dr)) :
    IPA.check ck comms z (polys.map fun p => evalPoly p.poly z) π ξs ros = .ok true :=
  (IPA.open_check_complete hk (IPA.commit_spec ck rng polys draws comms sts rest hc) hnf ho).1

/-- **IPA batch.** `batch_check` accepts the proofs of `batch_open` (the trait default: one `open`
per point label in sorted order on one sponge) for every query set — several polynomials per
point label, several labels sharing a point value, one polynomial at many points —, every list of
verifier randomizers and all oracle outputs, given the true evaluation of every queried
(polynomial, point).  Labels need not be distinct: prover and verifier both resolve a label to its
last occurrence. -/
theorem ipa_batch_complete (ck : IPA.CK F) (k : Nat) (hk : ck.commKey.length = 2 ^ k)
    (polys : List (IPA.LPoly F)) (hnf : ∀ p ∈ polys, pnorm p.poly = p.poly)
    (rng : Bool) (draws : List F) (comms : List (IPA.LComm F)) (sts : List (IPA.Rand F))
    (rest : List F) (hc : IPA.commit ck polys rng draws = .ok (comms, sts, rest))
    (qs : List (IPA.Query F)) (evals : List ((IPA.Label × F) × F))
    (hev : IPA.TrueEvals polys comms sts evals (Marlin.groupQueries qs))
    (ξs ros rs : List F) (rng' : Bool) (draws' : List F) (πs : List (IPA.Proof F))
    (ξr ror dr : List F)
    (ho : IPA.batchOpen ck polys comms sts qs ξs ros rng' draws' = .ok (πs, ξr, ror, dr)) :
    IPA.batchCheck ck comms qs evals πs ξs ros rs = .ok true :=
  IPA.batch_complete ck k hk polys comms sts (IPA.commit_spec ck rng polys draws comms sts rest hc)
    hnf qs evals hev ξs ros rs rng' draws' πs ξr ror dr ho

/-- **IPA, the folding invariant** behind completeness, for every power-of-two size: after the
`k` rounds on `(c, 𝐳, G)` with non-zero challenges `us`,
`⟨G,c⟩ + h′⟨c,𝐳⟩ + Σ(u⁻¹L + uR) = K·c_fin + h′·c_fin·z_fin` with `K = ⟨G, coeffs(h_us)⟩` and
`z_fin = ⟨𝐳, coeffs(h_us)⟩`. -/
theorem ipa_folding_invariant (h' : F) (k fuel : Nat) (cs zs key ros : List F) (hf : k ≤ fuel)
    (hcs : cs.length = 2 ^ k) (hzs : zs.length = 2 ^ k) (hkey : key.length = 2 ^ k)
    (out : (List F × List F) × (List F × List F × List F) × List F)
    (h : IPA.rounds h' fuel (2 ^ k) cs zs key ros = .ok out) :
    ∃ us c zf K, ros = us ++ out.2.2 ∧ us.length = k ∧ (∀ u ∈ us, u ≠ 0) ∧
      out.1.1.length = k ∧ out.1.2.length = k ∧ out.2.1 = ([c], [zf], [K]) ∧
      K = dot key (Succinct.computeCoeffs us) ∧ zf = dot zs (Succinct.computeCoeffs us) ∧
      dot key cs + h' * dot cs zs + IPA.lrSum out.1.1 out.1.2 us = K * c + h' * (c * zf) :=
  IPA.rounds_spec k hf hcs hzs hkey h

/-! non-vacuity over `ZMod 101`: a 4-element key, two polynomials (one with degree bound 2 and
hiding, one plain), point 6 — the committer and the prover answer, the verifier accepts -/
example : IPA.trim (⟨[3, 5, 7, 11, 2, 4, 6, 8], 13, 17⟩ : IPA.UParams K) 2
    = .ok (⟨[3, 5, 7, 11], 13, 17, 7⟩, ⟨[3, 5, 7, 11], 13, 17, 7⟩) := by decide +kernel
example : IPA.commit (⟨[3, 5, 7, 11], 13, 17, 7⟩ : IPA.CK K)
      [⟨[1], [1, 2, 3], some 2, some 1⟩, ⟨[2], [4, 0, 0, 9], none, none⟩] true [21, 22, 23]
    = .ok ([⟨[1], ⟨88, some 22⟩, some 2⟩, ⟨[2], ⟨10, none⟩, none⟩],
           [⟨21, some 22⟩, ⟨0, none⟩], [23]) := by decide +kernel
example : IPA.open (⟨[3, 5, 7, 11], 13, 17, 7⟩ : IPA.CK K)
      [⟨[1], [1, 2, 3], some 2, some 1⟩, ⟨[2], [4, 0, 0, 9], none, none⟩]
      [⟨[1], ⟨88, some 22⟩, some 2⟩, ⟨[2], ⟨10, none⟩, none⟩] 6
      [⟨21, some 22⟩, ⟨0, none⟩] [2, 3, 4, 5, 6] [7, 8, 9, 10, 11] true [31, 32, 33, 34, 35, 36]
    = .ok (⟨[89, 67], [85, 95], 96, 5, some 34, some 50⟩, [], [11], [36]) := by decide +kernel
example : IPA.check (⟨[3, 5, 7, 11], 13, 17, 7⟩ : IPA.CK K)
      [⟨[1], ⟨88, some 22⟩, some 2⟩, ⟨[2], ⟨10, none⟩, none⟩] 6
      [evalPoly [1, 2, 3] 6, evalPoly [4, 0, 0, 9] 6]
      ⟨[89, 67], [85, 95], 96, 5, some 34, some 50⟩ [2, 3, 4, 5, 6] [7, 8, 9, 10, 11]
    = .ok true := by decide +kernel

example : IPA.batchOpen (⟨[3, 5], 13, 17, 3⟩ : IPA.CK K) [⟨[1], [4, 9], none, none⟩]
    [⟨[1], ⟨57, none⟩, none⟩] [⟨0, none⟩] [([1], ([9], 6)), ([1], ([10], 7))]
    [2, 3, 4, 5, 6, 7] [8, 9, 10, 4] false []
    = .ok ([⟨[7], [83], 48, 10, none, none⟩, ⟨[26], [19], 23, 6, none, none⟩], [], [], []) := by
  decide +kernel
example : IPA.batchCheck (⟨[3, 5], 13, 17, 3⟩ : IPA.CK K) [⟨[1], ⟨57, none⟩, none⟩]
    [([1], ([9], 6)), ([1], ([10], 7))] [(([1], 6), 58), (([1], 7), 67)]
    [⟨[7], [83], 48, 10, none, none⟩, ⟨[26], [19], 23, 6, none, none⟩]
    [2, 3, 4, 5, 6, 7] [8, 9, 10, 4] [5, 6] = .ok true := by decide +kernel

end PCV.C01
