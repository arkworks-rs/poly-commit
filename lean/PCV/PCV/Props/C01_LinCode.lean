/-
  Property C01 (completeness) — linear-code PCS (`linear_codes/mod.rs`: univariate / multilinear
  Ligero, Brakedown).  Only property theorems live here; lemmas are in PCV/Proofs/LinCode*.lean,
  PCV/Proofs/Merkle.lean.
-/
import PCV.Proofs.LinCodeProto
import PCV.Proofs.LinCodeRS
import PCV.Proofs.LinCodeToy
import PCV.Proofs.CalcT

namespace PCV.C01
open PCV PCV.LinCode PCV.Merkle
variable {F : Type} [Field F] [DecidableEq F] {D : Type} [DecidableEq D]
set_option linter.unusedSectionVars false

/-- **Linear codes, one polynomial.**  For every linear row encoder `E` (hypothesis `Encodes`: the
scheme's `encode` computes a linear map of codeword length `k ≥ 2` on rows), every matrix shape
`compute_dimensions` returns, every column hash and Merkle hashes, every point whose `tensor` has one
entry of `a` per column and one of `b` per row (`ha`, `hb`: a point with the right number of
coordinates — `ha` is needed since fix D23, `check` refuses a point of another length; both are
automatic for a univariate point, `lincode_tensor_univariate`, and for a multilinear point on a
power-of-two shape, `lincode_tensor_multilinear`), every sponge output (`n_rows` coefficients `r`, any number of positions
`< n_ext_cols`), with and without the well-formedness check: `commit` succeeds, `open` succeeds on
its outputs, and `check` accepts the value `⟨b·M, a⟩`. -/
theorem lincode_complete_one (pp : Params F D) (point : Point F) (coeffs : List F)
    (E : List F → List F) (k : Nat) (h : Encodes pp coeffs E k) (a b : List F) (o : Oracle F)
    (ht : tensor point (coeffMat pp.dims coeffs).m (coeffMat pp.dims coeffs).n = .ok (a, b))
    (ha : a.length = (coeffMat pp.dims coeffs).m) (hb : b.length = (coeffMat pp.dims coeffs).n)
    (hr : o.r.length = (coeffMat pp.dims coeffs).n) (hi : ∀ i ∈ o.indices, i < k) :
    ∃ c st π, commit pp coeffs = .ok (c, st) ∧ openOne pp point c st o = .ok π ∧
      checkOne pp point c
        (dot (vecMat b (coeffMat pp.dims coeffs).rows (coeffMat pp.dims coeffs).m) a) π o
        = .ok true :=
  ⟨_, _, _, commit_eq pp coeffs E k h, openOne_eq h o ht hb (fun _ => hr) hi,
    checkOne_honest h o ht ha hb hi⟩

/-- **Linear codes, the whole run.**  For a list of polynomials, each in the domain (`HonestRun`:
linear encoder on its rows, `tensor` defined with vectors of the lengths of the matrix, oracle outputs
of the right size and range):
`commit` on all, `open` on the commitments and states, `check` on the claimed values
`⟨bᵢ·Mᵢ, aᵢ⟩` gives `Ok(true)`. -/
theorem lincode_complete (pp : Params F D) (point : Point F) (polys : List (List F))
    (os : List (Oracle F)) (h : List.Forall₂ (HonestRun pp point) polys os) :
    ∃ css πs, commitAll pp polys = .ok css ∧
      openAll pp point (css.map Prod.fst) (css.map Prod.snd) os = .ok πs ∧
      checkAll pp point (css.map Prod.fst) (polys.map (claimed pp point)) πs os = .ok true := by
  induction h with
  | nil => exact ⟨[], [], rfl, rfl, rfl⟩
  | @cons coeffs o polys os h1 _ ih =>
    obtain ⟨css, πs, hc, ho, hk⟩ := ih
    obtain ⟨E, k, hE, hi⟩ := h1.enc
    obtain ⟨a, b, ht, ha, hb⟩ := h1.tens
    refine ⟨(commitC pp coeffs E k, commitSt pp coeffs E k) :: css,
      honestProof pp coeffs E k b o :: πs, ?_, ?_, ?_⟩
    · simp only [commitAll, commit_eq pp coeffs E k hE, hc]
      rfl
    · simp only [List.map_cons, openAll]
      rw [openOne_eq hE o ht hb (fun _ => h1.rlen) hi, ho]
    · simp only [List.map_cons, checkAll]
      have hcl : claimed pp point coeffs
          = dot (vecMat b (coeffMat pp.dims coeffs).rows (coeffMat pp.dims coeffs).m) a := by
        simp [claimed, ht]
      rw [hcl, checkOne_honest hE o ht ha hb hi]
      exact hk

/-- **Univariate Ligero: the claimed value is `p(z)`**, for every coefficient list (the empty one
included: it is committed as `[0]`) whenever the matrix holds the coefficients (`len ≤ n·m`, which
`compute_dimensions` guarantees through `m = ⌈len/n⌉`). -/
theorem lincode_claimed_univariate (pp : Params F D) (z : F) (coeffs : List F)
    (h : (coeffsOrZero coeffs).length ≤
      (pp.dims (coeffsOrZero coeffs).length).1 * (pp.dims (coeffsOrZero coeffs).length).2) :
    claimed pp (.uni z) coeffs = evalPoly coeffs z := by
  unfold claimed
  simp only [tensor, coeffMat]
  have := univariate_tensor_eval (coeffsOrZero coeffs) _ _ z h
  rw [evalPoly_coeffsOrZero] at this
  exact this

/-- the univariate `tensor` never fails and has one entry of `b` per row -/
theorem lincode_tensor_univariate (z : F) (nCols nRows : Nat) :
    ∃ a b, tensor (Point.uni z) nCols nRows = .ok (a, b) ∧ b.length = nRows ∧ a.length = nCols :=
  ⟨_, _, rfl, powers_length _ _ _, powers_length _ _ _⟩

/-- **Multilinear Ligero / Brakedown: the claimed value is `f(point)`** for `2^nv` hypercube
evaluations arranged in `2^(nv−k)` rows of `2^k` entries and a point with `nv` coordinates. -/
theorem lincode_claimed_multilinear (pp : Params F D) (pt evals : List F) (k : Nat)
    (hk : k ≤ pt.length) (hl : evals.length = 2 ^ pt.length)
    (hd : pp.dims evals.length = (2 ^ (pt.length - k), 2 ^ k)) :
    claimed pp (.ml pt) evals = evalMLE evals pt := by
  have hne : coeffsOrZero evals = evals := by
    unfold coeffsOrZero
    cases evals with
    | nil => exact absurd hl (Nat.ne_of_lt (Nat.two_pow_pos _))
    | cons x xs => rfl
  have hres : resize (2 ^ (pt.length - k) * 2 ^ k) evals = evals := by
    have : 2 ^ (pt.length - k) * 2 ^ k = evals.length := by
      rw [hl, ← Nat.pow_add, Nat.sub_add_cancel hk]
    rw [this]; simp [resize]
  unfold claimed
  simp only [coeffMat, hne, hd, Mat.ofFlat, tensor, tensorML, ceilLog2_two_pow, hk, if_true, hres]
  exact multilinear_tensor_eval evals pt k hk hl

/-- the multilinear `tensor` for a power-of-two width has one entry of `b` per row -/
theorem lincode_tensor_multilinear (pt : List F) (k : Nat) (hk : k ≤ pt.length) :
    ∃ a b, tensor (Point.ml pt) (2 ^ k) (2 ^ (pt.length - k)) = .ok (a, b) ∧
      b.length = 2 ^ (pt.length - k) ∧ a.length = 2 ^ k := by
  refine ⟨tensorVec (pt.take k), tensorVec (pt.drop k), ?_, ?_, ?_⟩
  · simp [tensor, tensorML, ceilLog2_two_pow, hk]
  · simp [tensorVec_length]
  · simp [tensorVec_length, hk]

/-- the positions `get_indices_from_sponge` derives from any squeezed bytes are inside the codeword
(so the oracle hypothesis of the completeness theorems is met by every sponge output) -/
theorem lincode_indices_in_range (nExt : Nat) (h : 0 < nExt) (squeezes : List (List Nat)) :
    ∀ i ∈ getIndices nExt squeezes, i < nExt :=
  getIndices_lt nExt h squeezes

/-- the Reed–Solomon encoder of the Ligero schemes meets the encoder hypothesis on every length -/
theorem lincode_rs_is_linear (ω : F) (len m : Nat) : IsLinear (rsEncode ω len) m len :=
  isLinear_of_lin (lin_evalAt (domainPts ω len)) m len (fun x _ => rs_length ω len x)

/-- the Brakedown encoder (consistent tables) meets the encoder hypothesis on length `m` -/
theorem lincode_brakedown_is_linear (bp : BParams F) (h : shapeOk bp = true) :
    IsLinear (encodeCore bp) bp.m bp.mExt ∧
      (∀ x, x.length = bp.m → encode bp x = .ok (encodeCore bp x)) :=
  ⟨isLinear_of_lin (lin_encodeCore bp) bp.m bp.mExt (fun x _ => encodeCore_length bp x h),
    fun x hx => (encode_ok_iff bp x _).2 ⟨hx, h, rfl⟩⟩

/-! non-vacuity: the hypotheses hold on the toy instance (repetition code, `2 × 2` matrix over
`ZMod 101`), with and without well-formedness; the run evaluates to `Ok(true)` -/
example : HonestRun (toyPP true) (.uni 5) [1, 2, 3] ⟨[7, 9], [2, 0, 3]⟩ where
  enc := ⟨toyE, 4, toy_encodes true _ (by decide +kernel), by decide +kernel⟩
  tens := ⟨_, _, rfl, by decide +kernel, by decide +kernel⟩
  rlen := by decide +kernel
example : toyRun true (.uni 5) [1, 2, 3] ⟨[7, 9], [2, 0, 3]⟩ (evalPoly [1, 2, 3] 5) = .ok true := by
  decide +kernel
example : toyRun false (.uni 5) [1, 2, 3] ⟨[], [1, 1]⟩ (evalPoly [1, 2, 3] 5) = .ok true := by
  decide +kernel
/-- the zero polynomial with no coefficients is committed as `[0]` (a `2 × 1` matrix, codewords of
length 2) -/
example : toyRun true (.uni 5) [] ⟨[7, 9], [1]⟩ 0 = .ok true := by decide +kernel
example : toyRun true (.ml [3, 8]) [1, 2, 3, 4] ⟨[7, 9], [2, 0, 3]⟩ (evalMLE [1, 2, 3, 4] [3, 8])
    = .ok true := by decide +kernel
example : (2 : Nat) ≤ ([3, 8] : List K).length ∧ ([1, 2, 3, 4] : List K).length = 2 ^ 2 := by decide +kernel

end PCV.C01
