/-
  Property C01 (multilinear PST, `multilinear_pc`) — completeness: for every number of variables,
  every evaluation vector, every point, every trapdoor and generators, the honest proof of the true
  evaluation is accepted.  Lemmas are in PCV/Proofs/MLPC*.lean.
-/
import PCV.Proofs.MLPCSetup
import PCV.Props.Examples

namespace PCV.C01
open PCV
variable {F : Type} [Field F] [DecidableEq F]

/-- **Multilinear PST, completeness.**  Parameters made by `setup` for `nv ≥ 1` variables from any
generators `g, h` and any trapdoor `t ∈ F^nv`, trimmed to any `1 ≤ s ≤ nv`; any multilinear
polynomial in `s` variables (its `2^s` hypercube evaluations) and any point `z ∈ F^s`: whatever
`commit` and `open` return, `check` accepts the value `f̃(z)` (ark-poly's `evaluate`). -/
theorem mlpc_complete (nv s : Nat) (g h : F) (t evals z : List F)
    (ht : t.length = nv) (hs1 : 1 ≤ s) (hs : s ≤ nv) (he : evals.length = 2 ^ s) (hz : z.length = s)
    (pp : MLPC.UParams F) (ck : MLPC.CK F) (vk : MLPC.VK F) (c : MLPC.Commitment F) (πs : List F)
    (hsetup : MLPC.setup nv g h t = .ok pp) (htrim : MLPC.trim pp s = .ok (ck, vk))
    (hc : MLPC.commit ck s evals = .ok c) (ho : MLPC.open ck s evals z = .ok πs) :
    MLPC.check vk c z (MLPC.mleEval evals z) πs = .ok true := by
  obtain ⟨_, _, _, _, _, h1, h2, h3, h4, h5⟩ := MLPC.honest_run g h ht hs1 hs he hz
  cases h1.symm.trans hsetup
  cases h2.symm.trans htrim
  cases h3.symm.trans hc
  cases h4.symm.trans ho
  exact h5

/-- **Multilinear PST, the honest run never refuses.**  Under the same quantifiers `setup`, `trim`,
`commit` and `open` all answer (no abort). -/
theorem mlpc_honest_total (nv s : Nat) (g h : F) (t evals z : List F)
    (ht : t.length = nv) (hs1 : 1 ≤ s) (hs : s ≤ nv) (he : evals.length = 2 ^ s) (hz : z.length = s) :
    ∃ pp ck vk c πs, MLPC.setup nv g h t = .ok pp ∧ MLPC.trim pp s = .ok (ck, vk)
      ∧ MLPC.commit ck s evals = .ok c ∧ MLPC.open ck s evals z = .ok πs := by
  obtain ⟨pp, ck, vk, c, πs, h1, h2, h3, h4, _⟩ := MLPC.honest_run g h ht hs1 hs he hz
  exact ⟨pp, ck, vk, c, πs, h1, h2, h3, h4⟩

set_option linter.unusedSectionVars false in
/-- **The mathematical core.**  `⟨evals, eqTable t⟩ = f̃(t)` and
`f̃(t) − f̃(z) = Σᵢ (tᵢ − zᵢ)·q̃ᵢ(t_{>i})` for the quotients of the code's `r/q` recursion. -/
theorem mlpc_quotient_identity (t z evals : List F) (hz : z.length = t.length)
    (he : evals.length = 2 ^ t.length) :
    dot evals (MLPC.eqTable t) = MLPC.mleEval evals t
    ∧ MLPC.mleEval evals t - MLPC.mleEval evals z
        = MLPC.quotSum t z (MLPC.quotients z evals) :=
  ⟨(dot_comm _ _).trans (MLPC.dot_eqTable t evals he), MLPC.quot_identity hz he⟩

/-- non-vacuity: a 3-variable key trimmed to 2 variables over `ZMod 101`; the whole run evaluated -/
example : MLPC.setup 3 (5 : K) 11 [3, 7, 20] = .ok (MLPC.wfParams 5 11 [3, 7, 20]) := by
  decide +kernel
example : MLPC.trim (MLPC.wfParams (5 : K) 11 [3, 7, 20]) 2
    = .ok (MLPC.wfCK 5 11 [7, 20], MLPC.wfVK 5 11 [7, 20]) := by decide +kernel
example : MLPC.commit (MLPC.wfCK (5 : K) 11 [7, 20]) 2 [1, 2, 3, 50] = .ok ⟨2, 19⟩ := by
  decide +kernel
example : MLPC.open (MLPC.wfCK (5 : K) 11 [7, 20]) 2 [1, 2, 3, 50] [8, 13] = .ok [31, 30] := by
  decide +kernel
example : MLPC.mleEval ([1, 2, 3, 50] : List K) [8, 13] = 72 := by decide +kernel
example : MLPC.check (MLPC.wfVK (5 : K) 11 [7, 20]) ⟨2, 19⟩ [8, 13] 72 [31, 30] = .ok true := by
  decide +kernel

end PCV.C01
