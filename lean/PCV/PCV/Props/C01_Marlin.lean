/-
  Property C01 (MarlinKZG10) — completeness with degree bounds and hiding, any number of polynomials.
-/
import PCV.Proofs.MarlinMore
import PCV.Props.Examples

namespace PCV.C01
open PCV Marlin
variable {F : Type} [Field F] [DecidableEq F]

/-- **MarlinKZG10, single point.** Keys trimmed from parameters with trapdoor `β`; any list of
polynomials with any mix of degree bounds and hiding bounds, committed by the library's committer
(`hcommit`: each commitment/state comes from `commitOne`); any point; any challenge list: if the
prover answers, the verifier accepts the true values and consumes exactly the same challenges.
`hnd` is the non-degeneracy condition under which the *code* keeps the shifted blinding value (the
combined blinding polynomial is not identically zero while a shifted one is non-zero at `z`); it
holds trivially without hiding and fails only on a proper algebraic set of challenge values. -/
theorem marlin_complete (g γ β h : F) (D s hb : Nat) (bounds : Option (List Nat))
    (ck : CK F) (vk : VK F)
    (ht : trim (wfParams g γ β h D) s hb bounds = .ok (ck, vk))
    (z : F) (l : List (Trip F))
    (hcommit : ∀ t ∈ l, ∃ rng draws rest, commitOne ck t.1 rng draws = .ok (t.2.2.comm, t.2.1, rest)
      ∧ t.2.2.label = t.1.label ∧ t.2.2.bound = t.1.bound)
    (ξs : List F) (π : KZG.Proof F) (rest : List F)
    (ho : Marlin.open ck (l.map (·.1)) z (l.map (·.2.1)) ξs = .ok (π, rest))
    (hnd : ∀ acc r, openLoop ck z (l.map (·.1)) (l.map (·.2.1)) ξs ⟨[], [], [], [], [], false⟩
        = .ok (acc, r) → isZeroPoly acc.r = true → evalPoly acc.sr z = 0) :
    check vk (l.map (·.2.2)) z (l.map fun t => evalPoly t.1.poly z) π ξs = .ok (true, rest) := by
  obtain ⟨hwf, _⟩ := trim_wf g γ β h D s hb bounds ck vk ht
  have hboth : ∀ t ∈ l, Honest g γ β D t ∧ RandLen (hb + 2) t := by
    intro t ht'
    obtain ⟨rng, draws, rest', hc, -, hl2⟩ := hcommit t ht'
    obtain ⟨⟨-, a⟩, b⟩ := commitOne_honest hwf hc
    exact ⟨⟨hl2, a⟩, b⟩
  exact open_check_complete hwf z l (fun t ht' => (hboth t ht').1) (fun t ht' => (hboth t ht').2)
    ξs π rest ho hnd

/-- **MarlinKZG10 without hiding**: the non-degeneracy side condition disappears. -/
theorem marlin_complete_nonhiding {ck : CK F} {vk : VK F} {g γ β h : F} {D n m : Nat}
    (hwf : WF ck vk g γ β h D n m) (z : F) (l : List (Trip F))
    (hh : ∀ t ∈ l, Honest g γ β D t)
    (hnh : ∀ t ∈ l, t.2.1.rand = [] ∧ ∀ rs, t.2.1.shifted = some rs → rs = [])
    (ξs : List F) (π : KZG.Proof F) (rest : List F)
    (ho : Marlin.open ck (l.map (·.1)) z (l.map (·.2.1)) ξs = .ok (π, rest))
    (hsr : ∀ acc r, openLoop ck z (l.map (·.1)) (l.map (·.2.1)) ξs ⟨[], [], [], [], [], false⟩
        = .ok (acc, r) → evalPoly acc.sr z = 0) :
    check vk (l.map (·.2.2)) z (l.map fun t => evalPoly t.1.poly z) π ξs = .ok (true, rest) :=
  open_check_complete hwf z l hh (fun t ht' => .of_empty (hnh t ht')) ξs π rest ho
    (fun acc r hl _ => hsr acc r hl)

/-- non-vacuity: a bounded, hiding Marlin transcript exists in the model and is accepted
(`D = 3`, bound 2, hiding 1 over `ZMod 101`) -/
def exCK : CK K := ⟨[3, 6, 12, 24], some [6, 12, 24], [5, 10, 20], some [2], 3⟩
def exVK : VK K := ⟨⟨3, 5, 7, 14⟩, some [(2, 6)], 3, 3⟩
def exPoly : LPoly K := ⟨[112], [1, 2, 3], some 2, some 1⟩
example : trim (wfParams (3 : K) 5 2 7 3) 3 1 (some [2]) = .ok (exCK, exVK) := by decide +kernel
example : commitOne exCK exPoly true [7, 8, 9, 4, 5, 6]
    = .ok (⟨43, some 90⟩, ⟨[7, 8, 9], some [4, 5, 6]⟩, []) := by decide +kernel
example : Marlin.open exCK [exPoly] 10 [⟨[7, 8, 9], some [4, 5, 6]⟩] [11, 13]
    = .ok (⟨49, some 68⟩, []) := by decide +kernel
example : check exVK [⟨[112], ⟨43, some 90⟩, some 2⟩] 10 [evalPoly [1, 2, 3] 10] ⟨49, some 68⟩ [11, 13]
    = .ok (true, []) := by decide +kernel

end PCV.C01
