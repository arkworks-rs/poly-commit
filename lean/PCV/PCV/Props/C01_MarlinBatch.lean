/-
  Property C01 (MarlinKZG10, batched form) — `batch_open` followed by `batch_check` over an ARBITRARY
  query set: every honest batch proof of true evaluations is accepted, for every list of verifier
  randomizers.  (Single-point completeness: `C01.marlin_complete`.)
-/
import PCV.Proofs.MarlinBatch
import PCV.Proofs.MarlinPerm
import PCV.Proofs.TraitDefault
import PCV.Props.C01_Marlin

namespace PCV.C01
open PCV Marlin
variable {F : Type} [Field F] [DecidableEq F]

/-- **MarlinKZG10, batched.**  Keys in the form `trim` produces (`WF`, proved for `trim` by
`trim_wf`), any list of honest (polynomial, state, commitment) triples — any number, any admissible
degree and hiding bounds, labels of commitments equal to those of their polynomials — ANY query list
(several point labels, several polynomials per label, one polynomial under several labels, labels
sharing a point value), truthful evaluations for the queried pairs: whatever `batch_open` returns is
accepted by `batch_check`, whatever randomizers the verifier draws.  `hnd` is the per-point-label
form of the side condition of `marlin_complete` (DESIGN §11.2), vacuous without hiding
(`marlin_batch_complete_nonhiding`). -/
theorem marlin_batch_complete {ck : CK F} {vk : VK F} {g γ β h : F} {D n m : Nat}
    (hwf : WF ck vk g γ β h D n m) (l : List (Trip F))
    (hH : ∀ t ∈ l, Honest g γ β D t) (hL : ∀ t ∈ l, RandLen m t)
    (hlab : ∀ t ∈ l, t.2.2.label = t.1.label)
    (qs : List (Query F)) (evals : List ((Label × F) × F))
    (hev : ∀ gr ∈ groupQueries qs, ∀ lab ∈ gr.2.2, ∀ t, lookupT lab l none = some t →
      lookupEval evals lab gr.2.1 = some (evalPoly t.1.poly gr.2.1))
    (ξs : List F) (πs : List (KZG.Proof F)) (rest : List F)
    (ho : batchOpen ck (l.map (·.1)) (l.map (·.2.1)) qs ξs = .ok (πs, rest))
    (hnd : GroupsND ck (l.map (·.1)) (l.map (·.2.1)) (groupQueries qs) ξs) (rs : List F) :
    batchCheck vk (l.map (·.2.2)) qs evals πs ξs rs = .ok true := by
  obtain ⟨trip, htrip, hlen, hdef⟩ :=
    batchOpenGroups_accept hwf l hH hL hlab evals (groupQueries qs) hev ξs πs rest ho hnd
  exact batchCheck_all_true vk (l.map (·.2.2)) qs evals πs ξs rs trip rest htrip hlen hdef

/-- the batched theorem without hiding: no side condition at all -/
theorem marlin_batch_complete_nonhiding {ck : CK F} {vk : VK F} {g γ β h : F} {D n m : Nat}
    (hwf : WF ck vk g γ β h D n m) (l : List (Trip F))
    (hH : ∀ t ∈ l, Honest g γ β D t)
    (hnh : ∀ t ∈ l, t.2.1.rand = [] ∧ ∀ rs, t.2.1.shifted = some rs → rs = [])
    (hlab : ∀ t ∈ l, t.2.2.label = t.1.label)
    (qs : List (Query F)) (evals : List ((Label × F) × F))
    (hev : ∀ gr ∈ groupQueries qs, ∀ lab ∈ gr.2.2, ∀ t, lookupT lab l none = some t →
      lookupEval evals lab gr.2.1 = some (evalPoly t.1.poly gr.2.1))
    (ξs : List F) (πs : List (KZG.Proof F)) (rest : List F)
    (ho : batchOpen ck (l.map (·.1)) (l.map (·.2.1)) qs ξs = .ok (πs, rest)) (rs : List F) :
    batchCheck vk (l.map (·.2.2)) qs evals πs ξs rs = .ok true := by
  refine marlin_batch_complete hwf l hH (fun t ht => .of_empty (hnh t ht))
    hlab qs evals hev ξs πs rest ho ?_ rs
  apply groupsND_nonhiding
  intro st hst rs hrs
  obtain ⟨t, ht, hte⟩ := List.mem_map.1 hst
  exact (hnh t ht).2 rs (hte ▸ hrs)

/-- **Order independence (prover).** `batch_open` matches polynomials and states by label: listing the
(polynomial, state) pairs in any other order (distinct labels) gives the same proofs and leaves the same
challenges. -/
theorem marlin_batch_open_order (ck : CK F) (polys polys' : List (LPoly F)) (sts sts' : List (Rand F))
    (qs : List (Query F)) (ξs : List F)
    (hp : (polys.zip sts).Perm (polys'.zip sts'))
    (hnd : ((polys.zip sts).map fun x => x.1.label).Nodup) :
    batchOpen ck polys sts qs ξs = batchOpen ck polys' sts' qs ξs :=
  batchOpenGroups_congr (fun l => lookupLast_perm _ l hp hnd) ck _ ξs

/-- **Order independence (verifier).** `batch_check` matches commitments by label: any permutation of
the commitment list (distinct labels) gives the same decision — so prover and verifier need not agree
on any order. -/
theorem marlin_batch_check_order (vk : VK F) (comms comms' : List (LComm F)) (qs : List (Query F))
    (evals : List ((Label × F) × F)) (πs : List (KZG.Proof F)) (ξs rs : List F)
    (hp : comms.Perm comms') (hnd : (comms.map fun c => c.label).Nodup) :
    batchCheck vk comms qs evals πs ξs rs = batchCheck vk comms' qs evals πs ξs rs := by
  unfold batchCheck
  rw [combineGroups_congr (fun l => lookupLast_perm _ l hp hnd)]

/-- **Order independence (queries).** The query set is a `BTreeSet`: the model takes it in set order
(`TraitDefault.querySet`), which is the same list for any two query lists with the same elements —
listed in any order, any number of times. -/
theorem marlin_batch_query_order (ck : CK F) (vk : VK F) (ltP : F → F → Bool)
    (hlt : QS.StrictTotal ltP) (hirr : ∀ a, ltP a a = false)
    (polys : List (LPoly F)) (sts : List (Rand F)) (comms : List (LComm F))
    (qs qs' : List (Query F)) (h : ∀ q, q ∈ qs ↔ q ∈ qs')
    (evals : List ((Label × F) × F)) (πs : List (KZG.Proof F)) (ξs rs : List F) :
    batchOpen ck polys sts (TraitDefault.querySet ltP qs) ξs
        = batchOpen ck polys sts (TraitDefault.querySet ltP qs') ξs ∧
      batchCheck vk comms (TraitDefault.querySet ltP qs) evals πs ξs rs
        = batchCheck vk comms (TraitDefault.querySet ltP qs') evals πs ξs rs := by
  rw [TraitDefault.querySet_congr ltP hlt hirr qs qs' h]
  exact ⟨rfl, rfl⟩

/-! non-vacuity over `ZMod 101` (`g = 3`, `β = 2`): two polynomials, two point labels, the second
polynomial under both -/
def exBatch : List (Trip K) :=
  [(⟨[97], [1, 2, 3], none, none⟩, ⟨[], none⟩, ⟨[97], ⟨51, none⟩, none⟩),
   (⟨[98], [4, 0, 1], none, none⟩, ⟨[], none⟩, ⟨[98], ⟨24, none⟩, none⟩)]
def exQueries : List (Query K) :=
  [([97], ([112, 48], 5)), ([98], ([112, 48], 5)), ([98], ([112, 49], 9))]
example : batchOpen exCK (exBatch.map (·.1)) (exBatch.map (·.2.1)) exQueries [11, 13, 17, 19]
    = .ok ([⟨22, none⟩, ⟨56, none⟩], [19]) := by decide +kernel
example : batchCheck exVK (exBatch.map (·.2.2)) exQueries
    [(([97], 5), evalPoly [1, 2, 3] 5), (([98], 5), evalPoly [4, 0, 1] 5), (([98], 9), evalPoly [4, 0, 1] 9)]
    [⟨22, none⟩, ⟨56, none⟩] [11, 13, 17, 19] [29] = .ok true := by decide +kernel
example : ∀ t ∈ exBatch, t.2.2.comm.comm = 3 * evalPoly t.1.poly 2 := by decide +kernel
/-- the reversed lists give the same proofs and the same decision -/
example : batchOpen exCK (exBatch.reverse.map (·.1)) (exBatch.reverse.map (·.2.1)) exQueries [11, 13, 17, 19]
    = .ok ([⟨22, none⟩, ⟨56, none⟩], [19]) := by decide +kernel
example : batchCheck exVK (exBatch.reverse.map (·.2.2)) exQueries
    [(([97], 5), evalPoly [1, 2, 3] 5), (([98], 5), evalPoly [4, 0, 1] 5), (([98], 9), evalPoly [4, 0, 1] 9)]
    [⟨22, none⟩, ⟨56, none⟩] [11, 13, 17, 19] [29] = .ok true := by decide +kernel

end PCV.C01
