/-
  Property C01 — completeness, MarlinPST13 (multivariate).  The theorems are those of
  `PCV/Props/C15.lean` (model: `PCV/Model/PST13.lean`, lemmas: `PCV/Proofs/PST13.lean`), restated
  here so that the C01 check lists and audits them.
-/
import PCV.Props.C15

set_option synthInstance.maxSize 512

namespace PCV.C01
open PCV PCV.MV PCV.C15Spec
variable {F : Type} [Field F] [DecidableEq F]

/-- **PST13, one polynomial.** Key well-formed for any trapdoor `β⃗`; any polynomial over the key's
`nv` variables (arbitrary mixed monomials), any hiding bound, RNG stream, point and challenge: if
`commit` returns `(c, r)` and `open` returns `π`, `check` accepts the true value. -/
theorem pst13_complete (g γ h : F) (β : List F) (ts : List Term) (nv s D m : Nat) (p : MVPoly F)
    (hb : Option Nat) (rng : Bool) (draws : List F) (c : F) (r : MVPoly F) (rest : List F)
    (z : List F) (ξ : F) (ξs : List F) (π : PST.Proof F)
    (hp : polyWf p = true) (hpv : polyVarsBelow nv p = true)
    (hβ : nv ≤ β.length) (hz : nv ≤ z.length)
    (hc : PST.commit (PST.wfCK g γ β ts nv s D m) p hb rng draws = .ok (c, r, rest))
    (ho : PST.open (PST.wfCK g γ β ts nv s D m) nv nv [p] z [r] (ξ :: ξs) = .ok π) :
    PST.check (PST.wfVK g γ h β nv s D) [c] z [evalMV p z] π (ξ :: ξs) = .ok true :=
  C15.pst13_complete g γ h β ts nv s D m p hb rng draws c r rest z ξ ξs π hp hpv hβ hz hc ho

/-- **PST13, polynomial declared over fewer variables than the key** (`nvp ≤ nv`; the zero
polynomial declared over `0` variables included), with or without hiding: accepted, and the proof
carries one witness per key variable (so `batch_check` can index it). -/
theorem pst13_complete_fewer_vars (g γ h : F) (β : List F) (ts : List Term) (nv s D m nvp nvr : Nat)
    (p : MVPoly F)
    (hb : Option Nat) (rng : Bool) (draws : List F) (c : F) (r : MVPoly F) (rest : List F)
    (z : List F) (ξ : F) (ξs : List F) (π : PST.Proof F)
    (hnvp : nvp ≤ nv) (hnvr : nvr ≤ nv)
    (hp : polyWf p = true) (hpv : polyVarsBelow nvp p = true) (hrv : polyVarsBelow nvr r = true)
    (hβ : nv ≤ β.length) (hz : nv ≤ z.length)
    (hc : PST.commit (PST.wfCK g γ β ts nv s D m) p hb rng draws = .ok (c, r, rest))
    (ho : PST.open (PST.wfCK g γ β ts nv s D m) nvp nvr [p] z [r] (ξ :: ξs) = .ok π) :
    PST.check (PST.wfVK g γ h β nv s D) [c] z [evalMV p z] π (ξ :: ξs) = .ok true
      ∧ π.w.length = nv :=
  C15.pst13_complete_fewer_vars g γ h β ts nv s D m nvp nvr p hb rng draws c r rest z ξ ξs π
    hnvp hnvr hp hpv hrv hβ hz hc ho

/-- **PST13, challenge-combined list** of polynomials opened together at one point. -/
theorem pst13_complete_list (g γ h : F) (β : List F) (ts : List Term) (nv s D m nvp nvr : Nat)
    (ps rs : List (MVPoly F)) (z ξs : List F) (π : PST.Proof F)
    (hnvp : nvp ≤ nv) (hnvr : nvr ≤ nv)
    (hlen : ps.length = rs.length)
    (hps : ∀ p ∈ ps, polyWf p = true ∧ polyVarsBelow nvp p = true)
    (hrs : ∀ r ∈ rs, polyWf r = true ∧ polyVarsBelow nvr r = true ∧
      ∀ t ∈ termsOf r, PST.isUni t = true)
    (hβ : nv ≤ β.length) (hz : nv ≤ z.length)
    (ho : PST.open (PST.wfCK g γ β ts nv s D m) nvp nvr ps z rs ξs = .ok π) :
    PST.check (PST.wfVK g γ h β nv s D) (PST.comms g γ β ps rs) z
      (ps.map (fun p => evalMV p z)) π ξs = .ok true :=
  C15.pst13_complete_list g γ h β ts nv s D m nvp nvr ps rs z ξs π hnvp hnvr hlen hps hrs hβ hz ho

/-- **PST13: the honest prover is never refused** (`commit`) on a polynomial within the supported
degree, for a key covering the monomials of that degree. -/
theorem pst13_commit_total (g γ : F) (β : List F) (ts : List Term) (nv s D : Nat)
    (hcov : ∀ t, PST.Covered nv s t → t ∈ ts) (p : MVPoly F)
    (hp : polyWf p = true) (hpv : polyVarsBelow nv p = true) (hd : degreeMV p ≤ s)
    (hb : Option Nat) (draws : List F)
    (hhb : ∀ b, hb = some b → 1 ≤ b ∧ b ≤ s ∧ 1 + nv * (b + 1) ≤ draws.length) :
    ∃ out, PST.commit (PST.wfCK g γ β ts nv s D (s + 1)) p hb true draws = .ok out :=
  C15.pst13_commit_total g γ β ts nv s D hcov p hp hpv hd hb draws hhb

/-- **PST13: the honest prover is never refused** (`open`). -/
theorem pst13_open_total (g γ : F) (β : List F) (ts : List Term) (nv s D m : Nat)
    (hcov : ∀ t, PST.Covered nv s t → t ∈ ts)
    (nvp nvr : Nat) (hnvr : nvr ≤ nv) (ps rs : List (MVPoly F)) (z ξs : List F)
    (hps : ∀ p ∈ ps, polyWf p = true ∧ polyVarsBelow nv p = true ∧ degreeMV p ≤ s)
    (hrs : ∀ r ∈ rs, ∀ t ∈ termsOf r, PST.UniCovered nv m t)
    (hξ : ps.length ≤ ξs.length) (hz : nv ≤ z.length) :
    ∃ π, PST.open (PST.wfCK g γ β ts nv s D m) nvp nvr ps z rs ξs = .ok π :=
  C15.pst13_open_total g γ β ts nv s D m hcov nvp nvr hnvr ps rs z ξs hps hrs hξ hz

/-- non-vacuity (over `ZMod 101`): a hiding commitment to a mixed-monomial polynomial, its opening
and the accepted check; the same for a polynomial declared over one variable of the two -/
example : PST.commit (PST.wfCK (3 : K) 5 [2, 7] (specTerms 2 2) 2 2 2 3)
    [(4, []), (6, [(1, 1)]), (9, [(0, 1), (1, 1)]), (2, [(0, 2)])] (some 1) true [7, 0, 9, 4, 8, 11]
    = .ok (27, [(7, []), (4, [(1, 1)]), (8, [(1, 2)]), (9, [(0, 2)])], [11]) := by decide +kernel
example : PST.open (PST.wfCK (3 : K) 5 [2, 7] (specTerms 2 2) 2 2 2 3) 2 2
    [[(4, []), (6, [(1, 1)]), (9, [(0, 1), (1, 1)]), (2, [(0, 2)])]] [10, 20]
    [[(7, []), (4, [(1, 1)]), (8, [(1, 2)]), (9, [(0, 2)])]] [13] = .ok ⟨[10, 66], some 93⟩ := by
  decide +kernel
example : PST.check (PST.wfVK (3 : K) 5 11 [2, 7] 2 2 2) [27] [10, 20] [3] ⟨[10, 66], some 93⟩ [13]
    = .ok true := by decide +kernel
example : PST.open (PST.wfCK (3 : K) 5 [2, 7] (specTerms 2 2) 2 2 2 3) 1 2
    [[(4, []), (6, [(0, 1)]), (2, [(0, 2)])]] [10, 20]
    [[(7, []), (4, [(1, 1)]), (5, [(0, 1)]), (8, [(1, 2)]), (9, [(0, 2)])]] [13]
    = .ok ⟨[31, 59], some 36⟩ := by decide +kernel

end PCV.C01
