/-
  Property C01 — completeness, SonicKZG10 (`sonic_pc`): honest proofs of true evaluation claims are
  always accepted, single point and batched (trait-default `batch_open`, Sonic `batch_check`).
  Only property theorems live here; lemmas are in PCV/Proofs/Sonic*.lean.
-/
import PCV.Proofs.SonicExamples
import PCV.Proofs.SonicLC

namespace PCV.C01
open PCV PCV.Sonic
open PCV.Marlin (Label LPoly Query groupQueries lookupLast lookupEval)
variable {F : Type} [Field F] [DecidableEq F]

/-- **SonicKZG10, one polynomial.**  For parameters made by `setup` from any trapdoor `β`
(`bi = β⁻¹`) and generators `g, γ, h`, any `trim` arguments the library accepts, one polynomial with
any admissible degree bound and hiding bound, any RNG stream, point and challenges: if `commit`
returns `(c, r)` and `open` returns `π`, `check` accepts the true value `p(z)`. -/
theorem sonic_complete_single (g γ β bi h : F) (hb : β * bi = 1) (D s shb : Nat)
    (bounds : Option (List Nat)) (ck : CK F) (vk : VK F)
    (ht : trim (wfPP g γ β bi h D) s shb bounds = .ok (ck, vk))
    (p : LPoly F) (rng : Bool) (draws : List F) (cs : List (LComm F)) (rs : List (List F))
    (drest : List F) (hc : commit ck [p] rng draws = .ok (cs, rs, drest))
    (z : F) (ξs : List F) (π : KZG.Proof F) (rest : List F)
    (ho : Sonic.open ck [p] z rs ξs = .ok (π, rest)) :
    check vk cs z [evalPoly p.poly z] π ξs = .ok (true, rest) :=
  open_check_complete g γ β bi h D s shb bounds ck vk ht cs [p] rs
    (commit_honest g γ β bi h hb D s shb bounds ck vk ht [p] rng draws cs rs drest hc) z ξs π rest ho

/-- **SonicKZG10, any list of polynomials** (any mix of degree bounds — each bounded polynomial has
ONE commitment under the shifted powers — and hiding bounds): `trim → commit → open → check` accepts
the true values, and the verifier is left with the same unused challenges as the prover. -/
theorem sonic_complete (g γ β bi h : F) (hb : β * bi = 1) (D s shb : Nat)
    (bounds : Option (List Nat)) (ck : CK F) (vk : VK F)
    (ht : trim (wfPP g γ β bi h D) s shb bounds = .ok (ck, vk))
    (ps : List (LPoly F)) (rng : Bool) (draws : List F) (cs : List (LComm F)) (rs : List (List F))
    (drest : List F) (hc : commit ck ps rng draws = .ok (cs, rs, drest))
    (z : F) (ξs : List F) (π : KZG.Proof F) (rest : List F)
    (ho : Sonic.open ck ps z rs ξs = .ok (π, rest)) :
    check vk cs z (ps.map fun p => evalPoly p.poly z) π ξs = .ok (true, rest) :=
  open_check_complete g γ β bi h D s shb bounds ck vk ht cs ps rs
    (commit_honest g γ β bi h hb D s shb bounds ck vk ht ps rng draws cs rs drest hc) z ξs π rest ho

/-- **The prover never refuses what the committer accepted**: `open` answers (no error, no abort)
whenever the sponge supplies its `1 + n` challenges. -/
theorem sonic_open_total (g γ β bi h : F) (hb : β * bi = 1) (D s shb : Nat)
    (bounds : Option (List Nat)) (ck : CK F) (vk : VK F)
    (ht : trim (wfPP g γ β bi h D) s shb bounds = .ok (ck, vk))
    (ps : List (LPoly F)) (rng : Bool) (draws : List F) (cs : List (LComm F)) (rs : List (List F))
    (drest : List F) (hc : commit ck ps rng draws = .ok (cs, rs, drest))
    (z : F) (ξs : List F) (hξ : ps.length < ξs.length) :
    ∃ π rest, Sonic.open ck ps z rs ξs = .ok (π, rest) :=
  open_ok_of_honest g γ β bi h D s shb bounds ck vk ht cs ps rs
    (commit_honest g γ β bi h hb D s shb bounds ck vk ht ps rng draws cs rs drest hc) z ξs hξ

/-- **Batched form.**  Proofs made by the trait-default `batch_open` for any query set (several
polynomials per point label, several labels sharing a point) are accepted by Sonic's `batch_check`
together with the true evaluations, for **every** list `vrs` of verifier randomizers. -/
theorem sonic_batch_complete (g γ β bi h : F) (hb : β * bi = 1) (D s shb : Nat)
    (bounds : Option (List Nat)) (ck : CK F) (vk : VK F)
    (ht : trim (wfPP g γ β bi h D) s shb bounds = .ok (ck, vk))
    (ps : List (LPoly F)) (rng : Bool) (draws : List F) (cs : List (LComm F)) (rs : List (List F))
    (drest : List F) (hc : commit ck ps rng draws = .ok (cs, rs, drest))
    (qs : List (Query F)) (evals : List ((Label × F) × F))
    (hev : ∀ gr ∈ groupQueries qs, ∀ l ∈ gr.2.2, ∀ x,
      lookupLast (fun (x : LPoly F × List F) => x.1.label) l (ps.zip rs) = some x →
      lookupEval evals l gr.2.1 = some (evalPoly x.1.poly gr.2.1))
    (ξs : List F) (πs : List (KZG.Proof F)) (rest : List F)
    (ho : batchOpen ck ps rs qs ξs = .ok (πs, rest)) (vrs : List F) :
    batchCheck vk cs qs evals πs ξs vrs = .ok true := by
  rw [batchCheckT_fst, batchCheckT_complete (ht := ht)
    (hh := commit_honest g γ β bi h hb D s shb bounds ck vk ht ps rng draws cs rs drest hc)
    (hl := commit_labels ck ps rng draws cs rs drest hc) (hev := hev) (ho := ho) (vrs := vrs)]
  rfl

/-- non-vacuity: a concrete transcript over `ZMod 101` (bounded + hiding, unbounded, bounded)
satisfies every hypothesis, and the model verifier accepts it -/
example : (2 : K) * 51 = 1 ∧ trim Ex.pp 3 1 (some [3, 2, 3]) = .ok (Ex.ck, Ex.vk) ∧
    commit Ex.ck Ex.polys true [7, 0, 9, 4] = .ok (Ex.comms, Ex.rands, [4]) ∧
    Sonic.open Ex.ck Ex.polys 5 Ex.rands Ex.xis = .ok (Ex.proof, [23]) :=
  ⟨Ex.inv, Ex.trim_eq, Ex.commit_eq, Ex.open_eq⟩
example : check Ex.vk Ex.comms 5 (Ex.polys.map fun p => evalPoly p.poly 5) Ex.proof Ex.xis
    = .ok (true, [23]) := Ex.check_eq
/-- non-vacuity of the batched form: two point labels, the second polynomial at both -/
example : batchOpen Ex.ck Ex.polys Ex.rands
      [([112, 48], ([97], 5)), ([112, 49], ([97], 5)), ([112, 49], ([98], 9)), ([112, 50], ([98], 9))]
      [11, 13, 17, 19, 23, 29, 31]
    = .ok ([⟨53, some 27⟩, ⟨90, none⟩], [31]) := by decide +kernel
example : batchCheck Ex.vk Ex.comms
      [([112, 48], ([97], 5)), ([112, 49], ([97], 5)), ([112, 49], ([98], 9)), ([112, 50], ([98], 9))]
      [(([112, 48], 5), evalPoly [1, 2, 3] 5), (([112, 49], 5), evalPoly [4, 0, 1] 5),
       (([112, 49], 9), evalPoly [4, 0, 1] 9), (([112, 50], 9), evalPoly [6, 1] 9)]
      [⟨53, some 27⟩, ⟨90, none⟩] [11, 13, 17, 19, 23, 29, 31] [44] = .ok true := by decide +kernel
end PCV.C01
