/-
  Property C02 — evaluation binding: a false claim with an honest proof is never accepted.
-/
import PCV.Proofs.KZG10
import PCV.Proofs.Roots
import PCV.Props.Examples

namespace PCV.C02
open PCV
variable {F : Type} [Field F] [DecidableEq F]

/-- **KZG10, exact acceptance condition.** For an honest commitment `c = g·p(β)+γ·r(β)` and the
honest proof `π` for `(p, r, z)`, the verifier accepts the statement
`(c + dc, z + dz, p(z) + dv)` iff `h·(dc − dv·g + W·dz) = 0` (`W` the witness scalar). -/
theorem kzg10_check_iff (g γ β h : F) (n m : Nat) (p r : List F) (z : F) (π : KZG.Proof F)
    (hr : (pnorm r).length ≤ m)
    (ho : KZG.open (KZG.wfPowers g γ β n m) p z r = .ok π) (dc dz dv : F) :
    KZG.check (KZG.wfVK g γ β h) (g * evalPoly p β + γ * evalPoly r β + dc) (z + dz)
        (evalPoly p z + dv) π = true
      ↔ h * (dc - dv * g + π.w * dz) = 0 := by
  rw [KZG.check_iff_defect, KZG.honest_defect g γ β h n m p r z π hr ho]

/-- **KZG10, wrong value.** Any claimed value other than `p(z)` is rejected (given `g, h ≠ 0`). -/
theorem kzg10_wrong_value_rejected (g γ β h : F) (n m : Nat) (p r : List F) (z : F)
    (π : KZG.Proof F) (hr : (pnorm r).length ≤ m)
    (ho : KZG.open (KZG.wfPowers g γ β n m) p z r = .ok π) (dv : F)
    (hdv : dv ≠ 0) (hg : g ≠ 0) (hh : h ≠ 0) :
    KZG.check (KZG.wfVK g γ β h) (g * evalPoly p β + γ * evalPoly r β) z (evalPoly p z + dv) π
      = false :=
  KZG.rejected_of_moved (KZG.open_check_complete g γ β h n m p r z π hr ho) (KZG.defect_add_value ..)
    (mul_ne_zero (neg_ne_zero.2 (mul_ne_zero hdv hg)) hh)

/-- **KZG10, wrong point.** The proof for `z` is rejected at `z + dz` (same value, same
commitment) unless `dz = 0` or the witness commitment is the identity. -/
theorem kzg10_wrong_point_rejected (g γ β h : F) (n m : Nat) (p r : List F) (z : F)
    (π : KZG.Proof F) (hr : (pnorm r).length ≤ m)
    (ho : KZG.open (KZG.wfPowers g γ β n m) p z r = .ok π) (dz : F)
    (hdz : dz ≠ 0) (hw : π.w ≠ 0) (hh : h ≠ 0) :
    KZG.check (KZG.wfVK g γ β h) (g * evalPoly p β + γ * evalPoly r β) (z + dz) (evalPoly p z) π
      = false :=
  KZG.rejected_of_moved (KZG.open_check_complete g γ β h n m p r z π hr ho) (KZG.defect_add_point ..)
    (mul_ne_zero (mul_ne_zero hw hdz) hh)

/-- **KZG10, wrong point: the exceptional trapdoors are few.** For a non-hiding opening of `p` at
`z` whose quotient is not identically zero (i.e. `p` is not constant), there is a set `S` of at most
`|p| − 1` field elements such that for *every* trapdoor `β ∉ S` the proof is rejected at every
other point — the degenerate case "the witness vanishes" is confined to the roots of the quotient. -/
theorem kzg10_wrong_point_exceptional_set (p : List F) (z : F)
    (hnc : ∃ x, evalPoly (divLin p z).1 x ≠ 0) :
    ∃ S : Finset F, S.card ≤ p.length - 1 ∧
      ∀ (g γ β h : F) (n m : Nat) (π : KZG.Proof F) (dz : F), β ∉ S → g ≠ 0 → h ≠ 0 → dz ≠ 0 →
        KZG.open (KZG.wfPowers g γ β n m) p z [] = .ok π →
        KZG.check (KZG.wfVK g γ β h) (g * evalPoly p β + γ * evalPoly [] β) (z + dz)
          (evalPoly p z) π = false := by
  obtain ⟨S, hcard, hS⟩ := Roots.zeros_bounded (divLin p z).1 hnc
  rw [divLin_len] at hcard
  refine ⟨S, hcard, fun g γ β h n m π dz hβ hg hh hdz ho => ?_⟩
  have hr : (pnorm ([] : List F)).length ≤ m := Nat.zero_le m
  refine kzg10_wrong_point_rejected g γ β h n m p [] z π hr ho dz hdz ?_ hh
  rw [(KZG.open_spec g γ β n m p [] z π hr ho).1]
  show g * _ + γ * 0 ≠ 0
  rw [mul_zero, add_zero]
  exact mul_ne_zero hg fun h0 => hβ (hS β h0)

/-- **KZG10, wrong commitment.** Any other commitment `c + dc`, `dc ≠ 0`, is rejected. In
particular a commitment to `q` with `q(β) ≠ p(β)`. -/
theorem kzg10_wrong_commitment_rejected (g γ β h : F) (n m : Nat) (p r : List F) (z : F)
    (π : KZG.Proof F) (hr : (pnorm r).length ≤ m)
    (ho : KZG.open (KZG.wfPowers g γ β n m) p z r = .ok π) (dc : F)
    (hdc : dc ≠ 0) (hh : h ≠ 0) :
    KZG.check (KZG.wfVK g γ β h) (g * evalPoly p β + γ * evalPoly r β + dc) z (evalPoly p z) π
      = false :=
  KZG.rejected_of_moved (KZG.open_check_complete g γ β h n m p r z π hr ho) (KZG.defect_add_comm ..)
    (mul_ne_zero hdc hh)

/-- **KZG10 batch, one false claim.** If exactly one position of a batch has a non-zero defect and
its randomizer is non-zero, `batch_check` rejects. -/
theorem kzg10_batch_single_false_rejected (vk : KZG.VK F) (cs zs vs : List F)
    (πs : List (KZG.Proof F)) (rs : List F) (j : Nat)
    (hj : j < (KZG.defects vk cs zs vs πs).length)
    (hz : ∀ i (hi : i < (KZG.defects vk cs zs vs πs).length), i ≠ j →
      (KZG.defects vk cs zs vs πs)[i] = 0)
    (hne : (KZG.defects vk cs zs vs πs)[j] ≠ 0)
    (hr : ((1 : F) :: rs).getD j 0 ≠ 0) :
    KZG.batchCheck vk cs zs vs πs rs ≠ .ok true :=
  fun hc => KZG.wsum_single 1 rs _ j hj hz hne hr (KZG.batchCheck_true hc)

/-- non-vacuity: the honest transcript of C01's example, with value + 1, is rejected in the model -/
example : KZG.check (KZG.wfVK (3 : K) 5 2 1) 64 5 (evalPoly [1, 2, 3] 5 + 1) ⟨81, some 30⟩ = false := by
  decide +kernel
example : KZG.open (KZG.wfPowers (3 : K) 5 2 3 4) [1, 2, 3] 5 [7, 0, 9] = .ok ⟨81, some 30⟩ ∧
    (pnorm ([7, 0, 9] : List K)).length ≤ 4 ∧ (81 : K) ≠ 0 := by decide +kernel

end PCV.C02
