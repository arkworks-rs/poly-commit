/-
  Property C02 (a false claim with an honest proof is never accepted) — what the trait-default
  `batch_check` / `check_combinations` of `poly-commit/src/lib.rs` add to the scheme's own `check`:
  every claim of the batch reaches that `check` at its own position, so the binding of `check` is the
  binding of the batch; and the equation stage of `check_combinations` rejects every wrong claimed value.
  Only property theorems live here; lemmas are in PCV/Proofs/TraitDefault*.lean.
-/
import PCV.Proofs.TraitDefaultLC
import PCV.Proofs.TraitDefaultToy

namespace PCV.C02
open PCV TraitDefault
variable {Pt : Type} [DecidableEq Pt] {C V PF σ : Type}

/-- **Binding at every position of a default batch.** Let `trueVal c z` be the value the scheme's `check`
is bound to for commitment `c` at `z`: it accepts only value lists that are the true ones
(`hbind` — the scheme's own C02 statement).  If the default `batch_check` accepts, then for every
point-label group and every polynomial label queried in it there is a commitment under that label and
the claimed evaluation at the group's point IS the true value.  Contrapositive: one changed value, at
whatever position of whatever group, and the batch is not accepted. -/
theorem default_batch_binding (ltP : Pt → Pt → Bool) (lblC : C → Label)
    (checkF : List C → Pt → List V → PF → σ → Except Err (Bool × σ)) (trueVal : C → Pt → V)
    (hbind : ∀ cs z vs π s s', checkF cs z vs π s = .ok (true, s') → vs = cs.map (trueVal · z))
    (comms : List C) (qs : List (Query Pt)) (evals : List ((Label × Pt) × V)) (πs : List PF) (s s' : σ)
    (hacc : batchCheck ltP lblC checkF comms qs evals πs s = .ok (true, s')) :
    ∀ g ∈ groups (querySet ltP qs), ∀ l ∈ g.2.2, ∃ c, Marlin.lookupLast lblC l comms = some c ∧
      QS.lastWith (l, g.2.1) evals = some (trueVal c g.2.1) := by
  obtain ⟨_, bs, hch, hr⟩ := batchCheckSet_ok_iff.1 hacc
  have hall := List.all_eq_true.1 hr.symm
  intro g hg
  obtain ⟨cs, vs, π, s1, s2, hgc, hck⟩ := chain_all_true_groups hch hall g hg
  exact gatherCheck_forall (f := (trueVal · g.2.1)) hgc (hbind cs g.2.1 vs π s1 s2 hck)

/-- **A false claim in a default batch is not accepted**, the scheme's `check` being binding: if the
claimed evaluation of a queried label at its group's point is not the true value of the commitment
listed (last) under that label, `batch_check` does not return success — it answers `false` or refuses. -/
theorem default_batch_false_claim_not_accepted (ltP : Pt → Pt → Bool) (lblC : C → Label)
    (checkF : List C → Pt → List V → PF → σ → Except Err (Bool × σ)) (trueVal : C → Pt → V)
    (hbind : ∀ cs z vs π s s', checkF cs z vs π s = .ok (true, s') → vs = cs.map (trueVal · z))
    (comms : List C) (qs : List (Query Pt)) (evals : List ((Label × Pt) × V)) (πs : List PF) (s : σ)
    (g : TraitDefault.Group Pt) (hg : g ∈ groups (querySet ltP qs)) (l : Label) (hl : l ∈ g.2.2) (c : C)
    (hc : Marlin.lookupLast lblC l comms = some c)
    (hfalse : QS.lastWith (l, g.2.1) evals ≠ some (trueVal c g.2.1)) (s' : σ) :
    batchCheck ltP lblC checkF comms qs evals πs s ≠ .ok (true, s') := by
  intro hacc
  obtain ⟨c', hc', hv⟩ :=
    default_batch_binding ltP lblC checkF trueVal hbind comms qs evals πs s s' hacc g hg l hl
  cases hc.symm.trans hc'
  exact hfalse hv

variable {F : Type} [Field F] [DecidableEq F]

/-- **A wrong claimed value of an equation is not accepted** by the default `check_combinations`,
at every position of the equation query set (also when one equation is queried at several points, and
when several point labels share a point): if the claimed value of a queried equation differs from
`Σ coeff·eval + constants` over the transmitted evaluations, the method does not return success,
whatever the inner proofs are. -/
theorem default_lc_false_claim_not_accepted (ltP : Pt → Pt → Bool) (lblC : C → Label)
    (checkF : List C → Pt → List F → PF → σ → Except Err (Bool × σ))
    (lcs : List (LC.LinComb F)) (comms : List C) (qs : List (Query Pt))
    (ee : List ((Label × Pt) × F)) (πs : List PF) (evs : List F) (s s' : σ)
    (q : Query Pt) (hq : q ∈ qs) (lc : LC.LinComb F) (hlc : lcGet lcs q.1 = some lc)
    (hwrong : QS.lastWith (q.1, q.2.2) ee ≠
      some (LC.termsValue (assign (polyEvals ltP (verifierPolyQuerySet ltP lcs qs) evs) q.2.2) lc.terms)) :
    checkCombinations ltP lblC checkF lcs comms qs ee πs (some evs) s ≠ .ok (true, s') :=
  fun hacc => hwrong (claim_of_accepts hacc hq hlc)

/-! non-vacuity over `ZMod 101` (`PCV.TraitDefault.Toy`, whose `check` is binding to `a·z`): the honest
batch is accepted, a changed value at the first group is not; the honest combination proof is accepted,
the value of `e` at the second of its two points changed is not -/
example : ∀ cs z vs π s s', Toy.checkF cs z vs π s = .ok (true, s') → vs = cs.map (Toy.evalP · z) := by
  intro cs z vs π s s' h
  simp only [Toy.checkF, Except.ok.injEq, Prod.mk.injEq, Bool.and_eq_true, decide_eq_true_eq] at h
  exact h.1.1
example : batchCheck Toy.ltK Toy.lbl Toy.checkF Toy.polys Toy.qs Toy.evals [0, 1, 2] 0 = .ok (true, 3) := by
  decide +kernel
example : batchCheck Toy.ltK Toy.lbl Toy.checkF Toy.polys Toy.qs
    [(([97], 4), 9), (([98], 4), 12), (([99], 4), 20), (([98], 7), 21)] [0, 1, 2] 0 = .ok (false, 3) := by
  decide +kernel
example : checkCombinations Toy.ltK Toy.lbl Toy.checkF Toy.lcs Toy.polys Toy.eqs Toy.eqEvals [0, 1]
    (some [8, 14, 12, 21, 20]) 0 = .ok (true, 2) := by decide +kernel
example : checkCombinations Toy.ltK Toy.lbl Toy.checkF Toy.lcs Toy.polys Toy.eqs
    [(([101], 4), 9), (([101], 7), 13), (([102], 4), 8)] [0, 1] (some [8, 14, 12, 21, 20]) 0 = .ok (false, 0) := by
  decide +kernel

end PCV.C02
