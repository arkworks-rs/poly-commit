/-
  Property C02 (evaluation binding, honest proof) — Hyrax.
  `T` = row commitments, `L`/`R` = the tensors of the point, `c` = the sponge challenge.
-/
import PCV.Proofs.Hyrax
import PCV.Props.Examples

namespace PCV.C02
open PCV
variable {F : Type} [Field F] [DecidableEq F]

/-- **Hyrax, exact acceptance condition.** Let `(T, st)` be the commitment of `p` and `π` the honest
proof at `point` made with challenge `ch`. Present `π` for ANY statement: row commitments `T'`
(of the right length), point `point'` (same number of variables), value `v'`, and let the
verifier's sponge give the challenge `c'` (it differs from `ch` as soon as the absorbed statement
differs). `check` accepts iff
* `com_key[0]·(v' − p̃(point)) = 0`   (the evaluation commitment, after the D1 repair),
* `com_key[0]·(⟨R',z⟩ − ⟨R,z⟩) = com_eval·(c' − ch)`   (equation 14),
* `⟨T',L'⟩·c' = ⟨T,L⟩·ch`   (equation 13). -/
theorem hyrax_check_iff (ks : List F) (hh k0 : F) (p : Hyrax.MLPoly F) (ρs T : List F)
    (st : Hyrax.State F) (point : List F) (rEval : F) (d : List F) (rD rB ch : F)
    (π : Hyrax.Proof F) (hn : point.length % 2 = 0) (hk : Hyrax.key0 ks = some k0)
    (hc : Hyrax.commitOne ks hh p ρs = .ok (T, st))
    (ho : Hyrax.openOne ks hh (Hyrax.tensorL point) (Hyrax.tensorR point) st rEval d rD rB ch = .ok π)
    (T' point' : List F) (v' c' : F) (hT : T'.length = 2 ^ (point.length / 2))
    (hp : point'.length = point.length) :
    Hyrax.check ks hh [T'] point' [v'] [π] [c'] = .ok true
      ↔ k0 * (v' - Hyrax.mleEval p.evals point) = 0 ∧
        k0 * (dot (Hyrax.tensorR point') π.z - dot (Hyrax.tensorR point) π.z) = π.comEval * (c' - ch) ∧
        dot T' (Hyrax.tensorL point') * c' = dot T (Hyrax.tensorL point) * ch := by
  obtain ⟨_, hz, e1, e2, e3⟩ := (Hyrax.itemOK_iff_of_key hk).1 (Hyrax.honest_item_ok hn hc ho).1
  rw [Hyrax.check_single_iff, Hyrax.itemOK_iff_of_key hk, hp]
  -- each defect of the presented statement is the (vanishing) honest one moved by the stated difference
  have d1 : Hyrax.defectEval k0 hh v' π = Hyrax.defectEval k0 hh (Hyrax.mleEval p.evals point) π
      - k0 * (v' - Hyrax.mleEval p.evals point) := by
    simp only [Hyrax.defectEval]; ring
  have d2 : Hyrax.defect14 k0 hh (Hyrax.tensorR point') π c' = Hyrax.defect14 k0 hh (Hyrax.tensorR point) π ch
      + (k0 * (dot (Hyrax.tensorR point') π.z - dot (Hyrax.tensorR point) π.z) - π.comEval * (c' - ch)) := by
    simp only [Hyrax.defect14, Hyrax.innerProduct]; ring
  have d3 : Hyrax.defect13 ks hh (Hyrax.tensorL point') T' π c' = Hyrax.defect13 ks hh (Hyrax.tensorL point) T π ch
      - (dot T' (Hyrax.tensorL point') * c' - dot T (Hyrax.tensorL point) * ch) := by
    simp only [Hyrax.defect13]; ring
  rw [d1, d2, d3, e1, e2, e3, zero_sub, zero_add, zero_sub, neg_eq_zero, neg_eq_zero, sub_eq_zero,
    sub_eq_zero]
  exact ⟨fun ⟨_, _, _, f⟩ => f, fun g => ⟨hn, hT, hz, g⟩⟩

/-- **Hyrax, wrong value.** With the honest proof and the honest statement otherwise, the value
`p̃(point) + δ` is rejected (`Ok(false)`) whenever `δ ≠ 0` and `com_key[0]` is not the identity. -/
theorem hyrax_wrong_value_rejected (ks : List F) (hh k0 : F) (p : Hyrax.MLPoly F) (ρs T : List F)
    (st : Hyrax.State F) (point : List F) (rEval : F) (d : List F) (rD rB ch : F)
    (π : Hyrax.Proof F) (hn : point.length % 2 = 0) (hk : Hyrax.key0 ks = some k0)
    (hc : Hyrax.commitOne ks hh p ρs = .ok (T, st))
    (ho : Hyrax.openOne ks hh (Hyrax.tensorL point) (Hyrax.tensorR point) st rEval d rD rB ch = .ok π)
    (δ : F) (hδ : δ ≠ 0) (h0 : k0 ≠ 0) :
    Hyrax.check ks hh [T] point [Hyrax.mleEval p.evals point + δ] [π] [ch] = .ok false := by
  obtain ⟨_, _, e1, _, _⟩ := (Hyrax.itemOK_iff_of_key hk).1 (Hyrax.honest_item_ok hn hc ho).1
  -- the defect of the shifted value differs from the vanishing honest one only in `com_key[0]·δ`
  have hne : Hyrax.defectEval k0 hh (Hyrax.mleEval p.evals point + δ) π ≠ 0 := fun h =>
    hδ (left_eq_add.1 (mul_left_cancel₀ h0 (add_right_cancel (sub_right_inj.1 (e1.trans h.symm)))))
  rw [Hyrax.check_single hn, Hyrax.preCheck_of_key hk, if_pos hne]

/-- **Hyrax, wrong point: exact defect.** The honest proof for `point`, presented for `point'`
with the same commitment and the same value, is accepted iff
`com_key[0]·⟨R' − R, z⟩ = com_eval·(c' − ch)` and `⟨T,L'⟩·c' = ⟨T,L⟩·ch`. -/
theorem hyrax_wrong_point_iff (ks : List F) (hh k0 : F) (p : Hyrax.MLPoly F) (ρs T : List F)
    (st : Hyrax.State F) (point : List F) (rEval : F) (d : List F) (rD rB ch : F)
    (π : Hyrax.Proof F) (hn : point.length % 2 = 0) (hk : Hyrax.key0 ks = some k0)
    (hc : Hyrax.commitOne ks hh p ρs = .ok (T, st))
    (ho : Hyrax.openOne ks hh (Hyrax.tensorL point) (Hyrax.tensorR point) st rEval d rD rB ch = .ok π)
    (point' : List F) (c' : F) (hp : point'.length = point.length) :
    Hyrax.check ks hh [T] point' [Hyrax.mleEval p.evals point] [π] [c'] = .ok true
      ↔ k0 * (dot (Hyrax.tensorR point') π.z - dot (Hyrax.tensorR point) π.z) = π.comEval * (c' - ch) ∧
        dot T (Hyrax.tensorL point') * c' = dot T (Hyrax.tensorL point) * ch := by
  have hT := (Hyrax.honest_item_ok hn hc ho).2.1
  rw [hyrax_check_iff ks hh k0 p ρs T st point rEval d rD rB ch π hn hk hc ho T point' _ c' hT hp,
    sub_self, mul_zero]
  exact ⟨fun h => h.2, fun h => ⟨rfl, h⟩⟩

/-- **Hyrax, wrong commitment.** The honest proof presented with other row commitments `T'`
(e.g. the commitment of another polynomial) is accepted iff `⟨T',L⟩·c' = ⟨T,L⟩·ch`; with the same
challenge and `ch ≠ 0`: iff `⟨T' − T, L⟩ = 0`, a linear condition on the replaced commitments. -/
theorem hyrax_wrong_commitment_iff (ks : List F) (hh k0 : F) (p : Hyrax.MLPoly F) (ρs T : List F)
    (st : Hyrax.State F) (point : List F) (rEval : F) (d : List F) (rD rB ch : F)
    (π : Hyrax.Proof F) (hn : point.length % 2 = 0) (hk : Hyrax.key0 ks = some k0)
    (hc : Hyrax.commitOne ks hh p ρs = .ok (T, st))
    (ho : Hyrax.openOne ks hh (Hyrax.tensorL point) (Hyrax.tensorR point) st rEval d rD rB ch = .ok π)
    (T' : List F) (hT : T'.length = 2 ^ (point.length / 2)) (c' : F) (hcc : π.comEval * (c' - ch) = 0) :
    Hyrax.check ks hh [T'] point [Hyrax.mleEval p.evals point] [π] [c'] = .ok true
      ↔ dot T' (Hyrax.tensorL point) * c' = dot T (Hyrax.tensorL point) * ch := by
  rw [hyrax_check_iff ks hh k0 p ρs T st point rEval d rD rB ch π hn hk hc ho T' point _ c' hT rfl,
    sub_self, sub_self, mul_zero, hcc]
  exact ⟨fun h => h.2.2, fun h => ⟨rfl, rfl, h⟩⟩

/-- **Hyrax, every position of a multi-polynomial statement.** With a fixed list of proofs (in
particular the honest one) at most one vector of values is accepted: changing the claimed value
at ANY position of an accepted statement makes `check` not accept. -/
theorem hyrax_values_unique (ks : List F) (hh k0 : F) (hk : Hyrax.key0 ks = some k0) (h0 : k0 ≠ 0)
    (coms : List (List F)) (point vs vs' : List F) (πs : List (Hyrax.Proof F)) (cs : List F)
    (h1 : Hyrax.check ks hh coms point vs πs cs = .ok true)
    (h2 : Hyrax.check ks hh coms point vs' πs cs = .ok true) : vs = vs' := by
  obtain ⟨hn, a1, a2, -⟩ := Hyrax.check_shapes h1
  obtain ⟨-, -, b2, -⟩ := Hyrax.check_shapes h2
  rw [Hyrax.check_eq_loop hn a1 a2] at h1
  rw [Hyrax.check_eq_loop hn a1 b2] at h2
  induction πs generalizing coms vs vs' cs with
  | nil => rw [List.length_eq_zero_iff.1 a2, List.length_eq_zero_iff.1 b2]
  | cons π πs ih =>
    cases coms with
    | nil => cases a1
    | cons com coms =>
    cases vs with
    | nil => cases a2
    | cons v vs =>
    cases vs' with
    | nil => cases b2
    | cons v' vs' =>
    cases cs with
    | nil => exact absurd h1 Hyrax.checkLoop_cons_nil
    | cons c cs =>
      rw [Hyrax.checkLoop_cons_iff, Hyrax.itemOK_iff_of_key hk] at h1 h2
      obtain ⟨⟨_, _, e1, _, _⟩, h1⟩ := h1
      obtain ⟨⟨_, _, e2, _, _⟩, h2⟩ := h2
      -- the two evaluation-commitment defects differ only in `com_key[0]·v`
      rw [mul_left_cancel₀ h0 (add_right_cancel (sub_right_inj.1 (e1.trans e2.symm))),
        ih coms vs vs' cs h1 h2 (Nat.succ.inj a1) (Nat.succ.inj a2) (Nat.succ.inj b2)]

/-! non-vacuity (over `ZMod 101`): the honest transcript of C01's example, first polynomial -/

example : Hyrax.commitOne ([3, 5] : List K) 7 ⟨2, [1, 2, 3, 4]⟩ [10, 20]
    = .ok ([88, 65], ⟨[10, 20], ⟨2, 2, [[1, 3], [2, 4]]⟩⟩) := by decide +kernel
example : Hyrax.openOne ([3, 5] : List K) 7 (Hyrax.tensorL [6, 17]) (Hyrax.tensorR [6, 17])
    ⟨[10, 20], ⟨2, 2, [[1, 3], [2, 4]]⟩⟩ 1 [2, 3] 4 5 11 = .ok ⟨29, 49, 92, [79, 1], 67, 16, 1⟩ := by
  decide +kernel
example : Hyrax.check ([3, 5] : List K) 7 [[88, 65]] [6, 17] [Hyrax.mleEval [1, 2, 3, 4] [6, 17] + 1]
    [⟨29, 49, 92, [79, 1], 67, 16, 1⟩] [11] = .ok false := by decide +kernel
example : Hyrax.check ([3, 5] : List K) 7 [[88, 65]] [6, 18] [Hyrax.mleEval [1, 2, 3, 4] [6, 17]]
    [⟨29, 49, 92, [79, 1], 67, 16, 1⟩] [11] = .ok false := by decide +kernel
example : Hyrax.check ([3, 5] : List K) 7 [[88, 65]] [6, 17] [Hyrax.mleEval [1, 2, 3, 4] [6, 17]]
    [⟨29, 49, 92, [79, 1], 67, 16, 1⟩] [11] = .ok true ∧ Hyrax.key0 ([3, 5] : List K) = some 3 ∧
    (3 : K) ≠ 0 := by decide +kernel

end PCV.C02
