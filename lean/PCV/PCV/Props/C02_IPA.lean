/-
  Property C02 — evaluation binding with an honest proof, inner-product-argument scheme.
  The random-oracle outputs (`ξ₀`, the round challenges, the hiding challenge) and the sponge
  challenges are explicit inputs of the model; the theorems below hold for every value of them,
  in particular for the ones re-derived from the changed statement.
-/
import PCV.Proofs.IPAVerify
import PCV.Props.Examples

namespace PCV.C02
open PCV
variable {F : Type} [Field F] [DecidableEq F]

/-- **IPA, exact acceptance condition.** `check` answers `Ok(true)` iff the proof has one
`(L, R)` pair per halving round, `succinct_check` runs through (no assertion fires, no challenge is
zero) and both defects vanish:
`defect1 = Ĉ + v̂·h′ + Σ(u⁻¹L + uR) − (c·K + c·h_u(z)·h′)` and `defect2 = ⟨coeffs(h_u), G⟩ − K`. -/
theorem ipa_check_iff (vk : IPA.VK F) (cs : List (IPA.LComm F)) (z : F) (vs : List F)
    (π : IPA.Proof F) (ξs ros : List F) :
    IPA.check vk cs z vs π ξs ros = .ok true ↔
      IPA.badShape vk π = false ∧
      ∃ r ξr ror, IPA.succinctRun vk cs z vs π ξs ros = .ok (r, ξr, ror) ∧
        IPA.defect1 vk z π r = 0 ∧ IPA.defect2 vk π r.us = 0 :=
  IPA.check_iff vk cs z vs π ξs ros

/-- **IPA, value errors.** With the oracle outputs held fixed, changing the claimed values by the
error vector `ds` changes `defect1` by exactly `h′·Σⱼ (ξⱼ + ξ′ⱼ·z^{s−dⱼ})·δⱼ` (`h′ = ξ₀·h`) and nothing
else: the decision becomes `defect1 + h′·valueErr = 0 ∧ defect2 = 0`. -/
theorem ipa_value_error (vk : IPA.VK F) (cs : List (IPA.LComm F)) (z : F) (vs ds : List F)
    (π : IPA.Proof F) (cur : F) (ξs ros : List F) (r : IPA.Run F) (ξr ror : List F)
    (hb : IPA.badShape vk π = false) (hl : ds.length = vs.length)
    (hr : IPA.succinctRun vk cs z vs π (cur :: ξs) ros = .ok (r, ξr, ror)) :
    IPA.check vk cs z (IPA.addVec vs ds) π (cur :: ξs) ros
      = .ok (decide (IPA.defect1 vk z π r + vk.h * r.ξ₀ * IPA.valueErr vk z cs ds cur ξs = 0)
             && decide (IPA.defect2 vk π r.us = 0)) := by
  rw [IPA.check_of_run π hb (IPA.succinctRun_value hr hl), IPA.defect1_value]

/-- **IPA, wrong values are rejected.** From an accepted transcript, any change of the claimed
values whose combined error `ξ₀·h·Σ(ξⱼ + ξ′ⱼz^{s−dⱼ})δⱼ` is non-zero is answered `Ok(false)`. -/
theorem ipa_wrong_values_rejected (vk : IPA.VK F) (cs : List (IPA.LComm F)) (z : F)
    (vs ds : List F) (π : IPA.Proof F) (cur : F) (ξs ros : List F) (r : IPA.Run F) (ξr ror : List F)
    (hacc : IPA.check vk cs z vs π (cur :: ξs) ros = .ok true)
    (hr : IPA.succinctRun vk cs z vs π (cur :: ξs) ros = .ok (r, ξr, ror))
    (hl : ds.length = vs.length)
    (hne : vk.h * r.ξ₀ * IPA.valueErr vk z cs ds cur ξs ≠ 0) :
    IPA.check vk cs z (IPA.addVec vs ds) π (cur :: ξs) ros = .ok false := by
  obtain ⟨hb, h1, _⟩ := IPA.check_accept_run hacc hr
  rw [ipa_value_error vk cs z vs ds π cur ξs ros r ξr ror hb hl hr, h1, zero_add,
    decide_eq_false hne, Bool.false_and]

/-- **IPA, one polynomial, wrong value.** For a single commitment without degree bound the
combined value error of `v + δ` is `ξ·δ·h′` with `h′ = ξ₀·h`: rejected whenever `δ`, the sponge
challenge `ξ`, the round seed `ξ₀` and the generator `h` are non-zero. -/
theorem ipa_wrong_value_rejected (vk : IPA.VK F) (c : IPA.LComm F) (z v δ : F) (π : IPA.Proof F)
    (ξ ξ' ξ'' : F) (ξs ros : List F) (r : IPA.Run F) (ξr ror : List F)
    (hbound : c.bound = none)
    (hacc : IPA.check vk [c] z [v] π (ξ :: ξ' :: ξ'' :: ξs) ros = .ok true)
    (hr : IPA.succinctRun vk [c] z [v] π (ξ :: ξ' :: ξ'' :: ξs) ros = .ok (r, ξr, ror))
    (hδ : δ ≠ 0) (hξ : ξ ≠ 0) (hξ₀ : r.ξ₀ ≠ 0) (hh : vk.h ≠ 0) :
    IPA.check vk [c] z [v + δ] π (ξ :: ξ' :: ξ'' :: ξs) ros = .ok false := by
  have := ipa_wrong_values_rejected vk [c] z [v] [δ] π ξ (ξ' :: ξ'' :: ξs) ros r ξr ror hacc hr rfl
    (by
      simp only [IPA.valueErr, IPA.stepErr, hbound, add_zero]
      exact mul_ne_zero (mul_ne_zero hh hξ₀) (mul_ne_zero hξ hδ))
  simpa [IPA.addVec] using this

/-- **IPA, one polynomial with degree bound `d`, wrong value.** The weight of the value is
`ξ + ξ′·z^{s−d}`. -/
theorem ipa_wrong_value_rejected_bounded (vk : IPA.VK F) (c : IPA.LComm F) (d : Nat) (z v δ : F)
    (π : IPA.Proof F) (ξ ξ' ξ'' : F) (ξs ros : List F) (r : IPA.Run F) (ξr ror : List F)
    (hbound : c.bound = some d)
    (hacc : IPA.check vk [c] z [v] π (ξ :: ξ' :: ξ'' :: ξs) ros = .ok true)
    (hr : IPA.succinctRun vk [c] z [v] π (ξ :: ξ' :: ξ'' :: ξs) ros = .ok (r, ξr, ror))
    (hδ : δ ≠ 0) (hκ : ξ + ξ' * fpow z (IPA.supportedDegree vk - d) ≠ 0) (hξ₀ : r.ξ₀ ≠ 0)
    (hh : vk.h ≠ 0) :
    IPA.check vk [c] z [v + δ] π (ξ :: ξ' :: ξ'' :: ξs) ros = .ok false := by
  have := ipa_wrong_values_rejected vk [c] z [v] [δ] π ξ (ξ' :: ξ'' :: ξs) ros r ξr ror hacc hr rfl
    (by
      simp only [IPA.valueErr, IPA.stepErr, hbound, add_zero]
      have e : ξ * δ + ξ' * δ * fpow z (IPA.supportedDegree vk - d)
          = (ξ + ξ' * fpow z (IPA.supportedDegree vk - d)) * δ := by ring
      rw [e]
      exact mul_ne_zero (mul_ne_zero hh hξ₀) (mul_ne_zero hκ hδ))
  simpa [IPA.addVec] using this

/-- **IPA, wrong commitment.** Replacing the commitment of a single unbounded polynomial by
`C + dc` changes `defect1` by `ξ·dc` (oracle outputs held fixed): rejected when `ξ, dc ≠ 0`. -/
theorem ipa_wrong_commitment_rejected (vk : IPA.VK F) (c : IPA.LComm F) (z v dc : F)
    (π : IPA.Proof F) (ξ ξ' ξ'' : F) (ξs ros : List F)
    (hbound : c.bound = none) (hsh : c.comm.shifted = none)
    (hacc : IPA.check vk [c] z [v] π (ξ :: ξ' :: ξ'' :: ξs) ros = .ok true)
    (hdc : dc ≠ 0) (hξ : ξ ≠ 0) :
    IPA.check vk [⟨c.label, ⟨c.comm.comm + dc, none⟩, none⟩] z [v] π (ξ :: ξ' :: ξ'' :: ξs) ros
      = .ok false := by
  obtain ⟨hb, r, ξr, ror, hr, h1, h2⟩ := (IPA.check_iff vk [c] z [v] π _ ros).1 hacc
  rw [IPA.check_congr hb (IPA.accLoop_single_none vk z c v ξ ξ' ξ'' ξs hbound hsh)
    (IPA.accLoop_single_none vk z ⟨c.label, ⟨c.comm.comm + dc, none⟩, none⟩ v ξ ξ' ξ'' ξs rfl rfl) hr, h1,
    sub_self, mul_zero, add_zero, zero_add, add_mul, add_sub_cancel_left,
    decide_eq_false (mul_ne_zero hdc hξ), Bool.false_and]

/-! non-vacuity over `ZMod 101` (2-element key, `p = 4 + 9X`, point 6): the honest transcript is
accepted, its run has `ξ₀ = 8 ≠ 0`, and the claim `p(6) + 1` is rejected in the model -/
example : IPA.check (⟨[3, 5], 13, 17, 3⟩ : IPA.CK K) [⟨[1], ⟨57, none⟩, none⟩] 6 [58]
    ⟨[7], [83], 48, 10, none, none⟩ [2, 3, 4] [8, 9] = .ok true := by decide +kernel
example : IPA.succinctRun (⟨[3, 5], 13, 17, 3⟩ : IPA.CK K) [⟨[1], ⟨57, none⟩, none⟩] 6 [58]
    ⟨[7], [83], 48, 10, none, none⟩ [2, 3, 4] [8, 9] = .ok (⟨13, 15, 8, [9], 52⟩, [], []) := by
  decide +kernel
example : IPA.check (⟨[3, 5], 13, 17, 3⟩ : IPA.CK K) [⟨[1], ⟨57, none⟩, none⟩] 6 [58 + 1]
    ⟨[7], [83], 48, 10, none, none⟩ [2, 3, 4] [8, 9] = .ok false := by decide +kernel
example : IPA.check (⟨[3, 5], 13, 17, 3⟩ : IPA.CK K) [⟨[1], ⟨57 + 1, none⟩, none⟩] 6 [58]
    ⟨[7], [83], 48, 10, none, none⟩ [2, 3, 4] [8, 9] = .ok false := by decide +kernel

end PCV.C02
