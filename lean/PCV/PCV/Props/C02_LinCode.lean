/-
  Property C02 (evaluation binding, honest proof) — linear-code PCS.  The value test of
  `LinearCodePCS::check` is the direct comparison `⟨v, a⟩ = value`, so a wrong value is answered
  `Ok(false)` unconditionally; a wrong point is accepted exactly when the two `b` vectors agree on
  every opened column.
-/
import PCV.Proofs.LinCodeProto
import PCV.Proofs.LinCodeToy

namespace PCV.C02
open PCV PCV.LinCode PCV.Merkle
variable {F : Type} [Field F] [DecidableEq F] {D : Type} [DecidableEq D]

/-- **Wrong value ⇒ `Ok(false)`.**  If `check` accepts `value` for a proof (honest or not), it
answers `Ok(false)` for every other value with the same proof, commitment, point and transcript. -/
theorem lincode_wrong_value_rejected (pp : Params F D) (point : Point F) (c : Comm D)
    (value value' : F) (π : Proof F D) (o : Oracle F)
    (h : checkOne pp point c value π o = .ok true) (hne : value' ≠ value) :
    checkOne pp point c value' π o = .ok false := by
  rw [checkOne_value h, decide_eq_false hne]

/-- the same for the honest proof of `lincode_complete_one`: `p(z) + δ`, `δ ≠ 0`, is answered
`Ok(false)` (`ha`, `hb`: the point has the right number of coordinates, as in
`lincode_complete_one` — since fix D23 `check` refuses otherwise, it does not answer `Ok(false)`) -/
theorem lincode_honest_wrong_value_rejected (pp : Params F D) (point : Point F) (coeffs : List F)
    (E : List F → List F) (k : Nat) (h : Encodes pp coeffs E k) (a b : List F) (o : Oracle F)
    (ht : tensor point (coeffMat pp.dims coeffs).m (coeffMat pp.dims coeffs).n = .ok (a, b))
    (ha : a.length = (coeffMat pp.dims coeffs).m) (hb : b.length = (coeffMat pp.dims coeffs).n)
    (hi : ∀ i ∈ o.indices, i < k) (δ : F) (hδ : δ ≠ 0) :
    checkOne pp point
      ⟨(coeffMat pp.dims coeffs).n, (coeffMat pp.dims coeffs).m, k,
        merkleRoot pp.hs (leavesOf pp (extOf pp coeffs E k))⟩
      (dot (vecMat b (coeffMat pp.dims coeffs).rows (coeffMat pp.dims coeffs).m) a + δ)
      (honestProof pp coeffs E k b o) o = .ok false :=
  lincode_wrong_value_rejected pp point _ _ _ _ o (checkOne_honest h o ht ha hb hi)
    (fun he => hδ (add_eq_left.1 he))

/-- **Wrong value at any position of a list**: if the whole `check` accepts, changing the value of
one checked polynomial makes it answer `Ok(false)` (earlier polynomials still pass, the loop returns
at the changed one). -/
theorem lincode_wrong_value_rejected_all (pp : Params F D) (point : Point F) (cs : List (Comm D))
    (vals : List F) (πs : List (Proof F D)) (os : List (Oracle F))
    (h : checkAll pp point cs vals πs os = .ok true) (i : Nat) (hi : i < cs.length)
    (hi' : i < vals.length) (x : F) (hx : x ≠ vals[i]) :
    checkAll pp point cs (vals.set i x) πs os = .ok false := by
  induction cs generalizing vals πs os i with
  | nil => cases hi
  | cons c cs ih =>
    match vals, hi' with
    | val :: vals, hi' =>
      match πs, os, h with
      | [], _, h => cases h
      | π :: πs, [], h => cases h
      | π :: πs, o :: os, h =>
        simp only [checkAll] at h
        split at h
        · cases h
        · cases h
        · rename_i h1
          cases i with
          | zero =>
            simp only [List.set_cons_zero, checkAll,
              lincode_wrong_value_rejected pp point c val x π o h1 hx]
          | succ i =>
            simp only [List.set_cons_succ, checkAll, h1]
            exact ih vals πs os h i (Nat.lt_of_succ_lt_succ hi) (Nat.lt_of_succ_lt_succ hi') hx

/-- **Wrong point, exact condition.**  The honest proof for the row combination `b` (made at a point
with `tensor = (a, b)`) is checked at a point with `tensor = (a', b')` under the same transcript
positions: `check` continues with `true` iff `a'`, `b'` have the lengths of the matrix (fix D23: the
other point has the right number of coordinates), `b'` and `b` agree on every opened column of the
encoded matrix — `(b' − b)·M_ext[:, q] = 0` for all opened `q` — and the claimed value is `⟨v, a'⟩`. -/
theorem lincode_wrong_point_iff (pp : Params F D) (point' : Point F) (coeffs : List F)
    (E : List F → List F) (k : Nat) (h : Encodes pp coeffs E k) (a' b b' : List F) (o : Oracle F)
    (value' : F)
    (ht : tensor point' (coeffMat pp.dims coeffs).m (coeffMat pp.dims coeffs).n = .ok (a', b'))
    (hi : ∀ i ∈ o.indices, i < k) :
    checkOne pp point'
      ⟨(coeffMat pp.dims coeffs).n, (coeffMat pp.dims coeffs).m, k,
        merkleRoot pp.hs (leavesOf pp (extOf pp coeffs E k))⟩
      value' (honestProof pp coeffs E k b o) o = .ok true ↔
    a'.length = (coeffMat pp.dims coeffs).m ∧ b'.length = (coeffMat pp.dims coeffs).n ∧
      (∀ q ∈ o.indices, dot b' (colOf (extOf pp coeffs E k).rows q)
        = dot b (colOf (extOf pp coeffs E k).rows q)) ∧
      dot (vecMat b (coeffMat pp.dims coeffs).rows (coeffMat pp.dims coeffs).m) a' = value' :=
  (checkOne_honestProof_iff h ht hi).trans
    ⟨fun ⟨hla, hlb, hbb, _, hv⟩ => ⟨hla, hlb, hbb, hv⟩,
     fun ⟨hla, hlb, hbb, hv⟩ => ⟨hla, hlb, hbb, fun _ _ _ => rfl, hv⟩⟩

/-- **Wrong point changes the transcript.**  When the positions the verifier derives differ from
those the proof was made for at some opened column, `check` refuses (the path's leaf position is
not the transcript's). -/
theorem lincode_other_positions_refused (pp : Params F D) (point' : Point F) (coeffs : List F)
    (E : List F → List F) (k : Nat) (b : List F) (o o' : Oracle F) (value' : F) (c : Comm D)
    (j q q' : Nat) (hq : o.indices[j]? = some q) (hq' : o'.indices[j]? = some q') (hne : q ≠ q') :
    ∃ e, checkOne pp point' c value' (honestProof pp coeffs E k b o) o' = .error e := by
  apply checkOne_error_of_not_pre
  rintro a ⟨_, _, hpaths, _⟩
  obtain ⟨p, hp, hl, _⟩ := hpaths j (colOf (extOf pp coeffs E k).rows q) q'
    (by simp [honestProof, hq]) hq'
  simp only [honestProof, List.getElem?_map, hq, Option.map_some, Option.some.injEq] at hp
  subst hp
  exact hne hl

/-- **Commitment of another polynomial.**  An honest proof checked against a commitment with a
different Merkle root (and at least one opened column) is refused: the recomputed root is the root of
the tree the proof was made from. -/
theorem lincode_other_commitment_refused (pp : Params F D) (point : Point F) (coeffs : List F)
    (E : List F → List F) (k : Nat) (h : Encodes pp coeffs E k) (b : List F) (o : Oracle F)
    (value : F) (c' : Comm D) (hroot : c'.root ≠ merkleRoot pp.hs (leavesOf pp (extOf pp coeffs E k)))
    (hi : ∀ i ∈ o.indices, i < k) (q : Nat) (hq : o.indices[0]? = some q) :
    ∃ e, checkOne pp point c' value (honestProof pp coeffs E k b o) o = .error e := by
  apply checkOne_error_of_not_pre
  rintro a ⟨_, _, hpaths, _⟩
  obtain ⟨p, hp, _, hr⟩ := hpaths 0 (colOf (extOf pp coeffs E k).rows q) q
    (by simp [honestProof, hq]) hq
  simp only [honestProof, List.getElem?_map, hq, Option.map_some, Option.some.injEq] at hp
  subst hp
  rw [honest_path_recomputes h (hi q (List.mem_of_getElem? hq))] at hr
  exact hroot hr.symm

/-! non-vacuity on the toy instance: the honest value is accepted, a shifted value is `Ok(false)`;
another point with the same positions fails a column test -/
example : toyRun true (.uni 5) [1, 2, 3] ⟨[7, 9], [2, 0, 3]⟩ (evalPoly [1, 2, 3] 5) = .ok true := by
  decide +kernel
example : toyRun true (.uni 5) [1, 2, 3] ⟨[7, 9], [2, 0, 3]⟩ (evalPoly [1, 2, 3] 5 + 1)
    = .ok false := by decide +kernel
example : (match commit (toyPP true) [1, 2, 3] with
    | .ok (c, st) =>
      match openOne (toyPP true) (.uni 5) c st ⟨[7, 9], [2, 0, 3]⟩ with
      | .ok π => checkOne (toyPP true) (.uni 6) c (evalPoly [1, 2, 3] 6) π ⟨[7, 9], [2, 0, 3]⟩
      | .error e => .error e
    | .error e => .error e) = .error .invalidCommitment := by decide +kernel
example : (1 : K) ≠ 0 ∧ ((2 : Nat) ≠ 0) := by decide +kernel

end PCV.C02
