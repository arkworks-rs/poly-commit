/-
  Property C02 (multilinear PST) — evaluation binding with the honest proof: the exact acceptance
  condition of any changed statement, and rejection of a wrong value / commitment / point.
-/
import PCV.Proofs.MLPC
import PCV.Props.Examples

namespace PCV.C02
open PCV
variable {F : Type} [Field F] [DecidableEq F]

/-- **Multilinear PST, exact acceptance condition.**  Key of trapdoor `t` (any generators `g, h`),
honest commitment `g·f̃(t)` and honest proof `π` for `(f, z)`.  The verifier accepts the statement
(commitment `+ dc`, point `z + dz`, value `f̃(z) + dv`) iff `h·(dc − g·dv) + g·⟨dz, π⟩ = 0`. -/
theorem mlpc_check_iff (g h : F) (t z dz evals : List F) (dc dv : F) (n' : Nat)
    (hz : z.length = t.length) (hdz : dz.length = t.length) (he : evals.length = 2 ^ t.length) :
    MLPC.check (MLPC.wfVK g h t) ⟨n', g * MLPC.mleEval evals t + dc⟩ (List.zipWith (· + ·) z dz)
        (MLPC.mleEval evals z + dv) (MLPC.proofSpec h t z evals) = .ok true
      ↔ h * (dc - g * dv) + g * dot dz (MLPC.proofSpec h t z evals) = 0 :=
  MLPC.check_honest_iff g h t z dz evals dc dv n' hz hdz he

set_option linter.unusedSectionVars false in
/-- `proofSpec` is what the prover returns (so the theorems above speak about `open`'s output) -/
theorem mlpc_open_is_proofSpec (g h : F) (t evals z : List F) (hz : z.length = t.length)
    (he : evals.length = 2 ^ t.length) :
    MLPC.open (MLPC.wfCK g h t) t.length evals z = .ok (MLPC.proofSpec h t z evals) :=
  MLPC.open_wf hz he

/-- **Wrong value.**  Any claimed value other than `f̃(z)` is rejected, given `g, h ≠ 0`. -/
theorem mlpc_wrong_value_rejected (g h : F) (t z evals : List F) (dv : F) (n' : Nat)
    (hz : z.length = t.length) (he : evals.length = 2 ^ t.length)
    (hdv : dv ≠ 0) (hg : g ≠ 0) (hh : h ≠ 0) :
    MLPC.check (MLPC.wfVK g h t) ⟨n', g * MLPC.mleEval evals t⟩ z (MLPC.mleEval evals z + dv)
        (MLPC.proofSpec h t z evals) = .ok false := by
  rw [MLPC.honest_check_at hz he]
  simp only [sub_self, zero_sub, add_sub_cancel_left, mul_eq_zero, neg_eq_zero, hh, hg, hdv, or_self,
    decide_false]

/-- **Wrong commitment.**  Any other commitment `C + dc`, `dc ≠ 0`, is rejected, given `h ≠ 0` —
in particular the commitment of a polynomial `q` with `q̃(t) ≠ f̃(t)`. -/
theorem mlpc_wrong_commitment_rejected (g h : F) (t z evals : List F) (dc : F) (n' : Nat)
    (hz : z.length = t.length) (he : evals.length = 2 ^ t.length) (hdc : dc ≠ 0) (hh : h ≠ 0) :
    MLPC.check (MLPC.wfVK g h t) ⟨n', g * MLPC.mleEval evals t + dc⟩ z (MLPC.mleEval evals z)
        (MLPC.proofSpec h t z evals) = .ok false := by
  rw [MLPC.honest_check_at hz he]
  simp only [add_sub_cancel_left, sub_self, mul_zero, sub_zero, mul_eq_zero, hh, hdc, or_self,
    decide_false]

/-- **Wrong point.**  The proof for `z` is rejected at `z + dz` (same value, same commitment) unless
`g·⟨dz, π⟩ = 0`. -/
theorem mlpc_wrong_point_rejected (g h : F) (t z dz evals : List F) (n' : Nat)
    (hz : z.length = t.length) (hdz : dz.length = t.length) (he : evals.length = 2 ^ t.length)
    (hg : g ≠ 0) (hw : dot dz (MLPC.proofSpec h t z evals) ≠ 0) :
    MLPC.check (MLPC.wfVK g h t) ⟨n', g * MLPC.mleEval evals t⟩ (List.zipWith (· + ·) z dz)
        (MLPC.mleEval evals z) (MLPC.proofSpec h t z evals) = .ok false := by
  rw [MLPC.honest_check_moved hz hdz he]
  exact congrArg _ (decide_eq_false (mul_ne_zero hg hw))

/-- **One coordinate changed.**  Moving coordinate `i` of the point by `d` gives the defect
`g·d·πᵢ`: rejected exactly when `g ≠ 0`, `d ≠ 0` and the `i`-th quotient commitment is not the
identity (it is the identity iff `q̃ᵢ(t_{>i}) = 0`, e.g. when `f` does not depend on variable `i`,
in which case the changed statement is true). -/
theorem mlpc_one_coordinate (g h : F) (t z evals : List F) (i : Nat) (d : F) (n' : Nat)
    (hz : z.length = t.length) (he : evals.length = 2 ^ t.length) (hi : i < t.length) :
    MLPC.check (MLPC.wfVK g h t) ⟨n', g * MLPC.mleEval evals t⟩
        (List.zipWith (· + ·) z ((List.replicate t.length (0 : F)).set i d))
        (MLPC.mleEval evals z) (MLPC.proofSpec h t z evals) = .ok true
      ↔ g * (d * (MLPC.proofSpec h t z evals)[i]'(by
          rw [MLPC.proofSpec_length h t z evals (by omega)]; exact hi)) = 0 := by
  rw [MLPC.honest_check_moved hz (by rw [List.length_set, List.length_replicate]) he,
    Except.ok.injEq, decide_eq_true_eq, MLPC.dot_unit t.length i d _ hi]

/-- non-vacuity (`ZMod 101`, key of trapdoor `[7, 20]`, `f = [1,2,3,50]`, `z = [8,13]`): the
honest transcript with value + 1, commitment + 1, or first coordinate + 1 is rejected in the model,
and the hypotheses of the three rejection theorems hold. -/
example : MLPC.proofSpec (11 : K) [7, 20] [8, 13] [1, 2, 3, 50] = [31, 30]
    ∧ (5 : K) * MLPC.mleEval [1, 2, 3, 50] [7, 20] = 19 ∧ MLPC.mleEval ([1, 2, 3, 50] : List K) [8, 13] = 72
    ∧ (5 : K) ≠ 0 ∧ (11 : K) ≠ 0 ∧ dot ([1, 0] : List K) [31, 30] ≠ 0 := by decide +kernel
example : MLPC.check (MLPC.wfVK (5 : K) 11 [7, 20]) ⟨2, 19⟩ [8, 13] (72 + 1) [31, 30] = .ok false := by
  decide +kernel
example : MLPC.check (MLPC.wfVK (5 : K) 11 [7, 20]) ⟨2, 19 + 1⟩ [8, 13] 72 [31, 30] = .ok false := by
  decide +kernel
example : MLPC.check (MLPC.wfVK (5 : K) 11 [7, 20]) ⟨2, 19⟩ [8 + 1, 13] 72 [31, 30] = .ok false := by
  decide +kernel

end PCV.C02
