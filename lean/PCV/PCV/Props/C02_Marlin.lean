/-
  Property C02 (MarlinKZG10) — a changed statement with an honest proof is rejected.
-/
import PCV.Proofs.MarlinMore
import PCV.Proofs.MarlinBatchShift
import PCV.Props.C01_MarlinBatch
import PCV.Props.C01_Marlin

namespace PCV.C02
open PCV Marlin
variable {F : Type} [Field F] [DecidableEq F]

/-- **MarlinKZG10, claimed values.** From any accepted transcript (in particular every honest one,
C01), perturbing the claimed values by the vector `ds` is accepted iff `h·⟨κ, ds⟩ = 0`, where
`κⱼ = ξⱼ·g + ξ′ⱼ·shift(dⱼ)` is the explicit weight of position `j`. -/
theorem marlin_values_iff (vk : VK F) (cs : List (LComm F)) (z : F) (vs ds ξs : List F)
    (π : KZG.Proof F) (rest : List F) (hlen : ds.length = vs.length)
    (hacc : check vk cs z vs π ξs = .ok (true, rest)) :
    check vk cs z (List.zipWith (· + ·) vs ds) π ξs = .ok (true, rest)
      ↔ vk.vk.h * dot (kappa vk cs ξs) ds = 0 :=
  check_perturbed_iff vk cs z vs ds ξs π rest hlen hacc

/-- one wrong value at position `j` (unbounded polynomial, single-element list shown; the general
position is `marlin_values_iff` with a unit vector): rejected when `δ, ξ, g, h ≠ 0` -/
theorem marlin_wrong_value_rejected (vk : VK F) (l : Label) (c z v δ ξ : F) (ξs : List F)
    (π : KZG.Proof F) (hδ : δ ≠ 0) (hξ : ξ ≠ 0) (hg : vk.vk.g ≠ 0) (hh : vk.vk.h ≠ 0)
    (hacc : check vk [⟨l, ⟨c, none⟩, none⟩] z [v] π (ξ :: ξs) = .ok (true, ξs)) :
    check vk [⟨l, ⟨c, none⟩, none⟩] z [v + δ] π (ξ :: ξs) ≠ .ok (true, ξs) := by
  intro hx
  have := (check_perturbed_iff vk [⟨l, ⟨c, none⟩, none⟩] z [v] [δ] (ξ :: ξs) π ξs rfl hacc).1 hx
  simp only [kappa, dot_cons, dot_nil_left, add_zero, mul_eq_zero] at this
  rcases this with h1 | (h1 | h1) | h1 <;> contradiction

example : check C01.exVK [⟨[112], ⟨43, some 90⟩, some 2⟩] 10 [evalPoly [1, 2, 3] 10 + 1]
    ⟨49, some 68⟩ [11, 13] = .ok (false, []) := by decide +kernel

set_option linter.unusedVariables false in
/-- **MarlinKZG10, replaced commitments.** From any accepted transcript, adding `(δcⱼ, δsⱼ)` to the
plain / shifted part of commitment `j` (any positions at once) is accepted iff
`h·Σ(ξⱼ·δcⱼ + ξ′ⱼ·δsⱼ) = 0` — a commitment to a different polynomial in place of the original
(`δc = g·(q−p)(β) ≠ 0`), a swapped or foreign shifted part, … are rejected unless the challenge-weighted
sum vanishes. -/
theorem marlin_commitments_iff (vk : VK F) (cs : List (LComm F)) (ds : List (F × F)) (z : F)
    (vs ξs : List F) (π : KZG.Proof F) (rest : List F)
    (hlen : ds.length = cs.length) (hv : vs.length = cs.length)
    (hacc : check vk cs z vs π ξs = .ok (true, rest)) :
    check vk (addComms cs ds) z vs π ξs = .ok (true, rest)
      ↔ vk.vk.h * commWeight cs ds ξs = 0 := by
  obtain ⟨C, V, ha, h0⟩ := check_true_iff.1 hacc
  rw [check_iff_of_accumulate (accumulate_addComms ds (Nat.le_of_eq hv.symm) ha),
    moved_iff h0 (KZG.defect_add_comm ..), mul_comm]

/-- one replaced (unbounded) commitment: rejected when `δ, ξ, h ≠ 0` -/
theorem marlin_wrong_commitment_rejected (vk : VK F) (l : Label) (c z v δ ξ : F) (ξs : List F)
    (π : KZG.Proof F) (hδ : δ ≠ 0) (hξ : ξ ≠ 0) (hh : vk.vk.h ≠ 0)
    (hacc : check vk [⟨l, ⟨c, none⟩, none⟩] z [v] π (ξ :: ξs) = .ok (true, ξs)) :
    check vk [⟨l, ⟨c + δ, none⟩, none⟩] z [v] π (ξ :: ξs) ≠ .ok (true, ξs) := by
  intro hx
  have := (marlin_commitments_iff vk [⟨l, ⟨c, none⟩, none⟩] [(δ, 0)] z [v] (ξ :: ξs) π ξs rfl rfl
    hacc).1 hx
  simp only [commWeight, add_zero, mul_eq_zero] at this
  rcases this with h1 | h1 | h1 <;> contradiction

/-- **MarlinKZG10, another point.** A transcript accepted at `z` is accepted at `z' ≠ z` (same
commitments, values and proof) iff `h·W·(z'−z) = 0`, i.e. (for `h ≠ 0`) iff the witness element is the
identity — for an honest proof, iff the combined witness polynomial `(p − p(z))/(X − z)` has the
trapdoor as a root (at most `deg p − 1` of `|F|` trapdoors, or `p` is constant, for which every point
gives the same true value). -/
theorem marlin_wrong_point_iff (vk : VK F) (cs : List (LComm F)) (z z' : F) (vs ξs : List F)
    (π : KZG.Proof F) (rest : List F)
    (hacc : check vk cs z vs π ξs = .ok (true, rest)) :
    check vk cs z' vs π ξs = .ok (true, rest) ↔ vk.vk.h * π.w * (z' - z) = 0 := by
  obtain ⟨C, V, ha, h0⟩ := check_true_iff.1 hacc
  have key := KZG.defect_add_point vk.vk C z V (z' - z) π
  rw [add_sub_cancel] at key
  rw [check_iff_of_accumulate ha, moved_iff h0 key, mul_comm, mul_assoc]

theorem marlin_wrong_point_rejected (vk : VK F) (cs : List (LComm F)) (z z' : F) (vs ξs : List F)
    (π : KZG.Proof F) (rest : List F) (hz : z' ≠ z) (hh : vk.vk.h ≠ 0) (hw : π.w ≠ 0)
    (hacc : check vk cs z vs π ξs = .ok (true, rest)) :
    check vk cs z' vs π ξs ≠ .ok (true, rest) := by
  intro hx
  have := (marlin_wrong_point_iff vk cs z z' vs ξs π rest hacc).1 hx
  simp only [mul_eq_zero, sub_eq_zero] at this
  rcases this with (h1 | h1) | h1 <;> contradiction

/-- **MarlinKZG10, every position of a batched opening.**  Shift the claimed values of an accepted batch
by ANY function `δ` of the key (polynomial label, point) — one wrong value, several, errors planted to
cancel across polynomials of one point label or across point labels: the batch is accepted iff
`h · Σₖ ρₖ · ⟨κₖ, dsₖ⟩ = 0`, where `k` runs over the point labels, `ρₖ` is the verifier's randomizer
(`ρ₀ = 1`), `κₖ` the challenge weights of that label's members and `dsₖ` their shifts. -/
theorem marlin_batch_values_iff (vk : VK F) (comms : List (LComm F)) (qs : List (Query F))
    (evals : List ((Label × F) × F)) (δ : Label × F → F) (πs : List (KZG.Proof F)) (ξs rs : List F)
    (trip : List (F × F × F)) (rest : List F)
    (hc : combineGroups vk comms evals (groupQueries qs) ξs = .ok (trip, rest))
    (hlen : πs.length = trip.length)
    (hacc : batchCheck vk comms qs evals πs ξs rs = .ok true) :
    batchCheck vk comms qs (shiftEvals δ evals) πs ξs rs = .ok true ↔
      vk.vk.h * KZG.wsum 1 rs (groupShifts vk comms evals δ (groupQueries qs) ξs) = 0 :=
  batchCheck_shift_iff vk comms qs evals δ πs ξs rs trip rest hc hlen hacc

/-- non-vacuity on the batch of `C01.exBatch`: `+1` on the claim of `[98]` at the second point label -/
example : groupShifts C01.exVK (C01.exBatch.map (·.2.2))
      [(([97], 5), evalPoly [1, 2, 3] 5), (([98], 5), evalPoly [4, 0, 1] 5), (([98], 9), evalPoly [4, 0, 1] 9)]
      (fun k => if k = ([98], 9) then 1 else 0) (groupQueries C01.exQueries) [11, 13, 17, 19]
    = [0, 51] ∧
    batchCheck C01.exVK (C01.exBatch.map (·.2.2)) C01.exQueries
      (shiftEvals (fun k => if k = ([98], 9) then 1 else 0)
        [(([97], 5), evalPoly [1, 2, 3] 5), (([98], 5), evalPoly [4, 0, 1] 5), (([98], 9), evalPoly [4, 0, 1] 9)])
      [⟨22, none⟩, ⟨56, none⟩] [11, 13, 17, 19] [29] = .ok false := by decide +kernel

example : check C01.exVK [⟨[112], ⟨43 + 1, some 90⟩, some 2⟩] 10 [evalPoly [1, 2, 3] 10]
    ⟨49, some 68⟩ [11, 13] = .ok (false, []) := by decide +kernel
example : check C01.exVK [⟨[112], ⟨43, some 90⟩, some 2⟩] 11 [evalPoly [1, 2, 3] 10]
    ⟨49, some 68⟩ [11, 13] = .ok (false, []) := by decide +kernel

end PCV.C02
