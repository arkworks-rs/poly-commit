/-
  Property C02 — evaluation binding against the honest proof, MarlinPST13.  Restatements of the
  PST13 theorems of `PCV/Props/C15.lean` for the C02 check.
-/
import PCV.Props.C15

namespace PCV.C02
open PCV PCV.MV PCV.C15Spec
variable {F : Type} [Field F] [DecidableEq F]

/-- **PST13 `check` decides exactly `defect = 0`** (arbitrary verifier key; whenever it does not
refuse: one witness per key variable, key and point long enough). -/
theorem pst13_check_iff_defect (vk : PST.VK F) (cs z vs : List F) (π : PST.Proof F) (ξs : List F)
    (a : F × F × List F) (hacc : PST.accumulate 0 0 cs vs ξs = .ok a)
    (hnv : π.w.length = vk.numVars)
    (hlen : π.w.length ≤ vk.betaH.length ∧ π.w.length ≤ z.length) :
    PST.check vk cs z vs π ξs = .ok true ↔ PST.defect vk cs z vs π ξs = 0 :=
  C15.check_iff_defect vk cs z vs π ξs a hacc hnv hlen

/-- **PST13: the verifier's decision on an arbitrary changed claim** against the honest proof:
`check [c + dc] z [p(z) + dv] π` decides `(dc − g·dv)·ξ·h = 0`. -/
theorem pst13_honest_defect (g γ h : F) (β : List F) (ts : List Term) (nv s D m nvp nvr : Nat)
    (p : MVPoly F)
    (hb : Option Nat) (rng : Bool) (draws : List F) (c : F) (r : MVPoly F) (rest : List F)
    (z : List F) (ξ : F) (ξs : List F) (π : PST.Proof F) (dc dv : F)
    (hnvp : nvp ≤ nv) (hnvr : nvr ≤ nv)
    (hp : polyWf p = true) (hpv : polyVarsBelow nvp p = true) (hrv : polyVarsBelow nvr r = true)
    (hβ : nv ≤ β.length) (hz : nv ≤ z.length)
    (hc : PST.commit (PST.wfCK g γ β ts nv s D m) p hb rng draws = .ok (c, r, rest))
    (ho : PST.open (PST.wfCK g γ β ts nv s D m) nvp nvr [p] z [r] (ξ :: ξs) = .ok π) :
    PST.check (PST.wfVK g γ h β nv s D) [c + dc] z [evalMV p z + dv] π (ξ :: ξs)
      = .ok (decide ((dc - g * dv) * ξ * h = 0)) :=
  PST.single_check_eq g γ h β ts nv s D m nvp nvr p hb rng draws c r rest z ξ ξs π dc dv hnvp hnvr
    hp hpv hrv hβ hz hc ho

/-- **PST13: wrong value refused** whenever `δ·ξ·g·h ≠ 0`. -/
theorem pst13_wrong_value_rejected (g γ h : F) (β : List F) (ts : List Term) (nv s D m : Nat)
    (p : MVPoly F) (hb : Option Nat) (rng : Bool) (draws : List F) (c : F) (r : MVPoly F)
    (rest : List F) (z : List F) (ξ : F) (ξs : List F) (π : PST.Proof F) (δ : F)
    (hp : polyWf p = true) (hpv : polyVarsBelow nv p = true)
    (hβ : nv ≤ β.length) (hz : nv ≤ z.length)
    (hc : PST.commit (PST.wfCK g γ β ts nv s D m) p hb rng draws = .ok (c, r, rest))
    (ho : PST.open (PST.wfCK g γ β ts nv s D m) nv nv [p] z [r] (ξ :: ξs) = .ok π)
    (hne : δ * ξ * g * h ≠ 0) :
    PST.check (PST.wfVK g γ h β nv s D) [c] z [evalMV p z + δ] π (ξ :: ξs) = .ok false :=
  C15.wrong_value_rejected g γ h β ts nv s D m p hb rng draws c r rest z ξ ξs π δ hp hpv hβ hz hc ho
    hne

/-- **PST13: another commitment refused** whenever `dc·ξ·h ≠ 0`. -/
theorem pst13_other_commitment_rejected (g γ h : F) (β : List F) (ts : List Term) (nv s D m : Nat)
    (p : MVPoly F) (hb : Option Nat) (rng : Bool) (draws : List F) (c : F) (r : MVPoly F)
    (rest : List F) (z : List F) (ξ : F) (ξs : List F) (π : PST.Proof F) (dc : F)
    (hp : polyWf p = true) (hpv : polyVarsBelow nv p = true)
    (hβ : nv ≤ β.length) (hz : nv ≤ z.length)
    (hc : PST.commit (PST.wfCK g γ β ts nv s D m) p hb rng draws = .ok (c, r, rest))
    (ho : PST.open (PST.wfCK g γ β ts nv s D m) nv nv [p] z [r] (ξ :: ξs) = .ok π)
    (hne : dc * ξ * h ≠ 0) :
    PST.check (PST.wfVK g γ h β nv s D) [c + dc] z [evalMV p z] π (ξ :: ξs) = .ok false :=
  C15.other_commitment_rejected g γ h β ts nv s D m p hb rng draws c r rest z ξ ξs π dc hp hpv hβ hz
    hc ho hne

/-- non-vacuity (over `ZMod 101`): the honest proof of the C01 example against the true value and
against value + 1; the rejection hypothesis `δ·ξ·g·h ≠ 0` at `δ = 1, ξ = 13, g = 3, h = 11` -/
example : PST.check (PST.wfVK (3 : K) 5 11 [2, 7] 2 2 2) [27] [10, 20] [3] ⟨[10, 66], some 93⟩ [13]
    = .ok true := by decide +kernel
example : PST.check (PST.wfVK (3 : K) 5 11 [2, 7] 2 2 2) [27] [10, 20] [4] ⟨[10, 66], some 93⟩ [13]
    = .ok false := by decide +kernel
example : (1 : K) * 13 * 3 * 11 ≠ 0 := by decide +kernel
example : PST.accumulate (0 : K) 0 [27] [3] [13] = .ok (48, 39, []) := by decide +kernel

end PCV.C02
