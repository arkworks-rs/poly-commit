/-
  Property C02 — evaluation binding with the honest proof, SonicKZG10: the exact acceptance condition
  of any changed statement, and the wrong-value / wrong-point / wrong-commitment corollaries.
-/
import PCV.Proofs.SonicExamples

namespace PCV.C02
open PCV PCV.Sonic
open PCV.Marlin (Label LPoly Query)
variable {F : Type} [Field F] [DecidableEq F]

section
variable (g γ β bi h : F) (hb : β * bi = 1) (D s shb : Nat) (bounds : Option (List Nat))
  (ck : CK F) (vk : VK F) (ht : trim (wfPP g γ β bi h D) s shb bounds = .ok (ck, vk))
  (ps : List (LPoly F)) (rng : Bool) (draws : List F) (cs : List (LComm F)) (rs : List (List F))
  (drest : List F) (hc : commit ck ps rng draws = .ok (cs, rs, drest))
  (z : F) (ξs : List F) (π : KZG.Proof F) (rest : List F)
  (ho : Sonic.open ck ps z rs ξs = .ok (π, rest))
include hb ht hc ho

/-- **SonicKZG10, exact acceptance condition.**  With honest commitments `cs` and the honest proof
`π` for `(ps, z)`: the statement with commitments changed by `dcs`, point by `dz` and values by `dvs`
is accepted iff `Σⱼ ξⱼ·dcⱼ·σ(bⱼ) − g·h·Σⱼ ξⱼ·dvⱼ + W·dz·h = 0`
(`σ(b)` the G2 partner of the bound `b`: `h` or `β^{-(D-d)}·h`; `W` the witness scalar). -/
theorem sonic_check_iff (dcs dvs : List F) (dz : F) (hcl : dcs.length = cs.length)
    (hvl : dvs.length = ps.length) :
    check vk (addComms cs dcs) (z + dz) (addVals (ps.map fun p => evalPoly p.poly z) dvs) π ξs
        = .ok (true, rest) ↔
      linC vk.shiftD (withComms cs dcs) (ps.map fun p => evalPoly p.poly z) ξs
        - g * linV cs dvs ξs * h + π.w * dz * h = 0 :=
  honest_check_iff g γ β bi h D s shb bounds ck vk ht cs ps rs
    (commit_honest g γ β bi h hb D s shb bounds ck vk ht ps rng draws cs rs drest hc) z ξs π rest ho
    dcs dvs dz hcl hvl

/-- **Wrong values.**  Any change `dvs` of the claimed values whose challenge-weighted sum
`Σ ξⱼ·dvⱼ` is non-zero is rejected (given `g, h ≠ 0`): never `ok true`. -/
theorem sonic_wrong_value_rejected (dvs : List F) (hvl : dvs.length = ps.length)
    (hne : linV cs dvs ξs ≠ 0) (hg : g ≠ 0) (hh : h ≠ 0) (r : List F) :
    check vk cs z (addVals (ps.map fun p => evalPoly p.poly z) dvs) π ξs ≠ .ok (true, r) :=
  honest_value_rejected g γ β bi h D s shb bounds ck vk ht cs ps rs
    (commit_honest g γ β bi h hb D s shb bounds ck vk ht ps rng draws cs rs drest hc) z ξs π rest ho
    dvs hvl (mul_ne_zero (mul_ne_zero hg hne) hh)

/-- **Wrong value at one position.**  `vⱼ + δ` with `δ ≠ 0` and a non-zero challenge `ξⱼ`. -/
theorem sonic_wrong_value_at_rejected (j : Nat) (δ : F) (hj : j < ps.length)
    (hne : valTerm δ j cs ξs ≠ 0) (hg : g ≠ 0) (hh : h ≠ 0) (r : List F) :
    check vk cs z (addVals (ps.map fun p => evalPoly p.poly z) (spike j δ ps.length)) π ξs
      ≠ .ok (true, r) := by
  apply sonic_wrong_value_rejected g γ β bi h hb D s shb bounds ck vk ht ps rng draws cs rs drest hc
    z ξs π rest ho (spike j δ ps.length) (spike_length _ _ _) _ hg hh
  rw [linV_spike δ j cs ps.length ξs hj]; exact hne

/-- **Wrong point.**  The proof for `z` is accepted at `z + dz` (same values, same commitments) iff
`W·dz·h = 0`; so it is rejected unless `dz = 0` or the witness commitment is the identity. -/
theorem sonic_wrong_point_iff (dz : F) :
    check vk cs (z + dz) (ps.map fun p => evalPoly p.poly z) π ξs = .ok (true, rest) ↔
      π.w * dz * h = 0 :=
  honest_point_iff g γ β bi h D s shb bounds ck vk ht cs ps rs
    (commit_honest g γ β bi h hb D s shb bounds ck vk ht ps rng draws cs rs drest hc) z ξs π rest ho dz

theorem sonic_wrong_point_rejected (dz : F) (hdz : dz ≠ 0) (hw : π.w ≠ 0) (hh : h ≠ 0) :
    check vk cs (z + dz) (ps.map fun p => evalPoly p.poly z) π ξs ≠ .ok (true, rest) := by
  intro hacc
  exact mul_ne_zero (mul_ne_zero hw hdz) hh
    ((sonic_wrong_point_iff g γ β bi h hb D s shb bounds ck vk ht ps rng draws cs rs drest hc
      z ξs π rest ho dz).1 hacc)

/-- **Wrong commitments.**  Commitments changed by `dcs` (e.g. a commitment to `q ≠ p`:
`dc = β^{D-d}·g·(q−p)(β) + …`) are accepted iff `Σ ξⱼ·dcⱼ·σ(bⱼ) = 0`. -/
theorem sonic_wrong_commitment_iff (dcs : List F) (hcl : dcs.length = cs.length) :
    check vk (addComms cs dcs) z (ps.map fun p => evalPoly p.poly z) π ξs = .ok (true, rest) ↔
      linC vk.shiftD (withComms cs dcs) (ps.map fun p => evalPoly p.poly z) ξs = 0 :=
  honest_comm_iff g γ β bi h D s shb bounds ck vk ht cs ps rs
    (commit_honest g γ β bi h hb D s shb bounds ck vk ht ps rng draws cs rs drest hc) z ξs π rest ho
    dcs hcl

/-- **Wrong commitment at one position**: `Cⱼ + δ` is rejected whenever `ξⱼ·δ·σ(bⱼ) ≠ 0`. -/
theorem sonic_wrong_commitment_at_rejected (j : Nat) (δ : F) (hj : j < cs.length)
    (hne : commTerm vk.shiftD δ j cs (ps.map fun p => evalPoly p.poly z) ξs ≠ 0) :
    check vk (addComms cs (spike j δ cs.length)) z (ps.map fun p => evalPoly p.poly z) π ξs
      ≠ .ok (true, rest) := by
  intro hacc
  have := (sonic_wrong_commitment_iff g γ β bi h hb D s shb bounds ck vk ht ps rng draws cs rs drest hc
    z ξs π rest ho (spike j δ cs.length) (spike_length _ _ _)).1 hacc
  rw [linC_spike _ δ j cs cs.length _ ξs hj] at this
  exact hne this

end

/-- non-vacuity: on the concrete transcript of C01's example, value + 1 at position 1, point + 1 and
commitment + 1 at position 2 are each rejected by the model verifier, and the theorems' side
conditions hold there -/
example : check Ex.vk Ex.comms 5 (addVals Ex.vals (spike 1 1 3)) Ex.proof Ex.xis = .ok (false, [23]) := by
  decide +kernel
example : valTerm (1 : K) 1 Ex.comms Ex.xis ≠ 0 ∧ (3 : K) ≠ 0 ∧ (7 : K) ≠ 0 ∧ Ex.proof.w ≠ 0 := by decide +kernel
example : check Ex.vk Ex.comms (5 + 1) Ex.vals Ex.proof Ex.xis = .ok (false, [23]) := by decide +kernel
example : check Ex.vk (addComms Ex.comms (spike 2 1 3)) 5 Ex.vals Ex.proof Ex.xis = .ok (false, [23]) := by
  decide +kernel
example : commTerm Ex.vk.shiftD (1 : K) 2 Ex.comms Ex.vals Ex.xis ≠ 0 := by decide +kernel
end PCV.C02
