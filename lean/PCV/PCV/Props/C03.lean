/-
  Property C03 — no crafted or malformed proof proves a false claim (attack catalogue on the exact
  model; arbitrary adversaries are the scheme's hardness assumption, DESIGN §3 — the *partial* part).
-/
import PCV.Proofs.KZG10
import PCV.Proofs.KZG10Extract
import PCV.Props.Examples

namespace PCV.C03
open PCV
variable {F : Type} [Field F] [DecidableEq F]

/-- **KZG10, single-component replacement (witness).** For a fixed statement and `random_v`,
the defect is affine in the witness element with coefficient `−(β − z)·h`: if `β ≠ z` and `h ≠ 0`
at most one witness value is accepted. -/
theorem kzg10_witness_unique (g γ β h c z v : F) (rv : Option F) (w₁ w₂ : F)
    (hz : β ≠ z) (hh : h ≠ 0)
    (h₁ : KZG.check (KZG.wfVK g γ β h) c z v ⟨w₁, rv⟩ = true)
    (h₂ : KZG.check (KZG.wfVK g γ β h) c z v ⟨w₂, rv⟩ = true) : w₁ = w₂ := by
  rw [KZG.check_iff_defect, KZG.defect_wfVK] at h₁ h₂
  have e₁ := sub_eq_zero.1 ((mul_eq_zero.1 h₁).resolve_left hh)
  have e₂ := sub_eq_zero.1 ((mul_eq_zero.1 h₂).resolve_left hh)
  exact mul_right_cancel₀ (sub_ne_zero.2 hz) (e₁.symm.trans e₂)

/-- **KZG10, forged value with the honest witness.** With the honest proof, a false value is
accepted only if `random_v` is changed to compensate exactly: `dv·g + drv·γ = 0`. -/
theorem kzg10_value_and_rv (g γ β h c z v w rv dv drv : F) (hh : h ≠ 0)
    (h₁ : KZG.check (KZG.wfVK g γ β h) c z v ⟨w, some rv⟩ = true) :
    KZG.check (KZG.wfVK g γ β h) c z (v + dv) ⟨w, some (rv + drv)⟩ = true ↔ dv * g + drv * γ = 0 := by
  rw [KZG.check_iff_defect] at h₁ ⊢
  rw [KZG.defect_add_rv, KZG.defect_add_value, h₁, zero_add, ← add_mul, ← neg_add, neg_mul,
    neg_eq_zero]
  exact mul_eq_zero.trans (or_iff_left hh)

/-- **KZG10, prover run on another polynomial.** The honest prover run on `q` (same blinding)
against the commitment of `p`, claiming `q(z)`, is accepted iff `g·h·(p(β) − q(β)) = 0`:
for `g, h ≠ 0` only when `q` agrees with `p` at the trapdoor. -/
theorem kzg10_other_poly (g γ β h : F) (n m : Nat) (p q r : List F) (z : F) (π : KZG.Proof F)
    (hr : (pnorm r).length ≤ m)
    (ho : KZG.open (KZG.wfPowers g γ β n m) q z r = .ok π) :
    KZG.check (KZG.wfVK g γ β h) (g * evalPoly p β + γ * evalPoly r β) z (evalPoly q z) π = true
      ↔ h * (g * (evalPoly p β - evalPoly q β)) = 0 := by
  -- the commitment of `p` is that of `q` moved by `g·(p(β) − q(β))`; against `q`'s the proof is honest
  have e : g * evalPoly p β + γ * evalPoly r β
      = g * evalPoly q β + γ * evalPoly r β + g * (evalPoly p β - evalPoly q β) := by ring
  have hq := (KZG.check_iff_defect ..).1 (KZG.open_check_complete g γ β h n m q r z π hr ho)
  rw [KZG.check_iff_defect, e, moved_iff hq (KZG.defect_add_comm ..), mul_comm]
  rfl

/-- **KZG10 batch, shape.** `KZG10::batch_check` refuses commitment / point / value / proof
slices of different lengths (missing, surplus or empty proof lists). -/
theorem kzg10_batch_shape_refused (vk : KZG.VK F) (cs zs vs : List F) (πs : List (KZG.Proof F))
    (rs : List F)
    (hl : ¬ (cs.length = zs.length ∧ cs.length = vs.length ∧ cs.length = πs.length)) :
    KZG.batchCheck vk cs zs vs πs rs = .error .incorrectInputLength :=
  KZG.batchCheck_shape vk cs zs vs πs rs hl

example : KZG.check (KZG.wfVK (3 : K) 5 2 1) 64 5 (evalPoly [1, 2, 3] 5) ⟨81, some 30⟩ = true ∧
    (2 : K) ≠ 5 ∧ (1 : K) ≠ 0 := by decide +kernel

/-- **KZG10, any algebraic forger solves the hardness problem (non-hiding).**  A forger that builds
its witness from the published key, `W = Σ aᵢ·(βⁱg)` — any coefficients, any number of them — and
gets a value `v ≠ p(z)` accepted against the honest commitment of `p` has in its hands the
polynomial `p − v − a·(X − z)`: known coefficients, not the zero polynomial (value `p(z) − v` at
`z`), and the secret trapdoor is one of its roots.  This is the reduction the scheme's evaluation
binding rests on, stated for every `p`, `a`, `z`, `v` and every key. -/
theorem kzg10_algebraic_forgery_reveals_trapdoor (g γ β h : F) (p a : List F) (z v : F)
    (hg : g ≠ 0) (hh : h ≠ 0) (hv : v ≠ evalPoly p z)
    (hacc : KZG.check (KZG.wfVK g γ β h) (g * evalPoly p β) z v ⟨g * evalPoly a β, none⟩ = true) :
    evalPoly (KZG.extractPoly p a z v) β = 0 ∧ evalPoly (KZG.extractPoly p a z v) z ≠ 0 := by
  obtain ⟨h1, h2⟩ := KZG.forgery_gives_root hg hh hacc
  exact ⟨h1, by rw [h2]; exact fun h0 => hv (sub_eq_zero.1 h0).symm⟩

/-- the same counted over trapdoors: for fixed `p`, `z`, false `v` and forger coefficients `a`, all
but at most `max(|p|, |a|+1) − 1` trapdoors reject the forgery -/
theorem kzg10_algebraic_forgery_exceptional_set (p a : List F) (z v : F) (hv : v ≠ evalPoly p z) :
    ∃ S : Finset F, S.card ≤ max (max p.length 1) (a.length + 1) - 1 ∧
      ∀ (g γ β h : F), g ≠ 0 → h ≠ 0 → β ∉ S →
        KZG.check (KZG.wfVK g γ β h) (g * evalPoly p β) z v ⟨g * evalPoly a β, none⟩ = false := by
  have hne : ∃ x, evalPoly (KZG.extractPoly p a z v) x ≠ 0 :=
    ⟨z, by rw [KZG.eval_extractPoly_self]; exact fun h0 => hv (sub_eq_zero.1 h0).symm⟩
  obtain ⟨S, hcard, hS⟩ := Roots.zeros_bounded _ hne
  refine ⟨S, hcard.trans (Nat.sub_le_sub_right (KZG.extractPoly_length p a z v) 1),
    fun g γ β h hg hh hβ => ?_⟩
  rw [Bool.eq_false_iff]
  exact fun hc => hβ (hS β (KZG.forgery_gives_root hg hh hc).1)

/-- **KZG10, algebraic forger against a hiding commitment.**  With `W = Σ aᵢ·(βⁱg) + Σ bᵢ·(βⁱγg)` and
any `random_v`: an accepted false value means the trapdoor is a root of the non-zero polynomial
`p − v − a·(X − z)`, or the forger has written the hiding generator as an explicit multiple of the
plain one (`γ = −g·Q_g(β)/Q_γ(β)`), which the setup's independent sampling of `γ` is there to prevent. -/
theorem kzg10_algebraic_forgery_hiding (g γ β h : F) (p r a b : List F) (z v rv : F)
    (hg : g ≠ 0) (hh : h ≠ 0) (hv : v ≠ evalPoly p z)
    (hacc : KZG.check (KZG.wfVK g γ β h) (g * evalPoly p β + γ * evalPoly r β) z v
      ⟨g * evalPoly a β + γ * evalPoly b β, some rv⟩ = true) :
    evalPoly (KZG.extractPoly p a z v) z ≠ 0 ∧
    ((evalPoly (KZG.extractPoly p a z v) β = 0 ∧ γ * evalPoly (KZG.extractPoly r b z rv) β = 0) ∨
     (evalPoly (KZG.extractPoly r b z rv) β ≠ 0 ∧
      γ = -(g * evalPoly (KZG.extractPoly p a z v) β) / evalPoly (KZG.extractPoly r b z rv) β)) := by
  obtain ⟨_, h2, h3⟩ := KZG.forgery_hiding_dichotomy hg hh hacc
  exact ⟨by rw [h2]; exact fun h0 => hv (sub_eq_zero.1 h0).symm, h3⟩

/-- non-vacuity: over `ZMod 101` with trapdoor `β = 2`, `p = 1 + 2X + 3X²`, `z = 5`: the forger
coefficients `a = [57]` get the false value `p(5) + 1` accepted exactly because `β = 2` is a root of
the extraction polynomial, which is not zero at `z` -/
example : KZG.check (KZG.wfVK (3 : K) 5 2 1) (3 * evalPoly [1, 2, 3] 2) 5 (evalPoly [1, 2, 3] 5 + 1)
      ⟨3 * evalPoly [57] 2, none⟩ = true ∧
    evalPoly (KZG.extractPoly ([1, 2, 3] : List K) [57] 5 (evalPoly [1, 2, 3] 5 + 1)) 2 = 0 ∧
    evalPoly (KZG.extractPoly ([1, 2, 3] : List K) [57] 5 (evalPoly [1, 2, 3] 5 + 1)) 5 ≠ 0 := by decide +kernel

end PCV.C03
