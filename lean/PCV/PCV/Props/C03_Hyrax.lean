/-
  Property C03 (no crafted or malformed proof proves a false claim) — Hyrax, the attack catalogue on
  the exact model.  Arbitrary adversaries are the discrete-log / Pedersen-binding assumption
  (DESIGN §3): in exponent form the one forgery that works, `hyrax_value_and_r_eval`, needs the
  discrete log of `com_key[0]` with respect to `h`.
-/
import PCV.Props.C02_Hyrax

namespace PCV.C03
open PCV
variable {F : Type} [Field F] [DecidableEq F]

/-! ### (iv) shapes -/

/-- **Hyrax, wrong number of proofs or values.** `check` refuses (`IncorrectInputLength`) unless
there is exactly one value and one proof per commitment — missing, surplus and empty proof
vectors included (the D2 repair). -/
theorem hyrax_wrong_number_refused (ks : List F) (hh : F) (coms : List (List F)) (point vs : List F)
    (πs : List (Hyrax.Proof F)) (cs : List F) (hn : point.length % 2 = 0)
    (h : coms.length ≠ πs.length ∨ vs.length ≠ πs.length) :
    Hyrax.check ks hh coms point vs πs cs = .error .incorrectInputLength :=
  Hyrax.check_lengths hn h

/-- **Hyrax, odd number of variables** is refused. -/
theorem hyrax_odd_point_refused (ks : List F) (hh : F) (coms : List (List F)) (point vs : List F)
    (πs : List (Hyrax.Proof F)) (cs : List F) (hn : point.length % 2 = 1) :
    Hyrax.check ks hh coms point vs πs cs = .error .invalidNumVars :=
  Hyrax.check_odd hn

/-- **Hyrax, shapes of an accepted transcript.** If `check` accepts, every commitment has exactly
`2^(n/2)` row commitments and every `z` has exactly as many entries as the key (so a stretched or
shortened `z`, or a commitment with a missing / surplus row, is never accepted), and a challenge
was squeezed for every proof. -/
theorem hyrax_accept_shapes (ks : List F) (hh : F) (coms : List (List F)) (point vs : List F)
    (πs : List (Hyrax.Proof F)) (cs : List F)
    (h : Hyrax.check ks hh coms point vs πs cs = .ok true) :
    (∀ c ∈ coms, c.length = 2 ^ (point.length / 2)) ∧ (∀ π ∈ πs, π.z.length = ks.length) ∧
      coms.length = πs.length ∧ vs.length = πs.length := by
  obtain ⟨_, h1, h2, s1, s2⟩ := Hyrax.check_shapes h
  exact ⟨s1, s2, h1, h2⟩

/-- **Hyrax, `row_coms` of the wrong length (single polynomial), exact outcome:** once the
evaluation commitment test passes, the verifier refuses with `IncorrectCommitmentSize`. -/
theorem hyrax_row_coms_length_refused (ks : List F) (hh k0 : F) (T point : List F) (v : F)
    (π : Hyrax.Proof F) (cs : List F) (hn : point.length % 2 = 0) (hk : Hyrax.key0 ks = some k0)
    (he : Hyrax.defectEval k0 hh v π = 0) (hT : T.length ≠ 2 ^ (point.length / 2)) :
    Hyrax.check ks hh [T] point [v] [π] cs = .error .invalidCommitment := by
  rw [Hyrax.check_single hn, Hyrax.preCheck_of_key hk, if_neg (not_not.2 he), if_pos hT]

/-- **Hyrax, `z` of the wrong length (single polynomial), exact outcome:** if the first two tests
pass (a stretched `z` leaves `⟨R,z⟩` unchanged, so they can), `pedersen_commit` aborts. -/
theorem hyrax_z_length_refused (ks : List F) (hh k0 : F) (T point : List F) (v : F)
    (π : Hyrax.Proof F) (c : F) (cs : List F) (hn : point.length % 2 = 0)
    (hk : Hyrax.key0 ks = some k0) (he : Hyrax.defectEval k0 hh v π = 0)
    (hT : T.length = 2 ^ (point.length / 2))
    (h14 : Hyrax.defect14 k0 hh (Hyrax.tensorR point) π c = 0) (hz : ks.length ≠ π.z.length) :
    Hyrax.check ks hh [T] point [v] [π] (c :: cs) = .error .abort := by
  rw [Hyrax.check_single hn, Hyrax.preCheck_of_key hk, if_neg (not_not.2 he),
    if_neg (not_not.2 hT)]
  simp only
  rw [Hyrax.postCheck_of_key hk, if_neg (not_not.2 h14), if_pos hz]

/-! ### (iii) single-component replacement: components that are not hashed into the challenge -/

/-- the three defects of a single-polynomial check that accepts -/
theorem hyrax_single_accept (ks : List F) (hh : F) (T point : List F) (v : F) (π : Hyrax.Proof F)
    (c : F) (h : Hyrax.check ks hh [T] point [v] [π] [c] = .ok true) :
    ∃ k0, Hyrax.key0 ks = some k0 ∧ Hyrax.defectEval k0 hh v π = 0 ∧
      Hyrax.defect14 k0 hh (Hyrax.tensorR point) π c = 0 ∧
      Hyrax.defect13 ks hh (Hyrax.tensorL point) T π c = 0 := by
  obtain ⟨_, k0, hk, _, _, e⟩ := Hyrax.check_single_iff.1 h
  exact ⟨k0, hk, e⟩

/-- **`z_d`.** The defect of equation (13) is affine in `z_d` with coefficient `h`: for a fixed
statement, challenge and remaining proof, at most one `z_d` is accepted (`h ≠ 0`). -/
theorem hyrax_zD_unique (ks : List F) (hh : F) (T point : List F) (v c ce cd cb : F) (z : List F)
    (zb re x₁ x₂ : F) (hh0 : hh ≠ 0)
    (h₁ : Hyrax.check ks hh [T] point [v] [⟨ce, cd, cb, z, x₁, zb, re⟩] [c] = .ok true)
    (h₂ : Hyrax.check ks hh [T] point [v] [⟨ce, cd, cb, z, x₂, zb, re⟩] [c] = .ok true) : x₁ = x₂ := by
  obtain ⟨_, _, _, _, a⟩ := hyrax_single_accept ks hh T point v _ c h₁
  obtain ⟨_, _, _, _, b⟩ := hyrax_single_accept ks hh T point v _ c h₂
  -- the two defects of equation (13) differ only in `h·z_d`
  exact mul_left_cancel₀ hh0 (add_left_cancel (sub_left_inj.1 (a.trans b.symm)))

/-- **`z_b`.** Equation (14) is affine in `z_b` with coefficient `h`. -/
theorem hyrax_zB_unique (ks : List F) (hh : F) (T point : List F) (v c ce cd cb : F) (z : List F)
    (zd re x₁ x₂ : F) (hh0 : hh ≠ 0)
    (h₁ : Hyrax.check ks hh [T] point [v] [⟨ce, cd, cb, z, zd, x₁, re⟩] [c] = .ok true)
    (h₂ : Hyrax.check ks hh [T] point [v] [⟨ce, cd, cb, z, zd, x₂, re⟩] [c] = .ok true) : x₁ = x₂ := by
  obtain ⟨k1, hk1, _, a, _⟩ := hyrax_single_accept ks hh T point v _ c h₁
  obtain ⟨k2, hk2, _, b, _⟩ := hyrax_single_accept ks hh T point v _ c h₂
  cases hk1.symm.trans hk2
  exact mul_left_cancel₀ hh0 (add_left_cancel (sub_left_inj.1 (a.trans b.symm)))

/-- **`r_eval`.** The evaluation-commitment equation is affine in `r_eval` with coefficient `−h`. -/
theorem hyrax_rEval_unique (ks : List F) (hh : F) (T point : List F) (v c ce cd cb : F) (z : List F)
    (zd zb x₁ x₂ : F) (hh0 : hh ≠ 0)
    (h₁ : Hyrax.check ks hh [T] point [v] [⟨ce, cd, cb, z, zd, zb, x₁⟩] [c] = .ok true)
    (h₂ : Hyrax.check ks hh [T] point [v] [⟨ce, cd, cb, z, zd, zb, x₂⟩] [c] = .ok true) : x₁ = x₂ := by
  obtain ⟨k1, hk1, a, _, _⟩ := hyrax_single_accept ks hh T point v _ c h₁
  obtain ⟨k2, hk2, b, _, _⟩ := hyrax_single_accept ks hh T point v _ c h₂
  cases hk1.symm.trans hk2
  exact mul_left_cancel₀ hh0 (add_left_cancel (sub_right_inj.1 (a.trans b.symm)))

/-- **One entry of `z`.** Equation (13) is affine in `z[j]` with coefficient `com_key[j]`: if that
generator is not the identity, at most one value of `z[j]` is accepted. -/
theorem hyrax_z_entry_unique (ks : List F) (hh : F) (T point : List F) (v c ce cd cb : F)
    (z : List F) (zd zb re : F) (j : Nat) (x₁ x₂ : F) (hj : j < z.length)
    (hkj : getD' ks j 0 ≠ 0)
    (h₁ : Hyrax.check ks hh [T] point [v] [⟨ce, cd, cb, z.set j x₁, zd, zb, re⟩] [c] = .ok true)
    (h₂ : Hyrax.check ks hh [T] point [v] [⟨ce, cd, cb, z.set j x₂, zd, zb, re⟩] [c] = .ok true) :
    x₁ = x₂ := by
  obtain ⟨_, _, _, _, a⟩ := hyrax_single_accept ks hh T point v _ c h₁
  obtain ⟨_, _, _, _, b⟩ := hyrax_single_accept ks hh T point v _ c h₂
  have e : dot ks (z.set j x₁) = dot ks (z.set j x₂) :=
    add_right_cancel (sub_left_inj.1 (a.trans b.symm))
  have hs := dot_set_sub z ks j hj x₁ x₂
  rw [dot_comm _ ks, dot_comm _ ks, e, sub_self] at hs
  exact sub_eq_zero.1 ((mul_eq_zero.1 hs.symm).resolve_right hkj)

/-- **Forged value with a compensating `r_eval`.** From an accepted transcript, the statement with
value `v + dv` and the proof with `r_eval + dr` (nothing else changed; neither is hashed) is accepted
iff `dv·com_key[0] + dr·h = 0` — i.e. exactly when the forger knows the discrete log of
`com_key[0]` with respect to `h`; for `dr = 0` never (`hyrax_wrong_value_rejected`). -/
theorem hyrax_value_and_r_eval (ks : List F) (hh k0 : F) (T point : List F) (v c ce cd cb : F)
    (z : List F) (zd zb re dv dr : F) (hk : Hyrax.key0 ks = some k0)
    (h₁ : Hyrax.check ks hh [T] point [v] [⟨ce, cd, cb, z, zd, zb, re⟩] [c] = .ok true) :
    Hyrax.check ks hh [T] point [v + dv] [⟨ce, cd, cb, z, zd, zb, re + dr⟩] [c] = .ok true
      ↔ dv * k0 + dr * hh = 0 := by
  rw [Hyrax.check_single_iff, Hyrax.itemOK_iff_of_key hk] at h₁ ⊢
  obtain ⟨hn, s1, s2, e1, e2, e3⟩ := h₁
  -- only the evaluation-commitment defect moves
  have d : Hyrax.defectEval k0 hh (v + dv) ⟨ce, cd, cb, z, zd, zb, re + dr⟩
      = Hyrax.defectEval k0 hh v ⟨ce, cd, cb, z, zd, zb, re⟩ - (dv * k0 + dr * hh) := by
    simp only [Hyrax.defectEval]; ring
  rw [d, e1, zero_sub, neg_eq_zero]
  exact ⟨fun h => h.2.2.2.1, fun g => ⟨hn, s1, s2, g, e2, e3⟩⟩

/-! ### (i)/(ii) proofs made for something else -/

/-- **Honest prover run on another polynomial / replayed against another commitment.** The honest
proof for `(q, st_q)` at `point`, presented against other row commitments `T'` (say those of `p`)
for the value `q̃(point)`, is accepted iff `⟨T',L⟩·c' = ⟨T_q,L⟩·ch` (given `com_eval·(c'−ch) = 0`,
e.g. equal challenges) — for honest `T' = commit(p)` a non-zero linear form in the key scalars
unless `Lᵀ·M_p = Lᵀ·M_q` and the blindings agree. A proof for another point: `C02.hyrax_wrong_point_iff`. -/
theorem hyrax_other_commitment_iff (ks : List F) (hh k0 : F) (q : Hyrax.MLPoly F) (ρs Tq : List F)
    (st : Hyrax.State F) (point : List F) (rEval : F) (d : List F) (rD rB ch : F)
    (π : Hyrax.Proof F) (hn : point.length % 2 = 0) (hk : Hyrax.key0 ks = some k0)
    (hc : Hyrax.commitOne ks hh q ρs = .ok (Tq, st))
    (ho : Hyrax.openOne ks hh (Hyrax.tensorL point) (Hyrax.tensorR point) st rEval d rD rB ch = .ok π)
    (T' : List F) (hT : T'.length = 2 ^ (point.length / 2)) (c' : F) (hcc : π.comEval * (c' - ch) = 0) :
    Hyrax.check ks hh [T'] point [Hyrax.mleEval q.evals point] [π] [c'] = .ok true
      ↔ dot T' (Hyrax.tensorL point) * c' = dot Tq (Hyrax.tensorL point) * ch :=
  C02.hyrax_wrong_commitment_iff ks hh k0 q ρs Tq st point rEval d rD rB ch π hn hk hc ho T' hT c' hcc

/-! non-vacuity over `ZMod 101` (the honest transcript of `C02_Hyrax`) -/

example : Hyrax.check ([3, 5] : List K) 7 [[88, 65]] [6, 17] [Hyrax.mleEval [1, 2, 3, 4] [6, 17]]
    [⟨29, 49, 92, [79, 1], 67, 16, 1⟩] [11] = .ok true ∧ (7 : K) ≠ 0 ∧ getD' ([3, 5] : List K) 1 0 ≠ 0 := by
  decide +kernel
/-- the compensated forgery: `dv = 1`, `dr = −3/7 = 14 (mod 101)` -/
example : Hyrax.check ([3, 5] : List K) 7 [[88, 65]] [6, 17] [Hyrax.mleEval [1, 2, 3, 4] [6, 17] + 1]
    [⟨29, 49, 92, [79, 1], 67, 16, 1 + 14⟩] [11] = .ok true ∧ (1 : K) * 3 + 14 * 7 = 0 := by decide +kernel
example : Hyrax.check ([3, 5] : List K) 7 [[88, 65]] [6, 17] [41] [] [11] = .error .incorrectInputLength ∧
    Hyrax.check ([3, 5] : List K) 7 [[88]] [6, 17] [41] [⟨29, 49, 92, [79, 1], 67, 16, 1⟩] [11]
      = .error .invalidCommitment ∧
    Hyrax.check ([3, 5] : List K) 7 [[88, 65]] [6, 17] [41] [⟨29, 49, 92, [79, 1, 0], 67, 16, 1⟩] [11]
      = .error .abort := by decide +kernel

end PCV.C03
