/-
  Property C03 (Hyrax) — the reduction behind "no crafted proof proves a false claim": special
  soundness of the proof of dot product.  (Attack catalogue on the exact model: `Props/C03_Hyrax.lean`.)
-/
import PCV.Proofs.HyraxSound
import PCV.Props.C03_Hyrax

namespace PCV.C03
open PCV Hyrax
variable {F : Type} [Field F] [DecidableEq F]

/-- **Hyrax, special soundness on accepted transcripts.**  If the verifier accepts, for the same
commitment `T`, point and claimed value, two proofs with the same first message
`(com_eval, com_d, com_b)` under two different challenges `c ≠ c'` (a forger that can answer two
challenges — what rewinding a successful forger yields), then from the two responses one computes
`w = (z − z')/(c − c')` with
* `⟨L, T⟩ = ⟨com_key, w⟩ + ρ·h` — `w` opens the row combination of the commitment,
* `(⟨R, w⟩ − value)·com_key[0] + (σ − r_eval)·h = 0`,
so either `⟨R, w⟩ = value` — the claimed value IS the evaluation of the vector committed in `T` — or
the forger has produced a non-trivial discrete-log relation between `com_key[0]` and `h`. -/
theorem hyrax_special_soundness (ks : List F) (hh : F) (T point : List F) (v : F)
    (ce cd cb : F) (z z' : List F) (zd zd' zb zb' re re' c c' : F) (hc : c ≠ c')
    (h₁ : Hyrax.check ks hh [T] point [v] [⟨ce, cd, cb, z, zd, zb, re⟩] [c] = .ok true)
    (h₂ : Hyrax.check ks hh [T] point [v] [⟨ce, cd, cb, z', zd', zb', re'⟩] [c'] = .ok true) :
    ∃ k0 w ρ σ, Hyrax.key0 ks = some k0 ∧
      dot T (tensorL point) = dot ks w + hh * ρ ∧
      (dot (tensorR point) w - v) * k0 + (σ - re) * hh = 0 := by
  obtain ⟨k0, hk, e1, e14, e13⟩ := hyrax_single_accept ks hh T point v _ c h₁
  obtain ⟨k0', hk', _, e14', e13'⟩ := hyrax_single_accept ks hh T point v _ c' h₂
  rw [hk] at hk'; injection hk' with hk'; subst hk'
  have hz := (hyrax_accept_shapes ks hh [T] point [v] _ [c] h₁).2.1
    ⟨ce, cd, cb, z, zd, zb, re⟩ (List.mem_singleton.2 rfl)
  have hz' := (hyrax_accept_shapes ks hh [T] point [v] _ [c'] h₂).2.1
    ⟨ce, cd, cb, z', zd', zb', re'⟩ (List.mem_singleton.2 rfl)
  simp only at hz hz'
  obtain ⟨s1, s2⟩ := special_soundness ks k0 hh (tensorL point) (tensorR point) T ce cd cb z z'
    zd zd' zb zb' re re' c c' hc (by rw [hz, hz']) e13 e13' e14 e14'
  exact ⟨k0, diffQuot (c - c')⁻¹ z z', _, _, hk, s1, value_or_relation k0 hh (tensorR point) _ ce _ v re s2 e1⟩

/-! non-vacuity: the honest prover of `C01_Hyrax`'s first example polynomial, same draws, challenges
`11` and `13`: same first message, both accepted -/
example : Hyrax.check ([3, 5] : List K) 7 [[88, 65]] [6, 17] [41] [⟨29, 49, 92, [79, 1], 67, 16, 1⟩] [11]
      = .ok true ∧
    Hyrax.check ([3, 5] : List K) 7 [[88, 65]] [6, 17] [41] [⟨29, 49, 92, [93, 19], 5, 18, 1⟩] [13]
      = .ok true ∧ (11 : K) ≠ 13 := by decide +kernel

end PCV.C03
