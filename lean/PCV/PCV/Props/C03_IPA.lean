/-
  Property C03 — no crafted or malformed proof proves a false claim, inner-product-argument scheme
  (attack catalogue on the exact model: shape mutations, replacement of the proof components that
  are not hashed into a later challenge; `l_vec`, `r_vec`, `hiding_comm` are hashed, for them the
  acceptance condition is `ipa_check_iff` of C02 with the re-derived challenges as oracle inputs).
-/
import PCV.Proofs.IPAVerify
import PCV.Props.Examples

namespace PCV.C03
open PCV
variable {F : Type} [Field F] [DecidableEq F]

/-- **IPA, shape (`check`).** For a key of `2^k` elements, a proof whose `l_vec` and `r_vec`
differ in length, or which does not have exactly `k = log₂(s+1)` rounds (removed or added rounds,
e.g. a proof made with a smaller or larger key), is refused with `IncorrectInputLength` — before
anything else is looked at. -/
theorem ipa_check_shape_refused (vk : IPA.VK F) (k : Nat) (hk : vk.commKey.length = 2 ^ k)
    (cs : List (IPA.LComm F)) (z : F) (vs : List F) (π : IPA.Proof F) (ξs ros : List F)
    (h : π.lVec.length ≠ π.rVec.length ∨ π.lVec.length ≠ k) :
    IPA.check vk cs z vs π ξs ros = .error .incorrectInputLength := by
  apply IPA.check_shape
  rw [IPA.badShape_iff, IPA.clog2_supported vk k hk]
  exact h

/-- **IPA, shape (`batch_check`).** A batch containing such a proof at *any* position is never
accepted (the repaired `batch_check` enforces the same round count as `check`). -/
theorem ipa_batch_shape_refused (vk : IPA.VK F) (k : Nat) (hk : vk.commKey.length = 2 ^ k)
    (comms : List (IPA.LComm F)) (qs : List (IPA.Query F)) (evals : List ((IPA.Label × F) × F))
    (πs : List (IPA.Proof F)) (ξs ros rs : List F) (π : IPA.Proof F) (hπ : π ∈ πs)
    (h : π.lVec.length ≠ π.rVec.length ∨ π.lVec.length ≠ k) :
    IPA.batchCheck vk comms qs evals πs ξs ros rs ≠ .ok true := by
  apply IPA.batchCheck_shape vk comms qs evals πs ξs ros rs π hπ
  rw [IPA.badShape_iff, IPA.clog2_supported vk k hk]
  exact h

/-- **IPA, shape (`batch_check`), first proof.** If the malformed proof is the first of the batch
the answer is the same `IncorrectInputLength` as in `check`. -/
theorem ipa_batch_shape_refused_first (vk : IPA.VK F) (k : Nat) (hk : vk.commKey.length = 2 ^ k)
    (comms : List (IPA.LComm F)) (qs : List (IPA.Query F)) (evals : List ((IPA.Label × F) × F))
    (π : IPA.Proof F) (πs : List (IPA.Proof F)) (ξs ros rs : List F)
    (hl : (π :: πs).length = (Marlin.groupQueries qs).length)
    (h : π.lVec.length ≠ π.rVec.length ∨ π.lVec.length ≠ k) :
    IPA.batchCheck vk comms qs evals (π :: πs) ξs ros rs = .error .incorrectInputLength := by
  apply IPA.batchCheck_shape_first vk comms qs evals π πs ξs ros rs hl
  rw [IPA.badShape_iff, IPA.clog2_supported vk k hk]
  exact h

/-- **IPA, proof-list length.** `batch_check` aborts unless there is exactly one proof per point
label (missing, surplus or empty proof lists). -/
theorem ipa_batch_count_refused (vk : IPA.VK F) (comms : List (IPA.LComm F))
    (qs : List (IPA.Query F)) (evals : List ((IPA.Label × F) × F)) (πs : List (IPA.Proof F))
    (ξs ros rs : List F) (h : πs.length ≠ (Marlin.groupQueries qs).length) :
    IPA.batchCheck vk comms qs evals πs ξs ros rs = .error .abort := by
  unfold IPA.batchCheck; rw [if_pos h]

/-- **IPA, `c` replaced: the defect is affine in `c`.** `c` is not hashed into any challenge, so
for a fixed statement and fixed other components `defect1 = A − c·(K + h′·h_u(z))`. -/
theorem ipa_c_defect_affine (vk : IPA.VK F) (z : F) (π : IPA.Proof F) (r : IPA.Run F) (K c : F) :
    IPA.defect1 vk z ⟨π.lVec, π.rVec, K, c, π.hidingComm, π.rand⟩ r
      = (r.C + vk.h * r.ξ₀ * r.V + r.lr) - c * (K + vk.h * r.ξ₀ * Succinct.evaluate r.us z) :=
  IPA.defect1_c vk z π r K c

/-- **IPA, `c` replaced.** At most one value of `c` is accepted (given `K + h′·h_u(z) ≠ 0`): a
proof differing from an accepted one only in `c` is rejected. -/
theorem ipa_c_unique (vk : IPA.VK F) (cs : List (IPA.LComm F)) (z : F) (vs : List F)
    (π : IPA.Proof F) (ξs ros : List F) (c' : F) (r : IPA.Run F) (ξr ror : List F)
    (hr : IPA.succinctRun vk cs z vs π ξs ros = .ok (r, ξr, ror))
    (hnd : π.finalCommKey + vk.h * r.ξ₀ * Succinct.evaluate r.us z ≠ 0)
    (h₁ : IPA.check vk cs z vs π ξs ros = .ok true)
    (h₂ : IPA.check vk cs z vs ⟨π.lVec, π.rVec, π.finalCommKey, c', π.hidingComm, π.rand⟩ ξs ros
      = .ok true) : c' = π.c := by
  obtain ⟨_, d1, _⟩ := IPA.check_accept_run h₁ hr
  obtain ⟨_, d2, _⟩ := IPA.check_accept_run h₂ hr
  exact mul_right_cancel₀ hnd (((IPA.defect1_eq_zero_iff vk z _ r).1 d2).symm.trans
    ((IPA.defect1_eq_zero_iff vk z π r).1 d1))

/-- **IPA, `final_comm_key` replaced.** The final-key test pins it to `⟨coeffs(h_u), G⟩`: a proof
differing from an accepted one only in `final_comm_key` is rejected — unconditionally. -/
theorem ipa_final_key_unique (vk : IPA.VK F) (cs : List (IPA.LComm F)) (z : F) (vs : List F)
    (π : IPA.Proof F) (ξs ros : List F) (K' : F)
    (h₁ : IPA.check vk cs z vs π ξs ros = .ok true)
    (h₂ : IPA.check vk cs z vs ⟨π.lVec, π.rVec, K', π.c, π.hidingComm, π.rand⟩ ξs ros = .ok true) :
    K' = π.finalCommKey := by
  obtain ⟨_, r, ξr, ror, hr, _, e1⟩ := (IPA.check_iff _ _ _ _ _ _ _).1 h₁
  obtain ⟨_, _, e2⟩ := IPA.check_accept_run h₂ hr
  exact (sub_eq_zero.1 e2).symm.trans (sub_eq_zero.1 e1)

/-- **IPA, the accepted `final_comm_key` and `c` are the honest ones** (exact form): on an
accepted transcript `K = ⟨coeffs(h_u), G⟩` and `c·(K + h′·h_u(z)) = Ĉ + h′·v̂ + Σ(u⁻¹L + uR)`. -/
theorem ipa_accepted_components (vk : IPA.VK F) (cs : List (IPA.LComm F)) (z : F) (vs : List F)
    (π : IPA.Proof F) (ξs ros : List F) (h : IPA.check vk cs z vs π ξs ros = .ok true) :
    ∃ r ξr ror, IPA.succinctRun vk cs z vs π ξs ros = .ok (r, ξr, ror) ∧
      π.finalCommKey = dot vk.commKey (Succinct.computeCoeffs r.us) ∧
      π.c * (π.finalCommKey + vk.h * r.ξ₀ * Succinct.evaluate r.us z)
        = r.C + vk.h * r.ξ₀ * r.V + r.lr := by
  obtain ⟨_, r, ξr, ror, hr, d1, d2⟩ := (IPA.check_iff _ _ _ _ _ _ _).1 h
  exact ⟨r, ξr, ror, hr, (sub_eq_zero.1 d2).symm, ((IPA.defect1_eq_zero_iff vk z π r).1 d1).symm⟩

/-! non-vacuity over `ZMod 101`.  The D7 witness in the model: a proof made with the key trimmed
to 2 elements (one round) for a polynomial of degree 1, presented to the 4-element key (two rounds
expected; the commitment is the same because only `G₀, G₁` are used): `check` and `batch_check`
both refuse. -/
example : IPA.check (⟨[3, 5], 13, 17, 3⟩ : IPA.CK K) [⟨[1], ⟨57, none⟩, none⟩] 6 [58]
    ⟨[7], [83], 48, 10, none, none⟩ [2, 3, 4] [8, 9] = .ok true := by decide +kernel
example : IPA.check (⟨[3, 5, 7, 11], 13, 17, 3⟩ : IPA.CK K) [⟨[1], ⟨57, none⟩, none⟩] 6 [58]
    ⟨[7], [83], 48, 10, none, none⟩ [2, 3, 4] [8, 9] = .error .incorrectInputLength := by decide +kernel
example : IPA.batchCheck (⟨[3, 5, 7, 11], 13, 17, 3⟩ : IPA.CK K) [⟨[1], ⟨57, none⟩, none⟩]
    [([1], ([9], 6))] [(([1], 6), 58)] [⟨[7], [83], 48, 10, none, none⟩] [2, 3, 4] [8, 9] [5]
    = .error .incorrectInputLength := by decide +kernel
example : IPA.batchCheck (⟨[3, 5], 13, 17, 3⟩ : IPA.CK K) [⟨[1], ⟨57, none⟩, none⟩]
    [([1], ([9], 6))] [(([1], 6), 58)] [⟨[7], [83], 48, 10, none, none⟩] [2, 3, 4] [8, 9] [5]
    = .ok true := by decide +kernel
-- `c` and `final_comm_key` replaced
example : IPA.check (⟨[3, 5], 13, 17, 3⟩ : IPA.CK K) [⟨[1], ⟨57, none⟩, none⟩] 6 [58]
    ⟨[7], [83], 48, 11, none, none⟩ [2, 3, 4] [8, 9] = .ok false := by decide +kernel
example : IPA.check (⟨[3, 5], 13, 17, 3⟩ : IPA.CK K) [⟨[1], ⟨57, none⟩, none⟩] 6 [58]
    ⟨[7], [83], 49, 10, none, none⟩ [2, 3, 4] [8, 9] = .ok false := by decide +kernel
example : (48 : K) + 13 * 8 * Succinct.evaluate [9] 6 ≠ 0 := by decide +kernel

end PCV.C03
