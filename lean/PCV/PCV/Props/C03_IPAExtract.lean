/-
  Property C03 — inner-product argument, ALGEBRAIC forger (the reduction evaluation binding rests on).
  Lemmas: PCV/Proofs/IPAExtract.lean; the trichotomy is the list form of `C03_IPAExtractGeneral` on one commitment,
  carried from `(G, h′, s)` to `(G, h′)`.  Every element the prover sends is given by its representation over the
  committer key `G` and the round generator `h′ = ξ₀·h` — the only elements the library's own operations (MSMs
  over the key) can form.  An accepted FALSE claim then means: a non-trivial linear relation between the
  independently sampled generators with coefficients the prover knows (a discrete-log relation), or one of the
  at most `2·log₂ n` exceptional round-challenge values.
-/
import PCV.Proofs.IPAExtract
import PCV.Props.C03_IPAExtractGeneral
import PCV.Props.Examples

namespace PCV.C03
open PCV
variable {F : Type} [Field F] [DecidableEq F]

/-- **IPA, acceptance is one linear relation between the generators.** Whatever the statement: if the combined
commitment `Ĉ` and the sum `Σ(u⁻¹L + uR)` of an accepted run are represented over `(G, h′)`, the coefficient
vector `(rel_G, rel_h)` — computed from those representations, the proof's `c`, the round challenges and the
combined value — satisfies `⟨rel_G, G⟩ + rel_h·h′ = 0`. -/
theorem ipa_accept_is_linear_relation (vk : IPA.VK F) (z : F) (π : IPA.Proof F) (r : IPA.Run F)
    (P : List F × F) (Ls Rs : List (List F × F))
    (hC : r.C = IPA.repVal vk.commKey (vk.h * r.ξ₀) P)
    (hlr : r.lr = IPA.repVal vk.commKey (vk.h * r.ξ₀) (IPA.lrRep Ls Rs r.us))
    (h1 : IPA.defect1 vk z π r = 0) (h2 : IPA.defect2 vk π r.us = 0) :
    IPA.repVal vk.commKey (vk.h * r.ξ₀)
      (IPA.relG P Ls Rs r.us π.c, IPA.relH P r.V Ls Rs r.us π.c z) = 0 :=
  IPA.accept_relation hC hlr h1 h2

/-- **IPA, the round-by-round argument** (pure algebra, any field): a running error that starts non-zero,
receives `λᵢ·uᵢ⁻¹ + ρᵢ·uᵢ` in round `i` and ends at zero passes, at the first round where it vanishes, through
a root `uᵢ` of `ρᵢ·X² + Aᵢ·X + λᵢ` with `Aᵢ ≠ 0` the running error before that round. -/
theorem ipa_running_error_hits_root (ls rs us : List F) (A : F) (hu : ∀ u ∈ us, u ≠ 0)
    (hA : A ≠ 0) (hend : A + IPA.lrSum ls rs us = 0) :
    ∃ i, i < us.length ∧ i < ls.length ∧ i < rs.length ∧
      A + IPA.lrSum (ls.take i) (rs.take i) (us.take i) ≠ 0 ∧
      rs.getD i 0 * us.getD i 0 ^ 2
        + (A + IPA.lrSum (ls.take i) (rs.take i) (us.take i)) * us.getD i 0 + ls.getD i 0 = 0 :=
  IPA.running_error_hits_root ls rs us A hu hA hend

/-- **IPA, algebraic forger against `check`** (one commitment without degree bound, non-hiding proof).
The commitment is `⟨p, G⟩`; the proof's `L`s and `R`s are `⟨·, G⟩ + ·h′` with representations `Ls`, `Rs`.  If
`check` answers `Ok(true)` then, with `r` the verifier's run:

* the prover holds a non-trivial relation: some coefficient of `(rel_G, rel_h)` is non-zero and
  `⟨rel_G, G⟩ + rel_h·h′ = 0`;  or
* the claim is true up to the statement challenge: `ξ·p(z) = ξ·v`;  or
* some round challenge `uᵢ` is a root of `ρᵢ·X² + Aᵢ·X + λᵢ` with `Aᵢ ≠ 0`, where `λᵢ`, `ρᵢ` are the
  slacks `⟨Lᵢ.G, (1,z,z²,…)⟩ − Lᵢ.h` of the round's elements and `Aᵢ` the error accumulated before round `i`
  — all fixed before `uᵢ` is drawn (`L_i`, `R_i` are absorbed before the challenge is squeezed). -/
theorem ipa_algebraic_forgery_trichotomy (vk : IPA.VK F) (c : IPA.LComm F) (p : List F) (z v : F)
    (π : IPA.Proof F) (Ls Rs : List (List F × F)) (ξ ξ' ξ'' : F) (ξs ros : List F)
    (hbound : c.bound = none) (hshift : c.comm.shifted = none)
    (hcomm : c.comm.comm = dot vk.commKey p)
    (hhc : π.hidingComm = none) (hrand : π.rand = none)
    (hL : π.lVec = Ls.map (IPA.repVal vk.commKey (vk.h * ros.headD 0)))
    (hR : π.rVec = Rs.map (IPA.repVal vk.commKey (vk.h * ros.headD 0)))
    (hacc : IPA.check vk [c] z [v] π (ξ :: ξ' :: ξ'' :: ξs) ros = .ok true) :
    ∃ r ξr ror, IPA.succinctRun vk [c] z [v] π (ξ :: ξ' :: ξ'' :: ξs) ros = .ok (r, ξr, ror) ∧
      r.ξ₀ = ros.headD 0 ∧ r.V = ξ * v ∧
      (((∃ i, (IPA.relG (pscale ξ p, 0) Ls Rs r.us π.c).getD i 0 ≠ 0)
            ∨ IPA.relH (pscale ξ p, 0) r.V Ls Rs r.us π.c z ≠ 0) ∧
          IPA.repVal vk.commKey (vk.h * r.ξ₀)
            (IPA.relG (pscale ξ p, 0) Ls Rs r.us π.c, IPA.relH (pscale ξ p, 0) r.V Ls Rs r.us π.c z) = 0
        ∨ ξ * evalPoly p z = ξ * v
        ∨ ∃ i, i < r.us.length ∧ i < Ls.length ∧ i < Rs.length ∧
            (ξ * evalPoly p z - ξ * v)
              + IPA.lrSum ((Ls.map (IPA.slack z)).take i) ((Rs.map (IPA.slack z)).take i) (r.us.take i) ≠ 0 ∧
            (Rs.map (IPA.slack z)).getD i 0 * r.us.getD i 0 ^ 2
              + ((ξ * evalPoly p z - ξ * v)
                  + IPA.lrSum ((Ls.map (IPA.slack z)).take i) ((Rs.map (IPA.slack z)).take i) (r.us.take i))
                * r.us.getD i 0
              + (Ls.map (IPA.slack z)).getD i 0 = 0) := by
  obtain ⟨r, ξr, ror, hr, hξ₀, hV, h⟩ :=
    ipa_general_nonhiding_algebraic_forgery_trichotomy vk [c] [⟨p, 0, [], 0⟩] z [v] π (Ls.map IPA.emb3)
      (Rs.map IPA.emb3) ξ (ξ' :: ξ'' :: ξs) ros ⟨⟨by rw [hcomm, mul_zero, add_zero], .inl hshift⟩, trivial⟩ hhc
      (by rw [IPA.map_rep3Val_emb3]; exact hL) (by rw [IPA.map_rep3Val_emb3]; exact hR) hacc
  -- the closed forms of the general theorem on a one-element statement without bound
  have hP : IPA.runRep [c] [⟨p, 0, [], 0⟩] [v] π [] 0 ξ (ξ' :: ξ'' :: ξs) ros = IPA.emb3 (pscale ξ p, 0) := by
    simp only [IPA.runRep, IPA.accG, IPA.accS, IPA.stepG, IPA.stepS, hbound, IPA.hidChal_none hhc, hrand,
      padd_nil_right, pscale, List.map_nil, mul_zero, add_zero, Option.getD_none, sub_zero, IPA.emb3]
  have hA : IPA.accClaim vk z [c] [⟨p, 0, [], 0⟩] [v] ξ (ξ' :: ξ'' :: ξs) = ξ * evalPoly p z - ξ * v := by
    simp only [IPA.accClaim, IPA.stepClaim, hbound, add_zero, mul_sub]
  simp only [IPA.valueErr, IPA.stepErr, hbound, add_zero] at hV
  rw [hP, hA] at h
  exact ⟨r, ξr, ror, hr, hξ₀, hV, (IPA.trichotomy_emb3 h).imp_right (Or.imp_left sub_eq_zero.1)⟩

/-! non-vacuity over `ZMod 101`: the accepted transcript of `C03_IPA` (key `[3, 5]`, `h = 13`, commitment
`57 = ⟨[4, 9], G⟩`, `z = 6`, `v = 58 = p(6)`, `ξ = 2`, `ξ₀ = 8`, one round with `u = 9`) meets the hypotheses
with the honest representations `L = ⟨[18, 0], G⟩ + 18·h′`, `R = ⟨[0, 8], G⟩ + 48·h′`; its relation vector is
the zero vector and the claim is true. -/
example : (57 : K) = dot ([3, 5] : List K) [4, 9] := by decide +kernel
example : ([7] : List K) = [(([18, 0] : List K), (18 : K))].map (IPA.repVal [3, 5] (13 * 8)) := by decide +kernel
example : ([83] : List K) = [(([0, 8] : List K), (48 : K))].map (IPA.repVal [3, 5] (13 * 8)) := by decide +kernel
example : IPA.check (⟨[3, 5], 13, 17, 3⟩ : IPA.CK K) [⟨[1], ⟨57, none⟩, none⟩] 6 [58]
    ⟨[7], [83], 48, 10, none, none⟩ [2, 3, 4] [8, 9] = .ok true := by decide +kernel
example : IPA.relG ((pscale 2 [4, 9] : List K), 0) [([18, 0], 18)] [([0, 8], 48)] [9] 10 = [0, 0] := by
  decide +kernel
example : IPA.relH ((pscale 2 [4, 9] : List K), 0) (2 * 58) [([18, 0], 18)] [([0, 8], 48)] [9] 10 6 = 0 := by
  decide +kernel
-- a forged slack: `L` with a wrong `h′`-part moves the running error; the quadratic of the theorem
example : IPA.slack (6 : K) ([18, 0], 17) = 1 ∧ IPA.slack (6 : K) ([18, 0], 18) = 0 := by decide +kernel

end PCV.C03
