/-
  Property C03 — inner-product argument, ALGEBRAIC forger, general form.  Lemmas: PCV/Proofs/IPAExtractGeneral.lean.
  `C03_IPAExtract` / `C04_IPAExtract` treat one non-hiding commitment and a non-hiding proof over the two generator
  families `(G, h′)`.  Here:

  * THREE independent generator families `(G, h′, s)` — committer key, round generator `h′ = ξ₀·h`, hiding
    generator `s`.  Commitments are `⟨p, G⟩ + ρ·s`, the proof's hiding commitment is `⟨hp, G⟩ + hρ·s`, and every
    `L_i`, `R_i` is `⟨·, G⟩ + ·h′ + ·s` (`IPA.Rep3`).
  * an ARBITRARY statement: any list of commitments, with and without degree bounds, hiding or not, and a proof
    with or without the hiding block.
  * `batch_check`: several proofs combined with the verifier's randomizers.

  The order in which things are fixed (from `succinct_check`): the statement (commitments, point, values) and so
  all `pⱼ, qⱼ, ρⱼ, ρ′ⱼ, vⱼ` come first; the statement challenges `ξⱼ, ξ′ⱼ` are squeezed from the sponge; the
  hiding challenge `α` is the random oracle's answer on `(Ĉ, z, v̂, hiding_comm)`, so `hp`, `hρ` are fixed BEFORE
  `α` (but may depend on the `ξ`s); `rand` is not hashed on its own and may depend on `α`, but it is part of the
  adjusted `Ĉ′` that is hashed into `ξ₀`; round `i`'s `L_i`, `R_i` are hashed into `u_i`.

  Not covered by the statement-level theorems: commitments / hiding commitments with a component along `h` itself
  (they are taken over `(G, s)`, what `commit` and `open` produce).  The lemma `IPA.algebraic_trichotomy3` takes an
  arbitrary representation `P` of the combined commitment over `(G, h′, s)` and applies to that case with
  `P.h = (h-coefficient)/ξ₀`.
-/
import PCV.Proofs.IPAExtractGeneral
import PCV.Props.Examples

namespace PCV.C03
open PCV
variable {F : Type} [Field F] [DecidableEq F]

/-- **IPA, acceptance is one linear relation between the generator families `(G, h′, s)`.**  If the combined
commitment `Ĉ` (after the hiding adjustment) and the sum `Σ(u⁻¹L + uR)` of an accepted run are represented over
`(G, h′, s)`, the coefficient vector `rel3 = (rel_G, rel_h, rel_s)` with
`rel_G = P.G + Σ(u⁻¹L.G + uR.G) − c·coeffs(h_u)`, `rel_h = P.h + v̂ + Σ(u⁻¹L.h + uR.h) − c·h_u(z)`,
`rel_s = P.s + Σ(u⁻¹L.s + uR.s)` satisfies `⟨rel_G, G⟩ + rel_h·h′ + rel_s·s = 0`. -/
theorem ipa_accept_is_linear_relation_hiding (vk : IPA.VK F) (z : F) (π : IPA.Proof F) (r : IPA.Run F)
    (P : IPA.Rep3 F) (Ls Rs : List (IPA.Rep3 F))
    (hC : r.C = IPA.rep3Val vk.commKey (vk.h * r.ξ₀) vk.s P)
    (hlr : r.lr = IPA.rep3Val vk.commKey (vk.h * r.ξ₀) vk.s (IPA.lrRep3 Ls Rs r.us))
    (h1 : IPA.defect1 vk z π r = 0) (h2 : IPA.defect2 vk π r.us = 0) :
    IPA.rep3Val vk.commKey (vk.h * r.ξ₀) vk.s (IPA.rel3 P r.V Ls Rs r.us π.c z) = 0 ∧
      (IPA.rel3 P r.V Ls Rs r.us π.c z).G
        = padd (padd P.G (IPA.lrRep3 Ls Rs r.us).G) (pscale (-π.c) (Succinct.computeCoeffs r.us)) ∧
      (IPA.rel3 P r.V Ls Rs r.us π.c z).h
        = P.h + r.V + (IPA.lrRep3 Ls Rs r.us).h - π.c * Succinct.evaluate r.us z ∧
      (IPA.rel3 P r.V Ls Rs r.us π.c z).s = P.s + (IPA.lrRep3 Ls Rs r.us).s :=
  ⟨IPA.accept_relation3 hC hlr h1 h2, rfl, rfl, rfl⟩

/-- **IPA, the combined commitment and value of an arbitrary statement.**  If `xs` represents the commitments `cs`
position by position (plain part `⟨pⱼ, G⟩ + ρⱼ·s`, shifted part `⟨qⱼ, G⟩ + ρ′ⱼ·s`) and the verifier's combining loop
runs through, then its combined commitment is `⟨Σⱼ ξⱼ·pⱼ + ξ′ⱼ·qⱼ, G⟩ + (Σⱼ ξⱼ·ρⱼ + ξ′ⱼ·ρ′ⱼ)·s` (`accG`, `accS`; the
`ξ′`-terms only at positions with a degree bound) and its combined value is `Σⱼ ξⱼ·vⱼ + ξ′ⱼ·vⱼ·z^{s−bⱼ}`
(`valueErr`), where `ξⱼ, ξ′ⱼ` are the two challenges of position `j`. -/
theorem ipa_combined_commitment_representation (vk : IPA.VK F) (z : F) (cs : List (IPA.LComm F))
    (xs : List (IPA.CRep F)) (vs : List F) (cur : F) (ξs : List F) (C V : F) (rest : List F)
    (hcs : IPA.AllCommRep vk.commKey vk.s cs xs)
    (h : IPA.accLoop vk z cs vs cur ξs 0 0 = .ok ((C, V), rest)) :
    C = dot vk.commKey (IPA.accG cs xs vs cur ξs) + vk.s * IPA.accS cs xs vs cur ξs ∧
      V = IPA.valueErr vk z cs vs cur ξs ∧
      evalPoly (IPA.accG cs xs vs cur ξs) z - V = IPA.accClaim vk z cs xs vs cur ξs := by
  obtain ⟨e1, e2⟩ := IPA.accLoop_rep vk z cs xs vs cur ξs 0 0 C V rest hcs h
  have e2' : V = IPA.valueErr vk z cs vs cur ξs := e2.trans (zero_add _)
  refine ⟨e1.trans (zero_add _), e2', ?_⟩
  rw [e2', IPA.accClaim_eq vk z cs xs vs cur ξs (IPA.AllCommRep.length_eq _ _ cs xs hcs)]

/-- **IPA, the combined claim error is one linear form in the statement challenges**:
`Σⱼ ξⱼ·(pⱼ(z) − vⱼ) + ξ′ⱼ·(qⱼ(z) − vⱼ·z^{s−bⱼ}) = ⟨coefficients, (ξ₁, ξ′₁, ξ₂, ξ′₂, …)⟩`, the coefficients
(`claimCoeffs`: `pⱼ(z) − vⱼ` and `qⱼ(z) − vⱼ·z^{s−bⱼ}`, `0` for the unused second challenge of an unbounded position)
being fixed by the statement and the representations before any challenge is drawn. -/
theorem ipa_claim_error_linear_in_challenges (vk : IPA.VK F) (z : F) (cs : List (IPA.LComm F))
    (xs : List (IPA.CRep F)) (vs : List F) (cur : F) (ξs : List F) (hl : 2 * cs.length ≤ ξs.length) :
    IPA.accClaim vk z cs xs vs cur ξs = dot (IPA.claimCoeffs vk z cs xs vs) (cur :: ξs) := by
  induction cs generalizing xs vs cur ξs with
  | nil => rfl
  | cons c cs ih =>
    cases xs with
    | nil => rfl
    | cons x xs =>
      cases vs with
      | nil => rfl
      | cons v vs =>
        match ξs with
        | [] => cases hl
        | [_] =>
          exact absurd (Nat.le_of_add_le_add_right (show 2 * cs.length + 1 + 1 ≤ 0 + 1 from hl))
            (Nat.not_succ_le_zero _)
        | ξ' :: ξ'' :: rest =>
          have hl' : 2 * cs.length ≤ rest.length :=
            Nat.le_of_add_le_add_right (show 2 * cs.length + 2 ≤ rest.length + 2 from hl)
          simp only [IPA.accClaim, IPA.claimCoeffs, dot, ih xs vs ξ'' rest hl',
            IPA.stepClaim_linear vk z c x v cur ξ']
          ring

/-- **IPA, algebraic forger against `check`, arbitrary statement, hiding or not.**
`xs` represents the commitments `cs` over `(G, s)`; the proof's hiding commitment (if present) is
`⟨hp, G⟩ + hρ·s`; its `L`s and `R`s are given by representations over `(G, h′, s)`.  If `check` answers
`Ok(true)` then, with `r` the verifier's run, `α = hidChal π ros` the hiding challenge (`0` without hiding block)
and `P = runRep …` the resulting representation of the combined commitment
(`P.G = Σⱼ(ξⱼ·pⱼ + ξ′ⱼ·qⱼ) + α·hp`, `P.h = 0`, `P.s = Σⱼ(ξⱼ·ρⱼ + ξ′ⱼ·ρ′ⱼ) + α·hρ − rand`):

* the prover holds a non-trivial relation `⟨rel_G, G⟩ + rel_h·h′ + rel_s·s = 0`;  or
* `Σⱼ ξⱼ·(pⱼ(z) − vⱼ) + ξ′ⱼ·(qⱼ(z) − vⱼ·z^{s−bⱼ}) + α·hp(z) = 0` — ONE linear condition on the statement
  challenges and `α`, whose coefficients (`pⱼ(z) − vⱼ`, `qⱼ(z) − vⱼ·z^{s−bⱼ}`: fixed with the statement;
  `hp(z)`: fixed before `α` is drawn) are not all zero when some claim is false;  or
* some round challenge `uᵢ` is a root of `ρᵢ·X² + Aᵢ·X + λᵢ` with `Aᵢ ≠ 0`, where `λᵢ`, `ρᵢ` are the slacks
  `⟨Lᵢ.G, (1,z,z²,…)⟩ − Lᵢ.h` of the round's elements and `Aᵢ` the error accumulated before round `i`, all fixed
  before `uᵢ` is drawn.  The `s`-components of `L_i`, `R_i` enter neither `λᵢ` nor `ρᵢ`. -/
theorem ipa_general_algebraic_forgery_trichotomy (vk : IPA.VK F) (cs : List (IPA.LComm F))
    (xs : List (IPA.CRep F)) (z : F) (vs : List F) (π : IPA.Proof F) (hp : List F) (hρ : F)
    (Ls Rs : List (IPA.Rep3 F)) (cur : F) (ξs ros : List F)
    (hcs : IPA.AllCommRep vk.commKey vk.s cs xs)
    (hh : IPA.HidRep vk.commKey vk.s π hp hρ)
    (hL : π.lVec = Ls.map (IPA.rep3Val vk.commKey (vk.h * (IPA.hidRest π ros).headD 0) vk.s))
    (hR : π.rVec = Rs.map (IPA.rep3Val vk.commKey (vk.h * (IPA.hidRest π ros).headD 0) vk.s))
    (hacc : IPA.check vk cs z vs π (cur :: ξs) ros = .ok true) :
    ∃ r ξr ror, IPA.succinctRun vk cs z vs π (cur :: ξs) ros = .ok (r, ξr, ror) ∧
      r.ξ₀ = (IPA.hidRest π ros).headD 0 ∧ r.V = IPA.valueErr vk z cs vs cur ξs ∧
      r.C = IPA.rep3Val vk.commKey (vk.h * r.ξ₀) vk.s (IPA.runRep cs xs vs π hp hρ cur ξs ros) ∧
      ((IPA.rel3 (IPA.runRep cs xs vs π hp hρ cur ξs ros) r.V Ls Rs r.us π.c z).Nontrivial ∧
          IPA.rep3Val vk.commKey (vk.h * r.ξ₀) vk.s
            (IPA.rel3 (IPA.runRep cs xs vs π hp hρ cur ξs ros) r.V Ls Rs r.us π.c z) = 0
        ∨ IPA.accClaim vk z cs xs vs cur ξs + IPA.hidChal π ros * evalPoly hp z = 0
        ∨ ∃ i, i < r.us.length ∧ i < Ls.length ∧ i < Rs.length ∧
            (IPA.accClaim vk z cs xs vs cur ξs + IPA.hidChal π ros * evalPoly hp z)
              + IPA.lrSum ((Ls.map (IPA.slack3 z)).take i) ((Rs.map (IPA.slack3 z)).take i) (r.us.take i) ≠ 0 ∧
            (Rs.map (IPA.slack3 z)).getD i 0 * r.us.getD i 0 ^ 2
              + ((IPA.accClaim vk z cs xs vs cur ξs + IPA.hidChal π ros * evalPoly hp z)
                  + IPA.lrSum ((Ls.map (IPA.slack3 z)).take i) ((Rs.map (IPA.slack3 z)).take i) (r.us.take i))
                * r.us.getD i 0
              + (Ls.map (IPA.slack3 z)).getD i 0 = 0) := by
  obtain ⟨_, r, ξr, ror, hr, d1, d2⟩ := (IPA.check_iff ..).1 hacc
  obtain ⟨hC, hV, hξ₀, hlrsum, hus⟩ := IPA.succinctRun_rep hcs hh hr
  have hlr : r.lr = IPA.rep3Val vk.commKey (vk.h * r.ξ₀) vk.s (IPA.lrRep3 Ls Rs r.us) := by
    rw [hlrsum, IPA.rep3Val_lrRep3, hL, hR, hξ₀]
  have hsl := IPA.slack3_runRep vk cs xs z vs π hp hρ cur ξs ros
    (IPA.AllCommRep.length_eq _ _ cs xs hcs)
  rw [← hV] at hsl
  exact ⟨r, ξr, ror, hr, hξ₀, hV, hC, IPA.algebraic_trichotomy3 hC hlr hus d1 d2 _ hsl⟩

/-- … and a false claim makes that linear condition non-trivial: if the plain claim at position `j` is false
(`pⱼ(z) ≠ vⱼ`), the coefficient of `ξⱼ` (entry `2j` of `claimCoeffs`) is non-zero — so the middle branch of the
trichotomy confines the vector of statement challenges (and `α`) to a hyperplane fixed before they are drawn. -/
theorem ipa_false_claim_nonzero_coefficient (vk : IPA.VK F) (z : F) (cs : List (IPA.LComm F))
    (xs : List (IPA.CRep F)) (vs : List F) (j : Nat) (h0 : j < cs.length) (h1 : j < xs.length)
    (h2 : j < vs.length) (hfalse : evalPoly xs[j].p z ≠ vs[j]) :
    (IPA.claimCoeffs vk z cs xs vs).getD (2 * j) 0 ≠ 0 := by
  rw [IPA.claimCoeffs_even vk z cs xs vs j h0 h1 h2]
  exact sub_ne_zero.2 hfalse

/-- **IPA, algebraic forger against `check`, arbitrary statement, proof WITHOUT hiding block** (the list form of
`ipa_algebraic_forgery_trichotomy` and of `C04.ipa_bounded_algebraic_forgery_trichotomy`; the commitments may
still be hiding, i.e. carry `s`-components — without the hiding block nothing cancels them and they end up in
`rel_s`).  The middle branch is `Σⱼ ξⱼ·(pⱼ(z) − vⱼ) + ξ′ⱼ·(qⱼ(z) − vⱼ·z^{s−bⱼ}) = 0`, the second summand at the
positions with a degree bound `bⱼ` only. -/
theorem ipa_general_nonhiding_algebraic_forgery_trichotomy (vk : IPA.VK F) (cs : List (IPA.LComm F))
    (xs : List (IPA.CRep F)) (z : F) (vs : List F) (π : IPA.Proof F)
    (Ls Rs : List (IPA.Rep3 F)) (cur : F) (ξs ros : List F)
    (hcs : IPA.AllCommRep vk.commKey vk.s cs xs)
    (hhc : π.hidingComm = none)
    (hL : π.lVec = Ls.map (IPA.rep3Val vk.commKey (vk.h * ros.headD 0) vk.s))
    (hR : π.rVec = Rs.map (IPA.rep3Val vk.commKey (vk.h * ros.headD 0) vk.s))
    (hacc : IPA.check vk cs z vs π (cur :: ξs) ros = .ok true) :
    ∃ r ξr ror, IPA.succinctRun vk cs z vs π (cur :: ξs) ros = .ok (r, ξr, ror) ∧
      r.ξ₀ = ros.headD 0 ∧ r.V = IPA.valueErr vk z cs vs cur ξs ∧
      ((IPA.rel3 (IPA.runRep cs xs vs π [] 0 cur ξs ros) r.V Ls Rs r.us π.c z).Nontrivial ∧
          IPA.rep3Val vk.commKey (vk.h * r.ξ₀) vk.s
            (IPA.rel3 (IPA.runRep cs xs vs π [] 0 cur ξs ros) r.V Ls Rs r.us π.c z) = 0
        ∨ IPA.accClaim vk z cs xs vs cur ξs = 0
        ∨ ∃ i, i < r.us.length ∧ i < Ls.length ∧ i < Rs.length ∧
            IPA.accClaim vk z cs xs vs cur ξs
              + IPA.lrSum ((Ls.map (IPA.slack3 z)).take i) ((Rs.map (IPA.slack3 z)).take i) (r.us.take i) ≠ 0 ∧
            (Rs.map (IPA.slack3 z)).getD i 0 * r.us.getD i 0 ^ 2
              + (IPA.accClaim vk z cs xs vs cur ξs
                  + IPA.lrSum ((Ls.map (IPA.slack3 z)).take i) ((Rs.map (IPA.slack3 z)).take i) (r.us.take i))
                * r.us.getD i 0
              + (Ls.map (IPA.slack3 z)).getD i 0 = 0) := by
  have hrest := IPA.hidRest_none hhc ros
  obtain ⟨r, ξr, ror, hr, hξ₀, hV, _, h⟩ :=
    ipa_general_algebraic_forgery_trichotomy vk cs xs z vs π [] 0 Ls Rs cur ξs ros hcs (Or.inl hhc)
      (by rw [hrest]; exact hL) (by rw [hrest]; exact hR) hacc
  rw [hrest] at hξ₀
  rw [IPA.hidChal_none hhc, zero_mul, add_zero] at h
  exact ⟨r, ξr, ror, hr, hξ₀, hV, h⟩

/-- **IPA, algebraic forger against `check`: one HIDING commitment without degree bound, HIDING proof.**
The commitment is `⟨p, G⟩ + ρ·s`; the proof carries the hiding commitment `⟨hp, G⟩ + hρ·s` and `rand = rd`; its
`L`s and `R`s are `⟨·, G⟩ + ·h′ + ·s`.  The oracle outputs are `α :: ξ₀ :: u₁ :: …`.  The verifier replaces the
combined commitment `ξ·C` by `ξ·C + α·hiding_comm − rd·s`, which is represented by
`P = (ξ·p + α·hp, 0, ξ·ρ + α·hρ − rd)`.  If `check` answers `Ok(true)`:

* the prover holds a non-trivial relation `⟨rel_G, G⟩ + rel_h·h′ + rel_s·s = 0`;  or
* `ξ·(p(z) − v) + α·hp(z) = 0`;  or
* some round challenge is a root of a non-zero quadratic fixed before it was drawn.

Order of events: `p, ρ, v` (the statement) are fixed first, then `ξ` is squeezed; the prover then fixes the hiding
commitment, i.e. `hp` and `hρ`; only then `α` — the oracle's answer on `(ξ·C, z, ξ·v, hiding_comm)` — is drawn.  The
honest prover takes `hp` with `hp(z) = 0`, and then the middle branch is the truth of the claim (`ξ·p(z) = ξ·v`).  An
adversarial `hp(z) ≠ 0` does not help: for a false claim the middle branch holds for exactly ONE value of `α`
(`ipa_hiding_challenge_pinned`).  `rd` may be chosen after `α` — it only enters `rel_s`, never the middle branch;
the `s`-components of the `L_i`, `R_i` likewise. -/
theorem ipa_hiding_algebraic_forgery_trichotomy (vk : IPA.VK F) (c : IPA.LComm F) (p : List F) (ρ z v : F)
    (π : IPA.Proof F) (hp : List F) (hρ rd : F) (Ls Rs : List (IPA.Rep3 F)) (ξ ξ' ξ'' : F) (ξs : List F)
    (α : F) (ros : List F)
    (hbound : c.bound = none) (hshift : c.comm.shifted = none)
    (hcomm : c.comm.comm = dot vk.commKey p + vk.s * ρ)
    (hhc : π.hidingComm = some (dot vk.commKey hp + vk.s * hρ)) (hrand : π.rand = some rd)
    (hL : π.lVec = Ls.map (IPA.rep3Val vk.commKey (vk.h * ros.headD 0) vk.s))
    (hR : π.rVec = Rs.map (IPA.rep3Val vk.commKey (vk.h * ros.headD 0) vk.s))
    (hacc : IPA.check vk [c] z [v] π (ξ :: ξ' :: ξ'' :: ξs) (α :: ros) = .ok true) :
    ∃ r ξr ror, IPA.succinctRun vk [c] z [v] π (ξ :: ξ' :: ξ'' :: ξs) (α :: ros) = .ok (r, ξr, ror) ∧
      r.ξ₀ = ros.headD 0 ∧ r.V = ξ * v ∧
      r.C = IPA.rep3Val vk.commKey (vk.h * r.ξ₀) vk.s
              ⟨padd (pscale ξ p) (pscale α hp), 0, ξ * ρ + α * hρ - rd⟩ ∧
      ((IPA.rel3 ⟨padd (pscale ξ p) (pscale α hp), 0, ξ * ρ + α * hρ - rd⟩ r.V Ls Rs r.us π.c z).Nontrivial ∧
          IPA.rep3Val vk.commKey (vk.h * r.ξ₀) vk.s
            (IPA.rel3 ⟨padd (pscale ξ p) (pscale α hp), 0, ξ * ρ + α * hρ - rd⟩ r.V Ls Rs r.us π.c z) = 0
        ∨ ξ * (evalPoly p z - v) + α * evalPoly hp z = 0
        ∨ ∃ i, i < r.us.length ∧ i < Ls.length ∧ i < Rs.length ∧
            (ξ * (evalPoly p z - v) + α * evalPoly hp z)
              + IPA.lrSum ((Ls.map (IPA.slack3 z)).take i) ((Rs.map (IPA.slack3 z)).take i) (r.us.take i) ≠ 0 ∧
            (Rs.map (IPA.slack3 z)).getD i 0 * r.us.getD i 0 ^ 2
              + ((ξ * (evalPoly p z - v) + α * evalPoly hp z)
                  + IPA.lrSum ((Ls.map (IPA.slack3 z)).take i) ((Rs.map (IPA.slack3 z)).take i) (r.us.take i))
                * r.us.getD i 0
              + (Ls.map (IPA.slack3 z)).getD i 0 = 0) := by
  have hrest := IPA.hidRest_some hhc α ros
  have hchal := IPA.hidChal_some hhc α ros
  obtain ⟨r, ξr, ror, hr, hξ₀, hV, hC, h⟩ :=
    ipa_general_algebraic_forgery_trichotomy vk [c] [⟨p, ρ, [], 0⟩] z [v] π hp hρ Ls Rs ξ (ξ' :: ξ'' :: ξs)
      (α :: ros) ⟨⟨hcomm, .inl hshift⟩, trivial⟩ (.inr hhc) (by rw [hrest]; exact hL) (by rw [hrest]; exact hR)
      hacc
  -- the closed forms of the general theorem on a one-element statement without bound
  have hP : IPA.runRep [c] [⟨p, ρ, [], 0⟩] [v] π hp hρ ξ (ξ' :: ξ'' :: ξs) (α :: ros)
      = ⟨padd (pscale ξ p) (pscale α hp), 0, ξ * ρ + α * hρ - rd⟩ := by
    simp only [IPA.runRep, IPA.accG, IPA.accS, IPA.stepG, IPA.stepS, hbound, hchal, hrand, Option.getD_some,
      padd_nil_right, add_zero, add_sub_assoc]
  have hA : IPA.accClaim vk z [c] [⟨p, ρ, [], 0⟩] [v] ξ (ξ' :: ξ'' :: ξs) + IPA.hidChal π (α :: ros) * evalPoly hp z
      = ξ * (evalPoly p z - v) + α * evalPoly hp z := by
    simp only [IPA.accClaim, IPA.stepClaim, hbound, hchal, add_zero]
  simp only [IPA.valueErr, IPA.stepErr, hbound, add_zero] at hV
  rw [hrest] at hξ₀
  rw [hP] at hC h
  rw [hA] at h
  exact ⟨r, ξr, ror, hr, hξ₀, hV, hC, h⟩

/-- … and the middle branch pins the hiding challenge: if the claim is false (`p(z) ≠ v`) and the statement
challenge is non-zero, `ξ·(p(z) − v) + α·hp(z) = 0` forces `hp(z) ≠ 0` (the prover deviated from the honest
`hp(z) = 0` BEFORE `α` was drawn) and `α = −ξ·(p(z) − v)/hp(z)`, a single value determined by what was fixed
before. -/
theorem ipa_hiding_challenge_pinned (pz v hpz ξ α : F) (hfalse : pz ≠ v) (hξ : ξ ≠ 0)
    (h : ξ * (pz - v) + α * hpz = 0) :
    hpz ≠ 0 ∧ α = -(ξ * (pz - v)) / hpz := by
  have hne : hpz ≠ 0 := by
    intro h0
    rw [h0, mul_zero, add_zero] at h
    rcases mul_eq_zero.1 h with h1 | h1
    · exact hξ h1
    · exact hfalse (sub_eq_zero.1 h1)
  exact ⟨hne, IPA.eq_neg_div_of_add_mul_eq_zero hne h⟩

/-! non-vacuity over `ZMod 101`.

(A) one hiding commitment, hiding proof: key `[3, 5]`, `h = 13`, `s = 17`; `p = 4 + 9X` committed with `ρ = 21`
(`10 = ⟨p, G⟩ + 21·s`), `z = 6`, `p(6) = 58`, `ξ = 2`; the honest hiding polynomial `hp = 10 + 32X` (`hp(6) = 0`),
`hρ = 33`, `α = 7`, `rand = ξ·ρ + α·hρ = 71`, `ξ₀ = 8`, one round with `u = 9`.  The transcript produced by the model's
`open` is accepted, meets the hypotheses of `ipa_hiding_algebraic_forgery_trichotomy` with the honest
representations, has the zero relation vector and satisfies the middle branch. -/
example : IPA.open (⟨[3, 5], 13, 17, 3⟩ : IPA.CK K) [⟨[1], [4, 9], none, some 1⟩] [⟨[1], ⟨10, none⟩, none⟩] 6
    [⟨21, none⟩] [2, 3, 4] [7, 8, 9] true [31, 32, 33]
    = .ok (⟨[38], [77], 48, 60, some 44, some 71⟩, [], [], []) := by decide +kernel
example : IPA.check (⟨[3, 5], 13, 17, 3⟩ : IPA.CK K) [⟨[1], ⟨10, none⟩, none⟩] 6 [58]
    ⟨[38], [77], 48, 60, some 44, some 71⟩ [2, 3, 4] [7, 8, 9] = .ok true := by decide +kernel
example : (10 : K) = dot ([3, 5] : List K) [4, 9] + 17 * 21 := by decide +kernel
example : (some 44 : Option K) = some (dot ([3, 5] : List K) [10, 32] + 17 * 33) := by decide +kernel
example : ([38] : List K) = [(⟨[40, 0], 40, 0⟩ : IPA.Rep3 K)].map (IPA.rep3Val [3, 5] (13 * 8) 17) := by decide +kernel
example : ([77] : List K) = [(⟨[0, 78], 64, 0⟩ : IPA.Rep3 K)].map (IPA.rep3Val [3, 5] (13 * 8) 17) := by decide +kernel
example : IPA.rel3 (⟨padd (pscale 2 [4, 9]) (pscale 7 [10, 32]), 0, 2 * 21 + 7 * 33 - 71⟩ : IPA.Rep3 K) (2 * 58)
    [⟨[40, 0], 40, 0⟩] [⟨[0, 78], 64, 0⟩] [9] 60 6 = ⟨[0, 0], 0, 0⟩ := by decide +kernel
example : (2 : K) * (evalPoly [4, 9] 6 - 58) + 7 * evalPoly [10, 32] 6 = 0 := by decide +kernel

/-! (A′) the middle branch with a FALSE claim and a dishonest hiding polynomial: claimed value `59 ≠ p(6)`,
`hp = 68 + 32X` with `hp(6) = 58 ≠ 0` chosen so that `ξ·(p(6) − 59) + α·hp(6) = 0` for `α = 7`.  The honest rounds on
the combined polynomial `ξ·p + α·hp` are accepted, with the ZERO relation vector — this is the one value of `α` the
forger has to hit (`ipa_hiding_challenge_pinned`); with any other hiding challenge the same proof is rejected. -/
example : IPA.check (⟨[3, 5], 13, 17, 3⟩ : IPA.CK K) [⟨[1], ⟨10, none⟩, none⟩] 6 [59]
    ⟨[38], [22], 48, 62, some 16, some 71⟩ [2, 3, 4] [7, 8, 9] = .ok true := by decide +kernel
example : (some 16 : Option K) = some (dot ([3, 5] : List K) [68, 32] + 17 * 33) := by decide +kernel
example : ([22] : List K) = [(⟨[0, 80], 76, 0⟩ : IPA.Rep3 K)].map (IPA.rep3Val [3, 5] (13 * 8) 17) := by decide +kernel
example : IPA.rel3 (⟨padd (pscale 2 [4, 9]) (pscale 7 [68, 32]), 0, 2 * 21 + 7 * 33 - 71⟩ : IPA.Rep3 K) (2 * 59)
    [⟨[40, 0], 40, 0⟩] [⟨[0, 80], 76, 0⟩] [9] 62 6 = ⟨[0, 0], 0, 0⟩ := by decide +kernel
example : evalPoly ([4, 9] : List K) 6 ≠ 59 ∧ (2 : K) ≠ 0 ∧
    (2 : K) * (evalPoly [4, 9] 6 - 59) + 7 * evalPoly [68, 32] 6 = 0 ∧
    (7 : K) = -(2 * (evalPoly [4, 9] 6 - 59)) / evalPoly [68, 32] 6 := by decide +kernel
example : IPA.check (⟨[3, 5], 13, 17, 3⟩ : IPA.CK K) [⟨[1], ⟨10, none⟩, none⟩] 6 [59]
    ⟨[38], [22], 48, 62, some 16, some 71⟩ [2, 3, 4] [11, 8, 9] = .ok false := by decide +kernel

/-! (B) the general theorem on the accepted transcript of `C01_IPA`: key `[3, 5, 7, 11]`, two commitments — `1 + 2X +
3X²` under the degree bound 2, hiding (`ρ = 21`, `ρ′ = 22`, shifted representation `X·p`), and `4 + 9X³` plain — the
point 6, a hiding proof (`hp = 63 + 32X + 33X² + 34X³`, `hρ = 35`, `α = 7`, `rand = 50`), `ξ₀ = 8`, two rounds. -/
example : IPA.AllCommRep ([3, 5, 7, 11] : List K) 17
    [⟨[1], ⟨88, some 22⟩, some 2⟩, ⟨[2], ⟨10, none⟩, none⟩]
    [⟨[1, 2, 3], 21, [0, 1, 2, 3], 22⟩, ⟨[4, 0, 0, 9], 0, [], 0⟩] :=
  ⟨⟨by decide +kernel, Or.inr (by decide)⟩, ⟨by decide +kernel, Or.inl rfl⟩, trivial⟩
example : IPA.HidRep ([3, 5, 7, 11] : List K) 17 ⟨[89, 67], [85, 95], 96, 5, some 34, some 50⟩
    [63, 32, 33, 34] 35 := Or.inr (by decide)
example : ([89, 67] : List K)
    = [(⟨[41, 81, 0, 0], 22, 0⟩ : IPA.Rep3 K), ⟨[38, 0, 39, 0], 28, 0⟩].map
        (IPA.rep3Val [3, 5, 7, 11] (13 * 8) 17) := by decide +kernel
example : ([85, 95] : List K)
    = [(⟨[0, 0, 55, 29], 63, 0⟩ : IPA.Rep3 K), ⟨[0, 82, 0, 31], 17, 0⟩].map
        (IPA.rep3Val [3, 5, 7, 11] (13 * 8) 17) := by decide +kernel
example : IPA.check (⟨[3, 5, 7, 11], 13, 17, 7⟩ : IPA.CK K)
    [⟨[1], ⟨88, some 22⟩, some 2⟩, ⟨[2], ⟨10, none⟩, none⟩] 6 [evalPoly [1, 2, 3] 6, evalPoly [4, 0, 0, 9] 6]
    ⟨[89, 67], [85, 95], 96, 5, some 34, some 50⟩ [2, 3, 4, 5, 6] [7, 8, 9, 10, 11] = .ok true := by
  decide +kernel
-- the representation of the combined commitment, the zero relation, the true combined claim
example : IPA.runRep ([⟨[1], ⟨88, some 22⟩, some 2⟩, ⟨[2], ⟨10, none⟩, none⟩] : List (IPA.LComm K))
    [⟨[1, 2, 3], 21, [0, 1, 2, 3], 22⟩, ⟨[4, 0, 0, 9], 0, [], 0⟩] [evalPoly [1, 2, 3] 6, evalPoly [4, 0, 0, 9] 6]
    ⟨[89, 67], [85, 95], 96, 5, some 34, some 50⟩ [63, 32, 33, 34] 35 2 [3, 4, 5, 6] [7, 8, 9, 10, 11]
    = ⟨[55, 29, 41, 81], 0, 0⟩ := by decide +kernel
example : IPA.rel3 (⟨[55, 29, 41, 81], 0, 0⟩ : IPA.Rep3 K)
    (IPA.valueErr (⟨[3, 5, 7, 11], 13, 17, 7⟩ : IPA.CK K) 6
      [⟨[1], ⟨88, some 22⟩, some 2⟩, ⟨[2], ⟨10, none⟩, none⟩] [evalPoly [1, 2, 3] 6, evalPoly [4, 0, 0, 9] 6]
      2 [3, 4, 5, 6])
    [⟨[41, 81, 0, 0], 22, 0⟩, ⟨[38, 0, 39, 0], 28, 0⟩] [⟨[0, 0, 55, 29], 63, 0⟩, ⟨[0, 82, 0, 31], 17, 0⟩]
    [9, 10] 5 6 = ⟨[0, 0, 0, 0], 0, 0⟩ := by decide +kernel
example : IPA.accClaim (⟨[3, 5, 7, 11], 13, 17, 7⟩ : IPA.CK K) 6
    [⟨[1], ⟨88, some 22⟩, some 2⟩, ⟨[2], ⟨10, none⟩, none⟩]
    [⟨[1, 2, 3], 21, [0, 1, 2, 3], 22⟩, ⟨[4, 0, 0, 9], 0, [], 0⟩]
    [evalPoly [1, 2, 3] 6, evalPoly [4, 0, 0, 9] 6] 2 [3, 4, 5, 6]
      + IPA.hidChal (⟨[89, 67], [85, 95], 96, 5, some 34, some 50⟩ : IPA.Proof K) [7, 8, 9, 10, 11]
        * evalPoly [63, 32, 33, 34] 6 = 0 := by decide +kernel
-- the linear form of false claims (`v₁` off by 1, `v₂` off by 2): coefficients `−1, −z^{3−2}, −2, 0`
example : IPA.claimCoeffs (⟨[3, 5, 7, 11], 13, 17, 7⟩ : IPA.CK K) 6
    [⟨[1], ⟨88, some 22⟩, some 2⟩, ⟨[2], ⟨10, none⟩, none⟩]
    [⟨[1, 2, 3], 21, [0, 1, 2, 3], 22⟩, ⟨[4, 0, 0, 9], 0, [], 0⟩]
    [evalPoly [1, 2, 3] 6 + 1, evalPoly [4, 0, 0, 9] 6 + 2] = [-1, -6, -2, 0] := by decide +kernel

/-- **IPA, `batch_check`: acceptance of a batch is ONE linear relation between the generators `(G, h, s)`.**
`its` lists, proof by proof, what the verifier's loop computes (`BatchItems`: the point of the query group, the
proof, the run of `succinct_check`, sponge and oracle threaded through) together with representations over
`(G, h′ₖ, s)`, `h′ₖ = ξ₀ₖ·h`, of each run's combined commitment and `Σ(u⁻¹L + uR)` (`ItemRep`).  If `batch_check`
answers `Ok(true)` then every succinct check passed (`defect1ₖ = 0`) and the vector

  `Σₖ ρₖ·(Πⱼ≠ₖ cⱼ)·relₖ`    (`(batchRel 1 rs its).2`)

— `ρ₁ = 1, ρ₂, …` the verifier's randomizers, `cₖ` the proofs' final coefficients, `relₖ = itemRel` the relation
vector `rel3` of proof `k` with its `h′ₖ`-coefficient multiplied by `ξ₀ₖ` — is a relation between the generators:
`⟨·.G, G⟩ + ·.h·h + ·.s·s = 0`.  The weights `Πⱼ≠ₖ cⱼ` eliminate the `final_comm_key`s (group elements chosen by the
prover, which occur as `cₖ·Kₖ` in the succinct checks and as `Σₖ ρₖ·Kₖ` in the randomized final test) without
dividing; when all `cₖ ≠ 0` the vector is `Πₖcₖ` times `Σₖ (ρₖ/cₖ)·relₖ`.  The randomizers are drawn after all
proofs are fixed, so the vector vanishes for more than a negligible fraction of them only if every `relₖ` with
`cₖ ≠ 0` does — and then the single-proof trichotomy applies to proof `k`. -/
theorem ipa_batch_accept_is_linear_relation (vk : IPA.VK F) (comms : List (IPA.LComm F))
    (qs : List (IPA.Query F)) (evals : List ((IPA.Label × F) × F)) (πs : List (IPA.Proof F))
    (ξs ros rs : List F) (its : List (IPA.BatchItem F))
    (hits : IPA.BatchItems vk comms evals (Marlin.groupQueries qs) πs ξs ros its)
    (hrep : ∀ it ∈ its, IPA.ItemRep vk it)
    (hacc : IPA.batchCheck vk comms qs evals πs ξs ros rs = .ok true) :
    (∀ it ∈ its, IPA.defect1 vk it.z it.π it.r = 0) ∧
      IPA.rep3Val vk.commKey vk.h vk.s (IPA.batchRel 1 rs its).2 = 0 := by
  obtain ⟨hl, uss, hs, hw⟩ := IPA.batchCheck_accept hacc
  obtain ⟨hd1, hd2⟩ := IPA.batchSuccinct_items vk comms evals _ πs ξs ros its uss hl hits hs
  refine ⟨hd1, ?_⟩
  rw [IPA.batchRel_val vk its 1 rs (fun it hit => ⟨hrep it hit, hd1 it hit⟩), ← hd2, hw, mul_zero, neg_zero]

/-- the hypothesis `BatchItems` of `ipa_batch_accept_is_linear_relation` only names what the verifier computed:
for an accepted batch such a list exists, one item per proof -/
theorem ipa_batch_items_exist (vk : IPA.VK F) (comms : List (IPA.LComm F))
    (qs : List (IPA.Query F)) (evals : List ((IPA.Label × F) × F)) (πs : List (IPA.Proof F))
    (ξs ros rs : List F)
    (hacc : IPA.batchCheck vk comms qs evals πs ξs ros rs = .ok true) :
    ∃ its, IPA.BatchItems vk comms evals (Marlin.groupQueries qs) πs ξs ros its ∧ its.length = πs.length := by
  obtain ⟨hl, uss, hs, _⟩ := IPA.batchCheck_accept hacc
  exact IPA.batchSuccinct_items_exist vk comms evals _ πs ξs ros uss hl hs

/-! (C) the accepted batch of `C01_IPA`: key `[3, 5]`, the commitment `57 = ⟨4 + 9X, G⟩` opened at 6 and at 7, two
non-hiding proofs, randomizers `1, 5`.  The verifier's runs, the honest representations, and the zero batch
relation vector. -/
example : Marlin.groupQueries ([([1], ([9], 6)), ([1], ([10], 7))] : List (IPA.Query K))
    = [([9], 6, [[1]]), ([10], 7, [[1]])] := by decide +kernel
example : IPA.batchCheck (⟨[3, 5], 13, 17, 3⟩ : IPA.CK K) [⟨[1], ⟨57, none⟩, none⟩]
    [([1], ([9], 6)), ([1], ([10], 7))] [(([1], 6), 58), (([1], 7), 67)]
    [⟨[7], [83], 48, 10, none, none⟩, ⟨[26], [19], 23, 6, none, none⟩]
    [2, 3, 4, 5, 6, 7] [8, 9, 10, 4] [5, 6] = .ok true := by decide +kernel
example : IPA.BatchItems (⟨[3, 5], 13, 17, 3⟩ : IPA.CK K) [⟨[1], ⟨57, none⟩, none⟩]
    [(([1], 6), 58), (([1], 7), 67)] [([9], 6, [[1]]), ([10], 7, [[1]])]
    [⟨[7], [83], 48, 10, none, none⟩, ⟨[26], [19], 23, 6, none, none⟩] [2, 3, 4, 5, 6, 7] [8, 9, 10, 4]
    [⟨6, ⟨[7], [83], 48, 10, none, none⟩, ⟨13, 15, 8, [9], 52⟩, ⟨[8, 18], 0, 0⟩, [⟨[18, 0], 18, 0⟩], [⟨[0, 8], 48, 0⟩]⟩,
     ⟨7, ⟨[26], [19], 23, 6, none, none⟩, ⟨83, 32, 10, [4], 32⟩, ⟨[20, 45], 0, 0⟩, [⟨[45, 0], 45, 0⟩],
       [⟨[0, 20], 39, 0⟩]⟩] :=
  ⟨rfl, rfl, [⟨[1], ⟨57, none⟩, none⟩], [58], [5, 6, 7], [10, 4], by decide +kernel, by decide +kernel,
   rfl, rfl, [⟨[1], ⟨57, none⟩, none⟩], [67], [], [], by decide +kernel, by decide +kernel, rfl⟩
example : IPA.ItemRep (⟨[3, 5], 13, 17, 3⟩ : IPA.CK K)
    ⟨6, ⟨[7], [83], 48, 10, none, none⟩, ⟨13, 15, 8, [9], 52⟩, ⟨[8, 18], 0, 0⟩, [⟨[18, 0], 18, 0⟩], [⟨[0, 8], 48, 0⟩]⟩ :=
  ⟨by decide +kernel, by decide +kernel⟩
example : IPA.ItemRep (⟨[3, 5], 13, 17, 3⟩ : IPA.CK K)
    ⟨7, ⟨[26], [19], 23, 6, none, none⟩, ⟨83, 32, 10, [4], 32⟩, ⟨[20, 45], 0, 0⟩, [⟨[45, 0], 45, 0⟩],
      [⟨[0, 20], 39, 0⟩]⟩ :=
  ⟨by decide +kernel, by decide +kernel⟩
example : IPA.batchRel (1 : K) [5, 6]
    [⟨6, ⟨[7], [83], 48, 10, none, none⟩, ⟨13, 15, 8, [9], 52⟩, ⟨[8, 18], 0, 0⟩, [⟨[18, 0], 18, 0⟩], [⟨[0, 8], 48, 0⟩]⟩,
     ⟨7, ⟨[26], [19], 23, 6, none, none⟩, ⟨83, 32, 10, [4], 32⟩, ⟨[20, 45], 0, 0⟩, [⟨[45, 0], 45, 0⟩],
       [⟨[0, 20], 39, 0⟩]⟩] = (60, ⟨[0, 0], 0, 0⟩) := by decide +kernel

end PCV.C03
