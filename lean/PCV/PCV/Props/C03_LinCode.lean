/-
  Property C03 (no crafted or malformed proof proves a false claim) — linear-code PCS, the shape and
  single-component classes of the catalogue, on the exact model of `LinearCodePCS::check` after the
  fixes D5 (the bool of `Path::verify` is tested) and D6 (`v` and the well-formedness vector must have
  `n_cols` entries).  "Refuses" = the verifier returns `Err(..)` / aborts; it never answers `Ok(_)`.
-/
import PCV.Proofs.LinCodeProto
import PCV.Proofs.LinCodeToy

namespace PCV.C03
open PCV PCV.LinCode PCV.Merkle
variable {F : Type} [Field F] [DecidableEq F] {D : Type} [DecidableEq D]

/-- `v` of length `≠ n_cols` ⇒ `Err(InvalidCommitment)`, whatever the rest of the proof and the
claimed value. -/
theorem lincode_v_length_refused (pp : Params F D) (point : Point F) (c : Comm D) (value : F)
    (π : Proof F D) (o : Oracle F) (h : π.opening.v.length ≠ c.nCols) :
    checkOne pp point c value π o = .error .invalidCommitment := by
  unfold checkOne checkPre
  rw [if_pos h]

/-- well-formedness required but absent ⇒ `Err(InvalidCommitment)` -/
theorem lincode_wf_missing_refused (pp : Params F D) (point : Point F) (c : Comm D) (value : F)
    (π : Proof F D) (o : Oracle F) (hwf : pp.checkWf = true) (h : π.wf = none) :
    checkOne pp point c value π o = .error .invalidCommitment :=
  checkOne_readWf_error (by rw [hwf, h]; rfl)

/-- well-formedness vector of length `≠ n_cols` ⇒ `Err(InvalidCommitment)` -/
theorem lincode_wf_length_refused (pp : Params F D) (point : Point F) (c : Comm D) (value : F)
    (π : Proof F D) (o : Oracle F) (w : List F) (hwf : pp.checkWf = true) (h : π.wf = some w)
    (hl : w.length ≠ c.nCols) :
    checkOne pp point c value π o = .error .invalidCommitment :=
  checkOne_readWf_error (by rw [hwf, h]; exact if_pos hl)

/-- **The stretched-vector forgery of D6 is refused**: an opening vector (or a well-formedness
vector) with `2·n_cols` entries — e.g. `v'[2i] = vᵢ, v'[2i+1] = 0`, which re-encodes over the doubled
FFT domain to the same column entries — never passes, whatever columns and (valid) paths come with
it. -/
theorem lincode_stretched_refused (pp : Params F D) (point : Point F) (c : Comm D) (value : F)
    (π : Proof F D) (o : Oracle F) (hn : 0 < c.nCols)
    (h : π.opening.v.length = 2 * c.nCols ∨
      (pp.checkWf = true ∧ ∃ w, π.wf = some w ∧ w.length = 2 * c.nCols)) :
    checkOne pp point c value π o = .error .invalidCommitment := by
  have hne : 2 * c.nCols ≠ c.nCols := by
    rw [Nat.two_mul]
    exact Nat.ne_of_gt (Nat.lt_add_of_pos_left hn)
  rcases h with h | ⟨hwf, w, hw, hl⟩
  · exact lincode_v_length_refused pp point c value π o (h ▸ hne)
  · exact lincode_wf_length_refused pp point c value π o w hwf hw (hl ▸ hne)

/-- no path for an opened column (fewer paths than columns) ⇒ refuse -/
theorem lincode_path_missing_refused (pp : Params F D) (point : Point F) (c : Comm D) (value : F)
    (π : Proof F D) (o : Oracle F) (j : Nat) (col : List F) (q : Nat)
    (hc : π.opening.columns[j]? = some col) (hq : o.indices[j]? = some q)
    (hp : π.opening.paths[j]? = none) :
    ∃ e, checkOne pp point c value π o = .error e := by
  apply checkOne_error_of_not_pre
  rintro a ⟨_, _, hpaths, _⟩
  obtain ⟨p, hp', _⟩ := hpaths j col q hc hq
  cases hp.symm.trans hp'

/-- a path whose leaf position is not the transcript-derived position ⇒ refuse -/
theorem lincode_leaf_index_refused (pp : Params F D) (point : Point F) (c : Comm D) (value : F)
    (π : Proof F D) (o : Oracle F) (j : Nat) (col : List F) (q : Nat) (p : Path D)
    (hc : π.opening.columns[j]? = some col) (hq : o.indices[j]? = some q)
    (hp : π.opening.paths[j]? = some p) (hne : p.leafIndex ≠ q) :
    ∃ e, checkOne pp point c value π o = .error e := by
  apply checkOne_error_of_not_pre
  rintro a ⟨_, _, hpaths, _⟩
  obtain ⟨p', hp', hl, _⟩ := hpaths j col q hc hq
  cases hp.symm.trans hp'
  exact hne hl

/-- **D5**: a path that does not recompute the root (sibling changed, path of another leaf, path
from another tree, …) ⇒ refuse.  No collision assumption is needed for this direction. -/
theorem lincode_bad_path_refused (pp : Params F D) (point : Point F) (c : Comm D) (value : F)
    (π : Proof F D) (o : Oracle F) (j : Nat) (col : List F) (q : Nat) (p : Path D)
    (hc : π.opening.columns[j]? = some col) (hq : o.indices[j]? = some q)
    (hp : π.opening.paths[j]? = some p)
    (hne : recomputeRoot pp.hs (pp.colHash col) p ≠ c.root) :
    ∃ e, checkOne pp point c value π o = .error e := by
  apply checkOne_error_of_not_pre
  rintro a ⟨_, _, hpaths, _⟩
  obtain ⟨p', hp', _, hr⟩ := hpaths j col q hc hq
  cases hp.symm.trans hp'
  exact hne hr

/-- fewer columns than transcript positions ⇒ refuse (index panic) -/
theorem lincode_column_missing_refused (pp : Params F D) (point : Point F) (c : Comm D) (value : F)
    (π : Proof F D) (o : Oracle F) (j q : Nat) (hq : o.indices[j]? = some q)
    (hc : π.opening.columns[j]? = none) :
    ∃ e, checkOne pp point c value π o = .error e := by
  apply checkOne_error_of_not_pre
  rintro a ⟨_, _, _, w, b, _, _, _, _, _, hcols, _⟩
  obtain ⟨col, x, hc', _⟩ := hcols j q hq
  cases hc.symm.trans hc'

/-- an opened column that does not match `E(v)` at its position ⇒ refuse -/
theorem lincode_column_mismatch_refused (pp : Params F D) (point : Point F) (c : Comm D) (value : F)
    (π : Proof F D) (o : Oracle F) (j q : Nat) (col w a b : List F) (x : F)
    (hq : o.indices[j]? = some q) (hc : π.opening.columns[j]? = some col)
    (hw : pp.enc π.opening.v = .ok w) (ht : tensor point c.nCols c.nRows = .ok (a, b))
    (hx : w[q]? = some x) (hne : dot b col ≠ x) :
    ∃ e, checkOne pp point c value π o = .error e := by
  apply checkOne_error_of_not_pre
  rintro a' ⟨_, _, _, w', b', hw', _, ht', _, _, hcols, _⟩
  cases hw.symm.trans hw'
  cases ht.symm.trans ht'
  obtain ⟨col', x', hc', hx', hd⟩ := hcols j q hq
  cases hc.symm.trans hc'
  cases hx.symm.trans hx'
  exact hne hd

/-- an opened column that does not match `E(wf)` under the coefficients `r` ⇒ refuse -/
theorem lincode_wf_column_mismatch_refused (pp : Params F D) (point : Point F) (c : Comm D)
    (value : F) (π : Proof F D) (o : Oracle F) (j q : Nat) (col wf ww : List F) (y : F)
    (hflag : pp.checkWf = true) (hq : o.indices[j]? = some q)
    (hc : π.opening.columns[j]? = some col) (hwf : π.wf = some wf) (hw : pp.enc wf = .ok ww)
    (hy : ww[q]? = some y) (hne : dot o.r col ≠ y) :
    ∃ e, checkOne pp point c value π o = .error e := by
  apply checkOne_error_of_not_pre
  rintro a' ⟨_, _, _, w', b', _, _, _, _, _, _, hwfc⟩
  obtain ⟨wf', ww', h1, h2, h3⟩ := hwfc hflag
  cases hwf.symm.trans h1
  cases hw.symm.trans h2
  obtain ⟨col', y', hc', hy', hd⟩ := h3 j q hq
  cases hc.symm.trans hc'
  cases hy.symm.trans hy'
  exact hne hd

/-- a position outside the encoding of `v` (inconsistent metadata) ⇒ refuse (index panic) -/
theorem lincode_position_out_of_range_refused (pp : Params F D) (point : Point F) (c : Comm D)
    (value : F) (π : Proof F D) (o : Oracle F) (j q : Nat) (w : List F)
    (hq : o.indices[j]? = some q) (hw : pp.enc π.opening.v = .ok w) (hx : w[q]? = none) :
    ∃ e, checkOne pp point c value π o = .error e := by
  apply checkOne_error_of_not_pre
  rintro a' ⟨_, _, _, w', b', hw', _, _, _, _, hcols, _⟩
  cases hw.symm.trans hw'
  obtain ⟨col', x', _, hx', _⟩ := hcols j q hq
  cases hx.symm.trans hx'

/-- **Tampered metadata**: the codeword length `n_ext_cols` announced by the commitment fixes how
many columns are opened and where; if it is not the length of `E(v)` the verifier refuses — so a
commitment that publishes the honest root with a smaller `n_ext_cols` (opened at a prefix of the
positions only, where `v + δ·(X−1)(X−ω)` encodes like `v`) opens to nothing. -/
theorem lincode_ext_cols_mismatch_refused (pp : Params F D) (point : Point F) (c : Comm D)
    (value : F) (π : Proof F D) (o : Oracle F) (w : List F)
    (hw : pp.enc π.opening.v = .ok w) (hne : w.length ≠ c.nExtCols) :
    ∃ e, checkOne pp point c value π o = .error e := by
  apply checkOne_error_of_not_pre
  rintro a' ⟨_, _, _, w', b', hw', hl, _⟩
  cases hw.symm.trans hw'
  exact hne hl

/-- the encoder refuses `v` (Brakedown, wrong length) ⇒ `check` refuses -/
theorem lincode_encode_refused (pp : Params F D) (point : Point F) (c : Comm D) (value : F)
    (π : Proof F D) (o : Oracle F) (e : Err) (hw : pp.enc π.opening.v = .error e) :
    ∃ e', checkOne pp point c value π o = .error e' := by
  apply checkOne_error_of_not_pre
  rintro a' ⟨_, _, _, w', b', hw', _⟩
  cases hw.symm.trans hw'

/-- **Fewer proofs than checked claims ⇒ refuse**; a refusal or `Ok(false)` at any checked position
makes the whole `check` not accept: `check = Ok(true)` needs every zipped position to pass. -/
theorem lincode_check_needs_every_position (pp : Params F D) (point : Point F)
    (cs : List (Comm D)) (vals : List F) (πs : List (Proof F D)) (os : List (Oracle F))
    (h : checkAll pp point cs vals πs os = .ok true) (i : Nat) (c : Comm D) (val : F)
    (hc : cs[i]? = some c) (hv : vals[i]? = some val) :
    ∃ π o, πs[i]? = some π ∧ os[i]? = some o ∧ checkOne pp point c val π o = .ok true :=
  checkAll_ok_true_iff.1 h i c val hc hv

/-! non-vacuity on the toy instance: each mutation of an honest proof is refused by the model -/
example : toyRunWith true (.uni 5) [1, 2, 3] ⟨[7, 9], [2, 0, 3]⟩ 9
    (fun π => { π with opening := { π.opening with v := [π.opening.v.getD 0 0, 0, π.opening.v.getD 1 0, 0] } })
    = .error .invalidCommitment := by decide +kernel
example : toyRunWith true (.uni 5) [1, 2, 3] ⟨[7, 9], [2, 0, 3]⟩ (evalPoly [1, 2, 3] 5)
    (fun π => { π with wf := none }) = .error .invalidCommitment := by decide +kernel
example : toyRunWith true (.uni 5) [1, 2, 3] ⟨[7, 9], [2, 0, 3]⟩ (evalPoly [1, 2, 3] 5)
    (fun π => { π with opening := { π.opening with
      paths := π.opening.paths.map (fun p => { p with leafSibling := p.leafSibling + 1 }) } })
    = .error .invalidCommitment := by decide +kernel
example : toyRunWith true (.uni 5) [1, 2, 3] ⟨[7, 9], [2, 0, 3]⟩ (evalPoly [1, 2, 3] 5)
    (fun π => { π with opening := { π.opening with
      paths := π.opening.paths.map (fun p => { p with leafIndex := p.leafIndex + 1 }) } })
    = .error .invalidCommitment := by decide +kernel
example : toyRunWith true (.uni 5) [1, 2, 3] ⟨[7, 9], [2, 0, 3]⟩ (evalPoly [1, 2, 3] 5)
    (fun π => { π with opening := { π.opening with paths := π.opening.paths.take 2 } })
    = .error .abort := by decide +kernel
example : toyRunWith true (.uni 5) [1, 2, 3] ⟨[7, 9], [2, 0, 3]⟩ (evalPoly [1, 2, 3] 5)
    (fun π => { π with opening := { π.opening with columns := π.opening.columns.take 2 } })
    = .error .abort := by decide +kernel
example : toyRunWith true (.uni 5) [1, 2, 3] ⟨[7, 9], [2, 0, 3]⟩ (evalPoly [1, 2, 3] 5) id
    = .ok true := by decide +kernel
/-- the honest toy proof against the honest root published with `n_ext_cols = 2` (positions 0, 1) -/
example : (match commit (toyPP true) [1, 2, 3] with
    | .ok (c, st) =>
      match openOne (toyPP true) (.uni 5) c st ⟨[7, 9], [1, 0]⟩ with
      | .ok π => checkOne (toyPP true) (.uni 5) { c with nExtCols := 2 } (evalPoly [1, 2, 3] 5) π
          ⟨[7, 9], [1, 0]⟩
      | .error e => .error e
    | .error e => .error e) = .error .invalidCommitment := by decide +kernel

end PCV.C03
