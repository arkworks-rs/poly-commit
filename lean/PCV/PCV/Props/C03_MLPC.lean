/-
  Property C03 (multilinear PST) — crafted or malformed proofs, on the exact model (arbitrary
  adversaries are the scheme's hardness assumption, DESIGN §3 — the *partial* part of C03):
  single proof element replaced, proof list of the wrong length, prover run on another polynomial,
  proof made for another point.
-/
import PCV.Proofs.MLPC
import PCV.Props.Examples

namespace PCV.C03
open PCV
variable {F : Type} [Field F] [DecidableEq F]

set_option linter.unusedSectionVars false in
/-- **Single proof element replaced: the defect is affine.**  For any key, statement and proof list,
putting `x` at position `i` changes the defect by `−(g_mask[i] − zᵢ·g)·(x − πᵢ)`. -/
theorem mlpc_proof_element_affine (vk : MLPC.VK F) (c : MLPC.Commitment F) (z : List F) (v : F)
    (πs : List F) (i : Nat) (x : F) (hi : i < (MLPC.pairingLefts vk z).length) (hp : i < πs.length) :
    MLPC.defect vk c z v (πs.set i x)
      = MLPC.defect vk c z v πs - (MLPC.pairingLefts vk z)[i] * (x - πs[i]) :=
  MLPC.defect_set hi hp

set_option linter.unusedSectionVars false in
/-- on the key of trapdoor `t` the coefficient is `g·(tᵢ − zᵢ)` -/
theorem mlpc_proof_element_coeff (g h : F) (t z : List F) (i : Nat) (hi : i < t.length)
    (hz : i < z.length) (hl : i < (MLPC.pairingLefts (MLPC.wfVK g h t) z).length) :
    (MLPC.pairingLefts (MLPC.wfVK g h t) z)[i] = g * (t[i] - z[i]) := by
  simp only [MLPC.pairingLefts_wf, MLPC.batchMul, List.getElem_map, MLPC.zipWith_getElem_sub]

/-- **Single proof element replaced: at most one value is accepted.**  With `g ≠ 0` and `tᵢ ≠ zᵢ`,
two proof lists that differ only at position `i` and are both accepted for the same statement
are equal — so from an accepted (e.g. honest) proof, any other element at position `i` is rejected,
and for a false claim at most one (unknown, trapdoor-dependent) element per position is accepted. -/
theorem mlpc_proof_element_unique (g h : F) (t z : List F) (c : MLPC.Commitment F) (v : F)
    (πs : List F) (i : Nat) (x₁ x₂ : F) (hz : z.length = t.length) (hp : πs.length = t.length)
    (hi : i < t.length) (hg : g ≠ 0) (hne : t[i] ≠ z[i]'(by omega))
    (h₁ : MLPC.check (MLPC.wfVK g h t) c z v (πs.set i x₁) = .ok true)
    (h₂ : MLPC.check (MLPC.wfVK g h t) c z v (πs.set i x₂) = .ok true) : x₁ = x₂ := by
  have hl : (MLPC.pairingLefts (MLPC.wfVK g h t) z).length = t.length :=
    MLPC.pairingLefts_length _ z hz (MLPC.batchMul_length g t).ge
  -- both acceptances say `Δ(πs) = g·(tᵢ − zᵢ)·(x − πᵢ)`, and the coefficient is not zero
  have key : ∀ x, MLPC.check (MLPC.wfVK g h t) c z v (πs.set i x) = .ok true →
      MLPC.defect (MLPC.wfVK g h t) c z v πs
        = g * (t[i] - z[i]'(hz ▸ hi)) * (x - πs[i]'(hp ▸ hi)) := fun x hx => by
    rwa [MLPC.check_iff_defect _ c z v _ hz (MLPC.batchMul_length g t).ge
        (List.length_set.trans hp),
      MLPC.defect_set (hl ▸ hi) (hp ▸ hi),
      mlpc_proof_element_coeff g h t z i hi (hz ▸ hi) (hl ▸ hi), sub_eq_zero] at hx
  exact sub_left_inj.1 (mul_left_cancel₀ (mul_ne_zero hg (sub_ne_zero.2 hne))
    ((key x₁ h₁).symm.trans (key x₂ h₂)))

/-- **Proof list shorter or longer than `nv`: refused.**  `check` hands `nv` G1 elements and the
proof list to `multi_pairing`, whose `zip_eq` panics on unequal lengths — no truncation, so an
empty, truncated or extended proof list never yields a decision, let alone an acceptance. -/
theorem mlpc_proof_length_refused (vk : MLPC.VK F) (c : MLPC.Commitment F) (z : List F) (v : F)
    (πs : List F) (h : πs.length ≠ vk.nv) : MLPC.check vk c z v πs = .error .abort :=
  MLPC.check_proof_length h

/-- **Prover run on another polynomial.**  The honest prover run on `q` against the commitment of
`p`, claiming `q̃(z)`, is accepted iff `h·g·(p̃(t) − q̃(t)) = 0`: for `g, h ≠ 0` only when `q` agrees
with `p` at the trapdoor. -/
theorem mlpc_other_poly (g h : F) (t z p q : List F) (n' : Nat) (hz : z.length = t.length)
    (hq : q.length = 2 ^ t.length) :
    MLPC.check (MLPC.wfVK g h t) ⟨n', g * MLPC.mleEval p t⟩ z (MLPC.mleEval q z)
        (MLPC.proofSpec h t z q) = .ok true
      ↔ h * (g * (MLPC.mleEval p t - MLPC.mleEval q t)) = 0 := by
  rw [MLPC.honest_check_at hz hq]
  simp only [Except.ok.injEq, decide_eq_true_eq, sub_self, mul_zero, sub_zero, mul_sub]

/-- **Proof made for another point.**  The honest proof for `(p, z')` presented at `z' + dz` with
the value `p̃(z')` is accepted iff `g·⟨dz, π⟩ = 0`. -/
theorem mlpc_other_point (g h : F) (t z' dz p : List F) (n' : Nat) (hz : z'.length = t.length)
    (hdz : dz.length = t.length) (hp : p.length = 2 ^ t.length) :
    MLPC.check (MLPC.wfVK g h t) ⟨n', g * MLPC.mleEval p t⟩ (List.zipWith (· + ·) z' dz)
        (MLPC.mleEval p z') (MLPC.proofSpec h t z' p) = .ok true
      ↔ g * dot dz (MLPC.proofSpec h t z' p) = 0 := by
  rw [MLPC.honest_check_moved hz hdz hp, Except.ok.injEq, decide_eq_true_eq]

/-- non-vacuity: the honest transcript of C01's example satisfies the hypotheses of
`mlpc_proof_element_unique` at both positions; a replaced element, an empty, a truncated and an
extended proof list are not accepted. -/
example : MLPC.check (MLPC.wfVK (5 : K) 11 [7, 20]) ⟨2, 19⟩ [8, 13] 72 ([31, 30].set 0 31) = .ok true
    ∧ (5 : K) ≠ 0 ∧ (7 : K) ≠ 8 ∧ (20 : K) ≠ 13 := by decide +kernel
example : MLPC.check (MLPC.wfVK (5 : K) 11 [7, 20]) ⟨2, 19⟩ [8, 13] 72 [32, 30] = .ok false := by
  decide +kernel
example : MLPC.check (MLPC.wfVK (5 : K) 11 [7, 20]) ⟨2, 19⟩ [8, 13] 72 [] = .error .abort := by
  decide +kernel
example : MLPC.check (MLPC.wfVK (5 : K) 11 [7, 20]) ⟨2, 19⟩ [8, 13] 72 [31] = .error .abort := by
  decide +kernel
example : MLPC.check (MLPC.wfVK (5 : K) 11 [7, 20]) ⟨2, 19⟩ [8, 13] 72 [31, 30, 0] = .error .abort := by
  decide +kernel

/-- **Any algebraic forger solves the hardness problem (multilinear PST).**  Let `p` and the `aᵢ` be
ANY functions of the trapdoor the forger can evaluate "in the exponent" over the published keys
(multilinear polynomials with known coefficients): commitment `g·p(t)`, proof elements `h·aᵢ(t)`.
If the verifier accepts the value `v` at `z`, then `E(x) := p(x) − v − Σᵢ (xᵢ − zᵢ)·aᵢ(x)` vanishes at
the trapdoor, while `E(z) = p(z) − v`: for a false claim `E` is a non-zero polynomial the forger
knows, and the secret trapdoor is among its roots. -/
theorem mlpc_algebraic_forgery_reveals_trapdoor (g h : F) (t z : List F) (nv : Nat) (v : F)
    (p : List F → F) (a : List F → List F)
    (hz : z.length = t.length) (ha : ∀ x, (a x).length = t.length) (hg : g ≠ 0) (hh : h ≠ 0)
    (hv : v ≠ p z)
    (hacc : MLPC.check (MLPC.wfVK g h t) ⟨nv, g * p t⟩ z v ((a t).map (h * ·)) = .ok true) :
    (p t - v - MLPC.linSum t z (a t) = 0) ∧ (p z - v - MLPC.linSum z z (a z) ≠ 0) := by
  refine ⟨MLPC.forgery_identity g h t z (a t) nv (p t) v hz (ha t) hg hh hacc, ?_⟩
  rw [MLPC.linSum_self, sub_zero]
  exact fun h0 => hv (sub_eq_zero.1 h0).symm

/-- non-vacuity: on the key `g = 5, h = 11, t = (7, 20)` the forger functions
`p(x) = x₀ + x₁`, proof elements `h·1, h·a₁` with `a₁ = (p(t) − v − (t₀ − z₀))/(t₁ − z₁) = 15` get the
false value `v = p(z) + 3` accepted -/
example : MLPC.check (MLPC.wfVK (5 : K) 11 [7, 20]) ⟨2, 5 * (7 + 20)⟩ [8, 13] (8 + 13 + 3)
    ([1, 15].map ((11 : K) * ·)) = .ok true ∧
    (15 : K) * (20 - 13) = (7 + 20) - (8 + 13 + 3) - (7 - 8) := by decide +kernel

end PCV.C03
