/-
  Property C03 (MarlinKZG10) — crafted proofs on the exact model, for any number of commitments with
  any degree bounds: at most one witness element is accepted per statement, a forged value needs an
  exactly compensating `random_v`, proof lists of the wrong length abort the batch verifier, and the
  reduction for algebraic forgers.
-/
import PCV.Proofs.MarlinMore
import PCV.Proofs.KZG10Extract
import PCV.Props.C01_Marlin
import PCV.Props.C03

namespace PCV.C03
open PCV Marlin
variable {F : Type} [Field F] [DecidableEq F]

/-- **Single-component replacement (witness), any statement.** The statement is accumulated without
looking at the proof, so for well-formed keys (`βH = β·h`, `h ≠ 0`) and `z ≠ β` two proofs that differ
only in the witness element and are both accepted are equal. -/
theorem marlin_witness_unique (vk : VK F) (g γ β h : F) (hvk : vk.vk = KZG.wfVK g γ β h) (hh : h ≠ 0)
    (cs : List (LComm F)) (z : F) (hz : β ≠ z) (vs ξs r₁ r₂ : List F) (w₁ w₂ : F) (rv : Option F)
    (h₁ : check vk cs z vs ⟨w₁, rv⟩ ξs = .ok (true, r₁))
    (h₂ : check vk cs z vs ⟨w₂, rv⟩ ξs = .ok (true, r₂)) : w₁ = w₂ := by
  obtain ⟨C, V, ha, d₁⟩ := check_true_iff.1 h₁
  obtain ⟨C', V', ha', d₂⟩ := check_true_iff.1 h₂
  -- the statement is accumulated without looking at the proof
  rw [ha] at ha'; cases ha'
  rw [hvk, ← KZG.check_iff_defect] at d₁ d₂
  exact kzg10_witness_unique g γ β h C z V rv w₁ w₂ hz hh d₁ d₂

/-- **Forged values with the honest witness.** From an accepted hiding transcript, values changed by
`ds` together with `random_v` changed by `drv` are accepted iff
`h·(⟨κ, ds⟩ + drv·γ) = 0` (`κ` the challenge weights of `C02.marlin_values_iff`). -/
theorem marlin_values_and_rv (vk : VK F) (cs : List (LComm F)) (z : F) (vs ds ξs : List F)
    (w rv drv : F) (rest : List F) (hlen : ds.length = vs.length)
    (hacc : check vk cs z vs ⟨w, some rv⟩ ξs = .ok (true, rest)) :
    check vk cs z (List.zipWith (· + ·) vs ds) ⟨w, some (rv + drv)⟩ ξs = .ok (true, rest)
      ↔ vk.vk.h * (dot (kappa vk cs ξs) ds + drv * vk.vk.gammaG) = 0 := by
  have := check_values_rv_iff (some (rv + drv)) hlen hacc
  rwa [show KZG.rvVal (some (rv + drv)) - KZG.rvVal (some rv) = drv from add_sub_cancel_left rv drv]
    at this

/-- **Any algebraic forger solves the hardness problem (Marlin, unbounded commitment).**  Commitment
`g·p(β)`, witness `g·a(β)` for ANY coefficients `a`: if `v` is accepted at `z` under the challenge `ξ`
then the trapdoor is a root of `ξ·p − ξ·v − a·(X − z)`, whose value at `z` is `ξ·(p(z) − v) ≠ 0` for a
false claim.  (Degree-bounded commitments: `C04.marlin_bound_forgery_root`.) -/
theorem marlin_algebraic_forgery_reveals_trapdoor (vk : VK F) (g γ β h : F)
    (hvk : vk.vk = KZG.wfVK g γ β h) (hg : g ≠ 0) (hh : h ≠ 0)
    (l : Label) (p a : List F) (z v ξ : F) (ξs : List F) (hξ : ξ ≠ 0) (hv : v ≠ evalPoly p z)
    (hacc : check vk [⟨l, ⟨g * evalPoly p β, none⟩, none⟩] z [v] ⟨g * evalPoly a β, none⟩ (ξ :: ξs)
      = .ok (true, ξs)) :
    evalPoly (KZG.extractPoly (pscale ξ p) a z (ξ * v)) β = 0 ∧
      evalPoly (KZG.extractPoly (pscale ξ p) a z (ξ * v)) z ≠ 0 := by
  rw [check_iff_of_accumulate accumulate_single_plain, hvk] at hacc
  have hc : KZG.check (KZG.wfVK g γ β h) (g * evalPoly (pscale ξ p) β) z (ξ * v)
      ⟨g * evalPoly a β, none⟩ = true := by
    rw [KZG.check_iff_defect, eval_pscale, mul_left_comm]
    rwa [add_zero, add_zero] at hacc
  have hv' : ξ * v ≠ evalPoly (pscale ξ p) z := by
    rw [eval_pscale]
    exact fun h0 => hv (mul_left_cancel₀ hξ h0)
  exact kzg10_algebraic_forgery_reveals_trapdoor g γ β h (pscale ξ p) a z (ξ * v) hg hh hv' hc

/-! non-vacuity on the bounded hiding example of `C01_Marlin` -/
example : check C01.exVK [⟨[112], ⟨43, some 90⟩, some 2⟩] 10 [evalPoly [1, 2, 3] 10] ⟨49, some 68⟩ [11, 13]
      = .ok (true, []) ∧
    check C01.exVK [⟨[112], ⟨43, some 90⟩, some 2⟩] 10 [evalPoly [1, 2, 3] 10] ⟨50, some 68⟩ [11, 13]
      = .ok (false, []) := by decide +kernel

end PCV.C03
