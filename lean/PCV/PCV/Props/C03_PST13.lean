/-
  Property C03 — no crafted or malformed proof proves a false claim: MarlinPST13, the SHAPE of the
  proof.  A PST13 evaluation proof is a list of witness elements — exactly one per variable of the
  key — and an optional field element.  `check` and `batch_check` refuse
  (`IncorrectInputLength`) every proof whose witness list has another length, before any pairing;
  `batch_check` aborts on a proof list whose length differs from the number of point labels.  For
  proofs of the right shape the verifier's decision is the vanishing of an explicit defect, which a
  replaced witness element or `random_v` moves by a stated non-zero amount.

  (History: before /repo commit e3c5fb6 `batch_check` folded a surplus witness element into the
  commitment side with weight `z[num_vars]`; with a query point carrying a surplus coordinate the
  element `(ξ·δ/z[nv])·g`, computable from public data, proved the false value `v + δ`.  The harness
  keeps that forgery as a permanent negative case: `C03/pst13/*/extend-public-forge`.)
-/
import PCV.Proofs.PST13More
import PCV.Proofs.PST13Extract
import PCV.Props.Examples

set_option synthInstance.maxSize 512

namespace PCV.C03
open PCV PCV.MV
variable {F : Type} [Field F] [DecidableEq F]

/-! ### the witness list must have one element per variable -/

/-- **`check`: wrong witness count ⇒ `IncorrectInputLength`**, unconditionally — arbitrary key,
commitments, point, values, challenges; shorter and longer lists alike. -/
theorem pst13_check_wrong_witness_count (vk : PST.VK F) (cs z vs : List F) (π : PST.Proof F)
    (ξs : List F) (h : π.w.length ≠ vk.numVars) :
    PST.check vk cs z vs π ξs = .error .incorrectInputLength :=
  PST.check_wrong_length h

/-- **`check` answers only proofs with exactly `num_vars` witnesses** (that fit the key and the
point), and then the answer is whether the pairing defect of that very proof vanishes. -/
theorem pst13_check_answers_exact_shape (vk : PST.VK F) (cs z vs : List F) (π : PST.Proof F)
    (ξs : List F) (b : Bool) (h : PST.check vk cs z vs π ξs = .ok b) :
    π.w.length = vk.numVars ∧ ∃ a, PST.accumulate 0 0 cs vs ξs = .ok a
      ∧ π.w.length ≤ vk.betaH.length ∧ π.w.length ≤ z.length
      ∧ b = decide (PST.defectCombined vk a.1 a.2.1 z π = 0) :=
  (PST.check_ok_iff vk cs z vs π ξs b).1 h

/-- **`batch_check`: a proof list of the wrong length aborts** (fix c2c0afc), **a proof with a wrong
witness count anywhere in the list ⇒ `IncorrectInputLength`** (fix e3c5fb6). -/
theorem pst13_batch_wrong_shape (vk : PST.VK F) (cs : List F) (zs : List (List F)) (vs : List F)
    (πs : List (PST.Proof F)) (rs : List F) :
    (πs.length ≠ zs.length → PST.batchCheck vk cs zs vs πs rs = .error .abort) ∧
    (πs.length = zs.length → ∀ π ∈ πs, π.w.length ≠ vk.numVars →
      PST.batchCheck vk cs zs vs πs rs = .error .incorrectInputLength) := by
  constructor
  · intro h
    unfold PST.batchCheck
    rw [PST.batchDefect_wrong_count h]
  · intro hl π hπ hw
    unfold PST.batchCheck
    rw [PST.batchDefect_wrong_witness_count hl hπ hw]

/-- **`batch_check` answers only well-shaped proof lists**: one proof per point label, each with
one witness per key variable — and then (C05) its pairing product is `Σ ρₖ·Δₖ` of the individual
defects. -/
theorem pst13_batch_answers_exact_shape (vk : PST.VK F) (cs : List F) (zs : List (List F))
    (vs : List F) (πs : List (PST.Proof F)) (rs : List F) (b : Bool)
    (h : PST.batchCheck vk cs zs vs πs rs = .ok b) :
    πs.length = zs.length ∧ ∀ π ∈ πs, π.w.length = vk.numVars := by
  unfold PST.batchCheck at h
  by_cases hl : πs.length = zs.length
  · refine ⟨hl, ?_⟩
    intro π hπ
    by_contra hw
    rw [PST.batchDefect_wrong_witness_count hl hπ hw] at h
    cases h
  · rw [PST.batchDefect_wrong_count hl] at h
    cases h

/-! ### a replaced component moves the defect -/

/-- **A replaced witness element**: `Wⱼ ↦ Wⱼ + δ` moves the defect by `−δ·(βⱼh − zⱼ·h)`. -/
theorem pst13_replaced_witness_defect (vk : PST.VK F) (C V : F) (z pre post : List F) (x δ : F)
    (rv : Option F) :
    PST.defectCombined vk C V z ⟨pre ++ (x + δ) :: post, rv⟩
      = PST.defectCombined vk C V z ⟨pre ++ x :: post, rv⟩
        - δ * (getD' vk.betaH pre.length 0 - vk.h * getD' z pre.length 0) :=
  PST.defect_witness_shift vk C V z pre post x δ rv

/-- **… and is therefore rejected**: if the claim is accepted with the proof `(…, Wⱼ, …)`, the same
claim with `Wⱼ + δ` in its place is rejected whenever `δ·(βⱼh − zⱼ·h) ≠ 0`. -/
theorem pst13_replaced_witness_rejected (vk : PST.VK F) (cs z vs : List F) (pre post : List F)
    (x δ : F) (rv : Option F) (ξs : List F)
    (hacc : PST.check vk cs z vs ⟨pre ++ x :: post, rv⟩ ξs = .ok true)
    (hne : δ * (getD' vk.betaH pre.length 0 - vk.h * getD' z pre.length 0) ≠ 0) :
    PST.check vk cs z vs ⟨pre ++ (x + δ) :: post, rv⟩ ξs = .ok false := by
  refine PST.check_replaced_rejected hacc ?_
    (fun C V => by rw [PST.defect_witness_shift, sub_eq_add_neg]) (neg_ne_zero.2 hne)
  simp only [List.length_append, List.length_cons]

/-- **A changed or dropped `random_v`**: `rv + δ` moves the defect by `−γ·δ·h`, dropping `Some rv`
by `+γ·rv·h`. -/
theorem pst13_random_v_defect (vk : PST.VK F) (C V : F) (z w : List F) (x δ : F) :
    PST.defectCombined vk C V z ⟨w, some (x + δ)⟩
        = PST.defectCombined vk C V z ⟨w, some x⟩ - vk.gammaG * δ * vk.h
      ∧ PST.defectCombined vk C V z ⟨w, none⟩
        = PST.defectCombined vk C V z ⟨w, some x⟩ + vk.gammaG * x * vk.h :=
  PST.defect_rv_shift vk C V z w x δ

theorem pst13_changed_random_v_rejected (vk : PST.VK F) (cs z vs w : List F) (x δ : F)
    (ξs : List F) (hacc : PST.check vk cs z vs ⟨w, some x⟩ ξs = .ok true)
    (hne : vk.gammaG * δ * vk.h ≠ 0) :
    PST.check vk cs z vs ⟨w, some (x + δ)⟩ ξs = .ok false :=
  PST.check_replaced_rejected hacc rfl
    (fun C V => by rw [(PST.defect_rv_shift vk C V z w x δ).1, sub_eq_add_neg]) (neg_ne_zero.2 hne)

/-! ### non-vacuity over `ZMod 101`

The accepted claim of the C01/C02 examples (two variables, commitment `27`, value `3` at `(10,20)`,
challenge `13`, proof `⟨[10, 66], some 93⟩`) with every shape of proof. -/

example : PST.check (PST.wfVK (3 : K) 5 11 [2, 7] 2 2 2) [27] [10, 20] [3] ⟨[10, 66], some 93⟩ [13]
    = .ok true := by decide +kernel
/-- truncated and extended witness lists (also at a point with a surplus coordinate): refused -/
example : PST.check (PST.wfVK (3 : K) 5 11 [2, 7] 2 2 2) [27] [10, 20] [3] ⟨[10], some 93⟩ [13]
    = .error .incorrectInputLength := by decide +kernel
example : PST.check (PST.wfVK (3 : K) 5 11 [2, 7] 2 2 2) [27] [10, 20] [3] ⟨[], some 93⟩ [13]
    = .error .incorrectInputLength := by decide +kernel
example : PST.check (PST.wfVK (3 : K) 5 11 [2, 7] 2 2 2) [27] [10, 20, 9] [3] ⟨[10, 66, 0], some 93⟩ [13]
    = .error .incorrectInputLength := by decide +kernel
/-- the point with a surplus coordinate itself is fine -/
example : PST.check (PST.wfVK (3 : K) 5 11 [2, 7] 2 2 2) [27] [10, 20, 9] [3] ⟨[10, 66], some 93⟩ [13]
    = .ok true := by decide +kernel
/-- `batch_check`: the formerly accepted forgery — value `3 + 1`, extra witness
`(ξ·δ/z₂)·g = (13·1/9)·3` — is refused; so are the empty and the truncated proof list -/
example : PST.batchCheckGroups (PST.wfVK (3 : K) 5 11 [2, 7] 2 2 2) [([27], [4])] [[10, 20, 9]]
    [⟨[10, 66, 13 * 3 * (9 : K)⁻¹], some 93⟩] [13] [] = .error .incorrectInputLength := by decide +kernel
example : PST.batchCheckGroups (PST.wfVK (3 : K) 5 11 [2, 7] 2 2 2) [([27], [3])] [[10, 20, 9]]
    [⟨[10, 66], some 93⟩] [13] [] = .ok true := by decide +kernel
example : PST.batchCheckGroups (PST.wfVK (3 : K) 5 11 [2, 7] 2 2 2) [([27], [4])] [[10, 20]] [] [13] []
    = .error .abort := by decide +kernel
/-- replaced witness element / changed / dropped `random_v`: rejected; the hypotheses of the
rejection theorems: `δ·(β₀h − z₀h) = 1·(22 − 11·10)`, `γ·δ·h = 5·1·11` -/
example : PST.check (PST.wfVK (3 : K) 5 11 [2, 7] 2 2 2) [27] [10, 20] [3] ⟨[11, 66], some 93⟩ [13]
    = .ok false := by decide +kernel
example : PST.check (PST.wfVK (3 : K) 5 11 [2, 7] 2 2 2) [27] [10, 20] [3] ⟨[10, 66], some 94⟩ [13]
    = .ok false := by decide +kernel
example : PST.check (PST.wfVK (3 : K) 5 11 [2, 7] 2 2 2) [27] [10, 20] [3] ⟨[10, 66], none⟩ [13]
    = .ok false := by decide +kernel
example : (1 : K) * (22 - 11 * 10) ≠ 0 ∧ (5 : K) * 1 * 11 ≠ 0 := by decide +kernel

/-! ### any algebraic forger solves the hardness problem -/

/-- **Any algebraic forger hands over a polynomial with the trapdoor as a root (PST13, non-hiding).**
Let `p` and the `aᵢ` be ANY functions of the trapdoor the forger can evaluate "in the exponent" over
the published `powers_of_g` (multivariate polynomials with known coefficients): commitment
`g·p(β⃗)`, witness elements `g·aᵢ(β⃗)`.  If the verifier accepts the value `v` at `z` under a
challenge `ξ ≠ 0`, then `E(x) := ξ·(p(x) − v) − Σᵢ (xᵢ − zᵢ)·aᵢ(x)` vanishes at the trapdoor while
`E(z) = ξ·(p(z) − v)`: for a false claim `E` is a non-zero polynomial the forger knows, and the secret
trapdoor is among its roots.  (The challenge multiplies commitment and value but not the witnesses;
with `aᵢ/ξ` in place of `aᵢ` this is `p(x) − v − Σ (xᵢ − zᵢ)·aᵢ(x)`.) -/
theorem pst13_algebraic_forgery_reveals_trapdoor (g γ h : F) (β z : List F) (nv s D : Nat)
    (v ξ : F) (ξs : List F) (p : List F → F) (a : List F → List F)
    (hg : g ≠ 0) (hh : h ≠ 0) (hξ : ξ ≠ 0) (hv : v ≠ p z)
    (hacc : PST.check (PST.wfVK g γ h β nv s D) [g * p β] z [v] ⟨(a β).map (g * ·), none⟩ (ξ :: ξs)
      = .ok true) :
    (ξ * (p β - v) - PST.linSumIdx β z 0 (a β) = 0)
      ∧ (ξ * (p z - v) - PST.linSumIdx z z 0 (a z) ≠ 0) := by
  exact ⟨PST.forgery_identity hg hh hacc,
    PST.forgery_nonzero_at_point z (a z) hξ hv⟩

/-- the same for multivariate polynomials in coefficient form -/
theorem pst13_algebraic_forgery_mv (g γ h : F) (β z : List F) (nv s D : Nat) (v ξ : F)
    (ξs : List F) (p : MVPoly F) (as : List (MVPoly F))
    (hg : g ≠ 0) (hh : h ≠ 0) (hξ : ξ ≠ 0) (hv : v ≠ evalMV p z)
    (hacc : PST.check (PST.wfVK g γ h β nv s D) [g * evalMV p β] z [v]
      ⟨(as.map (fun q => evalMV q β)).map (g * ·), none⟩ (ξ :: ξs) = .ok true) :
    (ξ * (evalMV p β - v) - PST.linSumIdx β z 0 (as.map (fun q => evalMV q β)) = 0)
      ∧ (ξ * (evalMV p z - v) - PST.linSumIdx z z 0 (as.map (fun q => evalMV q z)) ≠ 0) :=
  pst13_algebraic_forgery_reveals_trapdoor g γ h β z nv s D v ξ ξs (fun x => evalMV p x)
    (fun x => as.map (fun q => evalMV q x)) hg hh hξ hv hacc

/-- **Algebraic forger against a hiding commitment.**  Commitment `g·p(β⃗) + γ·r(β⃗)`, witnesses
`g·aᵢ(β⃗) + γ·bᵢ(β⃗)`, any `random_v = ρ`: an accepted false value means the trapdoor is a root of
the non-zero `E_p(x) = ξ·(p(x) − v) − Σ (xᵢ − zᵢ)·aᵢ(x)` (and `γ·E_r(β⃗) = 0` for
`E_r(x) = ξ·r(x) − ρ − Σ (xᵢ − zᵢ)·bᵢ(x)`), or the forger has written the hiding generator as an explicit
multiple of the plain one, `γ = −g·E_p(β⃗)/E_r(β⃗)` — which the independent sampling of `gamma_g` in
`setup` is there to prevent. -/
theorem pst13_algebraic_forgery_hiding (g γ h : F) (β z : List F) (nv s D : Nat) (v ρ ξ : F)
    (ξs : List F) (p r : List F → F) (a b : List F → List F)
    (hl : (a β).length = (b β).length) (hg : g ≠ 0) (hh : h ≠ 0) (hξ : ξ ≠ 0) (hv : v ≠ p z)
    (hacc : PST.check (PST.wfVK g γ h β nv s D) [g * p β + γ * r β] z [v]
      ⟨List.zipWith (fun x y => g * x + γ * y) (a β) (b β), some ρ⟩ (ξ :: ξs) = .ok true) :
    (ξ * (p z - v) - PST.linSumIdx z z 0 (a z) ≠ 0) ∧
    ((ξ * (p β - v) - PST.linSumIdx β z 0 (a β) = 0
        ∧ γ * (ξ * r β - ρ - PST.linSumIdx β z 0 (b β)) = 0) ∨
     (ξ * r β - ρ - PST.linSumIdx β z 0 (b β) ≠ 0 ∧
      γ = -(g * (ξ * (p β - v) - PST.linSumIdx β z 0 (a β)))
            / (ξ * r β - ρ - PST.linSumIdx β z 0 (b β)))) := by
  have hid := PST.forgery_identity_hiding hl hh hacc
  refine ⟨PST.forgery_nonzero_at_point z (a z) hξ hv, ?_⟩
  · by_cases hr : ξ * r β - ρ - PST.linSumIdx β z 0 (b β) = 0
    · left
      rw [hr, mul_zero, add_zero] at hid
      rcases mul_eq_zero.1 hid with h1 | h1
      · exact absurd h1 hg
      · exact ⟨h1, by rw [hr, mul_zero]⟩
    · right
      refine ⟨hr, ?_⟩
      rw [eq_div_iff hr]
      exact eq_neg_of_add_eq_zero_right hid

/-- non-vacuity: on the key `g = 3, γ = 5, h = 11, β⃗ = (2, 7)` the forger functions `p(x) = x₀ + x₁`,
witnesses `g·1, g·70` get the false value `v = p(z) + 3` accepted at `z = (10, 20)` under `ξ = 13`:
`13·(9 − 33) = 1·(2 − 10) + 70·(7 − 20)` -/
example : PST.check (PST.wfVK (3 : K) 5 11 [2, 7] 2 2 2) [3 * (2 + 7)] [10, 20] [10 + 20 + 3]
      ⟨[1, 70].map ((3 : K) * ·), none⟩ [13] = .ok true
    ∧ (13 : K) * ((2 + 7) - (10 + 20 + 3)) - PST.linSumIdx [2, 7] [10, 20] 0 [1, 70] = 0
    ∧ (13 : K) * ((10 + 20) - (10 + 20 + 3)) - PST.linSumIdx ([10, 20] : List K) [10, 20] 0 [1, 70] ≠ 0 := by
  decide +kernel

end PCV.C03
