/-
  Property C03 (SonicKZG10) — crafted proofs on the exact model: at most one witness element is
  accepted for a statement; a forged value needs a compensating `random_v`; and the reduction for
  algebraic forgers (the extraction polynomial of `Proofs/KZG10Extract.lean`).
-/
import PCV.Proofs.SonicExamples
import PCV.Proofs.SonicBound

namespace PCV.C03
open PCV PCV.Sonic
variable {F : Type} [Field F] [DecidableEq F]

/-- **Single-component replacement (witness).** On a key with `βH = β·h`, `h ≠ 0` and `z ≠ β`: two
proofs that differ only in the witness element and are both accepted for the same statement are
equal — from an accepted proof every other witness is rejected, and for a false claim at most one
(trapdoor-dependent) witness is accepted. -/
theorem sonic_witness_unique (vk : VK F) (β : F) (hbh : vk.betaH = β * vk.h) (hh : vk.h ≠ 0)
    (cs : List (LComm F)) (z : F) (hz : z ≠ β) (vs ξs r₁ r₂ : List F) (w₁ w₂ : F) (rv : Option F)
    (h₁ : check vk cs z vs ⟨w₁, rv⟩ ξs = .ok (true, r₁))
    (h₂ : check vk cs z vs ⟨w₂, rv⟩ ξs = .ok (true, r₂)) : w₁ = w₂ := by
  refine witness_unique ?_ ((defect_of_accept h₁).trans (defect_of_accept h₂).symm)
  rw [hbh, ← sub_mul]
  exact mul_ne_zero (sub_ne_zero.2 hz.symm) hh

/-- **Forged value with the honest witness** (single unbounded hiding commitment): a false value
`v + dv` is accepted only with a `random_v` changed to compensate exactly, `ξ·dv·g + drv·γ = 0`. -/
theorem sonic_value_and_rv (vk : VK F) (hh : vk.h ≠ 0) (l : Marlin.Label) (c z v w rv dv drv ξ : F)
    (ξs r : List F)
    (h₁ : check vk [⟨l, c, none⟩] z [v] ⟨w, some rv⟩ (ξ :: ξs) = .ok (true, r)) :
    check vk [⟨l, c, none⟩] z [v + dv] ⟨w, some (rv + drv)⟩ (ξ :: ξs) = .ok (true, r)
      ↔ ξ * dv * vk.g + drv * vk.gammaG = 0 := by
  -- KZG10's check of `(ξ·C, z, ξ·v)`: its slopes in the value and in `random_v`
  have e : defect vk [⟨l, c, none⟩] z [v + dv] ⟨w, some (rv + drv)⟩ (ξ :: ξs)
      = defect vk [⟨l, c, none⟩] z [v] ⟨w, some rv⟩ (ξ :: ξs)
        + -((ξ * dv * vk.g + drv * vk.gammaG) * vk.h) := by
    rw [defect_single_unbounded, defect_single_unbounded, mul_add, KZG.defect_add_rv,
      KZG.defect_add_value, add_assoc, ← add_mul, ← neg_add, neg_mul]
    rfl
  rw [accepted_moved_iff h₁ e rfl rfl, neg_eq_zero]
  exact mul_eq_zero.trans (or_iff_left hh)

/-- **Any algebraic forger solves the hardness problem (Sonic, unbounded commitment).**  Key from a
trapdoor; commitment `g·p(β)`; witness `g·a(β)` for ANY forger-chosen coefficients `a`; if the value
`v` is accepted at `z` under the challenge `ξ`, the trapdoor is a root of
`ξ·p − ξ·v − a·(X − z)`, whose value at `z` is `ξ·(p(z) − v)`: non-zero for a false claim and `ξ ≠ 0`. -/
theorem sonic_algebraic_forgery_reveals_trapdoor (vk : VK F) (g β h : F)
    (hg : vk.g = g) (hh : vk.h = h) (hbh : vk.betaH = β * h) (hg0 : g ≠ 0) (hh0 : h ≠ 0)
    (l : Marlin.Label) (p a : List F) (z v ξ : F) (ξs r : List F) (hξ : ξ ≠ 0)
    (hv : v ≠ evalPoly p z)
    (hacc : check vk [⟨l, g * evalPoly p β, none⟩] z [v] ⟨g * evalPoly a β, none⟩ (ξ :: ξs)
      = .ok (true, r)) :
    evalPoly (KZG.extractPoly (pscale ξ p) a z (ξ * v)) β = 0 ∧
      evalPoly (KZG.extractPoly (pscale ξ p) a z (ξ * v)) z ≠ 0 := by
  -- one unbounded commitment is KZG10's check of `(ξ·C, z, ξ·v)`, i.e. of the polynomial `ξ·p`
  have hdef := defect_of_accept hacc
  rw [defect_single_unbounded, ← mul_assoc, mul_comm ξ g, mul_assoc, ← eval_pscale,
    ← KZG.check_iff_defect] at hdef
  have hvk : vk.kzg = KZG.wfVK g vk.gammaG β h := by rw [VK.kzg, KZG.wfVK, hg, hh, hbh]
  rw [hvk] at hdef
  obtain ⟨h1, h2⟩ := KZG.forgery_gives_root hg0 hh0 hdef
  rw [eval_pscale, ← mul_sub] at h2
  exact ⟨h1, h2 ▸ mul_ne_zero hξ (sub_ne_zero.2 hv.symm)⟩

/-! non-vacuity on the worked example of `SonicExamples` (bounded hiding, unbounded, bounded) -/
example : check Ex.vk Ex.comms 5 Ex.vals Ex.proof Ex.xis = .ok (true, [23]) ∧
    check Ex.vk Ex.comms 5 Ex.vals ⟨Ex.proof.w + 1, Ex.proof.rv⟩ Ex.xis = .ok (false, [23]) ∧
    Ex.vk.betaH = 2 * Ex.vk.h ∧ Ex.vk.h ≠ 0 ∧ (5 : K) ≠ 2 := ⟨Ex.check_eq, by decide +kernel⟩
end PCV.C03
