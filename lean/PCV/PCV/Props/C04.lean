/-
  Property C04 — degree bounds are enforced by committer and verifier (MarlinKZG10 part; Sonic and
  IPA have their own files).
-/
import PCV.Proofs.MarlinMore
import PCV.Proofs.MarlinBound
import PCV.Props.C01_Marlin

namespace PCV.C04
open PCV Marlin
variable {F : Type} [Field F] [DecidableEq F]

/-- **(a) admission, committer.** A polynomial whose declared bound the key does not enforce, which
is below the polynomial's degree or above the maximum degree, is refused. -/
theorem marlin_commit_refuses_bound (ck : CK F) (p : LPoly F) (rng : Bool) (draws : List F) (b : Nat)
    (hb : p.bound = some b)
    (hbad : ck.bounds = none ∨ (∃ bs, ck.bounds = some bs ∧ b ∉ bs) ∨ b < pdeg p.poly ∨
      b > ck.maxDegree) :
    ∃ e, commitOne ck p rng draws = .error e := by
  obtain ⟨e, he⟩ := checkDB_error_of_bad hbad
  unfold commitOne
  rw [hb, he]
  exact ⟨e, rfl⟩

/-- **(a) admission, prover.** -/
theorem marlin_open_refuses_bound (ck : CK F) (z : F) (p : LPoly F) (ps : List (LPoly F))
    (st : Rand F) (sts : List (Rand F)) (ξs : List F) (acc : OpenAcc F) (b : Nat)
    (hb : p.bound = some b)
    (hbad : ck.bounds = none ∨ (∃ bs, ck.bounds = some bs ∧ b ∉ bs) ∨ b < pdeg p.poly ∨
      b > ck.maxDegree) :
    ∃ e, openLoop ck z (p :: ps) (st :: sts) ξs acc = .error e := by
  obtain ⟨e, he⟩ := checkDB_error_of_bad hbad
  unfold openLoop
  by_cases hne : p.bound.isSome ≠ st.shifted.isSome
  · rw [if_pos hne]; exact ⟨_, rfl⟩
  · rw [if_neg hne, hb, he]; exact ⟨e, rfl⟩

/-- **(a) admission, degree.** A polynomial larger than the supported degree is refused. -/
theorem marlin_commit_refuses_degree (ck : CK F) (p : LPoly F) (rng : Bool) (draws : List F)
    (h : pdeg p.poly + 1 > ck.powers.length) : ∃ e, commitOne ck p rng draws = .error e := by
  unfold commitOne
  split
  · exact ⟨_, rfl⟩
  · by_cases hr : p.hb.isSome ∧ rng = false
    · rw [if_pos hr]; exact ⟨_, rfl⟩
    · rw [if_neg hr, KZG.commit_tooLarge ⟨ck.powers, ck.gammaPowers⟩ p.poly p.hb true draws h]
      exact ⟨_, rfl⟩

/-- **(b) honest use** with any admissible bound is accepted: see `C01.marlin_complete`. -/
theorem marlin_bounded_complete {ck : CK F} {vk : VK F} {g γ β h : F} {D n m : Nat}
    (hwf : WF ck vk g γ β h D n m) (z : F) (l : List (Trip F))
    (hh : ∀ t ∈ l, Honest g γ β D t) (hl : ∀ t ∈ l, RandLen m t) (ξs : List F)
    (π : KZG.Proof F) (rest : List F)
    (ho : Marlin.open ck (l.map (·.1)) z (l.map (·.2.1)) ξs = .ok (π, rest))
    (hnd : ∀ acc r, openLoop ck z (l.map (·.1)) (l.map (·.2.1)) ξs ⟨[], [], [], [], [], false⟩
        = .ok (acc, r) → isZeroPoly acc.r = true → evalPoly acc.sr z = 0) :
    check vk (l.map (·.2.2)) z (l.map fun t => evalPoly t.1.poly z) π ξs = .ok (true, rest) :=
  open_check_complete hwf z l hh hl ξs π rest ho hnd

/-- **(c) mislabelling.** A commitment accepted under the bound `d′` it was made for is accepted
under another enforced bound `d` iff `h·ξ′·v·(shift(d′) − shift(d)) = 0`. -/
theorem marlin_mislabel_iff (vk : VK F) (l : Label) (c s z v ξ ξ' : F) (ξs : List F)
    (π : KZG.Proof F) (d d' : Nat) (sp sp' : F)
    (hsp : vk.shiftPower d = some sp) (hsp' : vk.shiftPower d' = some sp')
    (hacc : check vk [⟨l, ⟨c, some s⟩, some d'⟩] z [v] π (ξ :: ξ' :: ξs) = .ok (true, ξs)) :
    check vk [⟨l, ⟨c, some s⟩, some d⟩] z [v] π (ξ :: ξ' :: ξs) = .ok (true, ξs)
      ↔ vk.vk.h * (ξ' * v * (sp' - sp)) = 0 := by
  rw [check_iff_of_accumulate (accumulate_single_bounded hsp')] at hacc
  -- the accumulated commitment under `d` is the one under `d′` moved by `ξ′·v·(sp′ − sp)`
  have e : ξ * c + ξ' * (s - v * sp) + 0 = ξ * c + ξ' * (s - v * sp') + 0 + ξ' * v * (sp' - sp) := by
    ring
  rw [check_iff_of_accumulate (accumulate_single_bounded hsp), e,
    moved_iff hacc (KZG.defect_add_comm ..), mul_comm]

/-- with well-formed keys the two shift elements are `g·β^(D−d′)` and `g·β^(D−d)`: the
mislabelled commitment is rejected whenever `v ≠ 0`, `ξ′ ≠ 0` and the two powers differ -/
theorem marlin_mislabel_rejected {ck : CK F} {vk : VK F} {g γ β h : F} {D n m : Nat}
    (hwf : WF ck vk g γ β h D n m) (bs : List Nat) (hbs : ck.bounds = some bs)
    (l : Label) (c s z v ξ ξ' : F) (ξs : List F) (π : KZG.Proof F) (d d' : Nat)
    (hd : d ∈ bs) (hd' : d' ∈ bs)
    (hne : h * (ξ' * v * (g * fpow β (D - d') - g * fpow β (D - d))) ≠ 0)
    (hacc : check vk [⟨l, ⟨c, some s⟩, some d'⟩] z [v] π (ξ :: ξ' :: ξs) = .ok (true, ξs)) :
    check vk [⟨l, ⟨c, some s⟩, some d⟩] z [v] π (ξ :: ξ' :: ξs) ≠ .ok (true, ξs) := by
  intro hx
  have h1 := (marlin_mislabel_iff vk l c s z v ξ ξ' ξs π d d' _ _ (hwf.shifts bs hbs d hd)
    (hwf.shifts bs hbs d' hd') hacc).1 hx
  rw [hwf.vkeq] at h1
  exact hne h1

set_option linter.unusedSectionVars false in
/-- **(c) dropped / added shifted part.** A degree-bound label without a shifted commitment, or a
shifted commitment without a label, aborts the verifier (`assert_eq!`). -/
theorem marlin_shifted_mismatch_aborts (vk : VK F) (c : LComm F) (cs : List (LComm F)) (v : F)
    (vs ξs : List F) (h : c.bound.isSome ≠ c.comm.shifted.isSome) :
    accumulate vk (c :: cs) (v :: vs) ξs = .error .abort := by
  simp only [accumulate, h, ne_eq, not_false_eq_true, if_true]

set_option linter.unusedSectionVars false in
/-- **(d) algebraic core of bound soundness**: a shifted polynomial `X^k·p` of length ≤ `D+1`
forces `p` to have length ≤ `D+1−k`. -/
theorem shift_degree_core (k D : Nat) (p : List F) (h : (pshift k p).length ≤ D + 1) :
    p.length ≤ D + 1 - k := by
  rw [pshift_len] at h
  exact Nat.le_sub_of_add_le' h

/-- non-vacuity for (a) and (c) on the example key of C01 (enforced bounds `[2]`) -/
example : commitOne C01.exCK ⟨[112], [1, 2, 3], some 1, none⟩ false [] = .error .unsupportedBound := by
  decide +kernel
example : accumulate C01.exVK [⟨[112], ⟨43, none⟩, some 2⟩] [(1 : K)] [11, 13] = .error .abort := by
  decide +kernel

/-- **"Accepted only if produced for a polynomial of degree ≤ d" — the reduction, step 1.**
An algebraic committer/prover (commitment `g·p(β)`, shifted part `g·q(β)`, witness `g·a(β)`, all
built from the published powers) whose degree-bounded commitment is accepted under the bound `d`
has made the trapdoor a root of the explicit polynomial
`ξ·(p − v) + ξ′·(q − v·X^(D−d)) − a·(X − z)`. -/
theorem marlin_bound_forgery_root {ck : CK F} {vk : VK F} {g γ β h : F} {D n m : Nat}
    (hwf : WF ck vk g γ β h D n m) (bs : List Nat) (hbs : ck.bounds = some bs) (d : Nat) (hd : d ∈ bs)
    (hg : g ≠ 0) (hh : h ≠ 0) (l : Label) (p q a : List F) (z v ξ ξ' : F) (ξs : List F)
    (hacc : check vk [⟨l, ⟨g * evalPoly p β, some (g * evalPoly q β)⟩, some d⟩] z [v]
      ⟨g * evalPoly a β, none⟩ (ξ :: ξ' :: ξs) = .ok (true, ξs)) :
    evalPoly (boundExtract p q a z v ξ ξ' (D - d)) β = 0 := by
  rw [check_iff_of_accumulate (accumulate_single_bounded (hwf.shifts bs hbs d hd)),
    hwf.vkeq, KZG.defect_wfVK] at hacc
  have h1 := (mul_eq_zero.1 hacc).resolve_left hh
  rw [eval_boundExtract]
  -- every term of the verifier's equation carries the factor `g`
  refine (mul_eq_zero.1 (?_ : g * _ = 0)).resolve_left hg
  unfold KZG.rvVal at h1
  linear_combination h1

/-- **Step 2: that polynomial is not zero.**  If `p` really exceeds the bound (a non-zero
coefficient above `d`) then — whatever `q` with at most `D+1` coefficients the committer chose
beforehand — for all but at most `max(|q|, D−d+|p|) − 1` challenge points `z`, and for every claimed
value `v`, the value of the extraction polynomial at `z` is `ξ·A + ξ′·B` with `(A, B) ≠ (0, 0)`: it
vanishes for at most one ratio of the two later challenges, otherwise the forger holds a non-zero
polynomial with the trapdoor as a root (the scheme's hardness problem).  Hence a commitment accepted
under the bound `d` was produced for a polynomial of degree at most `d`. -/
theorem marlin_degree_bound_sound (p q : List F) (D d : Nat) (hd : d ≤ D) (hq : q.length ≤ D + 1)
    (hp : ∃ i, d < i ∧ coeff p i ≠ 0) :
    ∃ S : Finset F, S.card ≤ max q.length (D - d + p.length) - 1 ∧
      ∀ z, z ∉ S → ∀ (v ξ ξ' : F) (a : List F),
        evalPoly (boundExtract p q a z v ξ ξ' (D - d)) z
          = ξ * (evalPoly p z - v) + ξ' * (evalPoly q z - v * fpow z (D - d)) ∧
        ¬ (evalPoly p z - v = 0 ∧ evalPoly q z - v * fpow z (D - d) = 0) := by
  obtain ⟨S, hcard, hS⟩ := DegreeBound.bound_violation_few_points q p D d hd hq hp
  refine ⟨S, hcard, fun z hz v ξ ξ' a => ⟨?_, ?_⟩⟩
  · rw [eval_boundExtract, sub_self, mul_zero, sub_zero]
  · rintro ⟨h1, h2⟩
    rw [← sub_eq_zero.1 h1, mul_comm] at h2
    exact hS z hz (sub_eq_zero.1 h2)

/-- non-vacuity: `p = 1 + 2X + 3X²` presented under the bound 1 with `D = 3` (`k = 2`): whatever
`q` of four coefficients is used, e.g. `q = X²·(1 + 2X)`, the relation `q(z) = z²·p(z)` fails at `z = 5` -/
example : evalPoly ([0, 0, 1, 2] : List K) 5 ≠ fpow 5 2 * evalPoly [1, 2, 3] 5 ∧
    coeff ([1, 2, 3] : List K) 2 ≠ 0 := by decide +kernel

end PCV.C04
