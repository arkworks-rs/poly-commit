/-
  Property C04 — degree bounds, inner-product-argument scheme: admission at `commit` and `open`
  (`check_degrees_and_bounds`), and the exact effect of presenting a commitment under another
  bound label.
-/
import PCV.Proofs.IPAVerify
import PCV.Props.C17_IPA
import PCV.Props.Examples

namespace PCV.C04
open PCV
variable {F : Type} [Field F] [DecidableEq F]

/-- **IPA, admission test.** `check_degrees_and_bounds` passes exactly when
`deg p ≤ supported` and, for a bound `d`, `deg p ≤ d ≤ supported`. -/
theorem ipa_admissible_iff (s : Nat) (p : List F) (b : Option Nat) :
    IPA.checkDegreesAndBounds s p b = .ok () ↔
      pdeg p ≤ s ∧ ∀ d, b = some d → pdeg p ≤ d ∧ d ≤ s :=
  IPA.checkDegreesAndBounds_ok_iff s p b

/-- **IPA, inadmissible requests are refused** by the committer (with the admission error) and by
the prover's loop: `deg p > supported`, or a bound below the degree, or a bound above the
supported degree. -/
theorem ipa_inadmissible_refused (ck : IPA.CK F) (p : IPA.LPoly F)
    (h : pdeg p.poly > IPA.supportedDegree ck ∨
      ∃ d, p.bound = some d ∧ (d < pdeg p.poly ∨ d > IPA.supportedDegree ck)) :
    (∃ e, IPA.checkDegreesAndBounds (IPA.supportedDegree ck) p.poly p.bound = .error e ∧
      ∀ rng draws, IPA.commitOne ck p rng draws = .error e) ∧
    ∀ c st ξ ξ' acc, ∃ e, IPA.openStep ck p c st ξ ξ' acc = .error e := by
  have hne : IPA.checkDegreesAndBounds (IPA.supportedDegree ck) p.poly p.bound ≠ .ok () := by
    intro hok
    obtain ⟨h1, h2⟩ := (IPA.checkDegreesAndBounds_ok_iff _ _ _).1 hok
    rcases h with h | ⟨d, hd, h⟩
    · exact Nat.not_lt.2 h1 h
    · exact h.elim (Nat.not_lt.2 (h2 d hd).1) (Nat.not_lt.2 (h2 d hd).2)
  cases hadm : IPA.checkDegreesAndBounds (IPA.supportedDegree ck) p.poly p.bound with
  | ok u => exact absurd hadm hne
  | error e =>
    exact ⟨⟨e, rfl, fun rng draws => IPA.commitOne_admission ck p rng draws e hadm⟩,
      fun c st ξ ξ' acc => IPA.openStep_admission ck p c st ξ ξ' acc e hadm⟩

/-- **IPA, `commit` answers only admissible lists.** -/
theorem ipa_commit_ok_admissible (ck : IPA.CK F) (polys : List (IPA.LPoly F)) (rng : Bool)
    (draws : List F) (x : List (IPA.LComm F) × List (IPA.Rand F) × List F)
    (h : IPA.commit ck polys rng draws = .ok x) :
    ∀ p ∈ polys, pdeg p.poly ≤ IPA.supportedDegree ck ∧
      ∀ d, p.bound = some d → pdeg p.poly ≤ d ∧ d ≤ IPA.supportedDegree ck := fun p hp =>
  (IPA.checkDegreesAndBounds_ok_iff _ _ _).1 (IPA.commit_admission ck rng polys draws x h p hp)

/-- **IPA, the prover's combining loop answers only admissible lists.** -/
theorem ipa_open_ok_admissible (ck : IPA.CK F) (polys : List (IPA.LPoly F))
    (comms : List (IPA.LComm F)) (sts : List (IPA.Rand F)) (cur : F) (ξs : List F)
    (acc : IPA.OpenAcc F) (x : IPA.OpenAcc F × List F)
    (hl1 : polys.length ≤ comms.length) (hl2 : polys.length ≤ sts.length)
    (h : IPA.openLoop ck polys comms sts cur ξs acc = .ok x) :
    ∀ p ∈ polys, pdeg p.poly ≤ IPA.supportedDegree ck ∧
      ∀ d, p.bound = some d → pdeg p.poly ≤ d ∧ d ≤ IPA.supportedDegree ck := fun p hp =>
  (IPA.checkDegreesAndBounds_ok_iff _ _ _).1
    (IPA.openLoop_admission ck polys comms sts cur ξs acc x hl1 hl2 h p hp)

/-- **IPA, mislabelled bound: exact defect.** A commitment made under the bound `d`, presented
under the label `d′` (both within the supported degree): with the oracle outputs held fixed the
combined commitment is unchanged and the combined value moves by `ξ′·v·(z^{s−d′} − z^{s−d})`, so
`defect1` moves by `h′·ξ′·v·(z^{s−d′} − z^{s−d})`, `h′ = ξ₀·h`. -/
theorem ipa_mislabel_defect (vk : IPA.VK F) (c : IPA.LComm F) (d d' : Nat) (sc z v : F)
    (π : IPA.Proof F) (ξ ξ' ξ'' : F) (ξs ros : List F) (r : IPA.Run F) (ξr ror : List F)
    (hb : c.bound = some d) (hs : c.comm.shifted = some sc)
    (hd : d ≤ IPA.supportedDegree vk) (hd' : d' ≤ IPA.supportedDegree vk)
    (hshape : IPA.badShape vk π = false)
    (hr : IPA.succinctRun vk [c] z [v] π (ξ :: ξ' :: ξ'' :: ξs) ros = .ok (r, ξr, ror)) :
    IPA.check vk [⟨c.label, c.comm, some d'⟩] z [v] π (ξ :: ξ' :: ξ'' :: ξs) ros
      = .ok (decide (IPA.defect1 vk z π r + vk.h * r.ξ₀ * (ξ' * v *
                (fpow z (IPA.supportedDegree vk - d') - fpow z (IPA.supportedDegree vk - d))) = 0)
             && decide (IPA.defect2 vk π r.us = 0)) := by
  rw [IPA.check_congr hshape (IPA.accLoop_single_some vk z c d sc v ξ ξ' ξ'' ξs hb hs hd)
    (IPA.accLoop_single_some vk z ⟨c.label, c.comm, some d'⟩ d' sc v ξ ξ' ξ'' ξs rfl hs hd') hr, sub_self,
    zero_add, add_sub_add_left_eq_sub, ← mul_sub]

/-- **IPA, mislabelled bound is rejected** whenever the value, the challenges and `h` are non-zero
and the two shifts differ at the point. -/
theorem ipa_mislabel_rejected (vk : IPA.VK F) (c : IPA.LComm F) (d d' : Nat) (sc z v : F)
    (π : IPA.Proof F) (ξ ξ' ξ'' : F) (ξs ros : List F) (r : IPA.Run F) (ξr ror : List F)
    (hb : c.bound = some d) (hs : c.comm.shifted = some sc)
    (hd : d ≤ IPA.supportedDegree vk) (hd' : d' ≤ IPA.supportedDegree vk)
    (hacc : IPA.check vk [c] z [v] π (ξ :: ξ' :: ξ'' :: ξs) ros = .ok true)
    (hr : IPA.succinctRun vk [c] z [v] π (ξ :: ξ' :: ξ'' :: ξs) ros = .ok (r, ξr, ror))
    (hv : v ≠ 0) (hξ' : ξ' ≠ 0) (hξ₀ : r.ξ₀ ≠ 0) (hh : vk.h ≠ 0)
    (hz : fpow z (IPA.supportedDegree vk - d') ≠ fpow z (IPA.supportedDegree vk - d)) :
    IPA.check vk [⟨c.label, c.comm, some d'⟩] z [v] π (ξ :: ξ' :: ξ'' :: ξs) ros = .ok false := by
  obtain ⟨hshape, h1, _⟩ := IPA.check_accept_run hacc hr
  rw [ipa_mislabel_defect vk c d d' sc z v π ξ ξ' ξ'' ξs ros r ξr ror hb hs hd hd' hshape hr, h1,
    zero_add, decide_eq_false, Bool.false_and]
  exact mul_ne_zero (mul_ne_zero hh hξ₀) (mul_ne_zero (mul_ne_zero hξ' hv) (sub_ne_zero.2 hz))

/-- **IPA, dropped / added shifted part.** A bound label without a shifted commitment, or a
shifted commitment without a bound label, makes the verifier's loop abort (`assert_eq!`). -/
theorem ipa_bound_shifted_mismatch_aborts (vk : IPA.VK F) (c : IPA.LComm F) (cs : List (IPA.LComm F))
    (z v : F) (vs : List F) (π : IPA.Proof F) (ξ ξ' ξ'' : F) (ξs ros : List F)
    (h : c.bound.isSome ≠ c.comm.shifted.isSome) (hshape : IPA.badShape vk π = false) :
    IPA.check vk (c :: cs) z (v :: vs) π (ξ :: ξ' :: ξ'' :: ξs) ros = .error .abort :=
  C17.ipa_check_refuses_statement vk c cs z v vs π ξ ξ' ξ'' ξs ros hshape (.inl h)

/-- **IPA, the shifted window** (C09/C08): the shifted commitment for the bound `d` is taken over
`comm_key[(supported − d)..]`, i.e. it is the plain commitment to `X^{s−d}·p`. -/
theorem ipa_shifted_window (ck : IPA.CK F) (p : List F) (d : Nat) (ρs : Option F) :
    IPA.shiftedComm ck p d ρs
      = dot (ck.commKey.drop (IPA.supportedDegree ck - d)) p + ck.s * IPA.optVal ρs ∧
    IPA.shiftedComm ck p d ρs
      = dot ck.commKey (pshift (IPA.supportedDegree ck - d) p) + ck.s * IPA.optVal ρs := by
  refine ⟨?_, IPA.shiftedComm_eq ck p d ρs⟩
  unfold IPA.shiftedComm; rw [IPA.cmCommit_eq]

/-! non-vacuity over `ZMod 101` (4-element key): admission outcomes, an accepted bounded
transcript, and the same transcript presented under bound 3 instead of 2 -/
example : IPA.commit (⟨[3, 5, 7, 11], 13, 17, 3⟩ : IPA.CK K) [⟨[1], [1, 2, 3], some 1, none⟩]
    false [] = .error .incorrectBound := by decide +kernel
example : IPA.commit (⟨[3, 5, 7, 11], 13, 17, 3⟩ : IPA.CK K) [⟨[1], [1, 2, 3], some 4, none⟩]
    false [] = .error .incorrectBound := by decide +kernel
example : IPA.commit (⟨[3, 5, 7, 11], 13, 17, 3⟩ : IPA.CK K) [⟨[1], [1, 2, 3, 4, 5], none, none⟩]
    false [] = .error .tooManyCoefficients := by decide +kernel
example : IPA.commit (⟨[3, 5, 7, 11], 13, 17, 3⟩ : IPA.CK K) [⟨[1], [1, 2, 3], some 2, none⟩]
    false [] = .ok ([⟨[1], ⟨34, some 52⟩, some 2⟩], [⟨0, none⟩], []) := by decide +kernel
example : IPA.open (⟨[3, 5, 7, 11], 13, 17, 3⟩ : IPA.CK K) [⟨[1], [1, 2, 3], some 2, none⟩]
    [⟨[1], ⟨34, some 52⟩, some 2⟩] 6 [⟨0, none⟩] [2, 3, 4] [8, 9, 10] false []
    = .ok (⟨[77, 46], [96, 17], 96, 58, none, none⟩, [], [], []) := by decide +kernel
example : IPA.check (⟨[3, 5, 7, 11], 13, 17, 3⟩ : IPA.CK K) [⟨[1], ⟨34, some 52⟩, some 2⟩] 6
    [evalPoly [1, 2, 3] 6] ⟨[77, 46], [96, 17], 96, 58, none, none⟩ [2, 3, 4] [8, 9, 10]
    = .ok true := by decide +kernel
example : IPA.check (⟨[3, 5, 7, 11], 13, 17, 3⟩ : IPA.CK K) [⟨[1], ⟨34, some 52⟩, some 3⟩] 6
    [evalPoly [1, 2, 3] 6] ⟨[77, 46], [96, 17], 96, 58, none, none⟩ [2, 3, 4] [8, 9, 10]
    = .ok false := by decide +kernel
example : IPA.check (⟨[3, 5, 7, 11], 13, 17, 3⟩ : IPA.CK K) [⟨[1], ⟨34, some 52⟩, none⟩] 6
    [evalPoly [1, 2, 3] 6] ⟨[77, 46], [96, 17], 96, 58, none, none⟩ [2, 3, 4] [8, 9, 10]
    = .error .abort := by decide +kernel

end PCV.C04
