/-
  Property C04 — inner-product argument, degree bounds against an ALGEBRAIC forger.  Lemmas:
  PCV/Proofs/IPAExtract.lean, PCV/Proofs/DegreeBound.lean.  A commitment presented under the bound `b` consists of
  a plain part `⟨p, G⟩` and a shifted part `⟨q, G⟩`; the verifier combines them with two challenges `ξ`, `ξ′` and
  the values `v`, `v·z^{s−b}`.  The trichotomy of `C03_IPAExtract` then reads: a discrete-log relation between
  the generators, or `ξ·(p(z) − v) + ξ′·(q(z) − v·z^{s−b}) = 0`, or an exceptional round challenge.  For a `p`
  that really exceeds the bound, `(p(z) − v, q(z) − v·z^{s−b}) ≠ (0, 0)` for all but few evaluation points
  whatever `q` and `v` are, so the middle case pins the ratio `ξ′/ξ` to a single value.
-/
import PCV.Proofs.IPAExtract
import PCV.Proofs.DegreeBound
import PCV.Props.C03_IPAExtractGeneral
import PCV.Props.Examples

namespace PCV.C04
open PCV
variable {F : Type} [Field F] [DecidableEq F]

set_option linter.unusedVariables false in
/-- **IPA, algebraic forger against `check`, one commitment under the degree bound `b`** (non-hiding proof).
Plain part `⟨p, G⟩`, shifted part `⟨q, G⟩`, the proof's `L`s and `R`s given by representations over
`(G, h′)`.  If `check` answers `Ok(true)`: a non-trivial linear relation between the generators, or
`ξ·p(z) + ξ′·q(z) = ξ·v + ξ′·v·z^{s−b}`, or a round challenge that is a root of a non-zero quadratic fixed
before it was drawn. -/
theorem ipa_bounded_algebraic_forgery_trichotomy (vk : IPA.VK F) (c : IPA.LComm F) (b : Nat) (sc : F)
    (p q : List F) (z v : F) (π : IPA.Proof F) (Ls Rs : List (List F × F)) (ξ ξ' ξ'' : F) (ξs ros : List F)
    (hbound : c.bound = some b) (hshift : c.comm.shifted = some sc) (hb : b ≤ IPA.supportedDegree vk)
    (hcomm : c.comm.comm = dot vk.commKey p) (hsc : sc = dot vk.commKey q)
    (hhc : π.hidingComm = none) (hrand : π.rand = none)
    (hL : π.lVec = Ls.map (IPA.repVal vk.commKey (vk.h * ros.headD 0)))
    (hR : π.rVec = Rs.map (IPA.repVal vk.commKey (vk.h * ros.headD 0)))
    (hacc : IPA.check vk [c] z [v] π (ξ :: ξ' :: ξ'' :: ξs) ros = .ok true) :
    ∃ r ξr ror, IPA.succinctRun vk [c] z [v] π (ξ :: ξ' :: ξ'' :: ξs) ros = .ok (r, ξr, ror) ∧
      r.ξ₀ = ros.headD 0 ∧
      r.V = ξ * v + ξ' * v * fpow z (IPA.supportedDegree vk - b) ∧
      (((∃ i, (IPA.relG (padd (pscale ξ p) (pscale ξ' q), 0) Ls Rs r.us π.c).getD i 0 ≠ 0)
            ∨ IPA.relH (padd (pscale ξ p) (pscale ξ' q), 0) r.V Ls Rs r.us π.c z ≠ 0) ∧
          IPA.repVal vk.commKey (vk.h * r.ξ₀)
            (IPA.relG (padd (pscale ξ p) (pscale ξ' q), 0) Ls Rs r.us π.c,
             IPA.relH (padd (pscale ξ p) (pscale ξ' q), 0) r.V Ls Rs r.us π.c z) = 0
        ∨ ξ * (evalPoly p z - v) + ξ' * (evalPoly q z - v * fpow z (IPA.supportedDegree vk - b)) = 0
        ∨ ∃ i, i < r.us.length ∧ i < Ls.length ∧ i < Rs.length ∧
            (IPA.slack z (padd (pscale ξ p) (pscale ξ' q), (0 : F)) - r.V)
              + IPA.lrSum ((Ls.map (IPA.slack z)).take i) ((Rs.map (IPA.slack z)).take i) (r.us.take i) ≠ 0 ∧
            (Rs.map (IPA.slack z)).getD i 0 * r.us.getD i 0 ^ 2
              + ((IPA.slack z (padd (pscale ξ p) (pscale ξ' q), (0 : F)) - r.V)
                  + IPA.lrSum ((Ls.map (IPA.slack z)).take i) ((Rs.map (IPA.slack z)).take i) (r.us.take i))
                * r.us.getD i 0
              + (Ls.map (IPA.slack z)).getD i 0 = 0) := by
  -- `hb` is not used: an accepting verifier has checked it (`IPA.accStep_ok`)
  obtain ⟨r, ξr, ror, hr, hξ₀, hV, h⟩ :=
    C03.ipa_general_nonhiding_algebraic_forgery_trichotomy vk [c] [⟨p, 0, q, 0⟩] z [v] π (Ls.map IPA.emb3)
      (Rs.map IPA.emb3) ξ (ξ' :: ξ'' :: ξs) ros
      ⟨⟨by rw [hcomm, mul_zero, add_zero], .inr (by rw [hshift, hsc, mul_zero, add_zero])⟩, trivial⟩ hhc
      (by rw [IPA.map_rep3Val_emb3]; exact hL) (by rw [IPA.map_rep3Val_emb3]; exact hR) hacc
  -- the closed forms of the general theorem on a one-element statement under a bound
  have hP : IPA.runRep [c] [⟨p, 0, q, 0⟩] [v] π [] 0 ξ (ξ' :: ξ'' :: ξs) ros
      = IPA.emb3 (padd (pscale ξ p) (pscale ξ' q), 0) := by
    simp only [IPA.runRep, IPA.accG, IPA.accS, IPA.stepG, IPA.stepS, hbound, IPA.hidChal_none hhc, hrand,
      padd_nil_right, pscale, List.map_nil, mul_zero, add_zero, Option.getD_none, sub_zero, IPA.emb3]
  simp only [IPA.valueErr, IPA.stepErr, hbound, add_zero] at hV
  have hA : IPA.slack z (padd (pscale ξ p) (pscale ξ' q), (0 : F)) - r.V
      = ξ * (evalPoly p z - v) + ξ' * (evalPoly q z - v * fpow z (IPA.supportedDegree vk - b)) := by
    rw [hV, IPA.slack, eval_padd, eval_pscale, eval_pscale]
    ring
  rw [hP] at h
  simp only [IPA.accClaim, IPA.stepClaim, hbound, add_zero] at h
  rw [← hA] at h
  exact ⟨r, ξr, ror, hr, hξ₀, hV, (IPA.trichotomy_emb3 h).imp_right (Or.imp_left hA.symm.trans)⟩

/-- **IPA, the bound is enforced.**  If `p` has a non-zero coefficient above `b`, then — whatever shifted
representation `q` with at most `s+1` coefficients the committer chose beforehand — for all but at most
`max(|q|, s−b+|p|) − 1` evaluation points `z` and for every claimed value `v`, the pair
`(p(z) − v, q(z) − v·z^{s−b})` is not `(0, 0)`: the middle case of the trichotomy then holds for at most one
ratio of the two statement challenges. -/
theorem ipa_degree_bound_sound (p q : List F) (s b : Nat) (hb : b ≤ s) (hq : q.length ≤ s + 1)
    (hp : ∃ i, b < i ∧ coeff p i ≠ 0) :
    ∃ S : Finset F, S.card ≤ max q.length (s - b + p.length) - 1 ∧
      ∀ z, z ∉ S → ∀ v : F, ¬ (evalPoly p z - v = 0 ∧ evalPoly q z - v * fpow z (s - b) = 0) := by
  obtain ⟨S, hcard, hS⟩ := DegreeBound.bound_violation_few_points q p s b hb hq hp
  refine ⟨S, hcard, ?_⟩
  intro z hz v
  rintro ⟨h1, h2⟩
  apply hS z hz
  rw [← sub_eq_zero.1 h1, mul_comm] at h2
  exact sub_eq_zero.1 h2

/-- … and a non-zero pair pins the challenge ratio: `ξ·A + ξ′·B = 0` with `B ≠ 0` gives `ξ′ = −ξ·A/B`; with
`B = 0`, `A ≠ 0` it forces `ξ = 0`. -/
theorem ipa_bound_challenge_pinned (A B ξ ξ' : F) (hAB : ¬ (A = 0 ∧ B = 0)) (h : ξ * A + ξ' * B = 0) :
    (B ≠ 0 ∧ ξ' = -(ξ * A) / B) ∨ (B = 0 ∧ ξ = 0) := by
  by_cases hB : B = 0
  · right
    refine ⟨hB, ?_⟩
    rw [hB, mul_zero, add_zero] at h
    rcases mul_eq_zero.1 h with h1 | h1
    · exact h1
    · exact absurd ⟨h1, hB⟩ hAB
  · exact .inl ⟨hB, IPA.eq_neg_div_of_add_mul_eq_zero hB h⟩

-- non-vacuity: `p = 1 + 2X + 3X²` under the bound 1 with `s = 3`
example : evalPoly ([0, 0, 1, 2] : List K) 5 ≠ fpow 5 2 * evalPoly [1, 2, 3] 5 ∧
    coeff ([1, 2, 3] : List K) 2 ≠ 0 := by decide +kernel

end PCV.C04
