/-
  Property C04 — degree bounds, SonicKZG10: admission errors at `trim` / `commit` / `open`, the table
  of per-bound G2 elements, and the exact acceptance condition of a mislabelled degree bound.
-/
import PCV.Proofs.SonicExamples
import PCV.Proofs.SonicBound

namespace PCV.C04
open PCV PCV.Sonic
open PCV.Marlin (Label LPoly Query checkDegreesAndBounds)
variable {F : Type} [Field F] [DecidableEq F]

/-- **trim**: a requested bound larger than the supported degree is refused
(`UnsupportedDegreeBound`) — for any parameter set. -/
theorem sonic_trim_refuses_bound_beyond_supported (pp : UParams F) (s shb : Nat) (l : List Nat)
    (d : Nat) (hp : pp.powers ≠ []) (hs : s ≤ pp.powers.length - 1) (hd : d ∈ l) (hds : d > s) :
    trim pp s shb (some l) = .error .unsupportedBound :=
  trim_refuses_bound shb hp hs hd hds

/-- **commit**: a bound that was not announced to `trim` is refused. -/
theorem sonic_commit_refuses_unannounced_bound (ck : CK F) (p : LPoly F) (rng : Bool)
    (draws : List F) (d : Nat) (hb : p.bound = some d) (h : ∀ bs, ck.bounds = some bs → d ∉ bs) :
    commitOne ck p rng draws = .error .unsupportedBound :=
  commitOne_refuses_bound rng draws hb (checkDB_unsupported _ _ _ _ h)

/-- **commit**: a polynomial of degree above its claimed bound is refused. -/
theorem sonic_commit_refuses_degree_above_bound (ck : CK F) (p : LPoly F) (rng : Bool)
    (draws : List F) (d : Nat) (bs : List Nat) (hb : p.bound = some d) (hbs : ck.bounds = some bs)
    (hd : d ∈ bs) (hdeg : d < pdeg p.poly) :
    commitOne ck p rng draws = .error .incorrectBound :=
  commitOne_refuses_bound rng draws hb (by rw [hbs]; exact checkDB_incorrect _ _ _ _ hd (Or.inl hdeg))

/-- **commit**: an unbounded polynomial of degree above the supported degree is refused. -/
theorem sonic_commit_refuses_degree_above_supported (ck : CK F) (p : LPoly F) (rng : Bool)
    (draws : List F) (hb : p.bound = none) (hd : pdeg p.poly + 1 > ck.powers.length) :
    commitOne ck p rng draws = .error .tooManyCoefficients :=
  commitOne_refuses_degree rng draws hb hd

/-- **open** applies the same admission test to every polynomial before using it. -/
theorem sonic_open_refuses_inadmissible (ck : CK F) (p : LPoly F) (ps : List (LPoly F)) (st : List F)
    (sts : List (List F)) (z ξ : F) (ξs : List F) (e : Err)
    (h : checkDegreesAndBounds ck.maxDegree ck.bounds p.poly p.bound = .error e) :
    Sonic.open ck (p :: ps) z (st :: sts) (ξ :: ξs) = .error e :=
  open_refuses_bound ps st sts z ξ ξs h

/-- **The table of shift elements**: for parameters made from a trapdoor, the verifier key pairs
exactly the bounds of `sort(dedup B)` with `β^{-(D-d)}·h`; every other bound has no entry. -/
theorem sonic_trim_shift_table (g γ β bi h : F) (D s shb : Nat) (l : List Nat) (ck : CK F) (vk : VK F)
    (ht : trim (wfPP g γ β bi h D) s shb (some l) = .ok (ck, vk)) (d : Nat) :
    (d ∈ l → vk.shiftPower d = some (fpow bi (D - d) * h) ∧ d ≤ s) ∧
    (d ∉ l → vk.shiftPower d = none) := by
  refine ⟨fun hd => ?_, fun hd => shiftPower_none ht
    (fun l' hl' => by injection hl' with e; subst e; exact hd)⟩
  obtain ⟨_, h1, h2, _⟩ := trim_wf_bound ht hd
  exact ⟨h1, h2⟩

section
variable (g γ β bi h : F) (hb : β * bi = 1) (D s shb : Nat) (bounds : Option (List Nat))
  (ck : CK F) (vk : VK F) (ht : trim (wfPP g γ β bi h D) s shb bounds = .ok (ck, vk))
  (ps : List (LPoly F)) (rng : Bool) (draws : List F) (cs : List (LComm F)) (rs : List (List F))
  (drest : List F) (hc : commit ck ps rng draws = .ok (cs, rs, drest))
  (z : F) (ξs : List F) (π : KZG.Proof F) (rest : List F)
  (ho : Sonic.open ck ps z rs ξs = .ok (π, rest))
include hb ht hc ho

/-- **Mislabelled degree bound, any position.**  An honest transcript in which the `j`-th commitment
is presented under another bound label `b` of the key is accepted iff
`ξⱼ·Cⱼ·(σ(b) − σ(bⱼ)) = 0` (`σ` the G2 partner). -/
theorem sonic_mislabel_iff (b : Option Nat) (hbs : (vk.shiftOf b).isSome = true) (j : Nat) :
    check vk (relabelAt j b cs) z (ps.map fun p => evalPoly p.poly z) π ξs = .ok (true, rest) ↔
      relabelTerm vk.shiftD b j cs (ps.map fun p => evalPoly p.poly z) ξs = 0 :=
  honest_relabel_iff g γ β bi h D s shb bounds ck vk ht cs ps rs
    (commit_honest g γ β bi h hb D s shb bounds ck vk ht ps rng draws cs rs drest hc) z ξs π rest ho
    b hbs j

end

/-- a bound label the key has no G2 element for is refused (`UnsupportedDegreeBound`), not decided —
any key, any transcript -/
theorem sonic_unsupported_label_refused (vk : VK F) (cs : List (LComm F)) (z : F) (vs : List F)
    (π : KZG.Proof F) (ξs : List F)
    (hr : (restOf cs vs ξs).isSome = true) (hbad : boundsOk vk.shiftOf cs vs ξs = false) :
    check vk cs z vs π ξs = .error .unsupportedBound :=
  check_unsupported vk cs z vs π ξs hr hbad

/-- **Mislabelled degree bound, one polynomial, explicit.**  A commitment `C` made under the bound
`d'` and presented under the bound `d` (both enforced) is accepted iff
`ξ·C·(β^{-(D-d)} − β^{-(D-d')})·h = 0`. -/
theorem sonic_mislabel_single (g γ β bi h : F) (hb : β * bi = 1) (D s shb : Nat) (l : List Nat)
    (ck : CK F) (vk : VK F) (ht : trim (wfPP g γ β bi h D) s shb (some l) = .ok (ck, vk))
    (p : LPoly F) (d' d : Nat) (hp : p.bound = some d') (hd : d ∈ l)
    (rng : Bool) (draws : List F) (c : LComm F) (r : List F) (drest : List F)
    (hc : commit ck [p] rng draws = .ok ([c], [r], drest))
    (z ξ : F) (ξs : List F) (π : KZG.Proof F) (rest : List F)
    (ho : Sonic.open ck [p] z [r] (ξ :: ξs) = .ok (π, rest)) :
    check vk [⟨c.label, c.comm, some d⟩] z [evalPoly p.poly z] π (ξ :: ξs) = .ok (true, rest) ↔
      ξ * c.comm * (fpow bi (D - d) * h - fpow bi (D - d') * h) = 0 := by
  have hh := commit_honest g γ β bi h hb D s shb (some l) ck vk ht [p] rng draws [c] [r] drest hc
  obtain ⟨⟨hbd, _, _, _, hdb⟩, _⟩ := hh
  obtain ⟨_, _, _, _, _, hσ'⟩ := powersFor_wf ht hdb
  obtain ⟨_, hσ, _⟩ := trim_wf_bound ht hd
  have := sonic_mislabel_iff g γ β bi h hb D s shb (some l) ck vk ht [p] rng draws [c] [r] drest hc z
    (ξ :: ξs) π rest ho (some d) (by rw [hσ]; rfl) 0
  simp only [relabelAt, List.map_cons, List.map_nil, relabelTerm] at this
  rw [this]
  rw [hp] at hσ' hbd
  simp only [VK.shiftD, hσ, hbd, hσ', kOf, Option.getD_some]

/-- … hence rejected whenever the commitment, the challenge and `h` are non-zero and the two shift
elements differ (`β^{-(D-d)} ≠ β^{-(D-d')}`). -/
theorem sonic_mislabel_single_rejected (g γ β bi h : F) (hb : β * bi = 1) (D s shb : Nat)
    (l : List Nat) (ck : CK F) (vk : VK F)
    (ht : trim (wfPP g γ β bi h D) s shb (some l) = .ok (ck, vk))
    (p : LPoly F) (d' d : Nat) (hp : p.bound = some d') (hd : d ∈ l)
    (rng : Bool) (draws : List F) (c : LComm F) (r : List F) (drest : List F)
    (hc : commit ck [p] rng draws = .ok ([c], [r], drest))
    (z ξ : F) (ξs : List F) (π : KZG.Proof F) (rest : List F)
    (ho : Sonic.open ck [p] z [r] (ξ :: ξs) = .ok (π, rest))
    (hξ : ξ ≠ 0) (hC : c.comm ≠ 0) (hh : h ≠ 0) (hne : fpow bi (D - d) ≠ fpow bi (D - d')) :
    check vk [⟨c.label, c.comm, some d⟩] z [evalPoly p.poly z] π (ξ :: ξs) ≠ .ok (true, rest) := by
  intro hacc
  have := (sonic_mislabel_single g γ β bi h hb D s shb l ck vk ht p d' d hp hd rng draws c r drest hc
    z ξ ξs π rest ho).1 hacc
  rw [← sub_mul] at this
  exact mul_ne_zero (mul_ne_zero hξ hC) (mul_ne_zero (sub_ne_zero.2 hne) hh) this

/-- non-vacuity: on the concrete key (enforced bounds {2, 3}, supported 3, D = 4): a bound 4 is refused
at trim, an unannounced bound and a too-small bound at commit; the first commitment (bound 3)
relabelled as bound 2 is rejected, relabelled as bound 1 refused -/
example : trim Ex.pp 3 1 (some [2, 4]) = .error .unsupportedBound := by decide +kernel
example : commitOne Ex.ck ⟨[112], [1, 2], some 1, none⟩ false ([] : List K) = .error .unsupportedBound := by
  decide +kernel
example : commitOne Ex.ck ⟨[112], [1, 2, 3, 4], some 2, none⟩ false ([] : List K) = .error .incorrectBound := by
  decide +kernel
example : commitOne Ex.ck ⟨[112], [1, 2, 3, 4, 5], none, none⟩ false ([] : List K)
    = .error .tooManyCoefficients := by decide +kernel
example : check Ex.vk (relabelAt 0 (some 2) Ex.comms) 5 Ex.vals Ex.proof Ex.xis = .ok (false, [23]) := by
  decide +kernel
example : relabelTerm Ex.vk.shiftD (some 2) 0 Ex.comms Ex.vals Ex.xis ≠ 0 ∧
    (Ex.vk.shiftOf (some 2)).isSome = true := by decide +kernel
example : check Ex.vk (relabelAt 0 (some 1) Ex.comms) 5 Ex.vals Ex.proof Ex.xis
    = .error .unsupportedBound := by decide +kernel
example : Ex.vk.shiftPower 3 = some (fpow (51 : K) (4 - 3) * 7) ∧ Ex.vk.shiftPower 1 = none := by decide +kernel
/-- **"Accepted only if produced for a polynomial of degree ≤ d" (Sonic), the reduction.**  Keys made
by `trim` from a trapdoor; an algebraic committer/prover: commitment `g·q(β)` for ANY coefficient list
`q` over the published powers, witness `g·a(β)`.  If the commitment is accepted under the bound `d`,
the trapdoor is a root of `ξ·q − X^{D−d}·(ξ·v + a·(X − z))`. -/
theorem sonic_bound_forgery_root (g γ β bi h : F) (hb : β * bi = 1) (D s shb : Nat) (l : List Nat)
    (ck : CK F) (vk : VK F) (ht : trim (wfPP g γ β bi h D) s shb (some l) = .ok (ck, vk))
    (d : Nat) (hd : d ∈ l) (hg : g ≠ 0) (hh : h ≠ 0)
    (lab : Marlin.Label) (q a : List F) (z v ξ : F) (ξs rest : List F)
    (hacc : check vk [⟨lab, g * evalPoly q β, some d⟩] z [v] ⟨g * evalPoly a β, none⟩ (ξ :: ξs)
      = .ok (true, rest)) :
    evalPoly (boundExtract q a z v ξ (D - d)) β = 0 := by
  obtain ⟨_, _, _, _, _, _, h7, _, h9, h10, _, _⟩ := trim_wf_basic g γ β bi h D s shb (some l) ck vk ht
  obtain ⟨_, hσ, _⟩ := trim_wf_bound ht hd
  exact bounded_check_root hb h7 h9 h10 hσ hg hh hacc

/-- … and that polynomial is not zero when `q` is not `X^{D−d}·(polynomial)`: a non-zero coefficient
of `q` below `X^{D−d}` (with `ξ ≠ 0`) is a non-zero coefficient of the extraction polynomial, whose
roots are few.  So a commitment accepted under the bound `d` commits to `X^{D−d}·p` with `p` of degree
at most `d` (it has at most `D+1` coefficients in all), unless the forger has found the trapdoor among
the roots of a polynomial it knows. -/
theorem sonic_degree_bound_sound (q a : List F) (z v ξ : F) (k : Nat) (hξ : ξ ≠ 0)
    (hlow : ∃ i, i < k ∧ coeff q i ≠ 0) :
    ∃ S : Finset F, S.card ≤ (boundExtract q a z v ξ k).length - 1 ∧
      ∀ β, evalPoly (boundExtract q a z v ξ k) β = 0 → β ∈ S := by
  obtain ⟨i, hi, hc⟩ := hlow
  apply Roots.zeros_bounded_of_coeff
  refine ⟨i, ?_⟩
  rw [← DegreeBound.coeff_eq_getD, coeff_boundExtract_low q a z v ξ k i hi]
  exact mul_ne_zero hξ hc

/-- non-vacuity: `q = 1 + X³` under `k = D − d = 1` has the low coefficient `1` -/
example : coeff ([1, 0, 0, 1] : List K) 0 ≠ 0 ∧
    coeff (boundExtract ([1, 0, 0, 1] : List K) [2] 5 7 11 1) 0 = 11 := by decide +kernel
end PCV.C04
