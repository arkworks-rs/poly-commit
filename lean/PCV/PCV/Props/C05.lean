/-
  Property C05 — batched verification is as strict as verifying every query on its own.
-/
import PCV.Proofs.KZG10
import PCV.Proofs.KZG10Batch
import PCV.Props.C01
import PCV.Props.C02
import PCV.Props.Examples

namespace PCV.C05
open PCV
variable {F : Type} [Field F] [DecidableEq F]

/-- **KZG10.** For an arbitrary verifier key and arbitrary (even malformed) inputs, the batch
verifier's pairing defect is `Σ ρᵢ·Δᵢ` with `ρ₀ = 1`, `ρᵢ` the verifier's randomizers and `Δᵢ` the
defect of the individual check of claim `i`. -/
theorem kzg10_batch_defect (vk : KZG.VK F) (cs zs vs : List F) (πs : List (KZG.Proof F))
    (rs : List F) :
    KZG.batchDefect vk cs zs vs πs rs = KZG.wsum 1 rs (KZG.defects vk cs zs vs πs) :=
  KZG.batchDefect_eq vk cs zs vs πs rs

/-- individual check accepts iff its defect vanishes -/
theorem kzg10_check_iff_defect (vk : KZG.VK F) (c z v : F) (π : KZG.Proof F) :
    KZG.check vk c z v π = true ↔ KZG.defect vk c z v π = 0 :=
  KZG.check_iff_defect vk c z v π

/-- all individual checks accept ⇒ the batch accepts **for every randomizer list**
(the outcome on true batches does not depend on the verifier's randomness) -/
theorem kzg10_all_true_accepted (vk : KZG.VK F) (cs zs vs : List F) (πs : List (KZG.Proof F))
    (rs : List F) (hl : cs.length = zs.length ∧ cs.length = vs.length ∧ cs.length = πs.length)
    (h : ∀ d ∈ KZG.defects vk cs zs vs πs, d = 0) :
    KZG.batchCheck vk cs zs vs πs rs = .ok true :=
  C01.kzg10_batch_complete vk cs zs vs πs rs hl h

/-- exactly one failing claim, non-zero randomizer at its position ⇒ the batch rejects -/
theorem kzg10_single_false_rejected (vk : KZG.VK F) (cs zs vs : List F)
    (πs : List (KZG.Proof F)) (rs : List F) (j : Nat)
    (hj : j < (KZG.defects vk cs zs vs πs).length)
    (hz : ∀ i (hi : i < (KZG.defects vk cs zs vs πs).length), i ≠ j →
      (KZG.defects vk cs zs vs πs)[i] = 0)
    (hne : (KZG.defects vk cs zs vs πs)[j] ≠ 0)
    (hr : ((1 : F) :: rs).getD j 0 ≠ 0) :
    KZG.batchCheck vk cs zs vs πs rs ≠ .ok true :=
  C02.kzg10_batch_single_false_rejected vk cs zs vs πs rs j hj hz hne hr

/-- non-vacuity: a two-claim batch with one false claim (randomizer 7) is rejected -/
example : KZG.batchCheck (KZG.wfVK (3 : K) 5 2 1) [64, 64] [5, 5]
    [evalPoly [1, 2, 3] 5, evalPoly [1, 2, 3] 5 + 1] [⟨81, some 30⟩, ⟨81, some 30⟩] [7, 9] = .ok false := by
  decide +kernel
example : KZG.batchCheck (KZG.wfVK (3 : K) 5 2 1) [64, 64] [5, 5]
    [evalPoly [1, 2, 3] 5, evalPoly [1, 2, 3] 5] [⟨81, some 30⟩, ⟨81, some 30⟩] [7, 9] = .ok true := by
  decide +kernel

/-- **Cancelling errors need the verifier's cooperation.** However many claims of a batch are false
and however the errors were planted (to cancel across polynomials at one point, or across query
points): if claim `j+1` is false then, the other randomizers being whatever they are, AT MOST ONE
value of the randomizer `ρ_{j+1}` makes the batch verifier accept.  (The library draws `ρ` from
`2^128` values, so a planted cancellation survives with probability ≤ `2^-128`; for the fixed
`ρ₀ = 1` see `kzg10_first_false_rejected`.) -/
theorem kzg10_batch_exceptional_randomizer (vk : KZG.VK F) (cs zs vs : List F)
    (πs : List (KZG.Proof F)) (rs : List F) (j : Nat) (hj : j < rs.length)
    (hd : (KZG.defects vk cs zs vs πs).getD (j + 1) 0 ≠ 0) (x y : F)
    (hx : KZG.batchCheck vk cs zs vs πs (rs.set j x) = .ok true)
    (hy : KZG.batchCheck vk cs zs vs πs (rs.set j y) = .ok true) : x = y :=
  KZG.wsum_zero_unique 1 rs _ j hj hd x y (KZG.batchCheck_true hx)
    (KZG.batchCheck_true hy)

/-- the first claim has the fixed weight one: if it alone is false the batch is rejected for every
randomizer list -/
theorem kzg10_first_false_rejected (vk : KZG.VK F) (c z v : F) (π : KZG.Proof F)
    (cs zs vs : List F) (πs : List (KZG.Proof F)) (rs : List F)
    (hd : KZG.defect vk c z v π ≠ 0) (hz : ∀ e ∈ KZG.defects vk cs zs vs πs, e = 0) :
    KZG.batchCheck vk (c :: cs) (z :: zs) (v :: vs) (π :: πs) rs ≠ .ok true :=
  fun hc => KZG.wsum_first_only rs hd hz (KZG.batchCheck_true hc)

/-- non-vacuity of the exceptional randomizer: errors `+1` and `−1` on two claims at one point are
accepted by the randomizer `1` and by no other -/
example : KZG.batchCheck (KZG.wfVK (3 : K) 5 2 1) [64, 64] [5, 5]
    [evalPoly [1, 2, 3] 5 + 1, evalPoly [1, 2, 3] 5 - 1] [⟨81, some 30⟩, ⟨81, some 30⟩] [1] = .ok true := by
  decide +kernel
example : ∀ ρ : K, ρ ≠ 1 → KZG.batchCheck (KZG.wfVK (3 : K) 5 2 1) [64, 64] [5, 5]
    [evalPoly [1, 2, 3] 5 + 1, evalPoly [1, 2, 3] 5 - 1] [⟨81, some 30⟩, ⟨81, some 30⟩] [ρ] = .ok false := by
  intro ρ hρ
  rw [KZG.batchCheck_ok, KZG.batchDefect_eq]
  · -- the weighted sum of the defects vanishes for the randomizer `1`, and for no second value
    exact congrArg _ (decide_eq_false fun h0 => hρ
      (KZG.wsum_zero_unique 1 [0] _ 0 Nat.zero_lt_one (by decide +kernel) ρ 1 h0 (by decide +kernel)))
  · exact ⟨rfl, rfl, rfl⟩

end PCV.C05
