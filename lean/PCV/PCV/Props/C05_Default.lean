/-
  Property C05 (batched verification = conjunction of the per-point verifications) — the trait-default
  `PolynomialCommitment::batch_check` of `poly-commit/src/lib.rs`, used unchanged by Hyrax and the
  linear-code schemes.  Model: `PCV.Model.TraitDefault`, generic in the scheme's own `check`
  (`checkF`, any state `σ` threaded through the calls).
  Only property theorems live here; lemmas are in PCV/Proofs/TraitDefault*.lean.
-/
import PCV.Proofs.TraitDefaultBatch
import PCV.Proofs.TraitDefaultToy

namespace PCV.C05
open PCV TraitDefault
variable {Pt : Type} [DecidableEq Pt] {C V PF σ : Type}

/-- **The default batch verifier, exactly.** `batch_check` answers `r` and leaves the state `s'` iff the
number of proofs equals the number of point labels and there is a run of the scheme's `check` over the
point-label groups — in map order, each group with the commitments and claimed values found for its
labels, each call starting in the state the previous one left — in which no call refuses; `r` is the
conjunction of the verdicts `bs` of that run. -/
theorem default_batch_check_iff (ltP : Pt → Pt → Bool) (lblC : C → Label)
    (checkF : List C → Pt → List V → PF → σ → Except Err (Bool × σ))
    (comms : List C) (qs : List (Query Pt)) (evals : List ((Label × Pt) × V)) (πs : List PF)
    (s : σ) (r : Bool) (s' : σ) :
    batchCheck ltP lblC checkF comms qs evals πs s = .ok (r, s') ↔
      πs.length = (groups (querySet ltP qs)).length ∧
      ∃ bs, Chain lblC checkF comms evals (groups (querySet ltP qs)) πs bs s s' ∧ r = bs.all id :=
  batchCheckSet_ok_iff

/-- **Accepts iff every per-group check accepts** (and the proof count is right). -/
theorem default_batch_accepts_iff (ltP : Pt → Pt → Bool) (lblC : C → Label)
    (checkF : List C → Pt → List V → PF → σ → Except Err (Bool × σ))
    (comms : List C) (qs : List (Query Pt)) (evals : List ((Label × Pt) × V)) (πs : List PF)
    (s s' : σ) :
    batchCheck ltP lblC checkF comms qs evals πs s = .ok (true, s') ↔
      πs.length = (groups (querySet ltP qs)).length ∧
      ∃ bs, Chain lblC checkF comms evals (groups (querySet ltP qs)) πs bs s s' ∧
        ∀ b ∈ bs, b = true := by
  simp only [default_batch_check_iff, eq_comm (a := true), List.all_eq_true, id]

/-- **Answers `false` iff no per-group check refuses and at least one answers `false`** — wherever it
sits: the loop goes on after a `false` (so the state is the one after ALL groups). -/
theorem default_batch_rejects_iff (ltP : Pt → Pt → Bool) (lblC : C → Label)
    (checkF : List C → Pt → List V → PF → σ → Except Err (Bool × σ))
    (comms : List C) (qs : List (Query Pt)) (evals : List ((Label × Pt) × V)) (πs : List PF)
    (s s' : σ) :
    batchCheck ltP lblC checkF comms qs evals πs s = .ok (false, s') ↔
      πs.length = (groups (querySet ltP qs)).length ∧
      ∃ bs, Chain lblC checkF comms evals (groups (querySet ltP qs)) πs bs s s' ∧ false ∈ bs := by
  simp only [default_batch_check_iff, eq_comm (a := false), chain_false_mem]

/-- **Missing or surplus proofs**: any proof list whose length is not the number of point labels is
refused (the `assert_eq!`), whatever the scheme's `check` would say. -/
theorem default_batch_wrong_proof_count (ltP : Pt → Pt → Bool) (lblC : C → Label)
    (checkF : List C → Pt → List V → PF → σ → Except Err (Bool × σ))
    (comms : List C) (qs : List (Query Pt)) (evals : List ((Label × Pt) × V)) (πs : List PF) (s : σ)
    (hl : πs.length ≠ (groups (querySet ltP qs)).length) :
    batchCheck ltP lblC checkF comms qs evals πs s = .error .abort :=
  batchCheckSet_wrong_count hl

/-- **Refusals, exactly**: with the right number of proofs the batch refuses with `e` iff, going through
the groups in map order, the first thing that is not an answer is `e` — an absent commitment
(`MissingPolynomial`), an absent claimed value (`MissingEvaluation`) or a refusal of the scheme's `check`. -/
theorem default_batch_refuses_iff (ltP : Pt → Pt → Bool) (lblC : C → Label)
    (checkF : List C → Pt → List V → PF → σ → Except Err (Bool × σ))
    (comms : List C) (qs : List (Query Pt)) (evals : List ((Label × Pt) × V)) (πs : List PF) (s : σ)
    (e : Err) (hl : πs.length = (groups (querySet ltP qs)).length) :
    batchCheck ltP lblC checkF comms qs evals πs s = .error e ↔
      Refuses lblC checkF comms evals (groups (querySet ltP qs)) πs s e := by
  rw [batchCheck, batchCheckSet_of_length hl]
  exact loop_error_iff

/-! non-vacuity over `ZMod 101` (`PCV.TraitDefault.Toy`): three point labels, two of them sharing the
point value 4; all-true claims are accepted, one wrong value makes the batch answer `false` (with the
state after all three groups), a short proof list is refused -/
example : batchCheck Toy.ltK Toy.lbl Toy.checkF Toy.polys Toy.qs Toy.evals [0, 1, 2] 0 = .ok (true, 3) := by
  decide +kernel
example : groups (querySet Toy.ltK Toy.qs) =
    [([120], 4, [[97], [98]]), ([121], 4, [[97], [99]]), ([122], 7, [[98]])] := by decide +kernel
example : batchCheck Toy.ltK Toy.lbl Toy.checkF Toy.polys Toy.qs
    [(([97], 4), 9), (([98], 4), 12), (([99], 4), 20), (([98], 7), 21)] [0, 1, 2] 0 = .ok (false, 3) := by
  decide +kernel
example : batchCheck Toy.ltK Toy.lbl Toy.checkF Toy.polys Toy.qs Toy.evals [0, 1] 0 = .error .abort := by
  decide +kernel
example : batchCheck Toy.ltK Toy.lbl Toy.checkF Toy.polys Toy.qs
    [(([97], 4), 8), (([98], 4), 12), (([98], 7), 21)] [0, 1, 2] 0 = .error .missingEvaluation := by
  decide +kernel

end PCV.C05
