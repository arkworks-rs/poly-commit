/-
  Property C05 — batched verification is as strict as verifying every query on its own,
  inner-product-argument scheme.  `batch_check` runs the shape test and `succinct_check` per point
  label (any failure ends the batch with a refusal / `Ok(false)`, as in the individual `check`) and
  replaces the per-proof final-key tests by one randomized test.
-/
import PCV.Proofs.IPAVerify
import PCV.Props.Examples

namespace PCV.C05
open PCV
variable {F : Type} [Field F] [DecidableEq F]

/-- **IPA, the batch defect.** Given that all succinct checks pass (with check polynomials
`uss`), the final test of `batch_check` is `Σ ρᵢ·Δ₂,ᵢ = 0` with `ρ₀ = 1`, `ρᵢ` the verifier's
128-bit randomizers and `Δ₂,ᵢ = ⟨coeffs(h_{u,i}), G⟩ − Kᵢ` the final-key defect of the individual
`check` of point `i`. -/
theorem ipa_batch_defect (vk : IPA.VK F) (comms : List (IPA.LComm F)) (qs : List (IPA.Query F))
    (evals : List ((IPA.Label × F) × F)) (πs : List (IPA.Proof F)) (ξs ros rs : List F)
    (uss : List (List F)) (hl : πs.length = (Marlin.groupQueries qs).length)
    (hs : IPA.batchSuccinct vk comms evals (Marlin.groupQueries qs) πs ξs ros = .ok (some uss)) :
    IPA.batchCheck vk comms qs evals πs ξs ros rs
      = .ok (decide (KZG.wsum 1 rs (IPA.defect2s vk uss πs) = 0)) :=
  IPA.batchCheck_of_succinct rs hl hs

/-- the individual verifier on one point: once its succinct check passed with check polynomial
`us`, `check` accepts iff the final-key defect vanishes -/
theorem ipa_check_of_succinct (vk : IPA.VK F) (cs : List (IPA.LComm F)) (z : F) (vs : List F)
    (π : IPA.Proof F) (ξs ros : List F) (us ξr ror : List F)
    (hb : IPA.badShape vk π = false)
    (hs : IPA.succinctCheck vk cs z vs π ξs ros = .ok (some us, ξr, ror)) :
    IPA.check vk cs z vs π ξs ros = .ok (decide (IPA.defect2 vk π us = 0)) := by
  unfold IPA.check; rw [hb, hs]; simp [IPA.finalKeyOk]

/-- **IPA.** A failing succinct check anywhere ends the batch with `Ok(false)`, like the
individual check of that point. -/
theorem ipa_batch_succinct_failed (vk : IPA.VK F) (comms : List (IPA.LComm F))
    (qs : List (IPA.Query F)) (evals : List ((IPA.Label × F) × F)) (πs : List (IPA.Proof F))
    (ξs ros rs : List F) (hl : πs.length = (Marlin.groupQueries qs).length)
    (hs : IPA.batchSuccinct vk comms evals (Marlin.groupQueries qs) πs ξs ros = .ok none) :
    IPA.batchCheck vk comms qs evals πs ξs ros rs = .ok false :=
  IPA.batchCheck_of_loop rs hl hs

/-- **IPA, all individual claims verify ⇒ the batch accepts for every randomizer list** (the
outcome on true batches does not depend on the verifier's randomness). -/
theorem ipa_all_true_accepted (vk : IPA.VK F) (comms : List (IPA.LComm F)) (qs : List (IPA.Query F))
    (evals : List ((IPA.Label × F) × F)) (πs : List (IPA.Proof F)) (ξs ros rs : List F)
    (uss : List (List F)) (hl : πs.length = (Marlin.groupQueries qs).length)
    (hs : IPA.batchSuccinct vk comms evals (Marlin.groupQueries qs) πs ξs ros = .ok (some uss))
    (h : ∀ d ∈ IPA.defect2s vk uss πs, d = 0) :
    IPA.batchCheck vk comms qs evals πs ξs ros rs = .ok true := by
  rw [ipa_batch_defect vk comms qs evals πs ξs ros rs uss hl hs, KZG.wsum_zero _ _ _ h]
  simp

/-- **IPA, exactly one failing final-key test**, met by a non-zero randomizer ⇒ the batch
rejects. -/
theorem ipa_single_false_rejected (vk : IPA.VK F) (comms : List (IPA.LComm F))
    (qs : List (IPA.Query F)) (evals : List ((IPA.Label × F) × F)) (πs : List (IPA.Proof F))
    (ξs ros rs : List F) (uss : List (List F))
    (hl : πs.length = (Marlin.groupQueries qs).length)
    (hs : IPA.batchSuccinct vk comms evals (Marlin.groupQueries qs) πs ξs ros = .ok (some uss))
    (j : Nat) (hj : j < (IPA.defect2s vk uss πs).length)
    (hz : ∀ i (hi : i < (IPA.defect2s vk uss πs).length), i ≠ j → (IPA.defect2s vk uss πs)[i] = 0)
    (hne : (IPA.defect2s vk uss πs)[j] ≠ 0) (hr : ((1 : F) :: rs).getD j 0 ≠ 0) :
    IPA.batchCheck vk comms qs evals πs ξs ros rs = .ok false := by
  rw [ipa_batch_defect vk comms qs evals πs ξs ros rs uss hl hs]
  have := KZG.wsum_single 1 rs _ j hj hz hne hr
  simp [this]

/-! non-vacuity over `ZMod 101`: a two-point batch (points 6 and 7 of `4 + 9X` under the
2-element key); all-true accepted for two different randomizer lists; one wrong final key
rejected; one false value rejected -/
example : IPA.batchCheck (⟨[3, 5], 13, 17, 3⟩ : IPA.CK K) [⟨[1], ⟨57, none⟩, none⟩]
    [([1], ([9], 6)), ([1], ([10], 7))] [(([1], 6), 58), (([1], 7), 67)]
    [⟨[7], [83], 48, 10, none, none⟩, ⟨[26], [19], 23, 6, none, none⟩]
    [2, 3, 4, 5, 6, 7] [8, 9, 10, 4] [5, 6] = .ok true := by decide +kernel
example : IPA.batchCheck (⟨[3, 5], 13, 17, 3⟩ : IPA.CK K) [⟨[1], ⟨57, none⟩, none⟩]
    [([1], ([9], 6)), ([1], ([10], 7))] [(([1], 6), 58), (([1], 7), 67)]
    [⟨[7], [83], 48, 10, none, none⟩, ⟨[26], [19], 23, 6, none, none⟩]
    [2, 3, 4, 5, 6, 7] [8, 9, 10, 4] [77, 3] = .ok true := by decide +kernel
example : IPA.batchCheck (⟨[3, 5], 13, 17, 3⟩ : IPA.CK K) [⟨[1], ⟨57, none⟩, none⟩]
    [([1], ([9], 6)), ([1], ([10], 7))] [(([1], 6), 58), (([1], 7), 67)]
    [⟨[7], [83], 48, 10, none, none⟩, ⟨[26], [19], 24, 6, none, none⟩]
    [2, 3, 4, 5, 6, 7] [8, 9, 10, 4] [5, 6] = .ok false := by decide +kernel
example : IPA.batchCheck (⟨[3, 5], 13, 17, 3⟩ : IPA.CK K) [⟨[1], ⟨57, none⟩, none⟩]
    [([1], ([9], 6)), ([1], ([10], 7))] [(([1], 6), 58), (([1], 7), 68)]
    [⟨[7], [83], 48, 10, none, none⟩, ⟨[26], [19], 23, 6, none, none⟩]
    [2, 3, 4, 5, 6, 7] [8, 9, 10, 4] [5, 6] = .ok false := by decide +kernel

end PCV.C05
