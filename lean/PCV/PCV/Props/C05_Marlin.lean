/-
  Property C05 (MarlinKZG10) — `batch_check` combines each point label's claims with the sponge
  challenges and hands the per-label triples to `KZG10::batch_check`.
-/
import PCV.Proofs.MarlinMore
import PCV.Proofs.KZG10Batch
import PCV.Props.Examples
import PCV.Props.C01_MarlinBatch

namespace PCV.C05
open PCV Marlin
variable {F : Type} [Field F] [DecidableEq F]

/-- **Marlin batch defect.** When the per-label accumulation succeeds and there is one proof per
point label, the batch decision is `Σ ρₖ·Δₖ = 0`, where `Δₖ` is the KZG defect of label `k`'s
combined commitment/value — i.e. exactly the defect of the individual `check` of that label. -/
theorem marlin_batch_defect (vk : VK F) (comms : List (LComm F)) (qs : List (Query F))
    (evals : List ((Label × F) × F)) (πs : List (KZG.Proof F)) (ξs rs : List F)
    (trip : List (F × F × F)) (rest : List F)
    (hc : combineGroups vk comms evals (groupQueries qs) ξs = .ok (trip, rest))
    (hlen : πs.length = trip.length) :
    batchCheck vk comms qs evals πs ξs rs
      = .ok (decide (KZG.wsum 1 rs (KZG.defects vk.vk (trip.map (·.1)) (trip.map (·.2.1))
          (trip.map (·.2.2)) πs) = 0)) :=
  batchCheck_eq_decide qs rs hc hlen

/-- **Proof-count mismatch** (missing, surplus, empty proof lists) aborts. -/
theorem marlin_batch_count_mismatch (vk : VK F) (comms : List (LComm F)) (qs : List (Query F))
    (evals : List ((Label × F) × F)) (πs : List (KZG.Proof F)) (ξs rs : List F)
    (trip : List (F × F × F)) (rest : List F)
    (hc : combineGroups vk comms evals (groupQueries qs) ξs = .ok (trip, rest))
    (hlen : πs.length ≠ trip.length) :
    batchCheck vk comms qs evals πs ξs rs = .error .abort := by
  unfold batchCheck
  rw [hc]
  simp only
  rw [if_pos hlen]

/-- all labels verify individually ⇒ the batch accepts for every randomizer list -/
theorem marlin_batch_all_true (vk : VK F) (comms : List (LComm F)) (qs : List (Query F))
    (evals : List ((Label × F) × F)) (πs : List (KZG.Proof F)) (ξs rs : List F)
    (trip : List (F × F × F)) (rest : List F)
    (hc : combineGroups vk comms evals (groupQueries qs) ξs = .ok (trip, rest))
    (hlen : πs.length = trip.length)
    (hall : ∀ d ∈ KZG.defects vk.vk (trip.map (·.1)) (trip.map (·.2.1)) (trip.map (·.2.2)) πs, d = 0) :
    batchCheck vk comms qs evals πs ξs rs = .ok true :=
  batchCheck_all_true vk comms qs evals πs ξs rs trip rest hc hlen hall

/-- exactly one failing label with a non-zero randomizer ⇒ the batch rejects -/
theorem marlin_batch_single_false (vk : VK F) (comms : List (LComm F)) (qs : List (Query F))
    (evals : List ((Label × F) × F)) (πs : List (KZG.Proof F)) (ξs rs : List F)
    (trip : List (F × F × F)) (rest : List F)
    (hc : combineGroups vk comms evals (groupQueries qs) ξs = .ok (trip, rest))
    (hlen : πs.length = trip.length) (j : Nat)
    (hj : j < (KZG.defects vk.vk (trip.map (·.1)) (trip.map (·.2.1)) (trip.map (·.2.2)) πs).length)
    (hz : ∀ i (hi : i < (KZG.defects vk.vk (trip.map (·.1)) (trip.map (·.2.1)) (trip.map (·.2.2)) πs).length),
      i ≠ j → (KZG.defects vk.vk (trip.map (·.1)) (trip.map (·.2.1)) (trip.map (·.2.2)) πs)[i] = 0)
    (hne : (KZG.defects vk.vk (trip.map (·.1)) (trip.map (·.2.1)) (trip.map (·.2.2)) πs)[j] ≠ 0)
    (hr : ((1 : F) :: rs).getD j 0 ≠ 0) :
    batchCheck vk comms qs evals πs ξs rs = .ok false := by
  rw [marlin_batch_defect vk comms qs evals πs ξs rs trip rest hc hlen]
  congr 1
  rw [decide_eq_false_iff_not]
  exact KZG.wsum_single 1 rs _ j hj hz hne hr

/-- **Planted cancellations need the verifier's cooperation (Marlin).** If the combined claim of point
label `j+1` is false then, whatever the other randomizers are, at most one value of the randomizer
`ρ_{j+1}` makes `batch_check` accept — however the errors were distributed over polynomials and
points. -/
theorem marlin_batch_exceptional_randomizer (vk : VK F) (comms : List (LComm F)) (qs : List (Query F))
    (evals : List ((Label × F) × F)) (πs : List (KZG.Proof F)) (ξs rs : List F)
    (trip : List (F × F × F)) (rest : List F)
    (hc : combineGroups vk comms evals (groupQueries qs) ξs = .ok (trip, rest))
    (hlen : πs.length = trip.length) (j : Nat) (hj : j < rs.length)
    (hd : (KZG.defects vk.vk (trip.map (·.1)) (trip.map (·.2.1)) (trip.map (·.2.2)) πs).getD (j + 1) 0 ≠ 0)
    (x y : F)
    (hx : batchCheck vk comms qs evals πs ξs (rs.set j x) = .ok true)
    (hy : batchCheck vk comms qs evals πs ξs (rs.set j y) = .ok true) : x = y := by
  rw [marlin_batch_defect vk comms qs evals πs ξs _ trip rest hc hlen] at hx hy
  injection hx with hx; injection hy with hy
  rw [decide_eq_true_iff] at hx hy
  exact KZG.wsum_zero_unique 1 rs _ j hj hd x y hx hy

/-! non-vacuity on the batch of `C01.exBatch` (two point labels): the honest batch is accepted for
every randomizer, a false claim at the second point label is rejected for every non-zero randomizer,
and `combineGroups` succeeds with one triple per point label -/
example : ∀ ρ : K, batchCheck C01.exVK (C01.exBatch.map (·.2.2)) C01.exQueries
    [(([97], 5), evalPoly [1, 2, 3] 5), (([98], 5), evalPoly [4, 0, 1] 5), (([98], 9), evalPoly [4, 0, 1] 9)]
    [⟨22, none⟩, ⟨56, none⟩] [11, 13, 17, 19] [ρ] = .ok true := fun ρ =>
  marlin_batch_all_true _ _ _ _ _ _ _ [(65, 5, 10), (4, 9, 31)] [19] (by decide +kernel) rfl
    (by decide +kernel)
example : ∀ ρ : K, ρ ≠ 0 → batchCheck C01.exVK (C01.exBatch.map (·.2.2)) C01.exQueries
    [(([97], 5), evalPoly [1, 2, 3] 5), (([98], 5), evalPoly [4, 0, 1] 5), (([98], 9), evalPoly [4, 0, 1] 9 + 1)]
    [⟨22, none⟩, ⟨56, none⟩] [11, 13, 17, 19] [ρ] = .ok false := fun ρ hρ =>
  marlin_batch_single_false _ _ _ _ _ _ _ [(65, 5, 10), (4, 9, 48)] [19] (by decide +kernel) rfl 1
    (by decide +kernel) (by decide +kernel) (by decide +kernel) hρ
example : (combineGroups C01.exVK (C01.exBatch.map (·.2.2))
    [(([97], 5), evalPoly [1, 2, 3] 5), (([98], 5), evalPoly [4, 0, 1] 5), (([98], 9), evalPoly [4, 0, 1] 9)]
    (groupQueries C01.exQueries) [11, 13, 17, 19]).map (fun x => (x.1.length, x.2)) = .ok (2, [19]) := by decide +kernel
example : batchCheck C01.exVK (C01.exBatch.map (·.2.2)) C01.exQueries
    [(([97], 5), evalPoly [1, 2, 3] 5), (([98], 5), evalPoly [4, 0, 1] 5), (([98], 9), evalPoly [4, 0, 1] 9)]
    [⟨22, none⟩] [11, 13, 17, 19] [7] = .error .abort := by decide +kernel

end PCV.C05
