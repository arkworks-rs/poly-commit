/-
  Property C05 — batched verification = conjunction of individual checks, MarlinPST13
  `batch_check` (per point label: accumulate, then one pairing product weighted by the verifier's
  128-bit randomizers).
-/
import PCV.Props.C15

namespace PCV.C05
open PCV PCV.MV PCV.C15Spec
variable {F : Type} [Field F] [DecidableEq F]

/-- **Batch defect = Σ ρₖ·Δₖ (PST13).** For an arbitrary verifier key and arbitrary combined claims
`(cₖ, zₖ, vₖ, πₖ)`: whenever `batch_check` does not abort — one proof per point, every proof with
one witness per key variable (what `open` returns), points and `beta_h` with at least that many
entries — its pairing product is `Σₖ ρₖ·Δₖ` with `ρ₀ = 1`, `ρₖ` the verifier's randomizers and
`Δₖ` the defect of the individual `check` of claim `k`. -/
theorem pst13_batch_defect (vk : PST.VK F) (cs : List F) (zs : List (List F)) (vs : List F)
    (πs : List (PST.Proof F)) (rs : List F) (hlen : πs.length = zs.length)
    (hbh : vk.numVars ≤ vk.betaH.length) (hπ : ∀ π ∈ πs, π.w.length = vk.numVars)
    (hz : ∀ z ∈ zs, vk.numVars ≤ z.length) :
    PST.batchDefect vk cs zs vs πs rs = .ok (PST.wsum 1 rs (PST.defectsC vk cs zs vs πs)) :=
  PST.batchDefect_eq vk cs zs vs πs rs hlen hbh hπ hz

/-- **All individual defects vanish ⇒ the batch is accepted for every randomizer list.** -/
theorem pst13_batch_all_true_accepted (vk : PST.VK F) (cs : List F) (zs : List (List F))
    (vs : List F) (πs : List (PST.Proof F)) (rs : List F) (hlen : πs.length = zs.length)
    (hbh : vk.numVars ≤ vk.betaH.length) (hπ : ∀ π ∈ πs, π.w.length = vk.numVars)
    (hz : ∀ z ∈ zs, vk.numVars ≤ z.length)
    (h : ∀ d ∈ PST.defectsC vk cs zs vs πs, d = 0) :
    PST.batchCheck vk cs zs vs πs rs = .ok true := by
  unfold PST.batchCheck
  rw [PST.batchDefect_eq vk cs zs vs πs rs hlen hbh hπ hz, PST.wsum_zero _ _ _ h]
  simp

/-- **Exactly one failing claim with a non-zero randomizer at its position ⇒ rejected.** -/
theorem pst13_batch_single_false_rejected (vk : PST.VK F) (cs : List F) (zs : List (List F))
    (vs : List F) (πs : List (PST.Proof F)) (rs : List F) (hlen : πs.length = zs.length)
    (hbh : vk.numVars ≤ vk.betaH.length) (hπ : ∀ π ∈ πs, π.w.length = vk.numVars)
    (hz : ∀ z ∈ zs, vk.numVars ≤ z.length)
    (pre post : List F) (d : F) (hsplit : PST.defectsC vk cs zs vs πs = pre ++ d :: post)
    (hpre : ∀ x ∈ pre, x = 0) (hpost : ∀ x ∈ post, x = 0) (hd : d ≠ 0)
    (hr : getD' ((1 : F) :: rs) pre.length 0 ≠ 0) :
    PST.batchCheck vk cs zs vs πs rs = .ok false := by
  unfold PST.batchCheck
  rw [PST.batchDefect_eq vk cs zs vs πs rs hlen hbh hπ hz, hsplit,
    PST.wsum_single _ _ _ _ _ hpre hpost]
  simp [hd, hr]

/-- **The individual check of a combined claim** decides `Δₖ = 0`: `check` on commitments / values
whose accumulation is `(C, V)` is `defectCombined vk C V z π = 0`, the summand of the batch. -/
theorem pst13_check_is_summand (vk : PST.VK F) (cs z vs : List F) (π : PST.Proof F) (ξs : List F)
    (a : F × F × List F) (hacc : PST.accumulate 0 0 cs vs ξs = .ok a)
    (hnv : π.w.length = vk.numVars)
    (hlen : π.w.length ≤ vk.betaH.length ∧ π.w.length ≤ z.length) :
    PST.check vk cs z vs π ξs = .ok (decide (PST.defectCombined vk a.1 a.2.1 z π = 0)) :=
  (PST.check_ok_iff vk cs z vs π ξs _).2 ⟨hnv, a, hacc, hlen.1, hlen.2, rfl⟩

/-- non-vacuity (over `ZMod 101`): two honest claims of the C01 examples (combined with challenge
13 each) batched under randomizer 5: accepted; with the second value off by one: rejected -/
example : PST.batchCheck (PST.wfVK (3 : K) 5 11 [2, 7] 2 2 2) [48, 68] [[10, 20], [10, 20]] [39, 99]
    [⟨[10, 66], some 93⟩, ⟨[31, 59], some 36⟩] [5] = .ok true := by decide +kernel
example : PST.batchCheck (PST.wfVK (3 : K) 5 11 [2, 7] 2 2 2) [48, 68] [[10, 20], [10, 20]] [39, 100]
    [⟨[10, 66], some 93⟩, ⟨[31, 59], some 36⟩] [5] = .ok false := by decide +kernel
example : PST.batchCheckGroups (PST.wfVK (3 : K) 5 11 [2, 7] 2 2 2) [([27], [3]), ([13], [62])]
    [[10, 20], [10, 20]] [⟨[10, 66], some 93⟩, ⟨[31, 59], some 36⟩] [13, 13] [5] = .ok true := by
  decide +kernel

end PCV.C05
