/-
  Property C05 — batched verification = conjunction of individual checks, SonicKZG10 `batch_check`
  (per point label: accumulators scaled by the verifier's 128-bit randomizers, one pairing product).
-/
import PCV.Proofs.SonicExamples

namespace PCV.C05
open PCV PCV.Sonic
open PCV.Marlin (Label LPoly Query groupQueries)
variable {F : Type} [Field F] [DecidableEq F]

/-- **Batch defect = Σ ρₖ·Δₖ.**  For an arbitrary verifier key and arbitrary (even malformed)
statements and proofs: whatever the accumulation loop of `batch_check` returns, its pairing product
is `Σₖ ρₖ·Δₖ` with `ρ₀ = 1`, `ρₖ` the verifier's randomizers and `Δₖ` the defect of the individual
`check` of point label `k` on the challenges it sees in the batch. -/
theorem sonic_batch_defect (vk : VK F) (its : List (Item F)) (πs : List (KZG.Proof F))
    (ξs rs : List F) (acc : CMap F × F × F)
    (h : batchLoop vk its πs 1 rs ξs ([], 0, 0) = .ok acc) :
    elemsDefect vk (pairSumD vk.shiftOf acc.1) acc.2.1 acc.2.2
      = KZG.wsum 1 rs (groupDefects vk its πs ξs) := by
  have := (batchLoop_spec h).1
  simpa [accVal, elemsDefect, pairSumD] using this

/-- **`batch_check` decides exactly `Σ ρₖ·Δₖ = 0`**: it aborts only if the sponge runs dry, refuses
(`UnsupportedDegreeBound`) iff some bound label has no G2 element, and otherwise answers
`Σ ρₖ·Δₖ = 0`. -/
theorem sonic_batch_iff (vk : VK F) (its : List (Item F)) (πs : List (KZG.Proof F)) (ξs rs : List F) :
    batchCheckItems vk its πs ξs rs =
      if enough its πs ξs then
        if groupsOk vk its πs ξs then .ok (decide (KZG.wsum 1 rs (groupDefects vk its πs ξs) = 0))
        else .error .unsupportedBound
      else .error .abort :=
  batchCheckItems_eq vk its πs ξs rs

/-- the individual check accepts iff its defect vanishes (and its labels are supported) -/
theorem sonic_check_iff_defect (vk : VK F) (cs : List (LComm F)) (z : F) (vs : List F)
    (π : KZG.Proof F) (ξs rest : List F) :
    check vk cs z vs π ξs = .ok (true, rest) ↔
      restOf cs vs ξs = some rest ∧ boundsOk vk.shiftOf cs vs ξs = true ∧ defect vk cs z vs π ξs = 0 :=
  check_true_iff vk cs z vs π ξs rest

/-- **All individual checks accept ⇒ the batch accepts for every randomizer list** (the outcome on
true batches does not depend on the verifier's randomness). -/
theorem sonic_all_true_accepted (vk : VK F) (its : List (Item F)) (πs : List (KZG.Proof F))
    (ξs rs : List F) (h : AllAccept vk its πs ξs) : batchCheckItems vk its πs ξs rs = .ok true :=
  batch_all_true vk its πs ξs rs h

/-- **Exactly one failing point label, non-zero randomizer at its position ⇒ not accepted.** -/
theorem sonic_single_false_rejected (vk : VK F) (its : List (Item F)) (πs : List (KZG.Proof F))
    (ξs rs : List F) (j : Nat)
    (hj : j < (groupDefects vk its πs ξs).length)
    (hz : ∀ i (hi : i < (groupDefects vk its πs ξs).length), i ≠ j → (groupDefects vk its πs ξs)[i] = 0)
    (hne : (groupDefects vk its πs ξs)[j] ≠ 0)
    (hr : ((1 : F) :: rs).getD j 0 ≠ 0) :
    batchCheckItems vk its πs ξs rs ≠ .ok true := by
  rw [batchCheckItems_eq]
  split
  · split
    · intro hc
      injection hc with hc
      rw [decide_eq_true_iff] at hc
      exact KZG.wsum_single 1 rs _ j hj hz hne hr hc
    · simp
  · simp

/-- the public entry point: grouping by point label, shape test, lookups, then the above -/
theorem sonic_batch_check_eq (vk : VK F) (comms : List (LComm F)) (qs : List (Query F))
    (evals : List ((Label × F) × F)) (πs : List (KZG.Proof F)) (ξs rs : List F)
    (hl : πs.length = (groupQueries qs).length) (its : List (Item F))
    (hg : gatherGroups comms evals (groupQueries qs) = .ok its) :
    batchCheck vk comms qs evals πs ξs rs = batchCheckItems vk its πs ξs rs :=
  batchCheck_gathered vk comms qs evals πs ξs rs hl its hg

/-- a proof list that is missing, surplus or empty (length ≠ number of point labels) is refused -/
theorem sonic_batch_shape_refused (vk : VK F) (comms : List (LComm F)) (qs : List (Query F))
    (evals : List ((Label × F) × F)) (πs : List (KZG.Proof F)) (ξs rs : List F)
    (hl : πs.length ≠ (groupQueries qs).length) :
    batchCheck vk comms qs evals πs ξs rs = .error .abort :=
  batchCheck_shape vk comms qs evals πs ξs rs hl

/-- non-vacuity: the two-label batch of C01's example is accepted for two different randomizers;
with one false value (second label) it is rejected; with one proof missing it is refused -/
example : batchCheck Ex.vk Ex.comms
      [([112, 48], ([97], 5)), ([112, 49], ([97], 5)), ([112, 49], ([98], 9)), ([112, 50], ([98], 9))]
      [(([112, 48], 5), evalPoly [1, 2, 3] 5), (([112, 49], 5), evalPoly [4, 0, 1] 5),
       (([112, 49], 9), evalPoly [4, 0, 1] 9), (([112, 50], 9), evalPoly [6, 1] 9)]
      [⟨53, some 27⟩, ⟨90, none⟩] [11, 13, 17, 19, 23, 29, 31] [7] = .ok true := by decide +kernel
example : batchCheck Ex.vk Ex.comms
      [([112, 48], ([97], 5)), ([112, 49], ([97], 5)), ([112, 49], ([98], 9)), ([112, 50], ([98], 9))]
      [(([112, 48], 5), evalPoly [1, 2, 3] 5), (([112, 49], 5), evalPoly [4, 0, 1] 5),
       (([112, 49], 9), evalPoly [4, 0, 1] 9 + 1), (([112, 50], 9), evalPoly [6, 1] 9)]
      [⟨53, some 27⟩, ⟨90, none⟩] [11, 13, 17, 19, 23, 29, 31] [7] = .ok false := by decide +kernel
example : batchCheck Ex.vk Ex.comms
      [([112, 48], ([97], 5)), ([112, 49], ([97], 5)), ([112, 49], ([98], 9)), ([112, 50], ([98], 9))]
      [(([112, 48], 5), evalPoly [1, 2, 3] 5), (([112, 49], 5), evalPoly [4, 0, 1] 5),
       (([112, 49], 9), evalPoly [4, 0, 1] 9), (([112, 50], 9), evalPoly [6, 1] 9)]
      [⟨53, some 27⟩] [11, 13, 17, 19, 23, 29, 31] [7] = .error .abort := by decide +kernel
end PCV.C05
