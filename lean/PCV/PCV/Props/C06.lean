/-
  Property C06 — linear-combination openings prove exactly the stated combinations
  (the `Marlin::open_combinations` / `check_combinations` construction used by MarlinKZG10 and
  MarlinPST13; the value-level laws of `LinearCombination` are in C16).
-/
import PCV.Proofs.MarlinLC
import PCV.Props.C01_Marlin

namespace PCV.C06
open PCV Marlin
variable {F : Type} [Field F] [DecidableEq F]

/-- **A combination of honest commitments is an honest commitment** of the combined polynomial
(arbitrary coefficients — zero, negative, repeated labels — and constants, which the prover
skips), so the completeness theorem `C01.marlin_complete`/`C04.marlin_bounded_complete` applies to
combination openings verbatim; and the combined polynomial evaluates to the combination of the
evaluations. -/
theorem marlin_lc_honest {g γ β : F} {D : Nat} (trips : List (Trip' F))
    (hh : ∀ t ∈ trips, Honest g γ β D t ∧ t.1.bound = none) (lc : LC.LinComb F)
    (res : Trip' F) (hc : combineLC trips lc = .ok res) (z : F) :
    Honest g γ β D res ∧ res.1.bound = none ∧
      evalPoly res.1.poly z = lcPolyValue trips z lc.terms :=
  combineLC_honest_u (fun t ht => (hh t ht).1) (lcUnbounded_of_all (fun t ht => (hh t ht).2) lc) hc z

set_option linter.unusedVariables false in
/-- the claimed value of a combination that the verifier checks the opening against
(`claimed − constants`) is the polynomial part of `LinearCombination`'s value: the combination
proved is exactly the stated one -/
theorem marlin_lc_value (trips : List (Trip' F)) (z : F) (lc : LC.LinComb F)
    (hall : ∀ t ∈ lc.terms, ∀ l, t.2 = .poly l →
      (lookupLast (fun (t : Trip' F) => t.1.label) l trips).isSome) :
    LC.value lc (evalAssign trips z) - lcConstant lc = lcPolyValue trips z lc.terms := by
  rw [lc_value_split, add_sub_cancel_right]

/-- **Any change of a claimed value, coefficient, constant or evaluation** shows up as a change
`δ` of the value the combined opening is checked against; by `C02.marlin_values_iff` the
verifier then accepts iff `h·⟨κ, ds⟩ = 0` (restated here for a single combination). -/
theorem marlin_lc_wrong_value_rejected (vk : VK F) (l : Label) (c z v δ ξ : F) (ξs : List F)
    (π : KZG.Proof F) (hδ : δ ≠ 0) (hξ : ξ ≠ 0) (hg : vk.vk.g ≠ 0) (hh : vk.vk.h ≠ 0)
    (hacc : check vk [⟨l, ⟨c, none⟩, none⟩] z [v] π (ξ :: ξs) = .ok (true, ξs)) :
    check vk [⟨l, ⟨c, none⟩, none⟩] z [v + δ] π (ξ :: ξs) ≠ .ok (true, ξs) := by
  intro hx
  have := (check_perturbed_iff vk [⟨l, ⟨c, none⟩, none⟩] z [v] [δ] (ξ :: ξs) π ξs rfl hacc).1 hx
  simp only [kappa, dot_cons, dot_nil_left, add_zero, mul_eq_zero] at this
  rcases this with h1 | (h1 | h1) | h1 <;> contradiction

/-- **Degree-bound policy.** A degree-bounded polynomial mixed with other terms (any second term,
constants included) is refused with `EquationHasDegreeBounds`; alone it must carry coefficient one. -/
theorem marlin_lc_bound_policy (trips : List (Trip' F)) (k : Nat) (acc : LCAcc F) (coeff : F)
    (l : Label) (x : Trip' F)
    (hl : lookupLast (fun (t : Trip' F) => t.1.label) l trips = some x)
    (hb : x.1.bound.isSome = true) :
    (k ≠ 1 → lcStep trips k acc (coeff, .poly l) = .error .equationHasDegreeBounds) ∧
    (k = 1 → coeff ≠ 1 → lcStep trips k acc (coeff, .poly l) = .error .abort) := by
  rw [lcStep_poly hl]
  exact ⟨fun hk => if_pos ⟨hb, hk⟩, fun hk hc => by rw [if_neg fun h => h.2 hk, if_pos ⟨hb, hc⟩]⟩

/-- an unknown label in a combination is refused -/
theorem marlin_lc_unknown_label (trips : List (Trip' F)) (k : Nat) (acc : LCAcc F) (coeff : F)
    (l : Label) (hl : lookupLast (fun (t : Trip' F) => t.1.label) l trips = none) :
    lcStep trips k acc (coeff, .poly l) = .error .missingPolynomial := by
  simp only [lcStep, hl]

/-- non-vacuity: `2·p − 1·p + 5` over the honest unbounded commitment of `p = 1 + 2X + 3X²`
(`g = 3, β = 2`: commitment `3·p(2) = 51`) combines to the commitment of `p` -/
example : combineLC [((⟨[112], [1, 2, 3], none, none⟩ : LPoly K), ⟨[], none⟩, ⟨[112], ⟨51, none⟩, none⟩)]
    ⟨[108], [(2, .poly [112]), (-1, .poly [112]), (5, .one)]⟩
    = .ok (⟨[108], [1, 2, 3], none, none⟩, ⟨[], none⟩, ⟨[108], ⟨51, none⟩, none⟩) := by decide +kernel
example : lcStep [((⟨[112], [1, 2, 3], some 2, none⟩ : LPoly K), ⟨[], some []⟩, ⟨[112], ⟨51, some 0⟩, some 2⟩)]
    2 ⟨[], ⟨[], none⟩, 0, none, none, none⟩ (1, .poly [112]) = .error .equationHasDegreeBounds := by
  decide +kernel

end PCV.C06
