/-
  Property C06 (linear-combination openings prove exactly the stated combinations) — the trait-default
  `check_combinations` of `poly-commit/src/lib.rs` (Hyrax, Ligero, Brakedown).  Model:
  `PCV.Model.TraitDefault`.  Only property theorems live here; lemmas are in PCV/Proofs/TraitDefault*.lean.
-/
import PCV.Proofs.TraitDefaultComplete
import PCV.Proofs.TraitDefaultToy

namespace PCV.C06
open PCV TraitDefault
variable {Pt : Type} [DecidableEq Pt] {F : Type} [Field F] [DecidableEq F] {C PF σ : Type}

/-- **The default `check_combinations` accepts iff** the proof carries evaluations and, with `pe` the
pairing of those evaluations with the sorted `(polynomial, point)` keys of the derived polynomial query
set: (1) for EVERY queried equation the equation is supplied, each of its polynomial terms has a
transmitted evaluation at the query's point, and the claimed value equals
`Σ coeff·eval + Σ constants` (`LC.termsValue`: arbitrary coefficients, repeated labels, `LCTerm::One`
terms); and (2) the inner `batch_check` of the polynomial queries, claiming exactly those transmitted
evaluations, accepts. -/
theorem default_check_combinations_accepts_iff (ltP : Pt → Pt → Bool) (lblC : C → Label)
    (checkF : List C → Pt → List F → PF → σ → Except Err (Bool × σ))
    (lcs : List (LC.LinComb F)) (comms : List C) (qs : List (Query Pt))
    (ee : List ((Label × Pt) × F)) (πs : List PF) (evals : Option (List F)) (s s' : σ) :
    checkCombinations ltP lblC checkF lcs comms qs ee πs evals s = .ok (true, s') ↔
      ∃ evs, evals = some evs ∧
        (∀ q ∈ qs, EqnHolds lcs ee (polyEvals ltP (verifierPolyQuerySet ltP lcs qs) evs) q) ∧
        batchCheckSet lblC checkF comms (verifierPolyQuerySet ltP lcs qs)
          (polyEvals ltP (verifierPolyQuerySet ltP lcs qs) evs) πs s = .ok (true, s') :=
  checkCombinations_true_iff

omit [DecidableEq F] in
/-- prover and verifier derive the same polynomial query set from the same equations (the verifier goes
through `lc_s.values()`, the prover through the list: later duplicates of a label win on both sides) -/
theorem default_poly_query_set_agrees (ltP : Pt → Pt → Bool) (lcs : List (LC.LinComb F))
    (qs : List (Query Pt)) :
    verifierPolyQuerySet ltP lcs qs = lcToPolyQuerySet ltP lcs (querySet ltP qs) :=
  verifierPolyQuerySet_eq ltP lcs qs

/-- **The accepted claimed values are determined** by the equations and the transmitted evaluations: two
accepting runs that differ only in the claimed-value map claim the same value for every queried
(equation, point). A changed claimed value is therefore not accepted. -/
theorem default_lc_claimed_values_unique (ltP : Pt → Pt → Bool) (lblC : C → Label)
    (checkF : List C → Pt → List F → PF → σ → Except Err (Bool × σ))
    (lcs : List (LC.LinComb F)) (comms : List C) (qs : List (Query Pt))
    (ee ee' : List ((Label × Pt) × F)) (πs : List PF) (evals : Option (List F)) (s s₁ s₂ : σ)
    (h₁ : checkCombinations ltP lblC checkF lcs comms qs ee πs evals s = .ok (true, s₁))
    (h₂ : checkCombinations ltP lblC checkF lcs comms qs ee' πs evals s = .ok (true, s₂)) :
    ∀ q ∈ qs, QS.lastWith (q.1, q.2.2) ee = QS.lastWith (q.1, q.2.2) ee' := by
  obtain ⟨evs, rfl, ha, _⟩ := checkCombinations_true_iff.1 h₁
  intro q hq
  obtain ⟨lc, hlc, _, h3⟩ := ha q hq
  exact h3.trans (claim_of_accepts h₂ hq hlc).symm

/-- **A changed coefficient or constant is not accepted.** Let the verifier's equation list be changed
in ONE term of ONE equation — the coefficient `c` of the term `t` (a polynomial label, or `One` for a
constant) replaced by `c'` — everything else (the other equations, the label and the other terms of this
one) as before.  If that equation is queried at a point where the change moves its value,
`(c' − c)·(value of t) ≠ 0` — for a constant: `c' ≠ c` —, then the two equation lists are not both
accepted with the same claimed values, transmitted evaluations and proofs. -/
theorem default_lc_changed_coefficient_rejected (ltP : Pt → Pt → Bool) (lblC : C → Label)
    (checkF : List C → Pt → List F → PF → σ → Except Err (Bool × σ))
    (lcs lcs' : List (LC.LinComb F)) (lc lc' : LC.LinComb F)
    (pre post : List (F × LC.LCTerm)) (c c' : F) (t : LC.LCTerm)
    (hterms : lc.terms = pre ++ (c, t) :: post) (hterms' : lc'.terms = pre ++ (c', t) :: post)
    (hget : lcGet lcs lc.label = some lc) (hget' : lcGet lcs' lc.label = some lc')
    (hother : ∀ l, l ≠ lc.label → lcGet lcs' l = lcGet lcs l)
    (comms : List C) (qs : List (Query Pt)) (ee : List ((Label × Pt) × F)) (πs : List PF)
    (evs : List F) (s s₁ s₂ : σ) (q : Query Pt) (hq : q ∈ qs) (hql : q.1 = lc.label)
    (hmoves : (c' - c) * LC.termVal
      (assign (polyEvals ltP (verifierPolyQuerySet ltP lcs qs) evs) q.2.2) t ≠ 0)
    (h₁ : checkCombinations ltP lblC checkF lcs comms qs ee πs (some evs) s = .ok (true, s₁)) :
    checkCombinations ltP lblC checkF lcs' comms qs ee πs (some evs) s ≠ .ok (true, s₂) := by
  intro h₂
  have hlabels : lcPolyLabels lc' = lcPolyLabels lc := by
    rw [lcPolyLabels, lcPolyLabels, hterms, hterms', List.filterMap_append, List.filterMap_append,
      List.filterMap_cons, List.filterMap_cons]
  have hpqs : verifierPolyQuerySet ltP lcs' qs = verifierPolyQuerySet ltP lcs qs := by
    rw [verifierPolyQuerySet_eq, verifierPolyQuerySet_eq]
    refine lcToPolyQuerySet_congr fun l => ?_
    by_cases hl : l = lc.label
    · rw [hl, hget, hget', Option.map_some, Option.map_some, hlabels]
    · rw [hother l hl]
  -- the same claimed value would be the value of both equations
  have h3 := (claim_of_accepts h₁ hq (hql ▸ hget)).symm.trans (claim_of_accepts h₂ hq (hql ▸ hget'))
  rw [hpqs, hterms, hterms', LC.termsValue_replace _ pre post c c' t] at h3
  exact hmoves (left_eq_add.1 (Option.some.inj h3))

/-- **The honest default combination proof is accepted, the scheme's own pair being complete.**
Hypotheses: `ltP` is a strict total order; the scheme's `open`/`check` pair is complete on the triples a
group can consist of (`Good`) and keeps the relation `R` between prover and verifier state (as in
`C01.default_batch_complete`); no point label is used with two points; every queried equation is
supplied; the claimed values are the true combination values `Σ coeff·pᵢ(z) + constants`
(`trueEval`: the polynomial listed last under each label); the three prover lists are aligned so that the
triple found under a label holds the polynomial found under it (`htrip` — true for lists of equal length
with distinct labels; with a longer polynomial list `evaluate_query_set` and `batch_open` can read
different polynomials); the verifier lists the prover's commitments under the same labels.
Then whatever `open_combinations` returns — equations with zero, negative, repeated coefficients and
constants, several equations per point, one equation at several points, point labels sharing a point
value — `check_combinations` accepts, and the final states are related. -/
theorem default_combinations_complete {LP S σp σv : Type}
    (ltP : Pt → Pt → Bool) (hlt : QS.StrictTotal ltP) (hirr : ∀ a, ltP a a = false)
    (lblP : LP → Label) (lblC : C → Label) (evalP : LP → Pt → F)
    (openF : List ((LP × S) × C) → Pt → σp → Except Err (PF × σp))
    (checkF : List C → Pt → List F → PF → σv → Except Err (Bool × σv))
    (R : σp → σv → Prop) (Good : List ((LP × S) × C) → Prop)
    (hcomplete : ∀ ts z π sp sp' sv, Good ts → R sp sv → openF ts z sp = .ok (π, sp') →
      ∃ sv', checkF (ts.map (·.2)) z (ts.map fun t => evalP t.1.1 z) π sv = .ok (true, sv') ∧ R sp' sv')
    (lcs : List (LC.LinComb F)) (polys : List LP) (sts : List S) (comms vcomms : List C)
    (qs : List (Query Pt)) (ee : List ((Label × Pt) × F))
    (hpts : ConsistentPoints qs)
    (hsupplied : ∀ q ∈ qs, (lcGet lcs q.1).isSome = true)
    (hclaims : ∀ q ∈ qs, ∀ lc, lcGet lcs q.1 = some lc →
      QS.lastWith (q.1, q.2.2) ee = some (LC.termsValue (trueEval lblP evalP polys q.2.2) lc.terms))
    (htrip : ∀ l t, Marlin.lookupLast (fun (t : (LP × S) × C) => lblP t.1.1) l
        (polyStComm polys sts comms) = some t → Marlin.lookupLast lblP l polys = some t.1.1)
    (hgood : ∀ ls ts, gatherOpen lblP (polyStComm polys sts comms) ls = .ok ts → Good ts)
    (hcm : ∀ l t, Marlin.lookupLast (fun (t : (LP × S) × C) => lblP t.1.1) l
        (polyStComm polys sts comms) = some t → Marlin.lookupLast lblC l vcomms = some t.2)
    (sp : σp) (sv : σv) (πs : List PF) (evals : Option (List F)) (sp' : σp) (h0 : R sp sv)
    (ho : openCombinations ltP lblP evalP openF lcs polys sts comms qs sp = .ok ((πs, evals), sp')) :
    ∃ sv', checkCombinations ltP lblC checkF lcs vcomms qs ee πs evals sv = .ok (true, sv') ∧
      R sp' sv' :=
  combinations_complete ltP hlt hirr lblP lblC evalP openF checkF R Good hcomplete lcs polys sts comms
    vcomms qs ee hpts hsupplied hclaims htrip hgood hcm sp sv πs evals sp' h0 ho

/-- the toy scheme of the examples satisfies the completeness hypothesis (with `R` = equal counters,
`Good` = every commitment is the commitment of its polynomial) -/
example : ∀ (ts : List ((Toy.TC × Unit) × Toy.TC)) z π sp sp' sv, (∀ t ∈ ts, t.2 = t.1.1) → sp = sv →
    Toy.openF ts z sp = .ok (π, sp') →
    ∃ sv', Toy.checkF (ts.map (·.2)) z (ts.map fun t => Toy.evalP t.1.1 z) π sv = .ok (true, sv') ∧
      sp' = sv' := by
  intro ts z π sp sp' sv hg hs ho
  cases ho
  subst hs
  have : (ts.map fun t => Toy.evalP t.1.1 z) = (ts.map (·.2)).map fun c => Toy.evalP c z := by
    rw [List.map_map]
    exact List.map_congr_left fun t ht => congrArg (Toy.evalP · z) (hg t ht).symm
  refine ⟨_, ?_, rfl⟩
  rw [Toy.checkF, decide_eq_true this, decide_eq_true rfl]
  rfl
example : ConsistentPoints Toy.eqs := by unfold ConsistentPoints; decide +kernel

/-! non-vacuity over `ZMod 101` (`PCV.TraitDefault.Toy`): `e = 2a − b + 5` (negative coefficient,
constant) at two points, `f = 0·c + a` (zero coefficient: `c` is still opened); the honest proof is
accepted; the constant `5 ↦ 6` and the coefficient `2 ↦ 3` are rejected -/
example : openCombinations Toy.ltK Toy.lbl Toy.evalP Toy.openF Toy.lcs Toy.polys Toy.sts Toy.polys Toy.eqs 0
    = .ok (([0, 1], some [8, 14, 12, 21, 20]), 2) := by decide +kernel
example : lcToPolyQuerySet Toy.ltK Toy.lcs (querySet Toy.ltK Toy.eqs) =
    [([97], [120], 4), ([97], [122], 7), ([98], [120], 4), ([98], [122], 7), ([99], [120], 4)] := by decide +kernel
example : checkCombinations Toy.ltK Toy.lbl Toy.checkF Toy.lcs Toy.polys Toy.eqs Toy.eqEvals [0, 1]
    (some [8, 14, 12, 21, 20]) 0 = .ok (true, 2) := by decide +kernel
example : checkCombinations Toy.ltK Toy.lbl Toy.checkF
    [⟨[101], [(2, .poly [97]), (-1, .poly [98]), (6, .one)]⟩, ⟨[102], [(0, .poly [99]), (1, .poly [97])]⟩]
    Toy.polys Toy.eqs Toy.eqEvals [0, 1] (some [8, 14, 12, 21, 20]) 0 = .ok (false, 0) := by decide +kernel
example : checkCombinations Toy.ltK Toy.lbl Toy.checkF
    [⟨[101], [(3, .poly [97]), (-1, .poly [98]), (5, .one)]⟩, ⟨[102], [(0, .poly [99]), (1, .poly [97])]⟩]
    Toy.polys Toy.eqs Toy.eqEvals [0, 1] (some [8, 14, 12, 21, 20]) 0 = .ok (false, 0) := by decide +kernel

end PCV.C06
