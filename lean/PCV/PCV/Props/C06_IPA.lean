/-
  Property C06 — linear-combination openings prove exactly the stated combinations,
  inner-product-argument scheme: `InnerProductArgPC::open_combinations` / `check_combinations`
  (IPA's own overrides; model PCV/Model/IPALC.lean, lemmas PCV/Proofs/IPALC.lean and
  PCV/Proofs/IPABatchErr.lean).  `BatchLCProof.evals` is `None` for this scheme: the verifier sees
  combination labels, coefficients, constants, commitments and claimed combination values only.
-/
import PCV.Proofs.IPALC
import PCV.Props.Examples

namespace PCV.C06
open PCV
variable {F : Type} [Field F] [DecidableEq F]

/-- **IPA: a combination of committed polynomials is a committed polynomial.** For honest
(polynomial, state, commitment) triples (any degree bounds, hiding on/off mixed), whatever
`open_combinations` makes of one combination — arbitrary coefficients incl. zero and negative,
repeated labels, constant terms (skipped), a single degree-bounded term of coefficient one (bound,
shifted commitment and shifted randomness kept) — is again an honest triple under the combination's
label, and its polynomial evaluates to the combination of the evaluations. -/
theorem ipa_lc_is_committed (ck : IPA.CK F) (polys : List (IPA.LPoly F)) (comms : List (IPA.LComm F))
    (sts : List (IPA.Rand F)) (hall : IPA.AllCommitted ck polys comms sts)
    (hnf : ∀ p ∈ polys, pnorm p.poly = p.poly) (lc : LC.LinComb F) (a : IPA.LCAcc F)
    (h : IPA.combineOneP (polys.zip (sts.zip comms)) lc = .ok a) :
    IPA.Committed ck a.lpoly a.lcomm a.state ∧ pnorm a.poly = a.poly ∧ a.label = lc.label ∧
      ∀ z, evalPoly a.poly z = IPA.lcPolyValue (polys.zip (sts.zip comms)) z lc.terms := by
  obtain ⟨⟨h1, h2⟩, h3, h4⟩ := IPA.combineOneP_good (IPA.tripsOK_of_all ck polys comms sts hall hnf) h
  exact ⟨h1, h2, h3, h4⟩

/-- **IPA, completeness of combination openings.** For a key of any power-of-two length, committed
polynomials with any bounds / hiding, any list of combinations the prover answers, any query set
over the combination labels (several combinations per point, point labels sharing a value), all
sponge challenges, random-oracle outputs, RNG draws and verifier randomizers: `check_combinations`
accepts the proofs of `open_combinations` for the true values.  The true value of the combination
labelled `l` at `z` is the value of its polynomial part plus the constants of all combinations
labelled `l` (what the code subtracts); for distinct labels this is `LinearCombination`'s value
(`ipa_lc_complete_distinct`). -/
theorem ipa_lc_complete (ck : IPA.CK F) (k : Nat) (hk : ck.commKey.length = 2 ^ k)
    (polys : List (IPA.LPoly F)) (comms : List (IPA.LComm F)) (sts : List (IPA.Rand F))
    (hall : IPA.AllCommitted ck polys comms sts) (hnf : ∀ p ∈ polys, pnorm p.poly = p.poly)
    (lcs : List (LC.LinComb F)) (qs : List (IPA.Query F)) (evals : List ((IPA.Label × F) × F))
    (hev : ∀ g ∈ Marlin.groupQueries qs, ∀ l ∈ g.2.2, ∀ lc,
      Marlin.lookupLast (fun (lc : LC.LinComb F) => lc.label) l lcs = some lc →
      Marlin.lookupEval evals l g.2.1
        = some (IPA.lcPolyValue (polys.zip (sts.zip comms)) g.2.1 lc.terms + IPA.constSum lcs l))
    (ξs ros rs : List F) (rng : Bool) (draws : List F) (πs : List (IPA.Proof F)) (ξr ror dr : List F)
    (ho : IPA.openCombinations ck lcs polys comms sts qs ξs ros rng draws = .ok (πs, ξr, ror, dr)) :
    IPA.checkCombinations ck lcs comms qs evals πs ξs ros rs = .ok true := by
  obtain ⟨as, h1, h2, h3, h4, h5⟩ :=
    IPA.lc_reduction ck polys comms sts hall hnf lcs qs evals hev ξs ros rng draws πs ξr ror dr ho
  rw [IPA.checkCombinations_eq, h1]
  exact IPA.batch_complete ck k hk _ _ _ h2 h3 qs _ h4 ξs ros rs rng draws πs ξr ror dr h5

/-- **IPA, completeness for distinct combination labels**, with the value of a combination given by
`LinearCombination` itself: `Σ cᵢ·pᵢ(z) + Σ constants` under "label ↦ evaluation of the committed
polynomial with that label".  The commitments are the committer's own output. -/
theorem ipa_lc_complete_distinct (ck : IPA.CK F) (k : Nat) (hk : ck.commKey.length = 2 ^ k)
    (polys : List (IPA.LPoly F)) (hnf : ∀ p ∈ polys, pnorm p.poly = p.poly)
    (rng0 : Bool) (draws0 : List F) (comms : List (IPA.LComm F)) (sts : List (IPA.Rand F))
    (rest0 : List F) (hc : IPA.commit ck polys rng0 draws0 = .ok (comms, sts, rest0))
    (lcs : List (LC.LinComb F)) (hnd : (lcs.map (·.label)).Nodup)
    (qs : List (IPA.Query F)) (evals : List ((IPA.Label × F) × F))
    (hev : ∀ g ∈ Marlin.groupQueries qs, ∀ l ∈ g.2.2, ∀ lc,
      Marlin.lookupLast (fun (lc : LC.LinComb F) => lc.label) l lcs = some lc →
      Marlin.lookupEval evals l g.2.1
        = some (LC.value lc (IPA.evalAssign (polys.zip (sts.zip comms)) g.2.1)))
    (ξs ros rs : List F) (rng : Bool) (draws : List F) (πs : List (IPA.Proof F)) (ξr ror dr : List F)
    (ho : IPA.openCombinations ck lcs polys comms sts qs ξs ros rng draws = .ok (πs, ξr, ror, dr)) :
    IPA.checkCombinations ck lcs comms qs evals πs ξs ros rs = .ok true := by
  apply ipa_lc_complete ck k hk polys comms sts (IPA.commit_spec ck rng0 polys draws0 comms sts rest0 hc)
    hnf lcs qs evals _ ξs ros rs rng draws πs ξr ror dr ho
  intro g hg l hl lc hlc
  rw [hev g hg l hl lc hlc, IPA.lc_value_split, IPA.constSum_distinct lcs hnd l lc hlc]

/-- **IPA, the acceptance condition.** `check_combinations` is `batch_check` run on the combined
commitments (`verifierComms`: one per combination, with a shifted part only for a single bounded
term) and on the claimed values minus the constants (`adjustEvals`); the combined commitments do not
depend on the claimed values.  `batch_check`'s own condition is `C05.ipa_batch_defect`:
every point label's `defect1 = 0` and `Σ ρᵢ·defect2ᵢ = 0`. -/
theorem ipa_lc_check_is_batch_check (vk : IPA.VK F) (lcs : List (LC.LinComb F))
    (comms : List (IPA.LComm F)) (qs : List (IPA.Query F)) (evals : List ((IPA.Label × F) × F))
    (πs : List (IPA.Proof F)) (ξs ros rs : List F) :
    IPA.checkCombinations vk lcs comms qs evals πs ξs ros rs
      = match IPA.verifierComms comms lcs with
        | .error e => .error e
        | .ok lcC => IPA.batchCheck vk lcC qs (IPA.adjustEvals lcs evals) πs ξs ros rs :=
  IPA.checkCombinations_eq vk lcs comms qs evals πs ξs ros rs

/-- the values `batch_check` sees: claimed value minus the constants of every combination carrying
that label -/
theorem ipa_lc_adjusted_values (lcs : List (LC.LinComb F)) (evals : List ((IPA.Label × F) × F)) :
    IPA.adjustEvals lcs evals = evals.map fun e => (e.1, e.2 + -IPA.constSum lcs e.1.1) :=
  IPA.adjustEvals_eq_bump lcs evals

/-- **IPA, every perturbation in one form.** Take an accepted combination statement and any second
statement (other combination list, commitments, claimed values) whose combined commitments differ
by `errC` (per combination label, unshifted part) and whose adjusted values differ by `errV` (per
claim).  With the oracle outputs and randomizers held fixed the second statement is accepted iff for
every point label the amount
`Σⱼ errC(lⱼ)·ξⱼ + h·ξ₀·Σⱼ (ξⱼ + ξ′ⱼ·z^{s−dⱼ})·errV(lⱼ, z)` (`IPA.groupErr`) is zero. -/
theorem ipa_lc_perturbed (vk : IPA.VK F) (lcs lcs' : List (LC.LinComb F))
    (comms comms' : List (IPA.LComm F)) (qs : List (IPA.Query F))
    (evals evals' : List ((IPA.Label × F) × F)) (πs : List (IPA.Proof F)) (ξs ros rs : List F)
    (lcC : List (IPA.LComm F)) (errC : IPA.Label → F) (errV : IPA.Label × F → F)
    (h1 : IPA.verifierComms comms lcs = .ok lcC)
    (h2 : IPA.verifierComms comms' lcs' = .ok (IPA.bumpComms errC lcC))
    (hV : IPA.adjustEvals lcs' evals' = IPA.bump errV (IPA.adjustEvals lcs evals))
    (hacc : IPA.checkCombinations vk lcs comms qs evals πs ξs ros rs = .ok true) :
    IPA.checkCombinations vk lcs' comms' qs evals' πs ξs ros rs = .ok true ↔
      ∀ e ∈ IPA.batchErrs vk lcC (IPA.adjustEvals lcs evals) errC errV (Marlin.groupQueries qs) πs ξs ros,
        e = 0 := by
  rw [IPA.checkCombinations_perturbed h1 h2 hV hacc]
  simp [IPA.allZero]

set_option linter.unusedSectionVars false in
/-- the defect shift of a point label that carries one unbounded claim: `errC·ξ + h·ξ₀·ξ·errV` -/
theorem ipa_lc_group_defect_single (vk : IPA.VK F) (errC : IPA.Label → F) (errV : IPA.Label × F → F)
    (z : F) (l : IPA.Label) (c : IPA.LComm F) (v ξ₀ cur ξ' ξ'' : F) (rest : List F)
    (hb : c.bound = none) :
    IPA.groupErr vk errC errV z [l] [c] [v] ξ₀ cur (ξ' :: ξ'' :: rest)
      = errC c.label * cur + vk.h * ξ₀ * (cur * errV (l, z)) := by
  simp [IPA.groupErr, IPA.commErr, IPA.valueErr, IPA.stepErr, IPA.addVec, hb]

/-- **IPA, claimed values changed** (any set of claims, by `errV`): the combined commitments stay
and the decision becomes "every point label's `h·ξ₀·Σⱼ(ξⱼ + ξ′ⱼz^{s−dⱼ})·errV(lⱼ,z)` vanishes". -/
theorem ipa_lc_value_defect (vk : IPA.VK F) (lcs : List (LC.LinComb F)) (comms : List (IPA.LComm F))
    (qs : List (IPA.Query F)) (evals : List ((IPA.Label × F) × F)) (πs : List (IPA.Proof F))
    (ξs ros rs : List F) (lcC : List (IPA.LComm F)) (errV : IPA.Label × F → F)
    (h1 : IPA.verifierComms comms lcs = .ok lcC)
    (hacc : IPA.checkCombinations vk lcs comms qs evals πs ξs ros rs = .ok true) :
    IPA.checkCombinations vk lcs comms qs (IPA.bump errV evals) πs ξs ros rs
      = .ok (IPA.allZero (IPA.batchErrs vk lcC (IPA.adjustEvals lcs evals) (fun _ => 0) errV
          (Marlin.groupQueries qs) πs ξs ros)) := by
  apply IPA.checkCombinations_perturbed h1 (by rw [IPA.bumpComms_zero]; exact h1) _ hacc
  rw [IPA.adjustEvals_eq_bump, IPA.adjustEvals_eq_bump, IPA.bump_bump, IPA.bump_bump]
  apply IPA.bump_congr
  intro k; ring

/-- **IPA, constant terms changed** on the verifier's side (any of them, in any combinations; same
polynomial terms): the combined commitments stay and every claimed value of a combination labelled
`l` moves by minus the change of the constants of the combinations labelled `l`. -/
theorem ipa_lc_constant_defect (vk : IPA.VK F) (lcs lcs' : List (LC.LinComb F))
    (comms : List (IPA.LComm F)) (qs : List (IPA.Query F)) (evals : List ((IPA.Label × F) × F))
    (πs : List (IPA.Proof F)) (ξs ros rs : List F) (lcC : List (IPA.LComm F))
    (hs : List.Forall₂ IPA.SameShape lcs lcs') (h1 : IPA.verifierComms comms lcs = .ok lcC)
    (hacc : IPA.checkCombinations vk lcs comms qs evals πs ξs ros rs = .ok true) :
    IPA.checkCombinations vk lcs' comms qs evals πs ξs ros rs
      = .ok (IPA.allZero (IPA.batchErrs vk lcC (IPA.adjustEvals lcs evals) (fun _ => 0)
          (fun k => -(IPA.constSum lcs' k.1 - IPA.constSum lcs k.1)) (Marlin.groupQueries qs) πs ξs ros)) := by
  apply IPA.checkCombinations_perturbed h1 _ _ hacc
  · rw [IPA.bumpComms_zero]
    unfold IPA.verifierComms at h1 ⊢
    rw [IPA.combineAccV_shape comms lcs lcs' hs]
    exact h1
  · rw [IPA.adjustEvals_eq_bump, IPA.adjustEvals_eq_bump, IPA.bump_bump]
    apply IPA.bump_congr
    intro k; ring

/-- **IPA, a coefficient changed** by `δ` on a term naming the unbounded polynomial `m`: in the
verifier's term loop the combined commitment of that combination moves by `δ·C_m` and nothing else
does (the claimed values are not touched). -/
theorem ipa_lc_coefficient_shift (comms : List (IPA.LComm F)) (k : Nat) (m : IPA.Label)
    (cm : IPA.LComm F) (c δ : F)
    (hm : Marlin.lookupLast (fun (c : IPA.LComm F) => c.label) m comms = some cm)
    (hb : cm.bound = none) (hs : cm.comm.shifted = none) (t1 t2 : List (F × LC.LCTerm))
    (a : IPA.LCAccV F) :
    IPA.loopAccV comms k a (t1 ++ (c + δ, .poly m) :: t2)
      = match IPA.loopAccV comms k a (t1 ++ (c, .poly m) :: t2) with
        | .error x => .error x
        | .ok a' => .ok (a'.shiftComm (cm.comm.comm * δ)) :=
  IPA.loopAccV_coeff c δ hm hb hs t2 t1 a

/-- **IPA, a coefficient changed, end to end** — proved for a list of ONE combination (missing:
several combinations; there `ipa_lc_perturbed` applies with `errC` read off
`ipa_lc_coefficient_shift`, provided no other combination carries the same label, because
`batch_check` resolves a label to the last commitment carrying it).  The decision becomes "every
point label's `Σⱼ [lⱼ = l]·δ·C_m·ξⱼ` vanishes". -/
theorem ipa_lc_coefficient_defect_partial (vk : IPA.VK F) (l : IPA.Label)
    (t1 t2 : List (F × LC.LCTerm)) (m : IPA.Label) (cm : IPA.LComm F) (c δ : F)
    (comms : List (IPA.LComm F))
    (hm : Marlin.lookupLast (fun (c : IPA.LComm F) => c.label) m comms = some cm)
    (hb : cm.bound = none) (hs : cm.comm.shifted = none)
    (qs : List (IPA.Query F)) (evals : List ((IPA.Label × F) × F)) (πs : List (IPA.Proof F))
    (ξs ros rs : List F) (lcC : List (IPA.LComm F))
    (h1 : IPA.verifierComms comms [⟨l, t1 ++ (c, .poly m) :: t2⟩] = .ok lcC)
    (hacc : IPA.checkCombinations vk [⟨l, t1 ++ (c, .poly m) :: t2⟩] comms qs evals πs ξs ros rs = .ok true) :
    IPA.checkCombinations vk [⟨l, t1 ++ (c + δ, .poly m) :: t2⟩] comms qs evals πs ξs ros rs
      = .ok (IPA.allZero (IPA.batchErrs vk lcC (IPA.adjustEvals [⟨l, t1 ++ (c, .poly m) :: t2⟩] evals)
          (fun l' => if l' = l then cm.comm.comm * δ else 0) (fun _ => 0)
          (Marlin.groupQueries qs) πs ξs ros)) := by
  apply IPA.checkCombinations_perturbed h1 _ _ hacc
  · unfold IPA.verifierComms IPA.combineAccV at h1 ⊢
    have hlen : (t1 ++ (c + δ, LC.LCTerm.poly m) :: t2).length = (t1 ++ (c, LC.LCTerm.poly m) :: t2).length := by
      simp
    simp only [hlen, IPA.loopAccV_coeff c δ hm hb hs t2 t1]
    cases hl : IPA.loopAccV comms (t1 ++ (c, LC.LCTerm.poly m) :: t2).length (IPA.LCAccV.init l)
        (t1 ++ (c, LC.LCTerm.poly m) :: t2) with
    | error x => rw [hl] at h1; cases h1
    | ok a =>
      rw [hl] at h1
      have hlab : a.label = l := IPA.loopAccV_label hl
      subst hlab
      exact IPA.construct_shiftComm_single a _ lcC h1
  · have : IPA.adjustEvals [(⟨l, t1 ++ (c + δ, LC.LCTerm.poly m) :: t2⟩ : LC.LinComb F)] evals
        = IPA.adjustEvals [(⟨l, t1 ++ (c, LC.LCTerm.poly m) :: t2⟩ : LC.LinComb F)] evals := by
      rw [IPA.adjustEvals_eq_bump, IPA.adjustEvals_eq_bump]
      apply IPA.bump_congr
      intro k
      have := IPA.termsConstant_poly t1 t2 m
      simp only [IPA.constSum, IPA.lcConstant, this]
    rw [this]
    exact (IPA.bump_zero _).symm

set_option linter.unusedSectionVars false in
/-- **IPA, an underlying evaluation changed**: no polynomial evaluation is transmitted
(`evals: None`); a combination value computed from an evaluation of `m` that is off by `δ` is off by
`δ·Σ{cᵢ : term i names m}`, i.e. it is a changed claimed value (`ipa_lc_value_defect`). -/
theorem ipa_lc_evaluation_shift (lc : LC.LinComb F) (σ : IPA.Label → F) (m : IPA.Label) (δ : F) :
    LC.value lc (fun l => σ l + if l = m then δ else 0)
      = LC.value lc σ + δ * IPA.coeffSum m lc.terms := by
  unfold LC.value
  generalize lc.terms = ts
  induction ts with
  | nil => simp only [LC.termsValue, IPA.coeffSum, mul_zero, add_zero]
  | cons t ts ih =>
    have e : LC.termVal (fun l => σ l + if l = m then δ else 0) t.2
        = LC.termVal σ t.2 + if t.2 = .poly m then δ else 0 := by
      cases t.2 with
      | one => exact (add_zero _).symm
      | poly l => simp only [LC.termVal, LC.LCTerm.poly.injEq]
    simp only [LC.termsValue, IPA.coeffSum, ih, e]
    by_cases hc : t.2 = .poly m
    · rw [if_pos hc, if_pos hc]; ring
    · rw [if_neg hc, if_neg hc]; ring

/-- **IPA, degree-bound policy, one term**: a degree-bounded polynomial in a combination of `k ≠ 1`
terms (constants count) is refused with `EquationHasDegreeBounds`; alone it must carry coefficient
one (assertion); an unknown label is refused with `MissingPolynomial`.  The hypothesis "the
commitment found under the label has a shifted part exactly when the polynomial has a bound" is
needed since D26: the code tests it between the lookup and the policy and refuses a bounded
polynomial whose commitment lacks the shifted part with `InvalidCommitment`
(`ipa_lc_open_malformed_commitment_refused` in `C06_IPAMalformed`). -/
theorem ipa_lc_bound_policy (trips : List (IPA.Trip F)) (k : Nat) (acc : IPA.LCAcc F) (coeff : F)
    (l : IPA.Label) :
    (∀ x, Marlin.lookupLast (fun (t : IPA.Trip F) => t.1.label) l trips = some x →
      x.1.bound.isSome = x.2.2.comm.shifted.isSome → x.1.bound.isSome = true →
      (k ≠ 1 → IPA.lcStepP trips k acc (coeff, .poly l) = .error .equationHasDegreeBounds) ∧
      (k = 1 → coeff ≠ 1 → IPA.lcStepP trips k acc (coeff, .poly l) = .error .abort)) ∧
    (Marlin.lookupLast (fun (t : IPA.Trip F) => t.1.label) l trips = none →
      IPA.lcStepP trips k acc (coeff, .poly l) = .error .missingPolynomial) := by
  rw [IPA.lcStepP_poly (term := (coeff, .poly l)) rfl]
  refine ⟨fun x hl hal hb => ?_, fun hl => by rw [hl]⟩
  rw [hl]
  constructor
  · intro hk
    simp only [IPA.termPolicy, if_neg (not_not.2 hal), if_neg (fun hx : k = 1 ∧ _ => hk hx.1), if_pos hb]
  · intro hk hc
    simp only [IPA.termPolicy, if_neg (not_not.2 hal), if_pos (And.intro hk hb), if_pos hc]

/-- **IPA, mixtures are refused by the prover** with the code's error: all labels known, single
bounded terms with coefficient one (the in-domain side conditions), and some combination mixes a
degree-bounded polynomial with other terms ⇒ `open_combinations = Err(EquationHasDegreeBounds)`,
whatever the query set and the oracles are.  `hwf` — every (polynomial, state, commitment) entry has
a shifted commitment exactly when the polynomial has a degree bound, as for the committer's own
output — is needed since D26: without it a malformed entry named before the mixture (or by the
bounded term itself) ends the call in `InvalidCommitment` instead
(`ipa_lc_open_malformed_commitment_refused`).  The verifier's statement below gets it from `hall`. -/
theorem ipa_lc_mixed_refused_prover (ck : IPA.CK F) (lcs : List (LC.LinComb F))
    (polys : List (IPA.LPoly F)) (comms : List (IPA.LComm F)) (sts : List (IPA.Rand F))
    (qs : List (IPA.Query F)) (ξs ros : List F) (rng : Bool) (draws : List F)
    (hwf : ∀ t ∈ polys.zip (sts.zip comms), t.1.bound.isSome = t.2.2.comm.shifted.isSome)
    (hdom : ∀ lc ∈ lcs, IPA.LCDomain (polys.zip (sts.zip comms)) lc)
    (hex : ∃ lc ∈ lcs, IPA.Mixes (polys.zip (sts.zip comms)) lc) :
    IPA.openCombinations ck lcs polys comms sts qs ξs ros rng draws = .error .equationHasDegreeBounds := by
  unfold IPA.openCombinations
  rw [IPA.combineAllP_mixed _ hwf lcs hdom hex]

/-- **IPA, mixtures are refused by the verifier** with the same error (it reads the bounds off the
labelled commitments): never opened or checked without the bound. -/
theorem ipa_lc_mixed_refused_verifier (ck vk : IPA.CK F) (lcs : List (LC.LinComb F))
    (polys : List (IPA.LPoly F)) (comms : List (IPA.LComm F)) (sts : List (IPA.Rand F))
    (hall : IPA.AllCommitted ck polys comms sts) (hnf : ∀ p ∈ polys, pnorm p.poly = p.poly)
    (qs : List (IPA.Query F)) (evals : List ((IPA.Label × F) × F)) (πs : List (IPA.Proof F))
    (ξs ros rs : List F)
    (hdom : ∀ lc ∈ lcs, IPA.LCDomain (polys.zip (sts.zip comms)) lc)
    (hex : ∃ lc ∈ lcs, IPA.Mixes (polys.zip (sts.zip comms)) lc) :
    IPA.checkCombinations vk lcs comms qs evals πs ξs ros rs = .error .equationHasDegreeBounds := by
  unfold IPA.checkCombinations
  rw [IPA.combineAllV_mirror _ comms (IPA.lookupAgree_of_all hall hnf),
    IPA.combineAllP_mixed _ (IPA.tripsAligned_of_ok (IPA.tripsOK_of_all ck polys comms sts hall hnf)) lcs hdom hex]

/-- **IPA, the verifier's combination loop is the prover's**, refusals included: for honest
commitments `check_combinations` meets exactly the error `open_combinations` meets, or else the same
combined commitments. -/
theorem ipa_lc_verifier_mirrors_prover (ck : IPA.CK F) (polys : List (IPA.LPoly F))
    (comms : List (IPA.LComm F)) (sts : List (IPA.Rand F)) (hall : IPA.AllCommitted ck polys comms sts)
    (hnf : ∀ p ∈ polys, pnorm p.poly = p.poly) (lcs : List (LC.LinComb F))
    (evals : List ((IPA.Label × F) × F)) :
    IPA.combineAllV comms lcs evals
      = match IPA.combineAllP (polys.zip (sts.zip comms)) lcs with
        | .error e => .error e
        | .ok as => .ok (as.map IPA.LCAcc.toV, IPA.adjustEvals lcs evals) :=
  IPA.combineAllV_mirror _ comms (IPA.lookupAgree_of_all hall hnf) lcs evals

/-! non-vacuity over `ZMod 101`: the 4-element key of `C01_IPA`, three committed polynomials
(`p₁` with degree bound 2 and hiding, `p₂` plain, `p₃` hiding); combination `A = 2·p₂ − p₃ + 5 + 0·p₂`
and `B = 1·p₁` (bounded, alone); `A, B` queried at 6 (one point label), `A` at 7 (another).  The
prover answers, the verifier accepts the true values `15, 20, 72`; a changed value, constant or
coefficient is rejected, a constant change together with the values it implies is accepted; mixtures
and unknown labels are refused with the stated errors. -/
namespace ExIPA
def ck : IPA.CK K := ⟨[3, 5, 7, 11], 13, 17, 7⟩
def polys : List (IPA.LPoly K) :=
  [⟨[1], [1, 2, 3], some 2, some 1⟩, ⟨[2], [4, 0, 0, 9], none, none⟩, ⟨[3], [6, 7], none, some 1⟩]
def comms : List (IPA.LComm K) :=
  [⟨[1], ⟨88, some 22⟩, some 2⟩, ⟨[2], ⟨10, none⟩, none⟩, ⟨[3], ⟨40, none⟩, none⟩]
def sts : List (IPA.Rand K) := [⟨21, some 22⟩, ⟨0, none⟩, ⟨23, none⟩]
def lcA (c₀ c₂ : K) : LC.LinComb K := ⟨[65], [(c₀, .poly [2]), (-1, .poly [3]), (c₂, .one), (0, .poly [2])]⟩
def lcs : List (LC.LinComb K) := [lcA 2 5, ⟨[66], [(1, .poly [1])]⟩]
def qs : List (IPA.Query K) := [([65], ([9], 6)), ([66], ([9], 6)), ([65], ([10], 7))]
def ξs : List K := [2, 3, 4, 5, 6, 7, 8, 9, 10, 11]
def ros : List K := [7, 8, 9, 10, 11, 12, 13, 14, 15, 16]
def draws : List K := [31, 32, 33, 34, 35, 36, 37, 38, 39, 40, 41, 42]
def evals (a b c : K) : List ((IPA.Label × K) × K) := [(([65], 6), a), (([65], 7), b), (([66], 6), c)]
def πs : List (IPA.Proof K) :=
  [⟨[85, 8], [26, 16], 96, 47, some 34, some 90⟩, ⟨[11, 13], [7, 33], 45, 82, some 11, some 77⟩]
end ExIPA

open ExIPA in
example : IPA.commit ck polys true [21, 22, 23, 24] = .ok (comms, sts, [24]) := by decide +kernel
open ExIPA in
example : IPA.openCombinations ck lcs polys comms sts qs ξs ros true draws
    = .ok (πs, [10, 11], [15, 16], [41, 42]) := by decide +kernel
open ExIPA in
example : IPA.verifierComms comms lcs
    = .ok [⟨[65], ⟨81, none⟩, none⟩, ⟨[66], ⟨88, some 22⟩, some 2⟩] := by decide +kernel
open ExIPA in
example : IPA.checkCombinations ck lcs comms qs (evals 15 72 20) πs ξs ros [5, 6] = .ok true := by
  decide +kernel
open ExIPA in
example : IPA.checkCombinations ck lcs comms qs (evals 16 72 20) πs ξs ros [5, 6] = .ok false := by
  decide +kernel
open ExIPA in
example : IPA.checkCombinations ck [lcA 2 6, ⟨[66], [(1, .poly [1])]⟩] comms qs (evals 15 72 20) πs ξs ros [5, 6]
    = .ok false := by decide +kernel
open ExIPA in
example : IPA.checkCombinations ck [lcA 2 6, ⟨[66], [(1, .poly [1])]⟩] comms qs (evals 16 73 20) πs ξs ros [5, 6]
    = .ok true := by decide +kernel
open ExIPA in
example : IPA.checkCombinations ck [lcA 3 5, ⟨[66], [(1, .poly [1])]⟩] comms qs (evals 15 72 20) πs ξs ros [5, 6]
    = .ok false := by decide +kernel
open ExIPA in
example : List.Forall₂ IPA.SameShape lcs [lcA 2 6, ⟨[66], [(1, .poly [1])]⟩] := by
  refine .cons ⟨rfl, ?_⟩ (.cons ⟨rfl, ?_⟩ .nil)
  · exact .cons ⟨rfl, by decide +kernel⟩ (.cons ⟨rfl, by decide +kernel⟩ (.cons ⟨rfl, by decide +kernel⟩ (.cons ⟨rfl, by decide +kernel⟩ .nil)))
  · exact .cons ⟨rfl, by decide +kernel⟩ .nil
open ExIPA in
example : IPA.openCombinations ck [⟨[65], [(1, .poly [1]), (5, .one)]⟩] polys comms sts qs ξs ros true draws
    = .error .equationHasDegreeBounds := by decide +kernel
open ExIPA in
example : IPA.checkCombinations ck [⟨[65], [(1, .poly [1]), (5, .one)]⟩] comms qs (evals 15 72 20) πs ξs ros [5, 6]
    = .error .equationHasDegreeBounds := by decide +kernel
open ExIPA in
example : IPA.Mixes (polys.zip (sts.zip comms)) ⟨[65], [(1, .poly [1]), (5, .one)]⟩ :=
  ⟨by decide +kernel, (1, .poly [1]), by simp, [1],
    ((⟨[1], [1, 2, 3], some 2, some 1⟩ : IPA.LPoly K), (⟨21, some 22⟩ : IPA.Rand K),
      (⟨[1], ⟨88, some 22⟩, some 2⟩ : IPA.LComm K)), rfl, by decide +kernel, by decide +kernel⟩
open ExIPA in
example : ∀ t ∈ polys.zip (sts.zip comms), t.1.bound.isSome = t.2.2.comm.shifted.isSome := by decide +kernel
open ExIPA in
example : IPA.openCombinations ck [⟨[65], [(2, .poly [1])]⟩] polys comms sts qs ξs ros true draws
    = .error .abort := by decide +kernel
open ExIPA in
example : IPA.openCombinations ck [⟨[65], [(2, .poly [77])]⟩] polys comms sts qs ξs ros true draws
    = .error .missingPolynomial := by decide +kernel

end PCV.C06
