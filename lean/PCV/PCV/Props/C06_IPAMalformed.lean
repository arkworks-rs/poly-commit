/-
  Property C06 — linear-combination openings prove exactly the stated combinations,
  inner-product-argument scheme, malformed commitments (D26).

  `InnerProductArgPC::open_combinations` / `check_combinations` collect the combined commitments in
  ONE flat vector (one element per combination, two for a single degree-bounded term) that
  `construct_labeled_commitments` reads back by position, one element per unbounded combination.
  A commitment WITHOUT degree bound that carried a stray `shifted_comm = Some(_)` made the term loop
  push a second element: every later combination was paired with the wrong element and
  `check_combinations` accepted a false value for an honestly committed polynomial.  Both term loops
  now refuse a term whose commitment has a shifted part without a degree bound (or a degree bound
  without a shifted part) with `InvalidCommitment`, right after the label lookup
  (`MissingPolynomial`) and before the degree-bound policy.
  Model PCV/Model/IPALC.lean (`lcStepP`, `lcStepV`), lemmas PCV/Proofs/IPALC.lean.
-/
import PCV.Proofs.IPALC
import PCV.Props.Examples

namespace PCV.C06
open PCV
variable {F : Type} [Field F] [DecidableEq F]

/-- **IPA, one term naming a malformed commitment** is refused with `InvalidCommitment` by the
prover's and by the verifier's term loop, whatever the number of terms of the combination and the
coefficient are — the test comes before the degree-bound policy (which would have answered with the
coefficient assertion or `EquationHasDegreeBounds`), and after the label lookup
(`ipa_lc_bound_policy`: an unknown label is `MissingPolynomial`).  The prover compares the
polynomial's degree bound with the shifted part of the commitment found under the same label, the
verifier the commitment's own bound. -/
theorem ipa_lc_malformed_term_refused (trips : List (IPA.Trip F)) (comms : List (IPA.LComm F))
    (k : Nat) (coeff : F) (l : IPA.Label) :
    (∀ (acc : IPA.LCAcc F) x,
      Marlin.lookupLast (fun (t : IPA.Trip F) => t.1.label) l trips = some x →
      x.1.bound.isSome ≠ x.2.2.comm.shifted.isSome →
      IPA.lcStepP trips k acc (coeff, .poly l) = .error .invalidCommitment) ∧
    (∀ (st : IPA.LCAccV F × List ((IPA.Label × F) × F)) c,
      Marlin.lookupLast (fun (c : IPA.LComm F) => c.label) l comms = some c →
      c.bound.isSome ≠ c.comm.shifted.isSome →
      IPA.lcStepV comms k st (coeff, .poly l) = .error .invalidCommitment) :=
  ⟨fun _ _ hl hbad => IPA.lcStepP_malformed rfl hl hbad, fun _ _ hl hbad => IPA.lcStepV_malformed rfl hl hbad⟩

/-- **IPA, `check_combinations` refuses a malformed commitment.** The combinations `pre` pass the
combination loop, the terms `t1` of the next combination pass, and the next term names a commitment
`cm` whose shifted part does not go with its degree bound (`shifted_comm = Some(_)` without bound, or
a bound without `shifted_comm`): the call ends in `Err(InvalidCommitment)` — whatever follows in this
combination and in the combinations `post`, whatever values are claimed and whatever proofs, oracle
outputs and randomizers are presented. -/
theorem ipa_lc_check_malformed_commitment_refused (vk : IPA.VK F) (comms : List (IPA.LComm F))
    (pre post : List (LC.LinComb F)) (l : IPA.Label) (t1 t2 : List (F × LC.LCTerm))
    (coeff : F) (m : IPA.Label) (cm : IPA.LComm F)
    (hm : Marlin.lookupLast (fun (c : IPA.LComm F) => c.label) m comms = some cm)
    (hbad : cm.bound.isSome ≠ cm.comm.shifted.isSome)
    (qs : List (IPA.Query F)) (evals : List ((IPA.Label × F) × F)) (πs : List (IPA.Proof F))
    (ξs ros rs : List F) (as : List (IPA.LCAccV F)) (evals' : List ((IPA.Label × F) × F))
    (hpre : IPA.combineAllV comms pre evals = .ok (as, evals'))
    (st : IPA.LCAccV F × List ((IPA.Label × F) × F))
    (ht1 : IPA.lcLoopV comms (t1 ++ (coeff, .poly m) :: t2).length (IPA.LCAccV.init l, evals') t1 = .ok st) :
    IPA.checkCombinations vk (pre ++ ⟨l, t1 ++ (coeff, .poly m) :: t2⟩ :: post) comms qs evals πs ξs ros rs
      = .error .invalidCommitment := by
  -- the combination loop runs through `pre`, the term loop through `t1`, and the next step is the refusal
  simp only [IPA.checkCombinations, IPA.combineAllV_append, hpre, IPA.combineAllV, IPA.lcLoopV_append, ht1,
    IPA.lcLoopV, IPA.lcStepV_malformed (term := (coeff, .poly m)) rfl hm hbad]

/-- **IPA, `open_combinations` refuses a malformed commitment.** The combinations `pre` pass, the
terms `t1` of the next combination pass, and the next term names an entry of `label_poly_map` whose
commitment has a shifted part although the polynomial has no degree bound (or the reverse): the call
ends in `Err(InvalidCommitment)`, whatever the query set, the oracles and the RNG are. -/
theorem ipa_lc_open_malformed_commitment_refused (ck : IPA.CK F) (polys : List (IPA.LPoly F))
    (comms : List (IPA.LComm F)) (sts : List (IPA.Rand F)) (pre post : List (LC.LinComb F))
    (l : IPA.Label) (t1 t2 : List (F × LC.LCTerm)) (coeff : F) (m : IPA.Label) (x : IPA.Trip F)
    (hm : Marlin.lookupLast (fun (t : IPA.Trip F) => t.1.label) m (polys.zip (sts.zip comms)) = some x)
    (hbad : x.1.bound.isSome ≠ x.2.2.comm.shifted.isSome)
    (as : List (IPA.LCAcc F)) (hpre : IPA.combineAllP (polys.zip (sts.zip comms)) pre = .ok as)
    (a : IPA.LCAcc F)
    (ht1 : IPA.lcLoopP (polys.zip (sts.zip comms)) (t1 ++ (coeff, .poly m) :: t2).length
      (IPA.LCAcc.init l) t1 = .ok a)
    (qs : List (IPA.Query F)) (ξs ros : List F) (rng : Bool) (draws : List F) :
    IPA.openCombinations ck (pre ++ ⟨l, t1 ++ (coeff, .poly m) :: t2⟩ :: post) polys comms sts qs ξs ros
      rng draws = .error .invalidCommitment := by
  -- the combination loop runs through `pre`, the term loop through `t1`, and the next step is the refusal
  simp only [IPA.openCombinations, IPA.combineAllP_append, hpre, IPA.combineAllP, IPA.combineOneP,
    IPA.lcLoopP_append, ht1, IPA.lcLoopP, IPA.lcStepP_malformed (term := (coeff, .poly m)) rfl hm hbad]

/-- **IPA, no decision over a malformed commitment.** If ANY term of ANY combination names a
commitment whose shifted part does not go with its degree bound, `check_combinations` ends in an
error (the first refusal met in the code's order) — it neither accepts nor rejects, for all claimed
values, proofs, oracle outputs and randomizers.  No side condition on the other terms. -/
theorem ipa_lc_check_malformed_commitment_never_decided (vk : IPA.VK F) (lcs : List (LC.LinComb F))
    (comms : List (IPA.LComm F)) (qs : List (IPA.Query F)) (evals : List ((IPA.Label × F) × F))
    (πs : List (IPA.Proof F)) (ξs ros rs : List F)
    (hex : ∃ lc ∈ lcs, ∃ t ∈ lc.terms, IPA.MalformedTermV comms t) :
    ∃ e, IPA.checkCombinations vk lcs comms qs evals πs ξs ros rs = .error e := by
  obtain ⟨lc, hlc, hb⟩ := hex
  obtain ⟨pre, post, rfl⟩ := List.append_of_mem hlc
  unfold IPA.checkCombinations
  rw [IPA.combineAllV_append]
  cases IPA.combineAllV comms pre evals with
  | error e => exact ⟨e, rfl⟩
  | ok x =>
    obtain ⟨e, he⟩ := IPA.lcLoopV_malformed_err comms lc.terms.length lc.terms (IPA.LCAccV.init lc.label, x.2) hb
    exact ⟨e, by simp only [IPA.combineAllV, he]⟩

/-- **IPA, no proof over a malformed commitment**: the prover's counterpart -/
theorem ipa_lc_open_malformed_commitment_never_answered (ck : IPA.CK F) (lcs : List (LC.LinComb F))
    (polys : List (IPA.LPoly F)) (comms : List (IPA.LComm F)) (sts : List (IPA.Rand F))
    (qs : List (IPA.Query F)) (ξs ros : List F) (rng : Bool) (draws : List F)
    (hex : ∃ lc ∈ lcs, ∃ t ∈ lc.terms, IPA.MalformedTermP (polys.zip (sts.zip comms)) t) :
    ∃ e, IPA.openCombinations ck lcs polys comms sts qs ξs ros rng draws = .error e := by
  obtain ⟨lc, hlc, hb⟩ := hex
  obtain ⟨pre, post, rfl⟩ := List.append_of_mem hlc
  unfold IPA.openCombinations
  rw [IPA.combineAllP_append]
  cases IPA.combineAllP (polys.zip (sts.zip comms)) pre with
  | error e => exact ⟨e, rfl⟩
  | ok as =>
    obtain ⟨e, he⟩ := IPA.lcLoopP_malformed_err _ lc.terms.length lc.terms (IPA.LCAcc.init lc.label) hb
    exact ⟨e, by simp only [IPA.combineAllP, IPA.combineOneP, he]⟩

set_option linter.unusedSectionVars false in
/-- **what the refusal prevents.** Without it the per-combination variables `⟨l1, None, c1, Some(s)⟩`
(an unbounded single term whose commitment carries the stray element `s`) and `⟨l2, None, c2, None⟩`
give the flat vector `[c1, s, c2]`; `construct_labeled_commitments` reads one element per unbounded
combination and pairs `l2` with `s` — an element chosen by whoever supplied the commitment — instead
of `c2`. -/
theorem ipa_lc_stray_shifted_would_misalign (l1 l2 : IPA.Label) (c1 s c2 : F) :
    IPA.constructLabeledCommitments
        (IPA.lcInfoV [(⟨l1, none, c1, some s⟩ : IPA.LCAccV F), ⟨l2, none, c2, none⟩])
        (IPA.lcFlatV [(⟨l1, none, c1, some s⟩ : IPA.LCAccV F), ⟨l2, none, c2, none⟩])
      = .ok [⟨l1, ⟨c1, none⟩, none⟩, ⟨l2, ⟨s, none⟩, none⟩] :=
  rfl

/-! non-vacuity over `ZMod 101`: the 4-element key of `C06_IPA`, two unbounded non-hiding polynomials
`p₁ = 1 + 2X + 3X²` (commitment 34) and `p₂ = 4 + 9X³` (commitment 10), the combinations
`lc₁ = 1·p₁` and `lc₂ = 1·p₂`, both queried at 6.  `bad`: `p₁`'s commitment has no degree bound but
carries `shifted = some 22`.  Prover and verifier refuse with `InvalidCommitment`; over the honest
commitments the verifier combines to `[34, 10]`; the accumulation WITHOUT the test would have handed
`batch_check` the commitment `22` under `lc₂`'s label.  `bad'`: a bound without shifted part (before
D26 the index walk of `construct_labeled_commitments` panicked on it). -/
namespace ExIPAMalformed
def ck : IPA.CK K := ⟨[3, 5, 7, 11], 13, 17, 7⟩
def polys : List (IPA.LPoly K) := [⟨[1], [1, 2, 3], none, none⟩, ⟨[2], [4, 0, 0, 9], none, none⟩]
def sts : List (IPA.Rand K) := [⟨0, none⟩, ⟨0, none⟩]
def good : List (IPA.LComm K) := [⟨[1], ⟨34, none⟩, none⟩, ⟨[2], ⟨10, none⟩, none⟩]
def bad : List (IPA.LComm K) := [⟨[1], ⟨34, some 22⟩, none⟩, ⟨[2], ⟨10, none⟩, none⟩]
def bad' : List (IPA.LComm K) := [⟨[1], ⟨34, none⟩, some 2⟩, ⟨[2], ⟨10, none⟩, none⟩]
def lcs : List (LC.LinComb K) := [⟨[65], [(1, .poly [1])]⟩, ⟨[66], [(1, .poly [2])]⟩]
def qs : List (IPA.Query K) := [([65], ([9], 6)), ([66], ([9], 6))]
def evals : List ((IPA.Label × K) × K) := [(([65], 6), 20), (([66], 6), 29)]
def ξs : List K := [2, 3, 4, 5, 6, 7, 8, 9, 10, 11]
def ros : List K := [7, 8, 9, 10, 11, 12, 13, 14, 15, 16]
end ExIPAMalformed

open ExIPAMalformed in
example : IPA.commit ck polys false [] = .ok (good, sts, []) := by decide +kernel
open ExIPAMalformed in
example : IPA.verifierComms good lcs = .ok [⟨[65], ⟨34, none⟩, none⟩, ⟨[66], ⟨10, none⟩, none⟩] := by decide +kernel
open ExIPAMalformed in
example : IPA.checkCombinations ck lcs bad qs evals [] ξs ros [5] = .error .invalidCommitment := by decide +kernel
open ExIPAMalformed in
example : IPA.openCombinations ck lcs polys bad sts qs ξs ros false [] = .error .invalidCommitment := by
  decide +kernel
open ExIPAMalformed in
example : IPA.checkCombinations ck lcs bad' qs evals [] ξs ros [5] = .error .invalidCommitment := by decide +kernel
/-- the hypotheses of `ipa_lc_check_malformed_commitment_refused` on `bad` (`pre = []`, `t1 = []`) -/
example : Marlin.lookupLast (fun (c : IPA.LComm K) => c.label) [1] ExIPAMalformed.bad
      = some ⟨[1], ⟨34, some 22⟩, none⟩ ∧
    (⟨[1], ⟨34, some 22⟩, none⟩ : IPA.LComm K).bound.isSome
      ≠ (⟨[1], ⟨34, some 22⟩, none⟩ : IPA.LComm K).comm.shifted.isSome ∧
    IPA.combineAllV ExIPAMalformed.bad [] ExIPAMalformed.evals = .ok ([], ExIPAMalformed.evals) ∧
    IPA.lcLoopV ExIPAMalformed.bad 1 (IPA.LCAccV.init [65], ExIPAMalformed.evals) []
      = .ok (IPA.LCAccV.init [65], ExIPAMalformed.evals) := ⟨by decide +kernel, by decide +kernel, rfl, rfl⟩
/-- … and of `ipa_lc_open_malformed_commitment_refused` -/
example : Marlin.lookupLast (fun (t : IPA.Trip K) => t.1.label) [1]
        (ExIPAMalformed.polys.zip (ExIPAMalformed.sts.zip ExIPAMalformed.bad))
      = some (⟨[1], [1, 2, 3], none, none⟩, ⟨0, none⟩, ⟨[1], ⟨34, some 22⟩, none⟩) ∧
    IPA.combineAllP (ExIPAMalformed.polys.zip (ExIPAMalformed.sts.zip ExIPAMalformed.bad)) [] = .ok [] := by
  decide +kernel
/-- … and of the two `never` statements: the malformed commitment is named by the SECOND combination -/
example : ∃ lc ∈ [(⟨[66], [(1, .poly [2])]⟩ : LC.LinComb K), ⟨[65], [(1, .poly [1])]⟩],
    ∃ t ∈ lc.terms, IPA.MalformedTermV ExIPAMalformed.bad t :=
  ⟨⟨[65], [(1, .poly [1])]⟩, by simp, (1, .poly [1]), by simp, [1], ⟨[1], ⟨34, some 22⟩, none⟩, rfl,
    by decide +kernel, by decide +kernel⟩
open ExIPAMalformed in
example : IPA.checkCombinations ck [⟨[66], [(1, .poly [2])]⟩, ⟨[65], [(1, .poly [1])]⟩] bad qs evals [] ξs ros [5]
    = .error .invalidCommitment := by decide +kernel
/-- the accumulation of the two term loops without the test: `lc₂` is paired with the stray `22` -/
example : IPA.constructLabeledCommitments
      (IPA.lcInfoV [(IPA.LCAccV.init [65] : IPA.LCAccV K).addTerm 1 ⟨[1], ⟨34, some 22⟩, none⟩,
        (IPA.LCAccV.init [66]).addTerm 1 ⟨[2], ⟨10, none⟩, none⟩])
      (IPA.lcFlatV [(IPA.LCAccV.init [65] : IPA.LCAccV K).addTerm 1 ⟨[1], ⟨34, some 22⟩, none⟩,
        (IPA.LCAccV.init [66]).addTerm 1 ⟨[2], ⟨10, none⟩, none⟩])
    = .ok [⟨[65], ⟨34, none⟩, none⟩, ⟨[66], ⟨22, none⟩, none⟩] := by decide +kernel

end PCV.C06
