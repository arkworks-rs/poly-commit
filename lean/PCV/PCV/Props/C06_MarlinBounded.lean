/-
  Property C06 (MarlinKZG10, degree bounds) — `open_combinations` followed by `check_combinations` when
  the committed polynomials may carry degree bounds.  The code allows a degree-bounded polynomial in a
  combination in exactly one way: alone, with coefficient one (the combination then keeps the bound and
  the shifted commitment); every other combination naming a bounded polynomial is refused
  (`C06.marlin_lc_bound_policy`).  `C06.marlin_lc_complete` covers lists of unbounded polynomials only;
  here every allowed mixture is covered.
-/
import PCV.Props.C06_MarlinComplete
set_option linter.unusedVariables false

namespace PCV.C06
open PCV Marlin
variable {F : Type} [Field F] [DecidableEq F]

/-- **Combination openings are complete, degree bounds included.**  Keys as `trim` makes them; ANY
honest triples — unbounded or degree-bounded (bounds the keys enforce: the prover's success says so),
hiding or not; ANY list of combinations with pairwise distinct labels in which every combination is
EITHER a combination of unbounded polynomials (`LCUnbounded`: arbitrary coefficients, repeated labels,
constant terms) OR the single term `1 · p` (`LCSingle`: `p` degree-bounded or not, hiding or not); ANY
query list; claimed values = polynomial part + constants.  Then whatever `open_combinations` returns is
accepted by `check_combinations`, for every list of verifier randomizers.
`hnd` is the side condition of `C01.marlin_batch_complete` (`GroupsND`, DESIGN §11.2), stated on the
combined polynomials and states that `open_combinations` hands to `batch_open`; it only concerns
bounded HIDING polynomials and is vacuous otherwise (`marlin_lc_bounded_complete_noshift`). -/
theorem marlin_lc_bounded_complete {ck : CK F} {vk : VK F} {g γ β h : F} {D n m : Nat}
    (hwf : WF ck vk g γ β h D n m) (l : List (Trip' F))
    (hH : ∀ t ∈ l, Honest g γ β D t) (hL : ∀ t ∈ l, RandLen m t)
    (hlab : ∀ t ∈ l, t.2.2.label = t.1.label)
    (lcs : List (LC.LinComb F)) (hnodup : (lcs.map (·.label)).Nodup)
    (hadm : ∀ lc ∈ lcs, LCUnbounded l lc ∨ LCSingle lc)
    (qs : List (Query F)) (evals : List ((Label × F) × F))
    (hev : ∀ gr ∈ groupQueries qs, ∀ lc ∈ lcs, lc.label ∈ gr.2.2 →
      lookupEval evals lc.label gr.2.1
        = some (lcPolyValue l gr.2.1 lc.terms + lcConstant lc))
    (ξs : List F) (πs : List (KZG.Proof F)) (rest : List F)
    (ho : openCombinations ck (l.map (·.1)) (l.map (·.2.1)) (l.map (·.2.2)) lcs qs ξs = .ok (πs, rest))
    (hnd : ∀ ts, combineAll l lcs = .ok ts →
      GroupsND ck (ts.map (·.1)) (ts.map (·.2.1)) (groupQueries qs) ξs)
    (rs : List F) :
    checkCombinations vk (l.map (·.2.2)) lcs qs evals πs ξs rs = .ok true :=
  checkCombinations_of_accept (lc_accept hwf hH hL hlab hnodup hev ho hnd) rs

/-- **The two shapes are exactly what the code allows.**  A combination the prover combines is a
combination of unbounded polynomials or the single term `1 · p`; conversely such a combination whose
labels are all known is combined — no `EquationHasDegreeBounds`, no failed assertion. -/
theorem marlin_lc_allowed_iff (trips : List (Trip' F)) (lc : LC.LinComb F)
    (hknown : ∀ t ∈ lc.terms, ∀ lab, t.2 = .poly lab →
      (lookupLast (fun (t : Trip' F) => t.1.label) lab trips).isSome = true) :
    (∃ res, combineLC trips lc = .ok res) ↔ (LCUnbounded trips lc ∨ LCSingle lc) :=
  ⟨fun ⟨_, h⟩ => combineLC_ok_allowed h, fun h => combineLC_allowed_ok h hknown⟩

/-- hence the shape hypothesis of `marlin_lc_bounded_complete` follows from the prover's success: for
ANY list of combinations over honest triples, an `open_combinations` that returns is accepted -/
theorem marlin_lc_bounded_complete_any {ck : CK F} {vk : VK F} {g γ β h : F} {D n m : Nat}
    (hwf : WF ck vk g γ β h D n m) (l : List (Trip' F))
    (hH : ∀ t ∈ l, Honest g γ β D t) (hL : ∀ t ∈ l, RandLen m t)
    (hlab : ∀ t ∈ l, t.2.2.label = t.1.label)
    (lcs : List (LC.LinComb F)) (hnodup : (lcs.map (·.label)).Nodup)
    (qs : List (Query F)) (evals : List ((Label × F) × F))
    (hev : ∀ gr ∈ groupQueries qs, ∀ lc ∈ lcs, lc.label ∈ gr.2.2 →
      lookupEval evals lc.label gr.2.1
        = some (lcPolyValue l gr.2.1 lc.terms + lcConstant lc))
    (ξs : List F) (πs : List (KZG.Proof F)) (rest : List F)
    (ho : openCombinations ck (l.map (·.1)) (l.map (·.2.1)) (l.map (·.2.2)) lcs qs ξs = .ok (πs, rest))
    (hnd : ∀ ts, combineAll l lcs = .ok ts →
      GroupsND ck (ts.map (·.1)) (ts.map (·.2.1)) (groupQueries qs) ξs)
    (rs : List F) :
    checkCombinations vk (l.map (·.2.2)) lcs qs evals πs ξs rs = .ok true :=
  checkCombinations_of_accept (lc_accept hwf hH hL hlab hnodup hev ho hnd) rs

/-- without shifted blinding — every degree-bounded polynomial committed without a hiding bound (the
unbounded ones may hide) — there is no side condition at all -/
theorem marlin_lc_bounded_complete_noshift {ck : CK F} {vk : VK F} {g γ β h : F} {D n m : Nat}
    (hwf : WF ck vk g γ β h D n m) (l : List (Trip' F))
    (hH : ∀ t ∈ l, Honest g γ β D t) (hL : ∀ t ∈ l, RandLen m t)
    (hN : ∀ t ∈ l, ∀ rs, t.2.1.shifted = some rs → rs = [])
    (hlab : ∀ t ∈ l, t.2.2.label = t.1.label)
    (lcs : List (LC.LinComb F)) (hnodup : (lcs.map (·.label)).Nodup)
    (hadm : ∀ lc ∈ lcs, LCUnbounded l lc ∨ LCSingle lc)
    (qs : List (Query F)) (evals : List ((Label × F) × F))
    (hev : ∀ gr ∈ groupQueries qs, ∀ lc ∈ lcs, lc.label ∈ gr.2.2 →
      lookupEval evals lc.label gr.2.1
        = some (lcPolyValue l gr.2.1 lc.terms + lcConstant lc))
    (ξs : List F) (πs : List (KZG.Proof F)) (rest : List F)
    (ho : openCombinations ck (l.map (·.1)) (l.map (·.2.1)) (l.map (·.2.2)) lcs qs ξs = .ok (πs, rest))
    (rs : List F) :
    checkCombinations vk (l.map (·.2.2)) lcs qs evals πs ξs rs = .ok true :=
  checkCombinations_of_accept (lc_accept hwf hH hL hlab hnodup hev ho (lc_groupsND_of_shnil hN)) rs

/-- **Lock-step form** (what a history of operations on one sponge needs, cf. `Props/C11_MarlinHistory`):
the verifier combines the prover's commitments, `combine_and_normalize` leaves exactly the prover's
remaining challenge stream, and every per-point KZG defect is zero. -/
theorem marlin_lc_bounded_lockstep {ck : CK F} {vk : VK F} {g γ β h : F} {D n m : Nat}
    (hwf : WF ck vk g γ β h D n m) (l : List (Trip' F))
    (hH : ∀ t ∈ l, Honest g γ β D t) (hL : ∀ t ∈ l, RandLen m t)
    (hlab : ∀ t ∈ l, t.2.2.label = t.1.label)
    (lcs : List (LC.LinComb F)) (hnodup : (lcs.map (·.label)).Nodup)
    (hadm : ∀ lc ∈ lcs, LCUnbounded l lc ∨ LCSingle lc)
    (qs : List (Query F)) (evals : List ((Label × F) × F))
    (hev : ∀ gr ∈ groupQueries qs, ∀ lc ∈ lcs, lc.label ∈ gr.2.2 →
      lookupEval evals lc.label gr.2.1
        = some (lcPolyValue l gr.2.1 lc.terms + lcConstant lc))
    (ξs : List F) (πs : List (KZG.Proof F)) (rest : List F)
    (ho : openCombinations ck (l.map (·.1)) (l.map (·.2.1)) (l.map (·.2.2)) lcs qs ξs = .ok (πs, rest))
    (hnd : ∀ ts, combineAll l lcs = .ok ts →
      GroupsND ck (ts.map (·.1)) (ts.map (·.2.1)) (groupQueries qs) ξs) :
    ∃ lcComms, combineAllComm (l.map (·.2.2)) lcs = .ok lcComms ∧
      ∃ trip, combineGroups vk lcComms (adjustEvals lcs evals) (groupQueries qs) ξs = .ok (trip, rest) ∧
        πs.length = trip.length ∧
        ∀ d ∈ KZG.defects vk.vk (trip.map (·.1)) (trip.map (·.2.1)) (trip.map (·.2.2)) πs, d = 0 :=
  lc_accept hwf hH hL hlab hnodup hev ho hnd

/-! non-vacuity over `ZMod 101` (keys `C01.exCK`/`C01.exVK`: `g = 3`, `γ = 5`, `β = 2`, `D = 3`, enforced
bound 2): the bounded HIDING polynomial `p = 1 + 2X + 3X²` of `C01.exPoly` with the state and commitment
`commitOne` gives it, next to the two unbounded polynomials of `C01.exBatch`; the combinations
`a = 2·p₁ − p₂` (unbounded, two terms) and `c = 1·p` (bounded, alone), `a` queried at one point, `c` at
two -/
def exBTrips : List (Trip' K) :=
  (C01.exPoly, ⟨[7, 8, 9], some [4, 5, 6]⟩, ⟨[112], ⟨43, some 90⟩, some 2⟩) :: C01.exBatch
def exBLCs : List (LC.LinComb K) :=
  [⟨[108, 97], [(2, .poly [97]), (-1, .poly [98])]⟩,
   ⟨[108, 99], [(1, .poly [112])]⟩]
def exBQueries : List (Query K) :=
  [([108, 97], ([112, 48], 5)), ([108, 99], ([112, 48], 5)), ([108, 99], ([112, 49], 9))]
def exBEvals : List ((Label × K) × K) :=
  [(([108, 97], 5), 2 * evalPoly [1, 2, 3] 5 - evalPoly [4, 0, 1] 5),
   (([108, 99], 5), evalPoly [1, 2, 3] 5),
   (([108, 99], 9), evalPoly [1, 2, 3] 9)]
/-- the shape hypothesis holds: `a` names unbounded polynomials only, `c` is a single term `1 · p` -/
example : ∀ lc ∈ exBLCs, LCUnbounded exBTrips lc ∨ LCSingle lc := by decide +kernel
/-- the combined triples: `c` keeps the bound, the shifted commitment and the shifted blinding of `p` -/
example : combineAll exBTrips exBLCs
    = .ok [(⟨[108, 97], [99, 4, 5], none, none⟩, ⟨[], none⟩, ⟨[108, 97], ⟨78, none⟩, none⟩),
           (⟨[108, 99], [1, 2, 3], some 2, some 1⟩, ⟨[7, 8, 9], some [4, 5, 6]⟩,
            ⟨[108, 99], ⟨43, some 90⟩, some 2⟩)] := by decide +kernel
example : openCombinations C01.exCK (exBTrips.map (·.1)) (exBTrips.map (·.2.1)) (exBTrips.map (·.2.2))
    exBLCs exBQueries [11, 13, 17, 19, 23, 31] = .ok ([⟨10, some 14⟩, ⟨6, some 84⟩], [31]) := by decide +kernel
example : checkCombinations C01.exVK (exBTrips.map (·.2.2)) exBLCs exBQueries exBEvals
    [⟨10, some 14⟩, ⟨6, some 84⟩] [11, 13, 17, 19, 23, 31] [29] = .ok true := by decide +kernel
/-- a wrong claimed value of the bounded combination at its second point is not accepted -/
example : checkCombinations C01.exVK (exBTrips.map (·.2.2)) exBLCs exBQueries
    (exBEvals.map fun e => if e.1 = ([108, 99], 9) then (e.1, e.2 + 1) else e)
    [⟨10, some 14⟩, ⟨6, some 84⟩] [11, 13, 17, 19, 23, 31] [29] = .ok false := by decide +kernel
/-- and the other uses of the bounded polynomial are refused on both sides: with a second term … -/
example : openCombinations C01.exCK (exBTrips.map (·.1)) (exBTrips.map (·.2.1)) (exBTrips.map (·.2.2))
    [⟨[108, 99], [(1, .poly [112]), (1, .poly [97])]⟩] exBQueries [11, 13, 17, 19, 23, 31]
    = .error .equationHasDegreeBounds := by decide +kernel
example : checkCombinations C01.exVK (exBTrips.map (·.2.2))
    [⟨[108, 99], [(1, .poly [112]), (3, .one)]⟩] exBQueries exBEvals
    [⟨10, some 14⟩, ⟨6, some 84⟩] [11, 13, 17, 19, 23, 31] [29] = .error .equationHasDegreeBounds := by decide +kernel
/-- … and alone with a coefficient other than one (the assertion) -/
example : openCombinations C01.exCK (exBTrips.map (·.1)) (exBTrips.map (·.2.1)) (exBTrips.map (·.2.2))
    [⟨[108, 99], [(2, .poly [112])]⟩] exBQueries [11, 13, 17, 19, 23, 31] = .error .abort := by decide +kernel

end PCV.C06
