/-
  Property C06 (MarlinKZG10) — end to end: `open_combinations` followed by `check_combinations` over an
  arbitrary list of labelled linear combinations and an arbitrary query list is accepted for the true
  combination values.  (Per-combination laws: `Props/C06.lean`.)
-/
import PCV.Proofs.MarlinLCComplete
import PCV.Proofs.MarlinLCShift
import PCV.Props.C01_MarlinBatch

namespace PCV.C06
open PCV Marlin
variable {F : Type} [Field F] [DecidableEq F]

/-- **Combination openings are complete.**  Keys as `trim` makes them; any honest unbounded triples;
ANY list of combinations with pairwise distinct labels — arbitrary coefficients (zero, negative),
repeated polynomial labels, constant terms, unknown labels excluded by the success of the prover;
ANY query list over the combination labels (several equations per point, one equation at several
points, point labels sharing a point value); claimed values = polynomial part + constants.  Then
whatever `open_combinations` returns is accepted by `check_combinations` for every list of verifier
randomizers — hiding or not: combinations of unbounded polynomials carry no shifted blinding, so the
side condition of `C01.marlin_batch_complete` is vacuous here.  A degree-bounded polynomial
can only appear alone with coefficient one (`marlin_lc_bound_policy`); that combination is the
polynomial itself and `C01.marlin_batch_complete` covers it. -/
theorem marlin_lc_complete {ck : CK F} {vk : VK F} {g γ β h : F} {D n m : Nat}
    (hwf : WF ck vk g γ β h D n m) (l : List (Trip' F))
    (hH : ∀ t ∈ l, Honest g γ β D t ∧ t.1.bound = none) (hL : ∀ t ∈ l, RandLen m t)
    (hlab : ∀ t ∈ l, t.2.2.label = t.1.label)
    (lcs : List (LC.LinComb F)) (hnodup : (lcs.map (·.label)).Nodup)
    (qs : List (Query F)) (evals : List ((Label × F) × F))
    (hev : ∀ gr ∈ groupQueries qs, ∀ lc ∈ lcs, lc.label ∈ gr.2.2 →
      lookupEval evals lc.label gr.2.1
        = some (lcPolyValue l gr.2.1 lc.terms + lcConstant lc))
    (ξs : List F) (πs : List (KZG.Proof F)) (rest : List F)
    (ho : openCombinations ck (l.map (·.1)) (l.map (·.2.1)) (l.map (·.2.2)) lcs qs ξs = .ok (πs, rest))
    (rs : List F) :
    checkCombinations vk (l.map (·.2.2)) lcs qs evals πs ξs rs = .ok true :=
  checkCombinations_of_accept
    (lc_accept hwf (fun t ht => (hH t ht).1) hL hlab hnodup hev ho (lc_groupsND_of_unbounded hH)) rs

set_option linter.unusedVariables false in
/-- the claimed value in `marlin_lc_complete` is the value of the `LinearCombination` under the
assignment "label ↦ evaluation of the committed polynomial" whenever every label it names is known -/
theorem marlin_lc_claimed_value (trips : List (Trip' F)) (z : F) (lc : LC.LinComb F)
    (hall : ∀ t ∈ lc.terms, ∀ l, t.2 = .poly l →
      (lookupLast (fun (t : Trip' F) => t.1.label) l trips).isSome) :
    lcPolyValue trips z lc.terms + lcConstant lc = LC.value lc (evalAssign trips z) :=
  (lc_value_split trips z lc).symm

/-- **A changed claimed value — anywhere, any number of them — is not accepted** except on the explicit
exceptional set: from an accepted combination opening, the claimed values shifted by ANY function `δ`
of (equation label, point) are accepted iff `h · Σₖ ρₖ · ⟨κₖ, dsₖ⟩ = 0` (point labels `k`, verifier
randomizers `ρₖ`, challenge weights `κₖ`, shifts `dsₖ` of the equations queried under label `k`).  A
changed coefficient, constant term or underlying evaluation changes the TRUE value of the equation, i.e.
it is a shift of the claimed value relative to the truth (`marlin_lc_claimed_value`), so all four kinds of
change of the property are instances. -/
theorem marlin_lc_values_iff (vk : VK F) (comms : List (LComm F)) (lcs : List (LC.LinComb F))
    (qs : List (Query F)) (evals : List ((Label × F) × F)) (δ : Label × F → F)
    (πs : List (KZG.Proof F)) (ξs rs : List F) (lcComms : List (LComm F))
    (trip : List (F × F × F)) (rest : List F)
    (hcc : combineAllComm comms lcs = .ok lcComms)
    (hc : combineGroups vk lcComms (adjustEvals lcs evals) (groupQueries qs) ξs = .ok (trip, rest))
    (hlen : πs.length = trip.length)
    (hacc : checkCombinations vk comms lcs qs evals πs ξs rs = .ok true) :
    checkCombinations vk comms lcs qs (shiftEvals δ evals) πs ξs rs = .ok true ↔
      vk.vk.h * KZG.wsum 1 rs
        (groupShifts vk lcComms (adjustEvals lcs evals) δ (groupQueries qs) ξs) = 0 := by
  unfold checkCombinations at hacc ⊢
  rw [hcc] at hacc ⊢
  rw [adjust_shift_comm]
  exact batchCheck_shift_iff vk lcComms qs (adjustEvals lcs evals) δ πs ξs rs trip rest hc hlen hacc

/-! non-vacuity over `ZMod 101`: the two polynomials of `C01.exBatch`, the combinations
`a = 2·p₁ − p₂ + 5` and `b = 0·p₁ + p₂`, `a` queried at two points, `b` at one of them -/
def exLCs : List (LC.LinComb K) :=
  [⟨[108, 97], [(2, .poly [97]), (-1, .poly [98]), (5, .one)]⟩,
   ⟨[108, 98], [(0, .poly [97]), (1, .poly [98])]⟩]
def exLCQueries : List (Query K) :=
  [([108, 97], ([112, 48], 5)), ([108, 98], ([112, 48], 5)), ([108, 97], ([112, 49], 9))]
def exLCEvals : List ((Label × K) × K) :=
  [(([108, 97], 5), 2 * evalPoly [1, 2, 3] 5 - evalPoly [4, 0, 1] 5 + 5),
   (([108, 98], 5), evalPoly [4, 0, 1] 5),
   (([108, 97], 9), 2 * evalPoly [1, 2, 3] 9 - evalPoly [4, 0, 1] 9 + 5)]
def exLCProofs : List (KZG.Proof K) :=
  match openCombinations C01.exCK (C01.exBatch.map (·.1)) (C01.exBatch.map (·.2.1))
      (C01.exBatch.map (·.2.2)) exLCs exLCQueries [11, 13, 17, 19] with
  | .ok (πs, _) => πs
  | .error _ => []
example : exLCProofs.length = 2 := by decide +kernel
example : checkCombinations C01.exVK (C01.exBatch.map (·.2.2)) exLCs exLCQueries exLCEvals exLCProofs
    [11, 13, 17, 19] [29] = .ok true := by decide +kernel
/-- and a wrong claimed value at the second point of `a` is not accepted -/
example : checkCombinations C01.exVK (C01.exBatch.map (·.2.2)) exLCs exLCQueries
    (exLCEvals.map fun e => if e.1 = ([108, 97], 9) then (e.1, e.2 + 1) else e) exLCProofs
    [11, 13, 17, 19] [29] = .ok false := by decide +kernel

end PCV.C06
