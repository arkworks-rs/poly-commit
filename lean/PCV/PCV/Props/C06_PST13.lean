/-
  Property C06 — linear-combination openings prove exactly the stated combinations: MarlinPST13.
  `MarlinPST13::open_combinations` / `check_combinations` are `Marlin::open_combinations` /
  `Marlin::check_combinations` (`poly-commit/src/marlin/mod.rs`) with the trait-default `batch_open`
  and `MarlinPST13::batch_check` underneath (`PCV/Model/PST13LC.lean`; lemmas in
  `PCV/Proofs/PST13LC.lean`, `PCV/Proofs/PST13LCGeneral.lean`).

  A PST13 combination proof carries no polynomial evaluations (`BatchLCProof.evals = None`): the
  verifier forms `Σ coeff·C_label` itself, so the "transmitted evaluation" clause of the property has
  no counterpart here; the claims a verifier can be given wrongly are the value, a coefficient and a
  constant — each moves the pairing defect by the amount stated in `pst13_lc_defect_shift`.
  General (any number of combinations / point labels): completeness `pst13_lc_complete`, the
  refusals, the policy, and the randomizer-weighted form of the batch decision; the explicit
  rejection corollaries are proved for one combination under one point label (`…_partial`).
-/
import PCV.Proofs.PST13LCGeneral
import PCV.Proofs.Combinations
import PCV.Props.Examples

namespace PCV.C06
open PCV PCV.MV PCV.C15Spec
variable {F : Type} [Field F] [DecidableEq F]

/-! ### a combination of honest commitments is an honest commitment -/

/-- **PST13: the prover's combination.** Triples (polynomial, state, commitment) as `commit` makes
them under the key of the trapdoor `β⃗` (`PST.HonestT`: `C = g·p(β⃗) + γ·r(β⃗)`, no bound); an
arbitrary combination — zero and negative coefficients, repeated labels, constants (which the
prover skips): the combined triple is again honest, carries the combination's label, and its
polynomial evaluates everywhere to `Σ coeff·p_label(z)`. -/
theorem pst13_lc_honest {g γ : F} {β : List F} {nv : Nat} (trips : List (PST.Trip F))
    (hh : ∀ t ∈ trips, PST.HonestT g γ β nv t) (lc : LC.LinComb F) (res : PST.Trip F)
    (hc : PST.combineLC trips lc = .ok res) :
    PST.HonestT g γ β nv res ∧ res.1.label = lc.label ∧
      ∀ z, evalMV res.1.poly z = PST.lcPolyValue trips z lc.terms :=
  PST.combineLC_honest hh hc

/-- **The value a verifier must be given is `LinearCombination`'s own value**: with pairwise
distinct combination labels, `PST.lcValueAt` (polynomial part + constants) of the combination `lc`
is `LC.value lc` under "label ↦ evaluation of that polynomial at `z`". -/
theorem pst13_lc_value (trips : List (PST.Trip F)) (lcs : List (LC.LinComb F))
    (hnd : (lcs.map (·.label)).Nodup) (lc : LC.LinComb F) (hmem : lc ∈ lcs) (z : List F) :
    PST.lcValueAt trips lcs lc.label z = LC.value lc (fun l => PST.polyValueAt trips l z) := by
  unfold PST.lcValueAt PST.polyPartAt LC.value
  rw [Marlin.lookupLast_of_nodup (·.label) hnd hmem, PST.constFor_of_nodup hnd hmem,
    PST.lc_value_split]

/-! ### honest combination proofs are accepted -/

/-- **PST13: completeness of combination proofs, any number of combinations, point labels and
points.**  Key well-formed for an arbitrary trapdoor; polynomials / states / commitments as `commit`
makes them; ANY list of combinations; ANY query set over combination labels (several combinations
per point label, point labels sharing a point value); evaluations holding, for every
(combination, point) that a point-label group asks for, the true value
`Σ coeff·p(z) + constants`: whenever `open_combinations` answers, `check_combinations` accepts, for
every list of verifier randomizers. -/
theorem pst13_lc_complete (g γ h : F) (β : List F) (ts : List Term) (nv s D m : Nat)
    (polys : List (PST.LPoly F)) (sts : List (PST.Rand F)) (comms : List (PST.LComm F))
    (hl1 : polys.length = sts.length) (hl2 : sts.length = comms.length)
    (hh : ∀ t ∈ polys.zip (sts.zip comms), PST.HonestT g γ β nv t)
    (lcs : List (LC.LinComb F)) (qs : List (PST.Query F)) (evals : PST.Evals F) (ξs rs : List F)
    (πs : List (PST.Proof F)) (rest : List F)
    (hβ : nv ≤ β.length) (hz : ∀ gr ∈ PST.groupQueries qs, nv ≤ gr.2.1.length)
    (hev : ∀ gr ∈ PST.groupQueries qs, ∀ l ∈ gr.2.2,
      PST.lookupEval evals l gr.2.1
        = some (PST.lcValueAt (polys.zip (sts.zip comms)) lcs l gr.2.1))
    (ho : PST.openCombinations (PST.wfCK g γ β ts nv s D m) polys sts comms lcs qs ξs
      = .ok (πs, rest)) :
    PST.checkCombinations (PST.wfVK g γ h β nv s D) comms lcs qs evals πs ξs rs = .ok true := by
  unfold PST.openCombinations at ho
  split at ho
  · cases ho
  · rename_i lts hcomb
    -- the combined triples are honest, the verifier forms their commitments, and the adjusted
    -- evaluations are their true values: batch completeness applies to them
    have hF := PST.combineAll_honest hh hcomb
    have hV := PST.combineAll_V (fun t ht => ⟨(hh t ht).clabel, by
      rw [(hh t ht).cbound, (hh t ht).pbound]⟩) lcs
    rw [hcomb, PST.zip3_map_comm hl1 hl2] at hV
    unfold PST.checkCombinations
    rw [hV]
    refine PST.batch_complete h ((List.forall₂_and_left _ _).1 hF).1 rs hβ hz
      (fun gr hgr l hl => ?_) ho
    rw [PST.lookupEval_adjustEvals, hev gr hgr l hl, PST.polyValueAt_combined hF]
    exact congrArg some (add_sub_cancel_right _ _)

/-- **Batch completeness from the query set** (`batch_open` / `batch_check`, what combination
proofs reduce to): honest triples, any query set, true values ⇒ accepted. -/
theorem pst13_batch_complete (g γ h : F) (β : List F) (ts : List Term) (nv s D m : Nat)
    (trips : List (PST.Trip F)) (hh : ∀ t ∈ trips, PST.HonestT g γ β nv t) (evals : PST.Evals F)
    (qs : List (PST.Query F)) (ξs rs : List F) (πs : List (PST.Proof F)) (rest : List F)
    (hβ : nv ≤ β.length) (hz : ∀ gr ∈ PST.groupQueries qs, nv ≤ gr.2.1.length)
    (hev : ∀ gr ∈ PST.groupQueries qs, ∀ l ∈ gr.2.2,
      PST.lookupEval evals l gr.2.1 = some (PST.polyValueAt trips l gr.2.1))
    (ho : PST.batchOpen (PST.wfCK g γ β ts nv s D m) trips qs ξs = .ok (πs, rest)) :
    PST.batchCheckQ (PST.wfVK g γ h β nv s D) (trips.map (·.2.2)) qs evals πs ξs rs = .ok true :=
  PST.batch_complete h hh rs hβ hz hev ho

/-- **The verifier combines exactly the commitments the prover combined** (same policy decisions,
same refusals), whenever commitment and polynomial agree on label and degree bound. -/
theorem pst13_lc_same_commitments (trips : List (PST.Trip F))
    (hc : ∀ t ∈ trips, t.2.2.label = t.1.label ∧ t.2.2.bound = t.1.bound)
    (lcs : List (LC.LinComb F)) (ts : List (PST.Trip F)) (h : PST.combineAll trips lcs = .ok ts) :
    PST.combineAllComm (trips.map (·.2.2)) lcs = .ok (ts.map (·.2.2)) := by
  rw [PST.combineAll_V hc, h]
  rfl

/-- **The constants are subtracted from the claimed values**: after the verifier's adjustment the
evaluation stored for `(l, z)` is the claimed one minus the constants of every combination
labelled `l`. -/
theorem pst13_lc_adjusted_value (lcs : List (LC.LinComb F)) (evals : PST.Evals F) (l : PST.Label)
    (z : List F) :
    PST.lookupEval (PST.adjustEvals lcs evals) l z
      = (PST.lookupEval evals l z).map (fun v => v - PST.constFor lcs l) :=
  PST.lookupEval_adjustEvals lcs evals l z

/-! ### the verifier's decision in closed form, and what a changed statement does to it -/

/-- **What `check_combinations` computes on one combination claim** `(lc, z, v)`.
(`_partial`: stated for ONE combination queried under ONE point label.  For several combinations
and point labels the pairing product is the randomizer-weighted sum of such per-point defects —
`pst13_lc_batch_defect_shift` below and `C05.pst13_batch_defect` — but the closed form of each
per-point `(C, V)` in terms of the individual coefficients / constants / values, with the challenge
of each position, is not stated in general.)  Arbitrary
(unbounded) commitments, arbitrary verifier key, any proof with one witness per key variable: the
pairing product is
`lcDefect = ((Σ coeff·C_label − (v − constants)·g)·ξ − rv·γ)·h − Σᵢ Wᵢ·(βᵢh − zᵢ·h)`
and the answer is whether it vanishes. -/
theorem pst13_lc_check_closed_partial (vk : PST.VK F) (comms : List (PST.LComm F))
    (hcb : ∀ c ∈ comms, c.bound = none ∧ c.comm.shifted = none) (lc : LC.LinComb F)
    (hk : PST.AllKnown comms lc.terms) (pl : PST.Label) (z : List F) (v : F) (π : PST.Proof F)
    (ξ : F) (ξs rs : List F) (hw : π.w.length = vk.numVars) (hbh : vk.numVars ≤ vk.betaH.length)
    (hz : vk.numVars ≤ z.length) :
    PST.checkCombinationsDefect vk comms [lc] [(lc.label, (pl, z))] [((lc.label, z), v)] [π]
        (ξ :: ξs) rs = .ok (PST.lcDefect vk comms lc z v π ξ)
      ∧ PST.checkCombinations vk comms [lc] [(lc.label, (pl, z))] [((lc.label, z), v)] [π]
        (ξ :: ξs) rs = .ok (decide (PST.lcDefect vk comms lc z v π ξ = 0)) := by
  have h := PST.lc_general_closed rs (PST.LCNoRefusal.single hcb hk pl v ξ ξs hw hbh hz)
  rwa [PST.groupQueries_single, PST.lcGroupDefects_single, PST.wsum_one] at h

set_option linter.unusedSectionVars false in
/-- **Any change of the statement shifts the defect by a stated amount**: two statements about a
combination of one label, checked against the same proof, differ by
`((ΔΣcoeff·C) − g·(Δv − Δconstants))·ξ·h`. -/
theorem pst13_lc_defect_shift (vk : PST.VK F) (comms : List (PST.LComm F)) (lc lc' : LC.LinComb F)
    (z : List F) (v v' : F) (π : PST.Proof F) (ξ : F) :
    PST.lcDefect vk comms lc' z v' π ξ = PST.lcDefect vk comms lc z v π ξ
      + ((PST.lcCommValue comms lc'.terms - PST.lcCommValue comms lc.terms)
          - vk.g * ((v' - PST.lcConst lc'.terms) - (v - PST.lcConst lc.terms))) * ξ * vk.h := by
  unfold PST.lcDefect PST.defectCombined
  ring

/-- **A changed value is rejected** (`_partial`: one combination, one query — see
`pst13_lc_check_closed_partial` for what the general case lacks).  If the statement `(lc, z, v)` is accepted with `π`, the
statement `(lc, z, v + δ)` is rejected with the same proof whenever `δ·g·ξ·h ≠ 0`. -/
theorem pst13_lc_wrong_value_rejected_partial (vk : PST.VK F) (comms : List (PST.LComm F))
    (hcb : ∀ c ∈ comms, c.bound = none ∧ c.comm.shifted = none) (lc : LC.LinComb F)
    (hk : PST.AllKnown comms lc.terms) (pl : PST.Label) (z : List F) (v δ : F) (π : PST.Proof F)
    (ξ : F) (ξs rs : List F) (hw : π.w.length = vk.numVars) (hbh : vk.numVars ≤ vk.betaH.length)
    (hz : vk.numVars ≤ z.length)
    (hacc : PST.checkCombinations vk comms [lc] [(lc.label, (pl, z))] [((lc.label, z), v)] [π]
      (ξ :: ξs) rs = .ok true)
    (hne : δ * vk.g * ξ * vk.h ≠ 0) :
    PST.checkCombinations vk comms [lc] [(lc.label, (pl, z))] [((lc.label, z), v + δ)] [π]
      (ξ :: ξs) rs = .ok false := by
  have hn := PST.LCNoRefusal.single hcb hk pl v ξ ξs hw hbh hz
  have h := PST.lc_decision_of_shift rs hn (hn.bumpEval lc.label z δ) hacc
    ((PST.lc_value_shift rs hn lc.label z δ).trans (sub_eq_add_neg _ _))
  rwa [PST.bumpEval_single, (PST.wsum_weights_single lc.label pl z ξ ξs rs).2,
    decide_eq_false (neg_ne_zero.2 hne)] at h

/-- **A changed constant is rejected** (`_partial`: one combination, one query).  The verifier's combination has the constant term
`a + δ` where the prover's had `a`: rejected whenever `δ·g·ξ·h ≠ 0`. -/
theorem pst13_lc_wrong_constant_rejected_partial (vk : PST.VK F) (comms : List (PST.LComm F))
    (hcb : ∀ c ∈ comms, c.bound = none ∧ c.comm.shifted = none) (lbl : PST.Label)
    (pre post : List (F × LC.LCTerm)) (a δ : F)
    (hk : PST.AllKnown comms (pre ++ (a, .one) :: post)) (pl : PST.Label) (z : List F) (v : F)
    (π : PST.Proof F) (ξ : F) (ξs rs : List F) (hw : π.w.length = vk.numVars)
    (hbh : vk.numVars ≤ vk.betaH.length) (hz : vk.numVars ≤ z.length)
    (hacc : PST.checkCombinations vk comms [⟨lbl, pre ++ (a, .one) :: post⟩] [(lbl, (pl, z))]
      [((lbl, z), v)] [π] (ξ :: ξs) rs = .ok true)
    (hne : δ * vk.g * ξ * vk.h ≠ 0) :
    PST.checkCombinations vk comms [⟨lbl, pre ++ (a + δ, .one) :: post⟩] [(lbl, (pl, z))]
      [((lbl, z), v)] [π] (ξ :: ξs) rs = .ok false := by
  have hn :=
    PST.LCNoRefusal.single hcb (lc := ⟨lbl, pre ++ (a, .one) :: post⟩) hk pl v ξ ξs hw hbh hz
  have h := PST.lc_decision_of_shift rs hn
    (hn.replace (pre := []) ⟨lbl, pre ++ (a + δ, .one) :: post⟩ rfl (PST.allKnown_coeff (a + δ) hk))
    hacc (PST.lc_constant_shift vk comms [] [] lbl pre post a δ _ _ [π] (ξ :: ξs) rs rfl)
  rwa [(PST.wsum_weights_single lbl pl z ξ ξs rs).1, decide_eq_false hne] at h

/-- **A changed coefficient is rejected** (`_partial`: one combination, one query).  The verifier's combination has `a + δ` where the
prover's had `a`, on the polynomial whose commitment is `c`: rejected whenever `δ·c·ξ·h ≠ 0`. -/
theorem pst13_lc_wrong_coefficient_rejected_partial (vk : PST.VK F) (comms : List (PST.LComm F))
    (hcb : ∀ c ∈ comms, c.bound = none ∧ c.comm.shifted = none) (lbl : PST.Label)
    (pre post : List (F × LC.LCTerm)) (a δ : F) (m : PST.Label) (c : PST.LComm F)
    (hm : Marlin.lookupLast (fun (c : PST.LComm F) => c.label) m comms = some c)
    (hk : PST.AllKnown comms (pre ++ (a, .poly m) :: post)) (pl : PST.Label) (z : List F) (v : F)
    (π : PST.Proof F) (ξ : F) (ξs rs : List F) (hw : π.w.length = vk.numVars)
    (hbh : vk.numVars ≤ vk.betaH.length) (hz : vk.numVars ≤ z.length)
    (hacc : PST.checkCombinations vk comms [⟨lbl, pre ++ (a, .poly m) :: post⟩] [(lbl, (pl, z))]
      [((lbl, z), v)] [π] (ξ :: ξs) rs = .ok true)
    (hne : δ * c.comm.comm * ξ * vk.h ≠ 0) :
    PST.checkCombinations vk comms [⟨lbl, pre ++ (a + δ, .poly m) :: post⟩] [(lbl, (pl, z))]
      [((lbl, z), v)] [π] (ξ :: ξs) rs = .ok false := by
  have hn :=
    PST.LCNoRefusal.single hcb (lc := ⟨lbl, pre ++ (a, .poly m) :: post⟩) hk pl v ξ ξs hw hbh hz
  have h := PST.lc_decision_of_shift rs hn
    (hn.replace (pre := []) ⟨lbl, pre ++ (a + δ, .poly m) :: post⟩ rfl (PST.allKnown_coeff (a + δ) hk))
    hacc (PST.lc_coefficient_shift vk comms [] [] lbl (fun h => nomatch h) pre post a δ m c hm _ _ [π]
      (ξ :: ξs) rs rfl)
  rwa [(PST.wsum_weights_single lbl pl z ξ ξs rs).1, decide_eq_false hne] at h

/-- **Any number of point labels: every per-point combined claim enters with its randomizer.**
`batch_check` on combined commitments / values moved by `(dcs, dvs)` — whatever change of
coefficients, constants or values produced the move — has its pairing product moved by
`Σₖ ρₖ·(dCₖ − g·dVₖ)·h` (`ρ₀ = 1`, then the verifier's randomizers). -/
theorem pst13_lc_batch_defect_shift (vk : PST.VK F) (cs dcs : List F) (zs : List (List F))
    (vs dvs : List F) (πs : List (PST.Proof F)) (rs : List F)
    (h1 : dcs.length = cs.length) (h2 : dvs.length = vs.length) (h3 : cs.length = vs.length)
    (h4 : zs.length = cs.length) (h5 : πs.length = cs.length)
    (hbh : vk.numVars ≤ vk.betaH.length) (hπ : ∀ π ∈ πs, π.w.length = vk.numVars)
    (hz : ∀ z ∈ zs, vk.numVars ≤ z.length) :
    PST.batchDefect vk (List.zipWith (· + ·) cs dcs) zs (List.zipWith (· + ·) vs dvs) πs rs
      = .ok (PST.wsum 1 rs (PST.defectsC vk cs zs vs πs) + PST.wsum 1 rs (PST.claimShifts vk dcs dvs))
    ∧ PST.batchDefect vk cs zs vs πs rs = .ok (PST.wsum 1 rs (PST.defectsC vk cs zs vs πs)) := by
  obtain ⟨e1, e2⟩ := PST.defectsC_shift vk cs dcs zs vs dvs πs h1 h2 h3 h4 h5
  refine ⟨?_, PST.batchDefect_eq vk cs zs vs πs rs (h5.trans h4.symm) hbh hπ hz⟩
  rw [PST.batchDefect_eq vk _ zs _ πs rs (h5.trans h4.symm) hbh hπ hz, e1, PST.wsum_add _ _ _ _ e2]

/-! ### refusals -/

/-- **Unknown label, prover**: a term naming a polynomial that was not supplied ends
`open_combinations` with `MissingPolynomial`. -/
theorem pst13_lc_unknown_label_prover (trips : List (PST.Trip F)) (k : Nat) (acc : PST.LCAcc F)
    (coeff : F) (l : PST.Label)
    (hl : Marlin.lookupLast (fun (t : PST.Trip F) => t.1.label) l trips = none) :
    PST.lcStep trips k acc (coeff, .poly l) = .error .missingPolynomial := by
  unfold PST.lcStep; simp only [hl]

/-- **Unknown label, verifier**: a combination whose first unknown label comes after terms that
name supplied commitments ends `check_combinations` with `MissingPolynomial`. -/
theorem pst13_lc_unknown_label_verifier (comms : List (PST.LComm F))
    (hcb : ∀ c ∈ comms, c.bound = none ∧ c.comm.shifted = none) (lbl : PST.Label)
    (pre post : List (F × LC.LCTerm)) (hk : PST.AllKnown comms pre) (coeff : F) (l : PST.Label)
    (hl : Marlin.lookupLast (fun (c : PST.LComm F) => c.label) l comms = none)
    (vk : PST.VK F) (lcs : List (LC.LinComb F)) (qs : List (PST.Query F)) (evals : PST.Evals F)
    (πs : List (PST.Proof F)) (ξs rs : List F) :
    PST.checkCombinations vk comms (⟨lbl, pre ++ (coeff, .poly l) :: post⟩ :: lcs) qs evals πs ξs rs
      = .error .missingPolynomial := by
  unfold PST.checkCombinations
  simp only [PST.combineAllComm, PST.combineLCComm,
    PST.lcTermsV_unknown comms hcb _ pre post hk coeff l hl]

/-- **A query for a combination that was not supplied** is refused with `MissingPolynomial` by the
prover's `batch_open` and by the verifier's `combine_and_normalize`; a supplied commitment without
its evaluation with `MissingEvaluation`. -/
theorem pst13_lc_unknown_query (trips : List (PST.Trip F)) (comms : List (PST.LComm F))
    (evals : PST.Evals F) (z : List F) (l : PST.Label) (ls : List PST.Label) :
    (Marlin.lookupLast (fun (t : PST.Trip F) => t.1.label) l trips = none →
      PST.gatherTrips trips (l :: ls) = .error .missingPolynomial) ∧
    (Marlin.lookupLast (fun (c : PST.LComm F) => c.label) l comms = none →
      PST.gatherComms comms evals z (l :: ls) = .error .missingPolynomial) ∧
    (∀ c, Marlin.lookupLast (fun (c : PST.LComm F) => c.label) l comms = some c →
      (c.bound = none ∧ c.comm.shifted = none) → PST.lookupEval evals l z = none →
      PST.gatherComms comms evals z (l :: ls) = .error .missingEvaluation) :=
  ⟨PST.gatherTrips_unknown trips l ls, PST.gatherComms_unknown comms evals z l ls,
    fun c hc hb he => PST.gatherComms_missing_eval comms evals z l ls c hc hb he⟩

/-- **Degree-bound policy** (the shared `Marlin` code; `MarlinPST13::commit` itself never enforces
a bound, but a polynomial or commitment DECLARED with one is treated like this): mixed with any
other term — `EquationHasDegreeBounds`; alone with a coefficient other than one — abort; alone with
coefficient one — combined. -/
theorem pst13_lc_bound_policy (k b : Nat) (coeff : F) :
    (k ≠ 1 → PST.policy k (some b) coeff = some .equationHasDegreeBounds) ∧
    (k = 1 → coeff ≠ 1 → PST.policy k (some b) coeff = some .abort) ∧
    (k = 1 → coeff = 1 → PST.policy k (some b) coeff = none) := by
  refine ⟨fun hk => ?_, fun hk hc => ?_, fun hk hc => ?_⟩
  · simp [PST.policy, hk]
  · simp [PST.policy, hk, hc]
  · simp [PST.policy, hk, hc]

/-! ### non-vacuity over `ZMod 101`

Key of the trapdoor `(2,7)` (`g = 3, γ = 5, h = 11`); `p = 4 + 6x₁ + 9x₀x₁ + 2x₀²` committed hiding
(`27`), `q = 4 + 6x₀ + 2x₀²` declared over one variable, non-hiding (`72`); the combination
`lc = 2·p − q + 5` queried at `(10, 20)`: `2·3 − 62 + 5 = 50`. -/

def exPolys : List (PST.LPoly K) :=
  [⟨[112], [(4, []), (6, [(1, 1)]), (9, [(0, 1), (1, 1)]), (2, [(0, 2)])], 2, none, some 1⟩,
   ⟨[113], [(4, []), (6, [(0, 1)]), (2, [(0, 2)])], 1, none, none⟩]
def exStates : List (PST.Rand K) :=
  [⟨[(7, []), (4, [(1, 1)]), (8, [(1, 2)]), (9, [(0, 2)])], 2⟩, ⟨[], 0⟩]
def exComms : List (PST.LComm K) := [⟨[112], ⟨27, none⟩, none⟩, ⟨[113], ⟨72, none⟩, none⟩]
def exLC (a c : K) : LC.LinComb K := ⟨[108], [(a, .poly [112]), (-1, .poly [113]), (c, .one)]⟩
def exCK : PST.CK K := PST.wfCK (3 : K) 5 [2, 7] (specTerms 2 2) 2 2 2 3
def exVK : PST.VK K := PST.wfVK (3 : K) 5 11 [2, 7] 2 2 2

example : PST.combineLC (exPolys.zip (exStates.zip exComms)) (exLC 2 5)
    = .ok (⟨[108], [(4, []), (12, [(1, 1)]), (95, [(0, 1)]), (18, [(0, 1), (1, 1)]), (2, [(0, 2)])], 2,
              none, some 1⟩,
           ⟨[(14, []), (8, [(1, 1)]), (16, [(1, 2)]), (18, [(0, 2)])], 2⟩,
           ⟨[108], ⟨83, none⟩, none⟩) := by decide +kernel
example : PST.openCombinations exCK exPolys exStates exComms [exLC 2 5] [([108], ([122], [10, 20]))] [13]
    = .ok ([⟨[62, 31], some 85⟩], []) := by decide +kernel
/-- accepted for the true value; value / constant / coefficient changed: rejected -/
example : PST.checkCombinations exVK exComms [exLC 2 5] [([108], ([122], [10, 20]))]
    [(([108], [10, 20]), 50)] [⟨[62, 31], some 85⟩] [13] [5] = .ok true := by decide +kernel
example : PST.checkCombinations exVK exComms [exLC 2 5] [([108], ([122], [10, 20]))]
    [(([108], [10, 20]), 51)] [⟨[62, 31], some 85⟩] [13] [5] = .ok false := by decide +kernel
example : PST.checkCombinationsDefect exVK exComms [exLC 2 5] [([108], ([122], [10, 20]))]
    [(([108], [10, 20]), 51)] [⟨[62, 31], some 85⟩] [13] [5] = .ok (-(1 * 3 * 13 * 11)) := by decide +kernel
example : PST.checkCombinations exVK exComms [exLC 2 6] [([108], ([122], [10, 20]))]
    [(([108], [10, 20]), 50)] [⟨[62, 31], some 85⟩] [13] [5] = .ok false := by decide +kernel
example : PST.checkCombinations exVK exComms [exLC 3 5] [([108], ([122], [10, 20]))]
    [(([108], [10, 20]), 50)] [⟨[62, 31], some 85⟩] [13] [5] = .ok false := by decide +kernel
/-- the hypotheses of the rejection theorems on this example: `δ·g·ξ·h` and `δ·c·ξ·h` with
`δ = 1, g = 3, ξ = 13, h = 11, c = 27`; every polynomial term names a supplied commitment -/
example : (1 : K) * 3 * 13 * 11 ≠ 0 ∧ (1 : K) * 27 * 13 * 11 ≠ 0 := by decide +kernel
example : Marlin.lookupLast (fun (c : PST.LComm K) => c.label) [112] exComms
    = some ⟨[112], ⟨27, none⟩, none⟩ := by decide +kernel
/-- two combinations, two point labels sharing the point value, three challenges, one randomizer -/
example : PST.groupQueries ([([108], ([122], [10, 20])), ([109], ([122], [10, 20])),
      ([109], ([123], [10, 20]))] : List (PST.Query K))
    = [([122], ([10, 20], [[108], [109]])), ([123], ([10, 20], [[109]]))] := by decide +kernel
example : PST.openCombinations exCK exPolys exStates exComms
    [exLC 2 5, ⟨[109], [(1, .poly [113]), (0, .poly [112]), (-1, .one)]⟩]
    [([108], ([122], [10, 20])), ([109], ([122], [10, 20])), ([109], ([123], [10, 20]))] [13, 17, 19]
    = .ok ([⟨[77, 31], some 85⟩, ⟨[94, 0], none⟩], []) := by decide +kernel
example : PST.checkCombinations exVK exComms
    [exLC 2 5, ⟨[109], [(1, .poly [113]), (0, .poly [112]), (-1, .one)]⟩]
    [([108], ([122], [10, 20])), ([109], ([122], [10, 20])), ([109], ([123], [10, 20]))]
    [(([108], [10, 20]), 50), (([109], [10, 20]), 61)] [⟨[77, 31], some 85⟩, ⟨[94, 0], none⟩]
    [13, 17, 19] [5] = .ok true := by decide +kernel
example : PST.checkCombinations exVK exComms
    [exLC 2 5, ⟨[109], [(1, .poly [113]), (0, .poly [112]), (-1, .one)]⟩]
    [([108], ([122], [10, 20])), ([109], ([122], [10, 20])), ([109], ([123], [10, 20]))]
    [(([108], [10, 20]), 50), (([109], [10, 20]), 62)] [⟨[77, 31], some 85⟩, ⟨[94, 0], none⟩]
    [13, 17, 19] [5] = .ok false := by decide +kernel
/-- refusals: an unknown polynomial label (prover and verifier), a query for an unknown combination,
a withheld evaluation, a polynomial declared with a degree bound mixed with another term -/
example : PST.openCombinations exCK exPolys exStates exComms
    [⟨[108], [(2, .poly [112]), (-1, .poly [120]), (5, .one)]⟩] [([108], ([122], [10, 20]))] [13]
    = .error .missingPolynomial := by decide +kernel
example : PST.checkCombinations exVK exComms [⟨[108], [(2, .poly [112]), (-1, .poly [120]), (5, .one)]⟩]
    [([108], ([122], [10, 20]))] [(([108], [10, 20]), 50)] [⟨[62, 31], some 85⟩] [13] [5]
    = .error .missingPolynomial := by decide +kernel
example : PST.checkCombinations exVK exComms [exLC 2 5] [([109], ([122], [10, 20]))]
    [(([108], [10, 20]), 50)] [⟨[62, 31], some 85⟩] [13] [5] = .error .missingPolynomial := by decide +kernel
example : PST.checkCombinations exVK exComms [exLC 2 5] [([108], ([122], [10, 20]))]
    [] [⟨[62, 31], some 85⟩] [13] [5] = .error .missingEvaluation := by decide +kernel
example : PST.combineLC
    [((⟨[112], [(4, [])], 2, some 2, none⟩ : PST.LPoly K), ⟨[], 0⟩, ⟨[112], ⟨12, none⟩, none⟩)]
    ⟨[108], [(1, .poly [112]), (5, .one)]⟩ = .error .equationHasDegreeBounds := by decide +kernel

/-- `pst13_lc_batch_defect_shift` on two accepted per-point claims moved by `(1, 4)` and `(2, 7)` under
the randomizer `5`: the product moves from `0` to `(1 − 3·4)·11 + 5·(2 − 3·7)·11` -/
example : PST.batchDefect exVK [48, 68] [[10, 20], [10, 20]] [39, 99]
    [⟨[10, 66], some 93⟩, ⟨[31, 59], some 36⟩] [5] = .ok 0 := by decide +kernel
example : PST.batchDefect exVK [48 + 1, 68 + 2] [[10, 20], [10, 20]] [39 + 4, 99 + 7]
    [⟨[10, 66], some 93⟩, ⟨[31, 59], some 36⟩] [5]
    = .ok ((1 - 3 * 4) * 11 + 5 * ((2 - 3 * 7) * 11)) := by decide +kernel
example : PST.claimShifts exVK [1, 2] [4, 7] = [(1 - 3 * 4) * 11, (2 - 3 * 7) * 11] := by decide +kernel

end PCV.C06
