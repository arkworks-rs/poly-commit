/-
  Property C06 — linear-combination openings prove exactly the stated combinations: MarlinPST13,
  ANY list of combinations and ANY query list (several point labels, several combinations per point
  label, point labels sharing a point).  Generalises the four `…_partial` theorems of
  `PCV/Props/C06_PST13.lean`; lemmas in `PCV/Proofs/PST13LCGeneral.lean`.

  What `check_combinations` decides (`pst13_lc_check_closed`): with `ρ₀ = 1, ρ₁, ρ₂ …` the verifier's
  randomizers and the point-label groups `k = 0, 1, …` of the query list in point-label order,
      Σₖ ρₖ · Δₖ = 0,
      Δₖ = ((Σⱼ C(lₖⱼ)·ξₖⱼ − g·Σⱼ (vₖⱼ − const(lₖⱼ))·ξₖⱼ − γ·rvₖ)·h − Σᵢ Wₖᵢ·(βᵢh − zₖᵢ·h),
  where group `k` asks at the point `zₖ` for the combination labels `lₖ₁ < lₖ₂ < …`, `ξₖⱼ` is the
  opening challenge of that position (the challenges are drawn group after group), `vₖⱼ` the value
  claimed for `(lₖⱼ, zₖ)`, `C(l) = Σ coeff·C_label` over the terms of the LAST combination labelled
  `l`, and `const(l)` the sum of the constant terms of EVERY combination labelled `l`
  (`pst13_lc_point_defect`, `pst13_lc_label_terms`).  Distinct combination labels are NOT needed for
  this closed form; they are what makes `C(l)` and `const(l)` those of one combination.
-/
import PCV.Proofs.PST13LCGeneral
import PCV.Props.C06_PST13

namespace PCV.C06
open PCV PCV.MV
variable {F : Type} [Field F] [DecidableEq F]

/-! ### the verifier's decision in closed form -/

/-- **What `check_combinations` computes, in general.**  Arbitrary verifier key, arbitrary
(unbounded) commitments, ANY list of combinations (repeated labels allowed), ANY query list, any
proofs; `PST.LCNoRefusal` lists, refusal by refusal, what the code needs to reach its pairing check
(known labels, an evaluation for every (label, point) asked for, one challenge per position, one
proof per point label with one witness per key variable, key and points long enough).  Then the
pairing product is the randomizer-weighted sum over the point-label groups of the per-point defects
`PST.lcGroupDefects` (spelled out in `pst13_lc_point_defect`), and the answer is whether it
vanishes. -/
theorem pst13_lc_check_closed (vk : PST.VK F) (comms : List (PST.LComm F))
    (lcs : List (LC.LinComb F)) (qs : List (PST.Query F)) (evals : PST.Evals F)
    (πs : List (PST.Proof F)) (ξs rs : List F)
    (hn : PST.LCNoRefusal vk comms lcs qs evals πs ξs) :
    PST.checkCombinationsDefect vk comms lcs qs evals πs ξs rs
        = .ok (PST.wsum 1 rs (PST.lcGroupDefects vk comms lcs evals (PST.groupQueries qs) πs ξs))
      ∧ PST.checkCombinations vk comms lcs qs evals πs ξs rs
        = .ok (decide
            (PST.wsum 1 rs (PST.lcGroupDefects vk comms lcs evals (PST.groupQueries qs) πs ξs) = 0)) :=
  PST.lc_general_closed rs hn

/-- **The per-point defects, position by position.**  The first group `(z, labels)` with its proof
`π` reads the challenges from the front of the list and contributes
`((Σⱼ C(lⱼ)·ξⱼ − g·Σⱼ (vⱼ − const(lⱼ))·ξⱼ − γ·rv)·h − Σᵢ Wᵢ·(βᵢh − zᵢ·h)`; the later groups go on
with the challenges after its `|labels|` ones.  `Σⱼ f(lⱼ)·ξⱼ` is `PST.posSum`: the `j`-th label of
the group meets the `j`-th challenge; the weighted sum gives the first defect the weight `r` and
the next ones the randomizers in order. -/
theorem pst13_lc_point_defect (vk : PST.VK F) (comms : List (PST.LComm F))
    (lcs : List (LC.LinComb F)) (evals : PST.Evals F) (g : PST.Group F) (gs : List (PST.Group F))
    (π : PST.Proof F) (πs : List (PST.Proof F)) (ξs : List F) :
    PST.lcGroupDefects vk comms lcs evals (g :: gs) (π :: πs) ξs
        = ((PST.posSum (PST.lcCommAt comms lcs) g.2.2 ξs
              - vk.g * PST.posSum
                  (fun l => (PST.lookupEval evals l g.2.1).getD 0 - PST.constFor lcs l) g.2.2 ξs
              - vk.gammaG * PST.rvVal π.rv) * vk.h
            - PST.rhsSum vk.h vk.betaH g.2.1 0 π.w)
          :: PST.lcGroupDefects vk comms lcs evals gs πs (ξs.drop g.2.2.length)
      ∧ (∀ (f : PST.Label → F) (l : PST.Label) (ls : List PST.Label) (ξ : F) (ξs' : List F),
          PST.posSum f (l :: ls) (ξ :: ξs') = f l * ξ + PST.posSum f ls ξs')
      ∧ (∀ (f : PST.Label → F) (ξs' : List F), PST.posSum f [] ξs' = 0)
      ∧ (∀ (r d : F) (rs ds : List F),
          PST.wsum r rs (d :: ds) = r * d + PST.wsum (rs.headD 0) rs.tail ds) :=
  ⟨rfl, fun _ _ _ _ _ => rfl, fun _ _ => rfl, fun _ _ _ _ => rfl⟩

/-- **`C(l)` and `const(l)` in terms of the individual combinations.**
(1) For `lcs = pre ++ lc :: post`: if no LATER combination carries `lc`'s label, the commitment used
for that label is `Σ coeff·C_label` over `lc`'s own terms (`lc_commitments` becomes a map by label:
the last one wins); the constants subtracted from every value claimed for that label are those of
`pre`, of `lc` and of `post` together (each combination subtracts its constants from every
evaluation carrying its label).
(2) With pairwise distinct combination labels — exactly the hypothesis under which a label
determines its combination — both are `lc`'s own. -/
theorem pst13_lc_label_terms (comms : List (PST.LComm F)) :
    (∀ (pre post : List (LC.LinComb F)) (lc : LC.LinComb F), lc.label ∉ post.map (·.label) →
      PST.lcCommAt comms (pre ++ lc :: post) lc.label = PST.lcCommValue comms lc.terms
        ∧ PST.constFor (pre ++ lc :: post) lc.label
            = PST.constFor pre lc.label + PST.lcConst lc.terms + PST.constFor post lc.label)
    ∧ (∀ (lcs : List (LC.LinComb F)), (lcs.map (·.label)).Nodup → ∀ lc ∈ lcs,
      PST.lcCommAt comms lcs lc.label = PST.lcCommValue comms lc.terms
        ∧ PST.constFor lcs lc.label = PST.lcConst lc.terms) := by
  refine ⟨fun pre post lc hlast => ⟨?_, ?_⟩, fun lcs hnd lc hmem => ?_⟩
  · rw [PST.lcCommAt, Marlin.lookupLast_append_cons (·.label) pre post lc hlast]
  · simp only [PST.constFor_append, PST.constFor, if_true, add_assoc]
  · refine ⟨?_, PST.constFor_of_nodup hnd hmem⟩
    rw [PST.lcCommAt, Marlin.lookupLast_of_nodup (·.label) hnd hmem]

/-- **One combination under one point label**: the general per-point defect is the `PST.lcDefect`
of `pst13_lc_check_closed_partial`. -/
theorem pst13_lc_check_closed_single (vk : PST.VK F) (comms : List (PST.LComm F))
    (lc : LC.LinComb F) (pl : PST.Label) (z : List F) (v : F) (π : PST.Proof F) (ξ : F)
    (ξs : List F) :
    PST.groupQueries [(lc.label, (pl, z))] = [(pl, (z, [lc.label]))]
      ∧ PST.lcGroupDefects vk comms [lc] [((lc.label, z), v)] [(pl, (z, [lc.label]))] [π] (ξ :: ξs)
        = [PST.lcDefect vk comms lc z v π ξ] :=
  ⟨rfl, PST.lcGroupDefects_single vk comms lc pl z v π ξ ξs⟩

/-- **The no-refusal conditions from the raw query list.**  Point labels that name points
consistently, every query asking for the label of some combination and having its evaluation,
every point long enough (plus the conditions on commitments, challenges, proofs and key): the
hypotheses of the theorems of this file hold.  Moreover every group is made of queries of the
list: its point is the point of a query with its point label, each of its labels comes from a
query with its point label. -/
theorem pst13_lc_no_refusal_of_queries (vk : PST.VK F) (comms : List (PST.LComm F))
    (lcs : List (LC.LinComb F)) (qs : List (PST.Query F)) (evals : PST.Evals F)
    (πs : List (PST.Proof F)) (ξs : List F)
    (hcb : ∀ c ∈ comms, c.bound = none ∧ c.comm.shifted = none)
    (hk : ∀ lc ∈ lcs, PST.AllKnown comms lc.terms)
    (hpl : ∀ q ∈ qs, ∀ q' ∈ qs, q.2.1 = q'.2.1 → q.2.2 = q'.2.2)
    (hq : ∀ q ∈ qs, q.1 ∈ lcs.map (·.label))
    (hev : ∀ q ∈ qs, (PST.lookupEval evals q.1 q.2.2).isSome = true)
    (hξ : PST.numPositions (PST.groupQueries qs) ≤ ξs.length)
    (hlen : πs.length = (PST.groupQueries qs).length)
    (hw : ∀ π ∈ πs, π.w.length = vk.numVars) (hbh : vk.numVars ≤ vk.betaH.length)
    (hz : ∀ q ∈ qs, vk.numVars ≤ q.2.2.length) :
    PST.LCNoRefusal vk comms lcs qs evals πs ξs
      ∧ ∀ gr ∈ PST.groupQueries qs,
          (∃ q ∈ qs, q.2.1 = gr.1 ∧ q.2.2 = gr.2.1)
            ∧ ∀ l ∈ gr.2.2, ∃ q ∈ qs, q.1 = l ∧ q.2.1 = gr.1 := by
  have hfrom := PST.groupQueries_from qs
  refine ⟨{ unbounded := hcb, known := hk, challenges := hξ, proofs := hlen, witnesses := hw,
            key := hbh, queried := fun gr hgr l hl => ?_, evaluated := fun gr hgr l hl => ?_,
            points := fun gr hgr => ?_ }, hfrom⟩
  · obtain ⟨q, hq', h1, _⟩ := (hfrom gr hgr).2 l hl
    rw [← h1]; exact hq q hq'
  · obtain ⟨⟨q0, hq0, h0, h0'⟩, hls⟩ := hfrom gr hgr
    obtain ⟨q, hq', h1, h2⟩ := hls l hl
    rw [← h1, ← h0', ← hpl q hq' q0 hq0 (h2.trans h0.symm)]
    exact hev q hq'
  · obtain ⟨⟨q0, hq0, _, h0'⟩, _⟩ := hfrom gr hgr
    rw [← h0']; exact hz q0 hq0

/-! ### a changed claimed value -/

/-- **A changed claimed value: the decision.**  The statement `(lcs, qs, evals)` is accepted with
`πs`; the value claimed for the combination label `l₀` at the point `z₀` is moved by `δ`
(`PST.bumpEval`).  The same proofs are then accepted iff
`δ · g · (Σₖ ρₖ·ξₖ(l₀, z₀)) · h = 0`, where `ξₖ(l₀, z₀)` (`PST.evalWeights`) is the opening challenge
of `l₀` in the `k`-th point-label group if that group sits at the point `z₀` and asks for `l₀`, and
`0` otherwise — the claimed value is read once for every point label that names `z₀`. -/
theorem pst13_lc_wrong_value_decision (vk : PST.VK F) (comms : List (PST.LComm F))
    (lcs : List (LC.LinComb F)) (qs : List (PST.Query F)) (evals : PST.Evals F)
    (πs : List (PST.Proof F)) (ξs rs : List F) (hn : PST.LCNoRefusal vk comms lcs qs evals πs ξs)
    (l₀ : PST.Label) (z₀ : List F) (δ : F)
    (hacc : PST.checkCombinations vk comms lcs qs evals πs ξs rs = .ok true) :
    PST.checkCombinations vk comms lcs qs (PST.bumpEval l₀ z₀ δ evals) πs ξs rs
      = .ok (decide (δ * vk.g * PST.wsum 1 rs (PST.evalWeights l₀ z₀ (PST.groupQueries qs) ξs)
          * vk.h = 0)) := by
  rw [PST.lc_decision_of_shift rs hn (hn.bumpEval l₀ z₀ δ) hacc
    ((PST.lc_value_shift rs hn l₀ z₀ δ).trans (sub_eq_add_neg _ _))]
  simp only [neg_eq_zero]

/-- **A changed claimed value is rejected** unless `δ·g·h = 0` or the randomizer-weighted sum of
the opening challenges under which `(l₀, z₀)` is read vanishes. -/
theorem pst13_lc_wrong_value_rejected (vk : PST.VK F) (comms : List (PST.LComm F))
    (lcs : List (LC.LinComb F)) (qs : List (PST.Query F)) (evals : PST.Evals F)
    (πs : List (PST.Proof F)) (ξs rs : List F) (hn : PST.LCNoRefusal vk comms lcs qs evals πs ξs)
    (l₀ : PST.Label) (z₀ : List F) (δ : F)
    (hacc : PST.checkCombinations vk comms lcs qs evals πs ξs rs = .ok true)
    (hne : δ * vk.g * PST.wsum 1 rs (PST.evalWeights l₀ z₀ (PST.groupQueries qs) ξs) * vk.h ≠ 0) :
    PST.checkCombinations vk comms lcs qs (PST.bumpEval l₀ z₀ δ evals) πs ξs rs = .ok false := by
  rw [pst13_lc_wrong_value_decision vk comms lcs qs evals πs ξs rs hn l₀ z₀ δ hacc,
    decide_eq_false hne]

/-! ### a changed constant -/

/-- **A changed constant: the decision.**  The verifier's list of combinations has the constant
term `a + δ` where the accepted statement had `a`, in the combination labelled `lbl` standing
anywhere in the list (no hypothesis on the other labels).  The same proofs are then accepted iff
`δ · g · (Σₖ ρₖ·ξₖ(lbl)) · h = 0`, where `ξₖ(lbl)` (`PST.labelWeights`) is the opening challenge of
`lbl` in the `k`-th point-label group (`0` if the group does not ask for it): the constant moves
the value at EVERY point where the label is queried. -/
theorem pst13_lc_wrong_constant_decision (vk : PST.VK F) (comms : List (PST.LComm F))
    (pre post : List (LC.LinComb F)) (lbl : PST.Label) (tp tq : List (F × LC.LCTerm)) (a δ : F)
    (qs : List (PST.Query F)) (evals : PST.Evals F) (πs : List (PST.Proof F)) (ξs rs : List F)
    (hn : PST.LCNoRefusal vk comms (pre ++ ⟨lbl, tp ++ (a, .one) :: tq⟩ :: post) qs evals πs ξs)
    (hacc : PST.checkCombinations vk comms (pre ++ ⟨lbl, tp ++ (a, .one) :: tq⟩ :: post) qs evals πs
      ξs rs = .ok true) :
    PST.checkCombinations vk comms (pre ++ ⟨lbl, tp ++ (a + δ, .one) :: tq⟩ :: post) qs evals πs ξs rs
      = .ok (decide (δ * vk.g * PST.wsum 1 rs (PST.labelWeights lbl (PST.groupQueries qs) ξs)
          * vk.h = 0)) :=
  PST.lc_decision_of_shift rs hn
    (hn.replace ⟨lbl, tp ++ (a + δ, .one) :: tq⟩ rfl
      (PST.allKnown_coeff (a + δ) (hn.known _ (List.mem_append_right _ (List.mem_cons_self ..)))))
    hacc (PST.lc_constant_shift vk comms pre post lbl tp tq a δ evals _ πs ξs rs hn.proofs)

/-- **A changed constant is rejected** unless `δ·g·h = 0` or the randomizer-weighted sum of the
opening challenges of the combination's label vanishes. -/
theorem pst13_lc_wrong_constant_rejected (vk : PST.VK F) (comms : List (PST.LComm F))
    (pre post : List (LC.LinComb F)) (lbl : PST.Label) (tp tq : List (F × LC.LCTerm)) (a δ : F)
    (qs : List (PST.Query F)) (evals : PST.Evals F) (πs : List (PST.Proof F)) (ξs rs : List F)
    (hn : PST.LCNoRefusal vk comms (pre ++ ⟨lbl, tp ++ (a, .one) :: tq⟩ :: post) qs evals πs ξs)
    (hacc : PST.checkCombinations vk comms (pre ++ ⟨lbl, tp ++ (a, .one) :: tq⟩ :: post) qs evals πs
      ξs rs = .ok true)
    (hne : δ * vk.g * PST.wsum 1 rs (PST.labelWeights lbl (PST.groupQueries qs) ξs) * vk.h ≠ 0) :
    PST.checkCombinations vk comms (pre ++ ⟨lbl, tp ++ (a + δ, .one) :: tq⟩ :: post) qs evals πs ξs rs
      = .ok false := by
  rw [pst13_lc_wrong_constant_decision vk comms pre post lbl tp tq a δ qs evals πs ξs rs hn hacc,
    decide_eq_false hne]

/-! ### a changed coefficient -/

/-- **A changed coefficient: the decision.**  The verifier's list has the coefficient `a + δ` where
the accepted statement had `a`, on the polynomial `m` (commitment `c`) in the combination labelled
`lbl`, and NO LATER combination carries the label `lbl` — the only hypothesis on labels, and a
necessary one: `pst13_lc_shadowed_combination_unchecked`.  The same proofs are then accepted iff
`δ · c · (Σₖ ρₖ·ξₖ(lbl)) · h = 0`. -/
theorem pst13_lc_wrong_coefficient_decision (vk : PST.VK F) (comms : List (PST.LComm F))
    (pre post : List (LC.LinComb F)) (lbl : PST.Label) (hlast : lbl ∉ post.map (·.label))
    (tp tq : List (F × LC.LCTerm)) (a δ : F) (m : PST.Label) (c : PST.LComm F)
    (hm : Marlin.lookupLast (fun (c : PST.LComm F) => c.label) m comms = some c)
    (qs : List (PST.Query F)) (evals : PST.Evals F) (πs : List (PST.Proof F)) (ξs rs : List F)
    (hn : PST.LCNoRefusal vk comms (pre ++ ⟨lbl, tp ++ (a, .poly m) :: tq⟩ :: post) qs evals πs ξs)
    (hacc : PST.checkCombinations vk comms (pre ++ ⟨lbl, tp ++ (a, .poly m) :: tq⟩ :: post) qs evals
      πs ξs rs = .ok true) :
    PST.checkCombinations vk comms (pre ++ ⟨lbl, tp ++ (a + δ, .poly m) :: tq⟩ :: post) qs evals πs
        ξs rs
      = .ok (decide (δ * c.comm.comm
          * PST.wsum 1 rs (PST.labelWeights lbl (PST.groupQueries qs) ξs) * vk.h = 0)) :=
  PST.lc_decision_of_shift rs hn
    (hn.replace ⟨lbl, tp ++ (a + δ, .poly m) :: tq⟩ rfl
      (PST.allKnown_coeff (a + δ) (hn.known _ (List.mem_append_right _ (List.mem_cons_self ..)))))
    hacc (PST.lc_coefficient_shift vk comms pre post lbl hlast tp tq a δ m c hm evals _ πs ξs rs
      hn.proofs)

/-- **A changed coefficient is rejected** unless `δ·c·h = 0` or the randomizer-weighted sum of the
opening challenges of the combination's label vanishes. -/
theorem pst13_lc_wrong_coefficient_rejected (vk : PST.VK F) (comms : List (PST.LComm F))
    (pre post : List (LC.LinComb F)) (lbl : PST.Label) (hlast : lbl ∉ post.map (·.label))
    (tp tq : List (F × LC.LCTerm)) (a δ : F) (m : PST.Label) (c : PST.LComm F)
    (hm : Marlin.lookupLast (fun (c : PST.LComm F) => c.label) m comms = some c)
    (qs : List (PST.Query F)) (evals : PST.Evals F) (πs : List (PST.Proof F)) (ξs rs : List F)
    (hn : PST.LCNoRefusal vk comms (pre ++ ⟨lbl, tp ++ (a, .poly m) :: tq⟩ :: post) qs evals πs ξs)
    (hacc : PST.checkCombinations vk comms (pre ++ ⟨lbl, tp ++ (a, .poly m) :: tq⟩ :: post) qs evals
      πs ξs rs = .ok true)
    (hne : δ * c.comm.comm * PST.wsum 1 rs (PST.labelWeights lbl (PST.groupQueries qs) ξs) * vk.h
      ≠ 0) :
    PST.checkCombinations vk comms (pre ++ ⟨lbl, tp ++ (a + δ, .poly m) :: tq⟩ :: post) qs evals πs
      ξs rs = .ok false := by
  rw [pst13_lc_wrong_coefficient_decision vk comms pre post lbl hlast tp tq a δ m c hm qs evals πs ξs
    rs hn hacc,
    decide_eq_false hne]

/-- **Why "no later combination with the same label" cannot be dropped.**  If a later combination
carries the label of `x`, replacing `x` by ANY combination `x'` of the same label with the same
constants and known terms — other coefficients, other polynomials — leaves the decision of
`check_combinations` unchanged: the terms of a shadowed combination are never checked (the model
mirrors `lc_commitments` being collected into a map by label; the constants of `x` are still
subtracted). -/
theorem pst13_lc_shadowed_combination_unchecked (vk : PST.VK F) (comms : List (PST.LComm F))
    (pre post : List (LC.LinComb F)) (x x' : LC.LinComb F) (hl : x'.label = x.label)
    (hc : PST.lcConst x'.terms = PST.lcConst x.terms) (hk : PST.AllKnown comms x'.terms)
    (hshadow : x.label ∈ post.map (·.label))
    (qs : List (PST.Query F)) (evals : PST.Evals F) (πs : List (PST.Proof F)) (ξs rs : List F)
    (hn : PST.LCNoRefusal vk comms (pre ++ x :: post) qs evals πs ξs) :
    PST.checkCombinations vk comms (pre ++ x' :: post) qs evals πs ξs rs
      = PST.checkCombinations vk comms (pre ++ x :: post) qs evals πs ξs rs := by
  rw [(PST.lc_general_closed rs hn).2, (PST.lc_general_closed rs (hn.replace x' hl hk)).2,
    PST.lc_replace_shift vk comms pre post x x' hl evals _ πs ξs rs hn.proofs,
    if_neg (not_not.2 hshadow), hc, sub_self, zero_mul, add_zero, zero_mul, zero_mul, add_zero]

/-! ### non-vacuity over `ZMod 101`

The key, commitments and `exLC a c = a·p − q + c` (label `[108]`) of `PCV/Props/C06_PST13.lean`; a second
combination `q + 0·p − 1` (label `[109]`); three queries: `[108]` and `[109]` under the point label
`[122]`, `[109]` again under `[123]`, both point labels naming the point `(10, 20)`; challenges
`13, 17` for the first group, `19` for the second; one verifier randomizer. -/

def exGLcs (a c d : K) : List (LC.LinComb K) :=
  [exLC a c, ⟨[109], [(1, .poly [113]), (0, .poly [112]), (d, .one)]⟩]
def exGQs : List (PST.Query K) :=
  [([108], ([122], [10, 20])), ([109], ([122], [10, 20])), ([109], ([123], [10, 20]))]
def exGEvals (v w : K) : PST.Evals K := [(([108], [10, 20]), v), (([109], [10, 20]), w)]
def exGProofs : List (PST.Proof K) := [⟨[77, 31], some 85⟩, ⟨[94, 0], none⟩]

/-- the hypotheses of every theorem above hold on the example (also from the raw query list) -/
example : PST.LCNoRefusal exVK exComms (exGLcs 2 5 (-1)) exGQs (exGEvals 50 61) exGProofs [13, 17, 19] :=
  { unbounded := by decide +kernel
    known := fun lc hlc => PST.allKnown_of_bool _ _
      ((by decide +kernel : ∀ lc ∈ exGLcs 2 5 (-1), PST.allKnownB exComms lc.terms = true) lc hlc)
    queried := by decide +kernel
    evaluated := by decide +kernel
    challenges := by decide +kernel
    proofs := by decide +kernel
    witnesses := by decide +kernel
    key := by decide +kernel
    points := by decide +kernel }
example : (∀ q ∈ exGQs, ∀ q' ∈ exGQs, q.2.1 = q'.2.1 → q.2.2 = q'.2.2)
    ∧ (∀ q ∈ exGQs, q.1 ∈ (exGLcs 2 5 (-1)).map (·.label))
    ∧ (∀ q ∈ exGQs, (PST.lookupEval (exGEvals 50 61) q.1 q.2.2).isSome = true)
    ∧ (∀ q ∈ exGQs, exVK.numVars ≤ q.2.2.length) := by decide +kernel
example : PST.groupQueries exGQs = [([122], ([10, 20], [[108], [109]])), ([123], ([10, 20], [[109]]))]
    ∧ PST.numPositions (PST.groupQueries exGQs) = 3 := by decide +kernel
/-- the accepted statement, its per-point defects (both vanish) and the weights -/
example : PST.checkCombinations exVK exComms (exGLcs 2 5 (-1)) exGQs (exGEvals 50 61) exGProofs
    [13, 17, 19] [5] = .ok true := by decide +kernel
example : PST.lcGroupDefects exVK exComms (exGLcs 2 5 (-1)) (exGEvals 50 61) (PST.groupQueries exGQs)
    exGProofs [13, 17, 19] = [0, 0] := by decide +kernel
example : PST.evalWeights [109] [10, 20] (PST.groupQueries exGQs) ([13, 17, 19] : List K) = [17, 19]
    ∧ PST.evalWeights [109] [10, 21] (PST.groupQueries exGQs) ([13, 17, 19] : List K) = [0, 0]
    ∧ PST.labelWeights [109] (PST.groupQueries exGQs) ([13, 17, 19] : List K) = [17, 19]
    ∧ PST.labelWeights [108] (PST.groupQueries exGQs) ([13, 17, 19] : List K) = [13, 0] := by decide +kernel
/-- a changed value (`61 → 62` for `([109], (10,20))`, read under both point labels): rejected with
the randomizer `5` (`1·3·(17 + 5·19)·11 ≠ 0`), but ACCEPTED with the exceptional randomizer `31`
(`17 + 31·19 = 0`): the exceptional condition of `pst13_lc_wrong_value_decision` is sharp -/
example : PST.bumpEval [109] [10, 20] 1 (exGEvals 50 61) = exGEvals 50 62 := by decide +kernel
example : (1 : K) * exVK.g
    * PST.wsum 1 [5] (PST.evalWeights [109] [10, 20] (PST.groupQueries exGQs) [13, 17, 19]) * exVK.h ≠ 0 := by
  decide +kernel
example : PST.checkCombinations exVK exComms (exGLcs 2 5 (-1)) exGQs (exGEvals 50 62) exGProofs
    [13, 17, 19] [5] = .ok false := by decide +kernel
example : PST.wsum (1 : K) [31] (PST.evalWeights [109] [10, 20] (PST.groupQueries exGQs) [13, 17, 19]) = 0
    ∧ PST.checkCombinations exVK exComms (exGLcs 2 5 (-1)) exGQs (exGEvals 50 61) exGProofs
        [13, 17, 19] [31] = .ok true
    ∧ PST.checkCombinations exVK exComms (exGLcs 2 5 (-1)) exGQs (exGEvals 50 62) exGProofs
        [13, 17, 19] [31] = .ok true := by decide +kernel
/-- a changed constant (`−1 → 0` in the combination `[109]`): `pre = [exLC 2 5]`, `post = []` -/
example : exGLcs 2 5 (-1) = [exLC 2 5] ++ ⟨[109], [(1, .poly [113]), (0, .poly [112])] ++ (-1, .one) :: []⟩ :: []
    ∧ exGLcs 2 5 0 = [exLC 2 5] ++ ⟨[109], [(1, .poly [113]), (0, .poly [112])] ++ (-1 + 1, .one) :: []⟩ :: [] := by
  decide +kernel
example : (1 : K) * exVK.g
    * PST.wsum 1 [5] (PST.labelWeights [109] (PST.groupQueries exGQs) [13, 17, 19]) * exVK.h ≠ 0 := by
  decide +kernel
example : PST.checkCombinations exVK exComms (exGLcs 2 5 0) exGQs (exGEvals 50 61) exGProofs
    [13, 17, 19] [5] = .ok false := by decide +kernel
/-- a changed coefficient (`2 → 3` on `[112]`, commitment `27`, in the combination `[108]`):
`pre = []`, `post = [the combination [109]]`, and `[108]` is not a label of `post` -/
example : exGLcs 2 5 (-1) = [] ++ ⟨[108], [] ++ (2, .poly [112]) :: [(-1, .poly [113]), (5, .one)]⟩
      :: [⟨[109], [(1, .poly [113]), (0, .poly [112]), (-1, .one)]⟩]
    ∧ exGLcs 3 5 (-1) = [] ++ ⟨[108], [] ++ (2 + 1, .poly [112]) :: [(-1, .poly [113]), (5, .one)]⟩
      :: [⟨[109], [(1, .poly [113]), (0, .poly [112]), (-1, .one)]⟩]
    ∧ ([108] : PST.Label) ∉ ([⟨[109], [(1, .poly [113]), (0, .poly [112]), (-1, .one)]⟩] :
        List (LC.LinComb K)).map (·.label) := by decide +kernel
example : (1 : K) * 27
    * PST.wsum 1 [5] (PST.labelWeights [108] (PST.groupQueries exGQs) [13, 17, 19]) * exVK.h ≠ 0 := by
  decide +kernel
example : PST.checkCombinations exVK exComms (exGLcs 3 5 (-1)) exGQs (exGEvals 50 61) exGProofs
    [13, 17, 19] [5] = .ok false := by decide +kernel
/-- a shadowed combination: `9·p − q + 5` labelled `[108]` in front of the list is never checked —
only its constant `5` is subtracted once more (claimed value `55` instead of `50`) -/
example : PST.checkCombinations exVK exComms (exLC 9 5 :: exGLcs 2 5 (-1)) exGQs (exGEvals 55 61)
    exGProofs [13, 17, 19] [5] = .ok true
    ∧ PST.checkCombinations exVK exComms (exLC 2 5 :: exGLcs 2 5 (-1)) exGQs (exGEvals 55 61)
        exGProofs [13, 17, 19] [5] = .ok true := by decide +kernel
/-- distinct labels on the example -/
example : ((exGLcs 2 5 (-1)).map (·.label)).Nodup := by decide +kernel

end PCV.C06
