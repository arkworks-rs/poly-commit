/-
  Property C06 — linear-combination openings prove exactly the stated combinations, SonicKZG10's OWN
  `open_combinations` / `check_combinations` (`sonic_pc/mod.rs`; model `PCV/Model/SonicLC.lean`).
  Only property theorems live here; lemmas are in PCV/Proofs/SonicLC.lean.
-/
import PCV.Proofs.SonicLCExamples

namespace PCV.C06
open PCV PCV.Sonic
open PCV.Marlin (Label LPoly Query groupQueries lookupLast lookupEval)
variable {F : Type} [Field F] [DecidableEq F]

/-! ### honest combinations are accepted -/

/-- **A combination of honest commitments is an honest commitment** (Sonic): whatever
`open_combinations` forms from honest (polynomial, state, commitment) triples — arbitrary
coefficients incl. zero and negative, repeated labels, constants (skipped by the prover), or a single
degree-bounded term with coefficient one, which keeps its bound — is an honest triple under the same
keys, labelled with the combination's label, and its polynomial evaluates to the combination of the
evaluations. -/
theorem sonic_lc_honest (ck : CK F) (vk : VK F) (g γ β h : F) (s shb : Nat) (trips : List (Trip F))
    (htr : TripsGood ck vk g γ β h s shb trips) (lc : LC.LinComb F) (res : Trip F)
    (hc : combineLC trips lc = .ok res) :
    Good ck vk g γ β h s shb res.2.2 res.1 res.2.1 ∧ res.2.2.label = lc.label ∧
      res.1.label = lc.label ∧ ∀ z, evalPoly res.1.poly z = lcPolyValue trips z lc.terms :=
  combineLC_good htr hc

/-- what `commit` returns under a trapdoor-made key is such a list of honest triples -/
theorem sonic_lc_base_honest (g γ β bi h : F) (hb : β * bi = 1) (D s shb : Nat)
    (bounds : Option (List Nat)) (ck : CK F) (vk : VK F)
    (ht : trim (wfPP g γ β bi h D) s shb bounds = .ok (ck, vk))
    (ps : List (LPoly F)) (rng : Bool) (draws : List F) (cs : List (LComm F)) (rs : List (List F))
    (drest : List F) (hc : commit ck ps rng draws = .ok (cs, rs, drest)) :
    TripsGood ck vk g γ β h s shb (labelMap ps rs cs) :=
  labelMap_good
    (commit_honest g γ β bi h hb D s shb bounds ck vk ht ps rng draws cs rs drest hc)
    (commit_labels ck ps rng draws cs rs drest hc)

/-- **Prover and verifier form the same combined commitments, or refuse alike.**  On commitments
aligned with the prover's triples, the verifier's pass over the combinations returns exactly the
prover's combined commitments (same bounds) and the claimed evaluations with the constants
subtracted — or the prover's error. -/
theorem sonic_lc_verifier_pass (trips : List (Trip F)) (comms : List (LComm F))
    (hal : Aligned trips comms) (lcs : List (LC.LinComb F)) (evals : List ((Label × F) × F)) :
    combineAllV comms lcs evals = allView lcs evals (combineAll trips lcs) :=
  combineAllV_eq hal lcs evals

/-- **Completeness of `open_combinations` → `check_combinations`.**  For parameters made by `setup`
from any trapdoor, any `trim` the library accepts, commitments from `commit` (any admissible degree
and hiding bounds), ANY list of combinations the prover answers, any query set over the combination
labels (several combinations per point label, point labels sharing a value), any challenges: if each
claimed value is the combined polynomial's value plus the constants subtracted for its label
(`constSum`: for distinct combination labels, the combination's own constants — see
`sonic_lc_complete_values`), the verifier accepts for EVERY randomizer list and is left with the
prover's unused challenges. -/
theorem sonic_lc_complete (g γ β bi h : F) (hb : β * bi = 1) (D s shb : Nat)
    (bounds : Option (List Nat)) (ck : CK F) (vk : VK F)
    (ht : trim (wfPP g γ β bi h D) s shb bounds = .ok (ck, vk))
    (ps : List (LPoly F)) (rng : Bool) (draws : List F) (cs : List (LComm F)) (rs : List (List F))
    (drest : List F) (hc : commit ck ps rng draws = .ok (cs, rs, drest))
    (lcs : List (LC.LinComb F)) (qs : List (Query F)) (evals : List ((Label × F) × F))
    (hev : ∀ gr ∈ groupQueries qs, ∀ l ∈ gr.2.2, ∀ lc,
      lookupLast (fun (lc : LC.LinComb F) => lc.label) l lcs = some lc →
      lookupEval evals l gr.2.1
        = some (lcPolyValue (labelMap ps rs cs) gr.2.1 lc.terms + constSum lcs l))
    (ξs : List F) (πs : List (KZG.Proof F)) (rest : List F)
    (ho : openCombinations ck ps rs cs lcs qs ξs = .ok (πs, rest)) (vrs : List F) :
    checkCombinationsT vk cs lcs qs evals πs ξs vrs = .ok (true, rest) ∧
    checkCombinations vk cs lcs qs evals πs ξs vrs = .ok true := by
  have h1 := lc_complete hb ht hc hev ho vrs
  refine ⟨h1, ?_⟩
  rw [checkCombinationsT_fst, h1]; rfl

/-- **Completeness for the true combination values.**  Distinct combination labels, and every
claimed value is `LinearCombination`'s value `Σ cᵢ·pᵢ(z) + Σ constants` under the true evaluations:
the combination proof is accepted. -/
theorem sonic_lc_complete_values (g γ β bi h : F) (hb : β * bi = 1) (D s shb : Nat)
    (bounds : Option (List Nat)) (ck : CK F) (vk : VK F)
    (ht : trim (wfPP g γ β bi h D) s shb bounds = .ok (ck, vk))
    (ps : List (LPoly F)) (rng : Bool) (draws : List F) (cs : List (LComm F)) (rs : List (List F))
    (drest : List F) (hc : commit ck ps rng draws = .ok (cs, rs, drest))
    (lcs : List (LC.LinComb F)) (hnd : (lcs.map (·.label)).Nodup)
    (qs : List (Query F)) (evals : List ((Label × F) × F))
    (hval : ∀ gr ∈ groupQueries qs, ∀ l ∈ gr.2.2, ∀ lc ∈ lcs, lc.label = l →
      lookupEval evals l gr.2.1 = some (LC.value lc (evalAssign (labelMap ps rs cs) gr.2.1)))
    (ξs : List F) (πs : List (KZG.Proof F)) (rest : List F)
    (ho : openCombinations ck ps rs cs lcs qs ξs = .ok (πs, rest)) (vrs : List F) :
    checkCombinations vk cs lcs qs evals πs ξs vrs = .ok true := by
  refine (sonic_lc_complete g γ β bi h hb D s shb bounds ck vk ht ps rng draws cs rs drest hc lcs qs evals
    ?_ ξs πs rest ho vrs).2
  intro gr hgr l hl lc hlc
  obtain ⟨hm, hlab⟩ := Marlin.lookupLast_mem _ _ _ _ hlc
  rw [hval gr hgr l hl lc hm hlab, ← hlab, constSum_of_nodup hnd hm]
  unfold LC.value
  rw [lc_value_split]

/-! ### the acceptance condition as an explicit defect -/

/-- **`check_combinations` is `batch_check` on the combined commitments and on `claimed − constants`.**
Whatever commitments and proofs the verifier is given: if its pass over the combinations succeeds with
the commitments `lcComms`, the decision is that of Sonic's `batch_check` (C05: `Σₖ ρₖ·Δₖ = 0`, `Δₖ`
the defect of point label `k`) on `lcComms` and on the evaluation map in which every claimed value
labelled `l` has become `claimed − constSum lcs l`. -/
theorem sonic_lc_check_is_batch_check (vk : VK F) (comms : List (LComm F))
    (lcs : List (LC.LinComb F)) (qs : List (Query F)) (evals : List ((Label × F) × F))
    (πs : List (KZG.Proof F)) (ξs rs : List F) (lcComms : List (LComm F))
    (ev' : List ((Label × F) × F)) (hv : combineAllV comms lcs evals = .ok (lcComms, ev')) :
    checkCombinations vk comms lcs qs evals πs ξs rs = batchCheck vk lcComms qs ev' πs ξs rs ∧
    ∀ l z, lookupEval ev' l z = (lookupEval evals l z).map (· - constSum lcs l) := by
  constructor
  · unfold checkCombinations; rw [hv]
  · intro l z
    rw [combineAllV_evals hv, lookupEval_adjust]

set_option linter.unusedVariables false in
/-- **The defect of one point label of a combination proof.**  `sel` the combinations opened at the
point `z` (in the batch's order), `ts` their combined triples, `π` the honest proof: the statement
with the combined commitments changed by `dcs`, the point by `dz` and the values
`claimed − constants` changed by `dvs` from the true `Σ cᵢ·pᵢ(z)` is accepted iff
`Σⱼ ξⱼ·dcⱼ·σ(bⱼ) − g·h·Σⱼ ξⱼ·dvⱼ + W·dz·h = 0`. -/
theorem sonic_lc_defect_iff (g γ β bi h : F) (hb : β * bi = 1) (D s shb : Nat)
    (bounds : Option (List Nat)) (ck : CK F) (vk : VK F)
    (ht : trim (wfPP g γ β bi h D) s shb bounds = .ok (ck, vk))
    (trips : List (Trip F)) (htr : TripsGood ck vk g γ β h s shb trips)
    (sel : List (LC.LinComb F)) (ts : List (Trip F)) (hc : combineAll trips sel = .ok ts)
    (z : F) (ξs : List F) (π : KZG.Proof F) (rest : List F)
    (ho : Sonic.open ck (ts.map (·.1)) z (ts.map (·.2.1)) ξs = .ok (π, rest))
    (dcs dvs : List F) (dz : F) (hcl : dcs.length = sel.length) (hvl : dvs.length = sel.length) :
    check vk (addComms (ts.map (·.2.2)) dcs) (z + dz)
        (addVals (sel.map fun lc => lcPolyValue trips z lc.terms) dvs) π ξs = .ok (true, rest) ↔
      linC vk.shiftD (withComms (ts.map (·.2.2)) dcs) (sel.map fun lc => lcPolyValue trips z lc.terms) ξs
        - g * linV (ts.map (·.2.2)) dvs ξs * h + π.w * dz * h = 0 := by
  obtain ⟨hh, _, hvals⟩ := combineAll_good htr hc
  have hlen := (combineAll_forall₂ hc).length_eq
  rw [← hvals z]
  exact honest_check_iff g γ β bi h D s shb bounds ck vk ht _ _ _ hh z ξs π rest ho dcs dvs dz
    (by rw [hcl, hlen, List.length_map]) (by rw [hvl, hlen, List.length_map])

set_option linter.unusedVariables false in
/-- **A changed claimed value / constant at position `j`** of a point label (they enter as
`claimed − constants`, so the value handed to the check moves by `δ = δ_claimed − δ_constant ≠ 0`):
not accepted whenever `ξⱼ·δ ≠ 0` and `g, h ≠ 0`. -/
theorem sonic_lc_wrong_value_rejected (g γ β bi h : F) (hb : β * bi = 1) (D s shb : Nat)
    (bounds : Option (List Nat)) (ck : CK F) (vk : VK F)
    (ht : trim (wfPP g γ β bi h D) s shb bounds = .ok (ck, vk))
    (trips : List (Trip F)) (htr : TripsGood ck vk g γ β h s shb trips)
    (sel : List (LC.LinComb F)) (ts : List (Trip F)) (hc : combineAll trips sel = .ok ts)
    (z : F) (ξs : List F) (π : KZG.Proof F) (rest : List F)
    (ho : Sonic.open ck (ts.map (·.1)) z (ts.map (·.2.1)) ξs = .ok (π, rest))
    (j : Nat) (δ : F) (hj : j < sel.length)
    (hne : valTerm δ j (ts.map (·.2.2)) ξs ≠ 0) (hg : g ≠ 0) (hh0 : h ≠ 0) :
    check vk (ts.map (·.2.2)) z
        (addVals (sel.map fun lc => lcPolyValue trips z lc.terms) (spike j δ sel.length)) π ξs
      ≠ .ok (true, rest) := by
  obtain ⟨hh, _, hvals⟩ := combineAll_good htr hc
  rw [← hvals z]
  refine honest_value_rejected g γ β bi h D s shb bounds ck vk ht _ _ _ hh z ξs π rest ho
    (spike j δ sel.length)
    (by rw [spike_length, (combineAll_forall₂ hc).length_eq, List.length_map]) ?_
  rw [linV_spike δ j _ sel.length ξs hj]
  exact mul_ne_zero (mul_ne_zero hg hne) hh0

/-- **A changed constant term** (verifier's side) of the combination at position `|A|`: the amount
subtracted from the claims labelled with that combination grows by exactly `δ` (so by
`sonic_lc_wrong_value_rejected` the claim is no longer accepted), other labels are untouched. -/
theorem sonic_lc_constant_change (A B : List (LC.LinComb F)) (lbl : Label)
    (pre post : List (F × LC.LCTerm)) (c δ : F) (l : Label) :
    constSum (A ++ ⟨lbl, pre ++ (c + δ, .one) :: post⟩ :: B) l
      = constSum (A ++ ⟨lbl, pre ++ (c, .one) :: post⟩ :: B) l + (if l = lbl then δ else 0) := by
  rw [constSum_append, constSum_append, constSum, constSum, lcConstant_change, ite_add_zero,
    add_right_comm _ (ite _ δ 0), ← add_assoc]

/-- **A changed coefficient** (verifier's side) of a term naming the unbounded commitment `cl`: same
refusals, same bound, same evaluation map, and the combined commitment moves by exactly `δ·cl` — a
commitment change `dc = δ·cl` in `sonic_lc_defect_iff`, not accepted whenever `ξⱼ·δ·cl·h ≠ 0`. -/
theorem sonic_lc_coefficient_change (comms : List (LComm F)) (evals : List ((Label × F) × F))
    (lbl : Label) (pre post : List (F × LC.LCTerm)) (c δ : F) (l : Label) (cl : LComm F)
    (hl : lookupLast (fun (c : LComm F) => c.label) l comms = some cl) (hb : cl.bound = none) :
    combineLCV comms evals ⟨lbl, pre ++ (c + δ, .poly l) :: post⟩
      = (combineLCV comms evals ⟨lbl, pre ++ (c, .poly l) :: post⟩).map
          fun r => ({ r.1 with comm := r.1.comm + δ * cl.comm }, r.2) := by
  unfold combineLCV
  have hlen : (pre ++ (c + δ, LC.LCTerm.poly l) :: post).length
      = (pre ++ (c, LC.LCTerm.poly l) :: post).length := by
    rw [List.length_append, List.length_append, List.length_cons, List.length_cons]
  dsimp only
  rw [hlen, lcLoopV_coeff comms lbl _ pre post c δ l cl hl hb]
  cases lcLoopV comms lbl (pre ++ (c, LC.LCTerm.poly l) :: post).length ⟨0, none, evals⟩
      (pre ++ (c, LC.LCTerm.poly l) :: post) <;> rfl

set_option linter.unusedVariables false in
/-- a changed combined commitment at position `j` of a point label is not accepted whenever
`ξⱼ·dc·σ(bⱼ) ≠ 0` -/
theorem sonic_lc_wrong_commitment_rejected (g γ β bi h : F) (hb : β * bi = 1) (D s shb : Nat)
    (bounds : Option (List Nat)) (ck : CK F) (vk : VK F)
    (ht : trim (wfPP g γ β bi h D) s shb bounds = .ok (ck, vk))
    (trips : List (Trip F)) (htr : TripsGood ck vk g γ β h s shb trips)
    (sel : List (LC.LinComb F)) (ts : List (Trip F)) (hc : combineAll trips sel = .ok ts)
    (z : F) (ξs : List F) (π : KZG.Proof F) (rest : List F)
    (ho : Sonic.open ck (ts.map (·.1)) z (ts.map (·.2.1)) ξs = .ok (π, rest))
    (j : Nat) (dc : F) (hj : j < sel.length)
    (hne : commTerm vk.shiftD dc j (ts.map (·.2.2)) (sel.map fun lc => lcPolyValue trips z lc.terms) ξs ≠ 0) :
    check vk (addComms (ts.map (·.2.2)) (spike j dc sel.length)) z
        (sel.map fun lc => lcPolyValue trips z lc.terms) π ξs ≠ .ok (true, rest) := by
  intro hacc
  obtain ⟨hh, _, hvals⟩ := combineAll_good htr hc
  rw [← hvals z] at hacc hne
  have h1 := (honest_comm_iff g γ β bi h D s shb bounds ck vk ht _ _ _ hh z ξs π rest ho
    (spike j dc sel.length)
    (by rw [spike_length, (combineAll_forall₂ hc).length_eq, List.length_map])).1 hacc
  rw [linC_spike _ dc j _ sel.length _ ξs hj] at h1
  exact hne h1

/-! ### the degree-bound policy -/

/-- **Refused mixture, prover.**  A combination with `lc.len() ≠ 1` (constants counted) that names a
degree-bounded polynomial — at any position, with any coefficient, next to polynomial terms or to a
constant (even a zero one) — is refused with `EquationHasDegreeBounds` (all labels known). -/
theorem sonic_lc_mixed_refused_prover (trips : List (Trip F)) (lc : LC.LinComb F)
    (hk : lc.terms.length ≠ 1) (hm : Mixed (pBounded trips) lc.terms) :
    combineLC trips lc = .error .equationHasDegreeBounds :=
  combineLC_mixed trips lc hk hm

/-- **Refused mixture, verifier** — for ANY commitment list; the bounds are read off the commitments. -/
theorem sonic_lc_mixed_refused_verifier (comms : List (LComm F)) (evals : List ((Label × F) × F))
    (lc : LC.LinComb F) (hk : lc.terms.length ≠ 1) (hm : Mixed (vBounded comms) lc.terms) :
    combineLCV comms evals lc = .error .equationHasDegreeBounds := by
  rw [combineLCV_eq (aligned_bare comms),
    combineLC_mixed (bare comms) lc hk (pBounded_bare comms ▸ hm)]
  rfl

/-- the refusal of one combination is the answer of `open_combinations` (the combinations before it
having been accepted): no proof is produced, whatever the query set -/
theorem sonic_open_combinations_refuses (ck : CK F) (polys : List (LPoly F)) (sts : List (List F))
    (comms : List (LComm F)) (pre post : List (LC.LinComb F)) (lc : LC.LinComb F) (e : Err)
    (tsp : List (Trip F)) (hp : combineAll (labelMap polys sts comms) pre = .ok tsp)
    (hlc : combineLC (labelMap polys sts comms) lc = .error e) (qs : List (Query F)) (ξs : List F) :
    openCombinations ck polys sts comms (pre ++ lc :: post) qs ξs = .error e := by
  unfold openCombinations
  rw [combineAll_refuses post hp hlc]

/-- the refusal of one combination is the answer of `check_combinations`, whatever proof is presented -/
theorem sonic_check_combinations_refuses (vk : VK F) (comms : List (LComm F))
    (pre post : List (LC.LinComb F)) (lc : LC.LinComb F) (e : Err) (evals : List ((Label × F) × F))
    (csp : List (LComm F)) (evp : List ((Label × F) × F))
    (hp : combineAllV comms pre evals = .ok (csp, evp))
    (hlc : ∀ ev, combineLCV comms ev lc = .error e) (qs : List (Query F)) (πs : List (KZG.Proof F))
    (ξs rs : List F) :
    checkCombinations vk comms (pre ++ lc :: post) qs evals πs ξs rs = .error e := by
  unfold checkCombinations
  rw [combineAllV_refuses post hp hlc]

/-- **One term, prover**: a degree-bounded polynomial is refused with `EquationHasDegreeBounds` unless
the combination has exactly one term; alone it must carry coefficient one (the code's `assert!`:
an abort, not an error value). -/
theorem sonic_lc_step_policy_prover (trips : List (Trip F)) (k : Nat) (acc : LCAcc F) (coeff : F)
    (l : Label) (x : Trip F) (hl : lookupLast (fun (t : Trip F) => t.1.label) l trips = some x)
    (hb : x.1.bound.isSome = true) :
    (k ≠ 1 → lcStep trips k acc (coeff, .poly l) = .error .equationHasDegreeBounds) ∧
    (k = 1 → coeff ≠ 1 → lcStep trips k acc (coeff, .poly l) = .error .abort) :=
  lcStep_policy trips k acc coeff l x hl hb

/-- **One term, verifier.** -/
theorem sonic_lc_step_policy_verifier (comms : List (LComm F)) (lbl : Label) (k : Nat) (acc : VAcc F)
    (coeff : F) (l : Label) (c : LComm F)
    (hl : lookupLast (fun (c : LComm F) => c.label) l comms = some c) (hb : c.bound.isSome = true) :
    (k ≠ 1 → lcStepV comms lbl k acc (coeff, .poly l) = .error .equationHasDegreeBounds) ∧
    (k = 1 → coeff ≠ 1 → lcStepV comms lbl k acc (coeff, .poly l) = .error .abort) :=
  lcStepV_policy comms lbl k acc coeff l c hl hb

/-- an unknown label is refused by both sides -/
theorem sonic_lc_unknown_label (trips : List (Trip F)) (comms : List (LComm F)) (lbl : Label)
    (k : Nat) (acc : LCAcc F) (vacc : VAcc F) (coeff : F) (l : Label)
    (hp : lookupLast (fun (t : Trip F) => t.1.label) l trips = none)
    (hv : lookupLast (fun (c : LComm F) => c.label) l comms = none) :
    lcStep trips k acc (coeff, .poly l) = .error .missingPolynomial ∧
    lcStepV comms lbl k vacc (coeff, .poly l) = .error .missingPolynomial :=
  ⟨lcStep_unknown trips k acc coeff l hp, lcStepV_unknown comms lbl k vacc coeff l hv⟩

/-! ### non-vacuity (K = ZMod 101; the transcript of `Sonic.Ex`, combinations of `Sonic.ExLC`) -/

/-- the hypotheses of `sonic_lc_complete` on a concrete instance: trapdoor inverse, `trim`, `commit`,
`open_combinations` (three combinations — repeated label / zero and negative coefficients / constants,
a single bounded hiding term, two constants — at three point labels, two of them sharing the point) -/
example : (2 : K) * 51 = 1 ∧ trim Ex.pp 3 1 (some [3, 2, 3]) = .ok (Ex.ck, Ex.vk) ∧
    commit Ex.ck Ex.polys true [7, 0, 9, 4] = .ok (Ex.comms, Ex.rands, [4]) ∧
    openCombinations Ex.ck Ex.polys Ex.rands Ex.comms ExLC.lcs ExLC.qs ExLC.xis = .ok (ExLC.proofs, [41]) :=
  ⟨Ex.inv, Ex.trim_eq, Ex.commit_eq, ExLC.open_eq⟩
/-- … the claimed values are the true ones (`hev`, which is `Sonic.Truthful` of the `comb` operation
and is evaluated through its `Decidable` instance), labels distinct -/
example : ∀ gr ∈ groupQueries ExLC.qs, ∀ l ∈ gr.2.2, ∀ lc,
    lookupLast (fun (lc : LC.LinComb K) => lc.label) l ExLC.lcs = some lc →
    lookupEval ExLC.evals l gr.2.1
      = some (lcPolyValue (labelMap Ex.polys Ex.rands Ex.comms) gr.2.1 lc.terms + constSum ExLC.lcs l) :=
  ExLC.claims_true
example : (ExLC.lcs.map (·.label)).Nodup := by decide +kernel
/-- … and the verifier accepts, leaving the prover's unused challenge -/
example : checkCombinationsT Ex.vk Ex.comms ExLC.lcs ExLC.qs ExLC.evals ExLC.proofs ExLC.xis [7, 8]
    = .ok (true, [41]) := ExLC.check_eq
/-- the combined triples (`combineAll`), e.g. `2·p1 − p1 + 5 + 0·p1 ↦ p1` with commitment 24 -/
example : combineAll ExLC.trips ExLC.lcs = .ok ExLC.combined := ExLC.combine_eq
/-- a changed claimed value, a changed constant, a changed coefficient: rejected -/
example : checkCombinations Ex.vk Ex.comms ExLC.lcs ExLC.qs
    [(([108, 48], 5), 34), (([108, 48], 9), 90 + 1), (([108, 49], 5), 86), (([108, 50], 9), 65),
     (([108, 50], 5), 87)] ExLC.proofs ExLC.xis [7, 8] = .ok false := by decide +kernel
example : checkCombinations Ex.vk Ex.comms
    [ExLC.lcA, ExLC.lcB, ⟨[108, 50], [(3, .one), (-4, .poly [112, 49]), (-2 + 1, .one)]⟩] ExLC.qs
    ExLC.evals ExLC.proofs ExLC.xis [7, 8] = .ok false := by decide +kernel
example : checkCombinations Ex.vk Ex.comms
    [ExLC.lcA, ExLC.lcB, ⟨[108, 50], [(3, .one), (-4 + 1, .poly [112, 49]), (-2, .one)]⟩] ExLC.qs
    ExLC.evals ExLC.proofs ExLC.xis [7, 8] = .ok false := by decide +kernel
/-- claimed value and constant moved together: the same statement, accepted -/
example : checkCombinations Ex.vk Ex.comms
    [ExLC.lcA, ExLC.lcB, ⟨[108, 50], [(3 + 9, .one), (-4, .poly [112, 49]), (-2, .one)]⟩] ExLC.qs
    [(([108, 48], 5), 34), (([108, 48], 9), 90), (([108, 49], 5), 86), (([108, 50], 9), 65 + 9),
     (([108, 50], 5), 87 + 9)] ExLC.proofs ExLC.xis [7, 8] = .ok true := by decide +kernel
/-- the side conditions of the rejection theorems hold on the example (first point label) -/
example : valTerm (1 : K) 1 (ExLC.combined.map (·.2.2)) ExLC.xis ≠ 0 ∧ (3 : K) ≠ 0 ∧ (7 : K) ≠ 0 := by
  decide +kernel
/-- refused mixtures: hypotheses and conclusions, prover and verifier -/
example : ExLC.lcMixed.terms.length ≠ 1 ∧ Mixed (pBounded ExLC.trips) ExLC.lcMixed.terms ∧
    Mixed (vBounded Ex.comms) ExLC.lcMixed.terms ∧
    Mixed (pBounded ExLC.trips) ExLC.lcMixedConst.terms ∧
    Mixed (vBounded Ex.comms) ExLC.lcMixedConst.terms := by
  unfold Mixed; decide +kernel
example : combineLC ExLC.trips ExLC.lcMixed = .error .equationHasDegreeBounds ∧
    combineLCV Ex.comms ExLC.evals ExLC.lcMixed = .error .equationHasDegreeBounds ∧
    combineLC ExLC.trips ExLC.lcMixedConst = .error .equationHasDegreeBounds ∧
    combineLCV Ex.comms ExLC.evals ExLC.lcMixedConst = .error .equationHasDegreeBounds ∧
    combineLC ExLC.trips ExLC.lcScaled = .error .abort ∧
    combineLCV Ex.comms ExLC.evals ExLC.lcScaled = .error .abort :=
  ⟨by decide +kernel, by decide +kernel, by decide +kernel, by decide +kernel, by decide +kernel, by decide +kernel⟩
example : openCombinations Ex.ck Ex.polys Ex.rands Ex.comms [ExLC.lcA, ExLC.lcMixed] ExLC.qs ExLC.xis
      = .error .equationHasDegreeBounds ∧
    checkCombinations Ex.vk Ex.comms [ExLC.lcA, ExLC.lcMixed] ExLC.qs ExLC.evals ExLC.proofs ExLC.xis [7]
      = .error .equationHasDegreeBounds := by decide +kernel

/-- the honest-triples hypothesis `TripsGood` (of `sonic_lc_honest`, `sonic_lc_defect_iff`, …) and
the alignment hypothesis of `sonic_lc_verifier_pass` hold on the example: they are what `trim` and
`commit` give -/
example : TripsGood Ex.ck Ex.vk (3 : K) 5 2 7 3 1 ExLC.trips := ExLC.trips_good
example : Aligned ExLC.trips Ex.comms := by
  have := aligned_of_good ExLC.trips_good
  rwa [show ExLC.trips.map (fun (t : Trip K) => t.2.2) = Ex.comms from
    labelMap_comms ExLC.honest] at this
/-- the hypotheses of the defect theorems at the first point label (`lcA`, `lcB` at `z = 5`), and of
`sonic_lc_check_is_batch_check` -/
example : combineAll ExLC.trips [ExLC.lcA, ExLC.lcB] = .ok (ExLC.combined.take 2) ∧
    Sonic.open Ex.ck ((ExLC.combined.take 2).map (·.1)) 5 ((ExLC.combined.take 2).map (·.2.1)) ExLC.xis
      = .ok (⟨72, some 87⟩, [19, 23, 29, 31, 37, 41]) := by decide +kernel
example : combineAllV Ex.comms ExLC.lcs ExLC.evals
    = .ok (ExLC.combined.map (·.2.2),
        [(([108, 48], 5), 29), (([108, 48], 9), 85), (([108, 49], 5), 86), (([108, 50], 9), 64),
         (([108, 50], 5), 86)]) := by decide +kernel
/-- a coefficient change `−4 ↦ −4 + 1` on `p1` (commitment 24, unbounded): the hypotheses of
`sonic_lc_coefficient_change` -/
example : lookupLast (fun (c : LComm K) => c.label) [112, 49] Ex.comms = some ⟨[112, 49], 24, none⟩ := by
  decide +kernel
/-- the hypotheses of the two top-level refusal theorems for `[lcA, lcMixed]` -/
example : combineAll ExLC.trips [ExLC.lcA] = .ok (ExLC.combined.take 1) ∧
    combineAllV Ex.comms [ExLC.lcA] ExLC.evals
      = .ok ([⟨[108, 48], 24, none⟩],
          [(([108, 48], 5), 29), (([108, 48], 9), 85), (([108, 49], 5), 86), (([108, 50], 9), 65),
           (([108, 50], 5), 87)]) := ⟨by decide +kernel, by decide +kernel⟩
example : ∀ ev, combineLCV Ex.comms ev ExLC.lcMixed = .error .equationHasDegreeBounds :=
  fun ev => sonic_lc_mixed_refused_verifier Ex.comms ev ExLC.lcMixed (by decide +kernel) (by unfold Mixed; decide +kernel)

end PCV.C06
