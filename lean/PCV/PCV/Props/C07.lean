/-
  Property C07 — hiding commitments and proofs are blinded with fresh, sufficient randomness.
-/
import PCV.Proofs.KZG10
import PCV.Proofs.Interp
import PCV.Props.Examples

namespace PCV.C07
open PCV
variable {F : Type} [Field F] [DecidableEq F]

/-- **KZG10, structure of a hiding commitment.** With hiding bound `hb = some h` the commitment is
the non-hiding commitment plus `γ·r(β)` where the blinding polynomial `r` consists of `h + 2`
coefficients: the first `h+1` RNG draws followed by the first non-zero later draw. -/
theorem kzg10_hiding_structure (g γ β : F) (n m : Nat) (p : List F) (h : Nat) (draws : List F)
    (c : F) (r rest : List F)
    (hc : KZG.commit (KZG.wfPowers g γ β n m) p (some h) true draws = .ok (c, r, rest)) :
    c = g * evalPoly p β + γ * evalPoly r β ∧ r.length = h + 2 ∧ r.getLast? ≠ some 0 ∧
      r.take (h + 1) = draws.take (h + 1) := by
  refine ⟨(KZG.commit_spec g γ β n m p (some h) true draws c r rest hc).1, ?_⟩
  exact KZG.randPoly_length (h + 1) draws r rest
    ((KZG.commit_some_ok_iff (KZG.commit_ok_fits hc)).1 hc).2.1

/-- **KZG10, no RNG.** A hiding bound without an RNG is refused, never answered with an
unblinded commitment. -/
theorem kzg10_missing_rng (pw : KZG.Powers F) (p : List F) (h : Nat) (draws : List F) :
    (∃ e, KZG.commit pw p (some h) false draws = .error e) := by
  unfold KZG.commit
  split
  · exact ⟨_, rfl⟩
  · exact ⟨.missingRng, by simp⟩

/-- **KZG10, no hiding bound.** The commitment does not depend on the RNG and carries no
blinding. -/
theorem kzg10_nonhiding_deterministic (pw : KZG.Powers F) (p : List F) (rng₁ rng₂ : Bool)
    (d₁ d₂ : List F) :
    (KZG.commit pw p none rng₁ d₁).map (fun x => (x.1, x.2.1))
      = (KZG.commit pw p none rng₂ d₂).map (fun x => (x.1, x.2.1)) := by
  unfold KZG.commit
  split <;> rfl

/-- **KZG10, the proof's blinding field.** `random_v` equals the blinding polynomial's value at
the point (as a contribution to the equation; `None` when `r = 0`). -/
theorem kzg10_random_v (g γ β : F) (n m : Nat) (p r : List F) (z : F) (π : KZG.Proof F)
    (hr : (pnorm r).length ≤ m) (ho : KZG.open (KZG.wfPowers g γ β n m) p z r = .ok π) :
    KZG.rvVal π.rv = evalPoly r z := (KZG.open_spec g γ β n m p r z π hr ho).2

set_option linter.unusedSectionVars false in
/-- **KZG10, injectivity in the randomness.** Two blinding polynomials give the same commitment
iff their difference vanishes at the trapdoor (`γ ≠ 0`). -/
theorem kzg10_commitments_differ (g γ β : F) (p r₁ r₂ : List F) (hγ : γ ≠ 0) :
    g * evalPoly p β + γ * evalPoly r₁ β = g * evalPoly p β + γ * evalPoly r₂ β
      ↔ evalPoly r₁ β = evalPoly r₂ β := by
  rw [add_right_inj, mul_right_inj' hγ]

set_option linter.unusedSectionVars false in
/-- **The simulator's step of the hiding argument.** A blinding polynomial with `h+1` of its
`h+2` coefficients free already realises *every* view of `h` openings: for any committed `p`, any
target commitment `c⋆`, any `h` query points (pairwise distinct and different from the trapdoor)
and any claimed blinding values `tᵢ`, some blinding polynomial of length `h+1` gives exactly that
commitment and those `random_v` values.  Hence commitment and `h` opening proofs are jointly
independent of `p` when the blinding coefficients are uniform. -/
theorem kzg10_blinding_realises_any_view (g γ β : F) (hγ : γ ≠ 0) (p : List F) (h : Nat)
    (zs : Fin h → F) (hz : Function.Injective zs) (hβ : ∀ i, zs i ≠ β)
    (cstar : F) (ts : Fin h → F) :
    ∃ r : List F, r.length = h + 1 ∧ g * evalPoly p β + γ * evalPoly r β = cstar ∧
      ∀ i, evalPoly r (zs i) = ts i := by
  -- interpolate through the trapdoor (target `(c⋆ − g·p(β))/γ`) and the query points (targets `tᵢ`)
  have hinj : Function.Injective (Fin.cons β zs : Fin (h + 1) → F) :=
    Fin.cons_injective_iff.2 ⟨fun ⟨i, hi⟩ => hβ i hi, hz⟩
  obtain ⟨r, hlen, hr⟩ := Interp.exists_poly_through (Fin.cons β zs)
    (Fin.cons ((cstar - g * evalPoly p β) / γ) ts) hinj
  refine ⟨r, hlen, ?_, fun i => ?_⟩
  · have := hr 0
    rw [Fin.cons_zero, Fin.cons_zero] at this
    rw [this, mul_div_cancel₀ _ hγ, add_sub_cancel]
  · have := hr i.succ
    rwa [Fin.cons_succ, Fin.cons_succ] at this

example : KZG.commit (KZG.wfPowers (3 : K) 5 2 3 4) [1, 2, 3] (some 1) true [7, 0, 9, 4]
    = .ok (64, [7, 0, 9], [4]) := by decide +kernel

end PCV.C07
