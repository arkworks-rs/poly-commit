/-
  Property C07 (Hyrax) — commitments and proofs are blinded with fresh randomness from the caller's
  RNG.  Hyrax is always hiding: every ROW commitment carries its own blinding scalar under the
  dedicated generator `h`, and every opening proof is a Σ-protocol transcript masked by a fresh
  nonce vector `d` and fresh scalars `r_eval, r_d, r_b` — drawn separately for every polynomial of
  one `open` call.
-/
import PCV.Proofs.Hyrax
import PCV.Props.C01_Hyrax

set_option linter.unusedSectionVars false

namespace PCV.C07
open PCV PCV.Hyrax
variable {F : Type} [Field F] [DecidableEq F]

/-- **Row blinding.** A commitment to a `2^n`-table has `dim = 2^{n/2}` row commitments; row `i` is
`⟨key, rowᵢ⟩ + h·ρᵢ` where `ρ₀ … ρ_{dim−1}` are the first `dim` draws of the caller's RNG, kept as the
commitment state. -/
theorem hyrax_commit_blinding (ks : List F) (hh : F) (p : MLPoly F) (draws c : List F) (st : State F)
    (h : commitOne ks hh p draws = .ok (c, st)) :
    let dim := 2 ^ (p.nv / 2)
    st.randomness = draws.take dim ∧ st.randomness.length = dim ∧ c.length = dim ∧
    c = List.zipWith (fun row ρ => dot ks row + hh * ρ) (rowsOf p.evals dim dim) st.randomness := by
  obtain ⟨_, _, _, h4, rfl, rfl⟩ := commitOne_ok_iff.1 h
  intro dim
  exact ⟨rfl, List.length_take_of_le h4, rowCommits_rowsOf_length ks hh p.evals draws dim h4, rfl⟩

/-- **Fresh draws per polynomial (commit).** The second and later polynomials of one `commit` call
are blinded by the draws that FOLLOW those of the earlier ones — no scalar is used twice. -/
theorem hyrax_commit_fresh_per_polynomial (ks : List F) (hh : F) (p : MLPoly F) (ps : List (MLPoly F))
    (draws : List F) (coms : List (List F)) (sts : List (State F)) (rest : List F)
    (h : commit ks hh (p :: ps) draws = .ok (coms, sts, rest)) :
    ∃ c st cs' sts', commitOne ks hh p draws = .ok (c, st) ∧
      commit ks hh ps (draws.drop (2 ^ (p.nv / 2))) = .ok (cs', sts', rest) ∧
      coms = c :: cs' ∧ sts = st :: sts' :=
  commit_cons_ok_iff.1 h

/-- **Proof blinding.** The proof for one polynomial is the Σ-protocol transcript
`com_eval = eval·K₀ + r_eval·h`, `com_d = ⟨key,d⟩ + r_d·h`, `com_b = ⟨R,d⟩·K₀ + r_b·h`,
`z = d + c·(L·T)`, `z_d = c·⟨L,ρ⟩ + r_d`, `z_b = c·r_eval + r_b`, with `r_eval, d, r_d, r_b` the next
`dim+3` draws of the caller's RNG. -/
theorem hyrax_proof_blinding (ks : List F) (hh : F) (L R ρ evals : List F) (dim : Nat)
    (draws : List F) (ch : F) (π : Proof F)
    (h : openOne ks hh L R ⟨ρ, ⟨dim, dim, rowsOf evals dim dim⟩⟩ (drawREval draws) (drawD dim draws)
      (drawRD dim draws) (drawRB dim draws) ch = .ok π) :
    ∃ k0, key0 ks = some k0 ∧
      π.comEval = k0 * dot (ltOf L evals dim) R + hh * drawREval draws ∧
      π.comD = dot ks (drawD dim draws) + hh * drawRD dim draws ∧
      π.comB = k0 * dot R (drawD dim draws) + hh * drawRB dim draws ∧
      π.z = vectorSum (drawD dim draws) (scalarByVector ch (ltOf L evals dim)) ∧
      π.zD = ch * dot L ρ + drawRD dim draws ∧
      π.zB = ch * drawREval draws + drawRB dim draws := by
  obtain ⟨_, _, k0, hk, rfl⟩ := openOne_ok_iff.1 h
  exact ⟨k0, hk, rfl, rfl, rfl, rfl, rfl, rfl⟩

omit [DecidableEq F] in
/-- **Fresh nonces per polynomial (open).** Inside one `open` call the `k`-th polynomial's transcript
uses draws `k·(dim+3) … (k+1)·(dim+3) − 1`: the nonce vector and blinders are never shared between two
proofs (sharing them would reveal `c₁·(L·T₁) − c₂·(L·T₂)` from `z₁ − z₂`). -/
theorem hyrax_open_fresh_per_polynomial (ks : List F) (hh : F) (L R : List F) (n dim : Nat)
    (it : OpenItem F) (its : List (OpenItem F)) (draws cs : List F) (πs : List (Proof F))
    (h : openLoop ks hh L R n dim (it :: its) draws cs = .ok πs) :
    ∃ c cs' π πs', cs = c :: cs' ∧ dim + 3 ≤ draws.length ∧
      openOne ks hh L R it.st (drawREval draws) (drawD dim draws) (drawRD dim draws)
        (drawRB dim draws) c = .ok π ∧
      openLoop ks hh L R n dim its (draws.drop (dim + 3)) cs' = .ok πs' ∧ πs = π :: πs' := by
  obtain ⟨c, cs', π, πs', h1, _, _, h4⟩ := openLoop_cons_ok_iff.1 h
  exact ⟨c, cs', π, πs', h1, h4⟩

omit [DecidableEq F] in
/-- **The response vector is perfectly masked.** For every secret vector `lt = L·T`, challenge `c`
and every candidate response `z` of the right length there is exactly one nonce vector `d` that
produces it — so a uniformly random `d` makes `z` uniformly random whatever the secret is. -/
theorem hyrax_response_masked (lt z : List F) (c : F) (hl : z.length = lt.length) :
    ∃ d, d.length = lt.length ∧ vectorSum d (scalarByVector c lt) = z ∧
      ∀ d', d'.length = lt.length → vectorSum d' (scalarByVector c lt) = z → d' = d :=
  vectorSum_left_unique (List.length_map _) hl

/-! non-vacuity: the worked example of C01_Hyrax — two polynomials, draws `10,20 | 2,4` at commit and
`1,2,3,4,5 | 6,7,8,9,10` at open -/
example : commit ([3, 5] : List K) 7 C01.hyraxExPolys [10, 20, 2, 4]
    = .ok (C01.hyraxExComs, C01.hyraxExStates, []) := by decide +kernel
example : (C01.hyraxExProofs.map (·.comD)) ≠ [] ∧
    (C01.hyraxExProofs.map (·.comD)).Nodup := by decide +kernel

end PCV.C07
