/-
  Property C07 (inner-product argument) — hiding commitments and proofs are blinded with fresh
  randomness from the caller's RNG.  IPA commitments are Pedersen vector commitments: ONE uniformly
  random scalar under the dedicated generator `S` blinds a commitment perfectly (the `h+2`-coefficient
  count of the property text is the KZG-family form; for IPA the hiding bound only switches blinding
  on).  The opening proof of a hiding commitment is blinded by a fresh random polynomial vanishing at
  the point and a fresh scalar.
-/
import PCV.Proofs.IPA
import PCV.Props.Examples

namespace PCV.C07
open PCV
variable {F : Type} [Field F] [DecidableEq F]

/-- **IPA hiding commitment.** With a hiding bound, the plain commitment is blinded by the FIRST
draw of the caller's RNG under `S`, and a degree-bounded polynomial's shifted commitment by the
SECOND, independent draw; the unused draws are handed on. -/
theorem ipa_hiding_structure (ck : IPA.CK F) (p : IPA.LPoly F) (draws : List F)
    (c : IPA.Comm F) (st : IPA.Rand F) (rest : List F) (hh : p.hb.isSome = true)
    (hc : IPA.commitOne ck p true draws = .ok (c, st, rest)) :
    c.comm = dot ck.commKey p.poly + ck.s * st.rand ∧
    (p.bound = none → draws = st.rand :: rest ∧ st.shifted = none ∧ c.shifted = none) ∧
    (∀ d, p.bound = some d → ∃ ρs, draws = st.rand :: ρs :: rest ∧ st.shifted = some ρs ∧
      c.shifted = some (dot (ck.commKey.drop (IPA.supportedDegree ck - d)) p.poly + ck.s * ρs)) := by
  obtain ⟨_, hd, rfl⟩ := (IPA.commitOne_ok_iff ..).1 hc
  refine ⟨IPA.plainComm_eq ck p.poly st.rand, ?_⟩
  rcases IPA.drawRand_ok hd with ⟨h0, _⟩ | ⟨_, _, ⟨hb, ρ, rfl, rfl⟩ | ⟨hb, ρ, ρs, rfl, rfl⟩⟩
  · rw [hh] at h0; cases h0
  · exact ⟨fun hn => ⟨rfl, rfl, (by rw [hn]; rfl)⟩, fun d hd' => (by rw [hd'] at hb; cases hb)⟩
  · refine ⟨fun hn => (by rw [hn] at hb; cases hb), fun d hd' => ⟨ρs, rfl, rfl, ?_⟩⟩
    rw [hd']
    simp only [Option.map_some, IPA.shiftedComm, IPA.cmCommit_eq, IPA.optVal]

/-- without an RNG a hiding commit never returns a commitment (the library's `OptionalRng` panics) -/
theorem ipa_missing_rng (ck : IPA.CK F) (p : IPA.LPoly F) (draws : List F) (hh : p.hb.isSome = true) :
    ∀ x, IPA.commitOne ck p false draws ≠ .ok x := by
  rintro ⟨c, st, rest⟩ hc
  obtain ⟨_, hd, _⟩ := (IPA.commitOne_ok_iff ..).1 hc
  rcases IPA.drawRand_ok hd with ⟨h0, _⟩ | ⟨_, h1, _⟩
  · rw [hh] at h0; cases h0
  · cases h1

/-- without a hiding bound: no blinding, no draws consumed, the same result with or without an RNG -/
theorem ipa_nonhiding_deterministic (ck : IPA.CK F) (p : IPA.LPoly F) (rng₁ rng₂ : Bool)
    (d₁ d₂ : List F) (hh : p.hb = none) :
    (IPA.commitOne ck p rng₁ d₁).map (fun x => (x.1, x.2.1)) =
      (IPA.commitOne ck p rng₂ d₂).map (fun x => (x.1, x.2.1)) ∧
    ∀ c st rest, IPA.commitOne ck p rng₁ d₁ = .ok (c, st, rest) →
      st = ⟨0, none⟩ ∧ rest = d₁ ∧ c.comm = dot ck.commKey p.poly := by
  have hs : p.hb.isSome = false := by rw [hh]; rfl
  constructor
  · unfold IPA.commitOne IPA.drawRand
    rw [hs]
    split <;> simp [Except.map]
  · intro c st rest hc
    obtain ⟨_, hd, rfl⟩ := (IPA.commitOne_ok_iff ..).1 hc
    rcases IPA.drawRand_ok hd with ⟨_, rfl, rfl⟩ | ⟨h1, _⟩
    · exact ⟨rfl, rfl, by rw [IPA.plainComm_eq, mul_zero, add_zero]⟩
    · rw [hs] at h1; cases h1

/-- **IPA hiding proof.** When some opened polynomial is hiding, the prover draws a fresh polynomial of
`s+1` coefficients (non-zero top) from the caller's RNG followed by one more fresh scalar `ω`; the
polynomial is shifted to vanish at the point, committed under the full key with `ω` as blinder
(`hiding_comm`), and the proof's `rand` is the combined commitment randomness plus `α·ω`. -/
theorem ipa_proof_blinding (ck : IPA.CK F) (z : F) (acc acc' : IPA.OpenAcc F) (draws ros : List F)
    (hcomm : Option F) (ros' draws' : List F) (hh : acc.hid = true)
    (hs : IPA.hidingStep ck z acc true draws ros = .ok (acc', hcomm, ros', draws')) :
    ∃ hp ω α, KZG.randPoly (IPA.supportedDegree ck) draws = some (hp, ω :: draws') ∧
      hp.length = IPA.supportedDegree ck + 1 ∧ hp.getLast? ≠ some 0 ∧
      ros = α :: ros' ∧
      evalPoly (IPA.subConst hp (evalPoly hp z)) z = 0 ∧
      hcomm = some (dot ck.commKey (IPA.subConst hp (evalPoly hp z)) + ck.s * ω) ∧
      acc'.r = acc.r + α * ω ∧
      acc'.p = padd acc.p (pscale α (IPA.subConst hp (evalPoly hp z))) := by
  rcases IPA.hidingStep_ok hs with
    ⟨h0, _⟩ | ⟨_, _, hp, ω, α, hr, rfl, rfl, rfl⟩
  · rw [hh] at h0; cases h0
  · obtain ⟨l1, n1, _⟩ := KZG.randPoly_length _ _ _ _ hr
    exact ⟨hp, ω, α, hr, l1, n1, rfl, IPA.eval_subConst hp z, by rw [IPA.cmCommit_eq]; rfl, rfl, rfl⟩

/-- a hiding open without an RNG aborts instead of returning an unblinded proof -/
theorem ipa_proof_missing_rng (ck : IPA.CK F) (z : F) (acc : IPA.OpenAcc F) (draws ros : List F)
    (hh : acc.hid = true) : IPA.hidingStep ck z acc false draws ros = .error .abort := by
  unfold IPA.hidingStep; rw [hh]; simp

/-- a non-hiding open draws nothing and publishes no hiding commitment -/
theorem ipa_proof_nonhiding (ck : IPA.CK F) (z : F) (acc : IPA.OpenAcc F) (rng : Bool)
    (draws ros : List F) (hh : acc.hid = false) :
    IPA.hidingStep ck z acc rng draws ros = .ok (acc, none, ros, draws) := by
  unfold IPA.hidingStep; rw [hh]; simp

/-! non-vacuity -/
example : IPA.commitOne (⟨[3, 5, 7, 11], 13, 17, 7⟩ : IPA.CK K) ⟨[1], [4, 9, 2], some 2, some 1⟩ true [6, 8, 9]
    = .ok (⟨72, some 39⟩, ⟨6, some 8⟩, [9]) := by decide +kernel
example : IPA.hidingStep (⟨[3, 5], 13, 17, 3⟩ : IPA.CK K) 4 ⟨[1, 2], 5, 6, true⟩ true [7, 8, 9, 10] [11, 12]
    = .ok (⟨[53, 90], 95, 4, true⟩, some 97, [12], [10]) := by decide +kernel

end PCV.C07
