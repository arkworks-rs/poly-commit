/-
  Property C07 (MarlinKZG10) — hiding commitments are blinded with fresh, sufficient randomness.
-/
import PCV.Proofs.MarlinMore
import PCV.Props.C01_Marlin

namespace PCV.C07
open PCV Marlin
variable {F : Type} [Field F] [DecidableEq F]

/-- the blinding polynomial of a hiding KZG commitment is `DensePolynomial::rand(h+1)` on the
caller's draws, and the unused draws are handed on -/
theorem kzg10_commit_draws (pw : KZG.Powers F) (p : List F) (h : Nat) (draws : List F)
    (c : F) (r rest : List F) (hc : KZG.commit pw p (some h) true draws = .ok (c, r, rest)) :
    KZG.randPoly (h + 1) draws = some (r, rest) :=
  ((KZG.commit_some_ok_iff (KZG.commit_ok_fits hc)).1 hc).2.1

/-- **Marlin hiding structure.** With hiding bound `h` and a degree bound, the plain and the
shifted commitment are blinded by two *independent* blinding polynomials of `h+2` coefficients
each: the first from the first draws of the caller's RNG, the second from the draws that follow;
the top coefficients are non-zero. -/
theorem marlin_hiding_structure (ck : CK F) (p : LPoly F) (h b : Nat) (draws : List F)
    (c : Comm F) (r : Rand F) (rest : List F) (hh : p.hb = some h) (hb : p.bound = some b)
    (hc : commitOne ck p true draws = .ok (c, r, rest)) :
    ∃ mid rs, KZG.randPoly (h + 1) draws = some (r.rand, mid) ∧ r.shifted = some rs ∧
      KZG.randPoly (h + 1) mid = some (rs, rest) ∧
      r.rand.length = h + 2 ∧ rs.length = h + 2 ∧
      r.rand.getLast? ≠ some 0 ∧ rs.getLast? ≠ some 0 := by
  obtain ⟨-, -, c0, r0, mid, hk, ⟨hbn, -⟩ | ⟨b', sp, s, rs, -, -, hk2, rfl, rfl⟩⟩ := commitOne_ok hc
  · rw [hb] at hbn; cases hbn
  · rw [hh] at hk hk2
    have h1 := kzg10_commit_draws _ _ _ _ _ _ _ hk
    have h2 := kzg10_commit_draws _ _ _ _ _ _ _ hk2
    obtain ⟨l1, n1, -⟩ := KZG.randPoly_length _ _ _ _ h1
    obtain ⟨l2, n2, -⟩ := KZG.randPoly_length _ _ _ _ h2
    exact ⟨mid, rs, h1, rfl, h2, l1, l2, n1, n2⟩

/-- without a hiding bound Marlin's commitment carries no blinding and ignores the RNG -/
theorem marlin_nonhiding_no_blinding (ck : CK F) (p : LPoly F) (rng : Bool) (draws : List F)
    (c : Comm F) (r : Rand F) (rest : List F) (hh : p.hb = none)
    (hc : commitOne ck p rng draws = .ok (c, r, rest)) :
    r.rand = [] ∧ (∀ rs, r.shifted = some rs → rs = []) ∧ rest = draws :=
  commitOne_no_blinding hh hc

example : commitOne C01.exCK C01.exPoly true [7, 8, 9, 4, 5, 6]
    = .ok (⟨43, some 90⟩, ⟨[7, 8, 9], some [4, 5, 6]⟩, []) := by decide +kernel

end PCV.C07
