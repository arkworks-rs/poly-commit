/-
  Property C07 — hiding commitments and proofs are blinded with fresh, sufficient randomness:
  MarlinPST13.  The blinding polynomial is `SparsePolynomial::rand(hb + 1, num_vars, rng)`:
  a constant plus, per variable, the degrees `1..hb+1` — `1 + num_vars·(hb+1)` field draws taken
  from the caller's RNG, in that order.
-/
import PCV.Proofs.PST13
import PCV.Proofs.Combinations
import PCV.Props.Examples

set_option synthInstance.maxSize 512

namespace PCV.C07
open PCV PCV.MV PCV.C15Spec
variable {F : Type} [Field F] [DecidableEq F]

/-- **PST13, what a hiding `commit` draws and builds** (arbitrary committer key).  If `commit`
with hiding bound `hb` succeeds: an RNG was supplied; `1 ≤ hb ≤ supported_degree`; exactly
`1 + num_vars·(hb+1)` draws were consumed from the caller's stream and the remainder is handed
back untouched; the blinding polynomial is `from_coefficients_vec` of those draws, in order,
against the terms `1, x₀, …, x₀^(hb+1), x₁, …` (`randTerms`). -/
theorem pst13_blinding_draws (ck : PST.CK F) (p : MVPoly F) (hb : Nat) (rng : Bool)
    (draws : List F) (c : F) (r : MVPoly F) (rest : List F)
    (h : PST.commit ck p (some hb) rng draws = .ok (c, r, rest)) :
    rng = true ∧ 1 ≤ hb ∧ hb ≤ ck.supportedDegree ∧ 1 + ck.numVars * (hb + 1) ≤ draws.length ∧
      r = fromCoeffs (List.zip (draws.take (1 + ck.numVars * (hb + 1)))
            (PST.randTerms (hb + 1) ck.numVars)) ∧
      rest = draws.drop (1 + ck.numVars * (hb + 1)) := by
  obtain ⟨_, hrng, h1, h2, c0, rr, rc, _, hrr, _, hout⟩ := PST.commit_some_iff.1 h
  obtain ⟨hlen, rfl⟩ := (PST.randMV_eq_some_iff _ _ _ _).1 hrr
  cases hout
  exact ⟨hrng, h1, h2, hlen, rfl, rfl⟩

/-- **The terms of the blinding polynomial**: the constant, and for each variable `v < num_vars`
the pure powers `x_v^j`, `1 ≤ j ≤ hb + 1` — `1 + num_vars·(hb+1)` of them, one per draw. -/
theorem pst13_blinding_terms (d l : Nat) :
    (PST.randTerms d l).length = 1 + l * d ∧
    ∀ t, t ∈ PST.randTerms d l ↔ (t = [] ∨ ∃ v j, v < l ∧ j < d ∧ t = [(v, j + 1)]) := by
  constructor
  · unfold PST.randTerms
    simp only [List.length_cons, List.length_flatMap, List.length_map, List.length_range]
    have : ((List.range l).map (fun _ => d)).sum = l * d := by
      induction l with
      | zero => simp
      | succ n ih => rw [List.range_succ, List.map_append, List.sum_append, ih]; simp [Nat.succ_mul]
    omega
  · exact PST.mem_randTerms_iff d l

/-- **Commitment = plain part + γ-part.** Under a well-formed key the hiding commitment is the
non-hiding commitment of the same polynomial plus `γ·r(β⃗)`, `r` the blinding polynomial. -/
theorem pst13_commitment_split (g γ : F) (β : List F) (ts : List Term) (nv s D m : Nat)
    (p : MVPoly F) (hb : Option Nat) (rng rng' : Bool) (draws draws' : List F)
    (c c0 : F) (r r0 : MVPoly F) (rest rest0 : List F)
    (h : PST.commit (PST.wfCK g γ β ts nv s D m) p hb rng draws = .ok (c, r, rest))
    (h0 : PST.commit (PST.wfCK g γ β ts nv s D m) p none rng' draws' = .ok (c0, r0, rest0)) :
    c0 = g * evalMV p β ∧ c = c0 + γ * evalMV r β := by
  have e := (PST.commit_spec g γ β ts nv s D m p hb rng draws c r rest h).1
  have e0 := (PST.commit_spec g γ β ts nv s D m p none rng' draws' c0 r0 rest0 h0).1
  have hr0 := (PST.commit_none _ p rng' draws' c0 r0 rest0 h0).1
  subst hr0
  simp only [evalMV_nil, mul_zero, add_zero] at e0
  exact ⟨e0, by rw [e, e0]⟩

/-- **Hiding bound `0` is refused** (PST13 only), and so is any bound above the supported degree —
whatever polynomial, RNG and stream. -/
theorem pst13_hiding_zero_refused (ck : PST.CK F) (p : MVPoly F) (hb : Nat) (rng : Bool)
    (draws : List F) (hbad : hb = 0 ∨ ck.supportedDegree < hb) (out : F × MVPoly F × List F) :
    PST.commit ck p (some hb) rng draws ≠ .ok out :=
  PST.commit_hiding_refused ck p hb rng draws hbad out

/-- **No hiding ⇒ no blinding, RNG untouched, no `random_v`.** -/
theorem pst13_no_hiding (ck : PST.CK F) (p : MVPoly F) (rng : Bool) (draws : List F) (c : F)
    (r : MVPoly F) (rest : List F) (h : PST.commit ck p none rng draws = .ok (c, r, rest))
    (nvp nvr : Nat) (z : List F) (ξ : F) (ξs : List F) (π : PST.Proof F)
    (ho : PST.open ck nvp nvr [p] z [r] (ξ :: ξs) = .ok π) :
    r = [] ∧ rest = draws ∧ π.rv = none := by
  obtain ⟨hr, hrest⟩ := PST.commit_none ck p rng draws c r rest h
  subst hr
  refine ⟨rfl, hrest, ?_⟩
  have := (PST.open_random_v forall_mem_termsOf_nil ho).1
  rw [this]
  rfl

/-- **`random_v` is the blinding polynomial's value at the point**: for the blinding polynomial `r`
of `commit` and challenge `ξ`, the proof carries `(ξ·r)(z) = ξ·r(z)` — `None` exactly when `ξ·r` is
the zero polynomial. -/
theorem pst13_random_v (g γ : F) (β : List F) (ts : List Term) (nv s D m : Nat) (p : MVPoly F)
    (hb : Option Nat) (rng : Bool) (draws : List F) (c : F) (r : MVPoly F) (rest : List F)
    (nvp nvr : Nat) (z : List F) (ξ : F) (ξs : List F) (π : PST.Proof F)
    (hc : PST.commit (PST.wfCK g γ β ts nv s D m) p hb rng draws = .ok (c, r, rest))
    (ho : PST.open (PST.wfCK g γ β ts nv s D m) nvp nvr [p] z [r] (ξ :: ξs) = .ok π) :
    π.rv = (if isZeroMV (addScaledMV [] ξ r) then none else some (evalMV (addScaledMV [] ξ r) z))
      ∧ PST.rvVal π.rv = ξ * evalMV r z := by
  have hw := (PST.commit_spec g γ β ts nv s D m p hb rng draws c r rest hc).2.1
  exact PST.open_random_v ((polyWf_iff r).1 hw) ho

/-- non-vacuity over `ZMod 101` (two variables, hiding bound 1 ⇒ `1 + 2·2 = 5` draws, the sixth is
handed back): the term order of `rand`, the blinding polynomial from the draws (sorted by
`from_coefficients_vec`), the hiding commitment `35 + 5·69` = plain `35` + γ-part (`r(β⃗) = 69`), and `random_v`;
hiding bound `0` refused; no hiding: nothing drawn, no `random_v` -/
example : PST.randTerms 2 2 = [[], [(0, 1)], [(0, 2)], [(1, 1)], [(1, 2)]] := by decide +kernel
example : PST.commit (PST.wfCK (3 : K) 5 [2, 7] (specTerms 2 2) 2 2 2 3)
    [(4, []), (6, [(1, 1)]), (9, [(0, 1), (1, 1)]), (2, [(0, 2)])] (some 1) true [7, 5, 9, 4, 8, 11]
    = .ok (35 + 5 * 69, [(7, []), (4, [(1, 1)]), (5, [(0, 1)]), (8, [(1, 2)]), (9, [(0, 2)])], [11]) := by
  decide +kernel
example : PST.commit (PST.wfCK (3 : K) 5 [2, 7] (specTerms 2 2) 2 2 2 3)
    [(4, []), (6, [(1, 1)]), (9, [(0, 1), (1, 1)]), (2, [(0, 2)])] none false [7, 5]
    = .ok (35, [], [7, 5]) := by decide +kernel
example : PST.commit (PST.wfCK (3 : K) 5 [2, 7] (specTerms 2 2) 2 2 2 3)
    [(4, []), (6, [(1, 1)])] (some 0) true [7, 5, 9, 4, 8, 11] = .error .hidingBoundZero := by decide +kernel
example : PST.open (PST.wfCK (3 : K) 5 [2, 7] (specTerms 2 2) 2 2 2 3) 2 0
    [[(4, []), (6, [(1, 1)]), (9, [(0, 1), (1, 1)]), (2, [(0, 2)])]] [10, 20] [[]] [13]
    = .ok ⟨[60, 7], none⟩ := by decide +kernel
example : PST.open (PST.wfCK (3 : K) 5 [2, 7] (specTerms 2 2) 2 2 2 3) 2 2
    [[(4, []), (6, [(1, 1)]), (9, [(0, 1), (1, 1)]), (2, [(0, 2)])]] [10, 20]
    [[(7, []), (4, [(1, 1)]), (5, [(0, 1)]), (8, [(1, 2)]), (9, [(0, 2)])]] [13]
    = .ok ⟨[32, 66], some 36⟩ := by decide +kernel
example : (13 : K) * evalMV ([(7, []), (4, [(1, 1)]), (5, [(0, 1)]), (8, [(1, 2)]), (9, [(0, 2)])] : MVPoly K)
    [10, 20] = 36 := by decide +kernel

end PCV.C07
