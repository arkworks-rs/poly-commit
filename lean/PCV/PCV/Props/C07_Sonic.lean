/-
  Property C07 (SonicKZG10) — hiding commitments are blinded with fresh, sufficient randomness.
  Sonic commits a (possibly degree-bounded) polynomial with ONE KZG10 commitment under the powers
  selected by the bound; the blinding polynomial comes from the caller's RNG draws.
-/
import PCV.Proofs.SonicExamples
import PCV.Props.C07_Marlin

namespace PCV.C07
open PCV PCV.Sonic
open PCV.Marlin (LPoly)
variable {F : Type} [Field F] [DecidableEq F]

/-- what `KZG.commit` returns on success with a hiding bound: plain part + blinding under `gg` -/
theorem kzg10_commit_value (pw : KZG.Powers F) (p : List F) (h : Nat) (draws : List F)
    (c : F) (r rest : List F) (hc : KZG.commit pw p (some h) true draws = .ok (c, r, rest)) :
    c = KZG.msmSkip pw.g p + dot pw.gg r :=
  ((KZG.commit_some_ok_iff (KZG.commit_ok_fits hc)).1 hc).2.2.2

/-- **Sonic hiding structure.** A hiding commitment (bound `h`) is the non-hiding commitment under
the powers selected by the degree bound plus the blinding term under the matching hiding generators;
the blinding polynomial is `h+2` coefficients taken from the front of the caller's draws with a
non-zero top coefficient, and the unused draws are handed on. -/
theorem sonic_hiding_structure (ck : CK F) (p : LPoly F) (h : Nat) (draws : List F)
    (c : F) (r rest : List F) (hh : p.hb = some h)
    (hc : commitOne ck p true draws = .ok (c, r, rest)) :
    ∃ pw, powersFor ck p.bound = .ok pw ∧
      c = KZG.msmSkip pw.g p.poly + dot pw.gg r ∧
      KZG.randPoly (h + 1) draws = some (r, rest) ∧
      r.length = h + 2 ∧ r.getLast? ≠ some 0 ∧ r.take (h + 1) = draws.take (h + 1) := by
  obtain ⟨_, _, pw, hpw, hk⟩ := commitOne_inv hc
  rw [hh] at hk
  have h1 := kzg10_commit_draws _ _ _ _ _ _ _ hk
  obtain ⟨l1, n1, t1⟩ := KZG.randPoly_length _ _ _ _ h1
  exact ⟨pw, hpw, kzg10_commit_value _ _ _ _ _ _ _ hk, h1, l1, n1, t1⟩

/-- without an RNG a hiding commit never returns a commitment -/
theorem sonic_missing_rng (ck : CK F) (p : LPoly F) (h : Nat) (draws : List F) (hh : p.hb = some h) :
    ∀ x, commitOne ck p false draws ≠ .ok x := by
  intro x hc
  exact (commitOne_inv hc).2.1 ⟨by rw [hh]; rfl, rfl⟩

/-- without a hiding bound the commitment is the plain key-defined sum, carries no blinding, and
does not touch the RNG (so it is the same with or without one) -/
theorem sonic_nonhiding_deterministic (ck : CK F) (p : LPoly F) (rng : Bool) (draws : List F)
    (c : F) (r rest : List F) (hh : p.hb = none)
    (hc : commitOne ck p rng draws = .ok (c, r, rest)) :
    ∃ pw, powersFor ck p.bound = .ok pw ∧ c = KZG.msmSkip pw.g p.poly ∧ r = [] ∧ rest = draws := by
  obtain ⟨_, _, pw, hpw, hk⟩ := commitOne_inv hc
  have hfit := KZG.commit_ok_fits hk
  rw [hh, KZG.commit_none _ _ _ _ hfit] at hk
  cases hk
  exact ⟨pw, hpw, rfl, rfl, rfl⟩

/-- different blinding polynomials give different commitments unless they agree under the hiding
generators: for keys from `setup` (`gg = powers γ β`) two commitments to the same polynomial coincide
iff `γ·(r₁ - r₂)(β) = 0` — for `γ ≠ 0` and independent streams an event of probability ≤ (h+1)/|F| -/
theorem sonic_commitments_differ (pw : KZG.Powers F) (p r₁ r₂ : List F)
    (hne : dot pw.gg r₁ ≠ dot pw.gg r₂) :
    KZG.msmSkip pw.g p + dot pw.gg r₁ ≠ KZG.msmSkip pw.g p + dot pw.gg r₂ := by
  intro h; exact hne (add_left_cancel h)

/-! non-vacuity: the bounded hiding polynomial of the worked example -/
example : commitOne Ex.ck ⟨[112, 48], [1, 2, 3], some 3, some 1⟩ true [7, 0, 9, 4]
    = .ok (27, [7, 0, 9], [4]) := by decide +kernel
example : commitOne Ex.ck ⟨[112, 49], [4, 0, 1], none, none⟩ false [7, 0, 9, 4]
    = .ok (24, [], [7, 0, 9, 4]) := by decide +kernel
end PCV.C07
