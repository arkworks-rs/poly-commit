/-
  Property C08 — commitments are the key-defined linear map of the polynomial (homomorphic).
-/
import PCV.Proofs.KZG10
import PCV.Props.Examples

namespace PCV.C08
open PCV
variable {F : Type} [Field F] [DecidableEq F]

/-- **KZG10, arbitrary key.** The non-hiding commitment is the dot product of the coefficient
vector with the published key elements — whatever the key scalars are; skipping low-order zero
coefficients is semantically the identity. -/
theorem kzg10_commit_is_msm (pw : KZG.Powers F) (p : List F) (rng : Bool) (draws : List F)
    (c : F) (r rest : List F) (h : KZG.commit pw p none rng draws = .ok (c, r, rest)) :
    c = dot pw.g p ∧ r = [] ∧ rest = draws := by
  rw [KZG.commit_none pw p rng draws (KZG.commit_ok_fits h)] at h
  cases h
  exact ⟨KZG.msmSkip_eq _ _, rfl, rfl⟩

/-- **KZG10, well-formed key.** `commit = g·p(β) + γ·r(β)`; `r = []` without a hiding bound. -/
theorem kzg10_commit_spec (g γ β : F) (n m : Nat) (p : List F) (hb : Option Nat) (rng : Bool)
    (draws : List F) (c : F) (r rest : List F)
    (h : KZG.commit (KZG.wfPowers g γ β n m) p hb rng draws = .ok (c, r, rest)) :
    c = g * evalPoly p β + γ * evalPoly r β ∧ (hb = none → r = []) := by
  obtain ⟨h1, _, _, h4⟩ := KZG.commit_spec g γ β n m p hb rng draws c r rest h
  exact ⟨h1, h4⟩

/-- additivity and homogeneity of the commitment map, for an arbitrary key -/
theorem kzg10_commit_add (b p q : List F) :
    KZG.msmSkip b (padd p q) = KZG.msmSkip b p + KZG.msmSkip b q := KZG.msmSkip_add b p q

theorem kzg10_commit_scale (b p : List F) (c : F) :
    KZG.msmSkip b (pscale c p) = c * KZG.msmSkip b p := KZG.msmSkip_scale b p c

/-- the zero polynomial (empty or all-zero coefficient vector) commits to the identity -/
theorem kzg10_commit_zero (b p : List F) (h : pnorm p = []) : KZG.msmSkip b p = 0 := by
  rw [KZG.msmSkip_eq, dot_comm, ← dot_pnorm, h, dot_nil_left]

/-- high-order zero coefficients do not change the commitment -/
theorem kzg10_commit_leading_zeros (b p : List F) : KZG.msmSkip b (pnorm p) = KZG.msmSkip b p := by
  rw [KZG.msmSkip_eq, KZG.msmSkip_eq, dot_comm, dot_pnorm, dot_comm]

example : KZG.commit (KZG.wfPowers (3 : K) 5 2 3 4) [0, 2, 3] none false [] = .ok (48, [], []) := by
  decide +kernel

end PCV.C08
