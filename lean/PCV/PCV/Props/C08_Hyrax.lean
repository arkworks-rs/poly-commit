/-
  Property C08 (commitments are the key-defined linear map) — Hyrax: every row commitment is the
  Pedersen commitment `⟨M_r, com_key⟩ + ρ_r·h` of row `r` of the column-major coefficient matrix,
  for an arbitrary key; the map is additive.
-/
import PCV.Proofs.Hyrax
import PCV.Props.Examples

namespace PCV.C08
open PCV
variable {F : Type} [Field F]

/-- **Hyrax, row commitments.** If `commit` returns `(T, st)` for a polynomial in `nv` variables
(`dim = 2^(nv/2)`) with blinding draws `ρs`, then `T` has `dim` entries and
`T[r] = ⟨(evals[col·dim + r])_{col < dim}, com_key⟩ + ρs[r]·h` for every row `r`; the state holds
exactly the first `dim` draws and the matrix of `flat_to_matrix_column_major`. -/
theorem hyrax_row_commitment (ks : List F) (hh : F) (p : Hyrax.MLPoly F) (ρs T : List F)
    (st : Hyrax.State F) (hc : Hyrax.commitOne ks hh p ρs = .ok (T, st)) :
    T.length = 2 ^ (p.nv / 2) ∧ st.randomness = ρs.take (2 ^ (p.nv / 2)) ∧
    Hyrax.flatToMatrixColumnMajor p.evals (2 ^ (p.nv / 2)) (2 ^ (p.nv / 2)) = .ok st.mat.entries ∧
    ∀ r, r < 2 ^ (p.nv / 2) →
      getD' T r 0 = dot ks ((List.range (2 ^ (p.nv / 2))).map fun col =>
          getD' p.evals (col * 2 ^ (p.nv / 2) + r) 0) + hh * getD' ρs r 0 := by
  obtain ⟨hn, _, hlen, hρ, rfl, rfl⟩ := Hyrax.commitOne_ok_iff.1 hc
  refine ⟨Hyrax.rowCommits_rowsOf_length ks hh p.evals ρs _ hρ, rfl,
    Hyrax.flatToMatrix_ok _ _ _ (hlen.trans (Hyrax.two_pow_half_sq hn).symm), ?_⟩
  intro r hr
  rw [Hyrax.getD'_rowCommits ks hh p.evals _ _ r hr (List.length_take_of_le hρ).ge]
  congr 2
  simp [getD', hr]

/-- **Pedersen commitments are linear** (arbitrary key): additivity and homogeneity of
`⟨·, com_key⟩ + ·h`. -/
theorem hyrax_pedersen_linear (ks : List F) (hh : F) (a b : List F) (ρ σ s : F)
    (h : a.length = b.length) :
    dot ks (Hyrax.vectorSum a b) + hh * (ρ + σ) = (dot ks a + hh * ρ) + (dot ks b + hh * σ) ∧
    dot ks (Hyrax.scalarByVector s a) + hh * (ρ * s) = (dot ks a + hh * ρ) * s := by
  constructor
  · unfold Hyrax.vectorSum
    rw [dot_zipWith_add _ h, mul_add, add_add_add_comm]
  · unfold Hyrax.scalarByVector
    rw [dot_map_mul_right, add_mul, mul_assoc]

/-- **Hyrax commitments are additive.** If `p` and `q` (same number of variables) commit to `T₁`
with blindings `ρ` and to `T₂` with blindings `σ`, then `p + q` with blindings `ρ + σ` commits to
`T₁ + T₂` (row by row). -/
theorem hyrax_commit_additive (ks : List F) (hh : F) (n : Nat) (e₁ e₂ ρ σ T₁ T₂ : List F)
    (st₁ st₂ : Hyrax.State F)
    (h₁ : Hyrax.commitOne ks hh ⟨n, e₁⟩ ρ = .ok (T₁, st₁))
    (h₂ : Hyrax.commitOne ks hh ⟨n, e₂⟩ σ = .ok (T₂, st₂)) :
    ∃ st, Hyrax.commitOne ks hh ⟨n, Hyrax.vectorSum e₁ e₂⟩ (Hyrax.vectorSum ρ σ)
        = .ok (Hyrax.vectorSum T₁ T₂, st) ∧
      st.randomness = Hyrax.vectorSum st₁.randomness st₂.randomness := by
  obtain ⟨hn, hks, hl1, hρ, rfl, rfl⟩ := Hyrax.commitOne_ok_iff.1 h₁
  obtain ⟨_, _, hl2, hσ, rfl, rfl⟩ := Hyrax.commitOne_ok_iff.1 h₂
  simp only at hn hks hl1 hl2 hρ hσ ⊢
  have htake : (Hyrax.vectorSum ρ σ).take (2 ^ (n / 2))
      = Hyrax.vectorSum (ρ.take (2 ^ (n / 2))) (σ.take (2 ^ (n / 2))) := by
    simp [Hyrax.vectorSum, List.take_zipWith]
  refine ⟨_, Hyrax.commitOne_ok_iff.2 ⟨hn, hks, ?_, ?_, ?_, rfl⟩, htake⟩
  · simp [Hyrax.vectorSum, hl1, hl2]
  · exact (Nat.le_min.2 ⟨hρ, hσ⟩).trans_eq List.length_zipWith.symm
  · simp only
    rw [htake, Hyrax.rowCommits_add ks hh (by rw [hl1, hl2])
      (List.length_take_of_le hρ) (List.length_take_of_le hσ)]

/-! non-vacuity over `ZMod 101` -/
example : Hyrax.commitOne ([3, 5] : List K) 7 ⟨2, [1, 2, 3, 4]⟩ [10, 20]
    = .ok ([88, 65], ⟨[10, 20], ⟨2, 2, [[1, 3], [2, 4]]⟩⟩) ∧
    Hyrax.commitOne ([3, 5] : List K) 7 ⟨2, [0, 0, 9, 0]⟩ [2, 4]
    = .ok ([59, 28], ⟨[2, 4], ⟨2, 2, [[0, 9], [0, 0]]⟩⟩) ∧
    Hyrax.commitOne ([3, 5] : List K) 7 ⟨2, [1, 2, 12, 4]⟩ [12, 24]
    = .ok ([88 + 59, 65 + 28], ⟨[12, 24], ⟨2, 2, [[1, 12], [2, 4]]⟩⟩) := by decide +kernel
/-- refusals: odd number of variables, key shorter than `dim`, key longer than `dim` (the
`pedersen_commit` length assertion) -/
example : Hyrax.commitOne ([3, 5] : List K) 7 ⟨1, [1, 2]⟩ [10, 20] = .error .invalidNumVars ∧
    Hyrax.commitOne ([3] : List K) 7 ⟨2, [1, 2, 3, 4]⟩ [10, 20] = .error .invalidNumVars ∧
    Hyrax.commitOne ([3, 5, 8, 9] : List K) 7 ⟨2, [1, 2, 3, 4]⟩ [10, 20] = .error .abort := by decide +kernel

end PCV.C08
