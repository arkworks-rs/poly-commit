/-
  Property C08 — commitments are the key-defined linear map of the polynomial, inner-product-argument
  scheme: Pedersen vector commitments under arbitrary key scalars.
-/
import PCV.Proofs.IPA
import PCV.Props.Examples

set_option linter.unusedSectionVars false

namespace PCV.C08
open PCV
variable {F : Type} [Field F] [DecidableEq F]

/-- **IPA.** For arbitrary key scalars `G`, `S`: whatever `commit` returns for a polynomial is
`⟨p, G⟩ + ρ·S` (restricting the key to `deg p + 1` elements loses nothing), the shifted part for
the bound `d` is `⟨p, G[s−d..]⟩ + ρ_s·S`; without a hiding bound `ρ = 0` and there is no `ρ_s`. -/
theorem ipa_commit_is_msm (ck : IPA.CK F) (p : IPA.LPoly F) (rng : Bool) (draws : List F)
    (c : IPA.Comm F) (st : IPA.Rand F) (rest : List F)
    (h : IPA.commitOne ck p rng draws = .ok (c, st, rest)) :
    c.comm = dot ck.commKey p.poly + ck.s * st.rand ∧
    c.shifted = p.bound.map (fun d =>
      dot (ck.commKey.drop (IPA.supportedDegree ck - d)) p.poly + ck.s * IPA.optVal st.shifted) ∧
    (p.hb = none → st.rand = 0 ∧ st.shifted = none ∧ rest = draws) := by
  obtain ⟨_, hd, rfl⟩ := (IPA.commitOne_ok_iff ..).1 h
  refine ⟨IPA.plainComm_eq ck p.poly st.rand, ?_, ?_⟩
  · simp only [IPA.shiftedComm, IPA.cmCommit_eq]
  · intro hn
    rcases IPA.drawRand_ok hd with ⟨_, rfl, rfl⟩ | ⟨h1, _⟩
    · exact ⟨rfl, rfl, rfl⟩
    · rw [hn] at h1; cases h1

/-- **IPA, non-hiding commitment** = the dot product with the published key, nothing else. -/
theorem ipa_commit_plain (ck : IPA.CK F) (p : List F) :
    IPA.plainComm ck p 0 = dot ck.commKey p := by
  rw [IPA.plainComm_eq]; ring

/-- **IPA, shifted window.** The shifted commitment is taken over `comm_key.drop (s − d)`; it
equals the plain commitment to `X^{s−d}·p`. -/
theorem ipa_shifted_window (ck : IPA.CK F) (p : List F) (d : Nat) :
    IPA.shiftedComm ck p d none = dot (ck.commKey.drop (IPA.supportedDegree ck - d)) p ∧
    IPA.shiftedComm ck p d none = dot ck.commKey (pshift (IPA.supportedDegree ck - d) p) := by
  constructor
  · unfold IPA.shiftedComm IPA.cmCommit; rfl
  · rw [IPA.shiftedComm_eq]; simp [IPA.optVal]

/-- **IPA, additivity and homogeneity** of the commitment map (plain and shifted), for an
arbitrary key. -/
theorem ipa_commit_add (G p q : List F) : dot G (padd p q) = dot G p + dot G q :=
  dot_padd_right G p q

theorem ipa_commit_scale (G p : List F) (c : F) : dot G (pscale c p) = c * dot G p :=
  dot_pscale_right G p c

theorem ipa_plainComm_add (ck : IPA.CK F) (p q : List F) (ρ σ : F) :
    IPA.plainComm ck (padd p q) (ρ + σ) = IPA.plainComm ck p ρ + IPA.plainComm ck q σ := by
  simp only [IPA.plainComm_eq, dot_padd_right]; ring

theorem ipa_shiftedComm_add (ck : IPA.CK F) (p q : List F) (d : Nat) (ρ σ : F) :
    IPA.shiftedComm ck (padd p q) d (some (ρ + σ))
      = IPA.shiftedComm ck p d (some ρ) + IPA.shiftedComm ck q d (some σ) := by
  unfold IPA.shiftedComm
  simp only [IPA.cmCommit_eq, dot_padd_right, IPA.optVal]; ring

/-- the zero polynomial (empty or all-zero coefficient vector) commits to the identity, and
high-order zero coefficients do not change a commitment -/
theorem ipa_commit_zero (G p : List F) (h : pnorm p = []) : dot G p = 0 :=
  dot_eq_zero_of_pnorm_nil G h

theorem ipa_commit_leading_zeros (G p : List F) : dot G (pnorm p) = dot G p :=
  dot_pnorm_right G p

example : IPA.commit (⟨[3, 5, 7, 11], 13, 17, 3⟩ : IPA.CK K)
    [⟨[1], [1, 2, 3], some 2, some 1⟩] true [21, 22]
    = .ok ([⟨[1], ⟨88, some 22⟩, some 2⟩], [⟨21, some 22⟩], []) ∧
    (88 : K) = dot [3, 5, 7, 11] [1, 2, 3] + 17 * 21 ∧
    (22 : K) = dot ([3, 5, 7, 11].drop (3 - 2)) [1, 2, 3] + 17 * 22 := by decide +kernel

end PCV.C08
