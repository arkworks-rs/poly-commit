/-
  Property C08 (commitments are the key-defined map) — linear-code PCS: the commitment is a function
  of (polynomial, parameters) only and its root is the Merkle root over the column hashes of the
  row-wise encoded, row-major, zero-padded coefficient matrix.
-/
import PCV.Proofs.LinCodeProto
import PCV.Proofs.LinCodeToy

namespace PCV.C08
open PCV PCV.LinCode PCV.Merkle
variable {F : Type} [Field F] [DecidableEq F] {D : Type} [DecidableEq D]

/-- **What a commitment is** (any encoder, linear or not).  Whenever `commit` succeeds:
the state holds `M = coeffMat` (row-major `n × m`, zero padded, `[]` committed as `[0]`) and the
row-wise encoding of `M`; the metadata are `(n, m, codeword length)`; the leaves are the column
hashes of the encoded matrix and the root is their (power-of-two padded) Merkle root. -/
theorem lincode_commit_is_merkle_root (pp : Params F D) (coeffs : List F) (c : Comm D)
    (st : State F D) (h : commit pp coeffs = .ok (c, st)) :
    st.mat = coeffMat pp.dims coeffs ∧
    encodeRows pp.enc st.mat.rows = .ok st.extMat.rows ∧
    (c.nRows, c.nCols, c.nExtCols) = (st.mat.n, st.mat.m, st.extMat.m) ∧
    st.leaves = st.extMat.cols.map pp.colHash ∧
    c.root = merkleRoot pp.hs (st.extMat.cols.map pp.colHash) := by
  obtain ⟨_, hmat, henc, hleaves, _, rfl⟩ := commit_ok h
  exact ⟨hmat, henc, rfl, hleaves, by rw [hleaves]; rfl⟩

/-- **Linear encoder: the commitment in closed form.**  `commit` returns
`(n, m, k, merkleRoot (H <$> columns (E <$> rows M)))`. -/
theorem lincode_commit_eq (pp : Params F D) (coeffs : List F) (E : List F → List F) (k : Nat)
    (h : Encodes pp coeffs E k) :
    commit pp coeffs = .ok
      (⟨(coeffMat pp.dims coeffs).n, (coeffMat pp.dims coeffs).m, k,
          merkleRoot pp.hs
            (((List.range k).map (colOf ((coeffMat pp.dims coeffs).rows.map E))).map pp.colHash)⟩,
       ⟨coeffMat pp.dims coeffs, extOf pp coeffs E k, leavesOf pp (extOf pp coeffs E k)⟩) :=
  commit_eq pp coeffs E k h

set_option linter.unusedSectionVars false in
/-- **A function of (polynomial, parameters) only**: `commit` takes no randomness and no state;
polynomials with the same coefficient vector — and the empty vector and `[0]` (D8) — get the same
commitment and state. -/
theorem lincode_commit_empty_eq_zero (pp : Params F D) :
    commit pp ([] : List F) = commit pp [0] := by
  unfold commit computeMatrices computeMatricesCore fitsDims coeffMat coeffsOrZero
  rfl

/-- `commit` on a list is `commit` on each polynomial, in order, with nothing shared -/
theorem lincode_commitAll_pointwise (pp : Params F D) (polys : List (List F))
    (css : List (Comm D × State F D)) (h : commitAll pp polys = .ok css) :
    css.length = polys.length ∧
      ∀ (i : Nat) p, polys[i]? = some p → ∃ cs, css[i]? = some cs ∧ commit pp p = .ok cs := by
  have h2 := commitAll_ok_iff.1 h
  refine ⟨h2.length_eq.symm, fun i p hp => ?_⟩
  obtain ⟨hi, rfl⟩ := List.getElem?_eq_some_iff.1 hp
  have hi' : i < css.length := h2.length_eq ▸ hi
  exact ⟨css[i], List.getElem?_eq_getElem hi', h2.get hi hi'⟩

set_option linter.unusedSectionVars false in
/-- **Distinct encoded matrices give distinct leaf vectors** when the column hash is injective
(collision-freeness as a hypothesis): equal leaves force equal columns. -/
theorem lincode_leaves_injective (pp : Params F D) (ext ext' : Mat F)
    (hinj : ∀ x y, pp.colHash x = pp.colHash y → x = y)
    (h : leavesOf pp ext = leavesOf pp ext') : ext.cols = ext'.cols := by
  unfold leavesOf at h
  exact List.map_injective_iff.2 (fun x y hxy => hinj x y hxy) h

/-- … and distinct roots, when in addition the Merkle root is collision-free on the leaf vectors
compared (hypothesis `hroot`) -/
theorem lincode_roots_distinct (pp : Params F D) (ext ext' : Mat F)
    (hinj : ∀ x y, pp.colHash x = pp.colHash y → x = y)
    (hroot : merkleRoot pp.hs (leavesOf pp ext) = merkleRoot pp.hs (leavesOf pp ext') →
      leavesOf pp ext = leavesOf pp ext')
    (hne : ext.cols ≠ ext'.cols) :
    merkleRoot pp.hs (leavesOf pp ext) ≠ merkleRoot pp.hs (leavesOf pp ext') :=
  fun h => hne (lincode_leaves_injective pp ext ext' hinj (hroot h))

/-! non-vacuity: the toy commitment exists, equals the closed form, and two polynomials get
different roots -/
example : ∃ cs, commit (toyPP true) [1, 2, 3] = .ok cs := ⟨_, commit_eq _ _ toyE 4 (toy_encodes _ _ (by decide +kernel))⟩
example : (match commit (toyPP true) [1, 2, 3], commit (toyPP true) [1, 2, 4] with
    | .ok (c, _), .ok (c', _) => decide (c.root ≠ c'.root)
    | _, _ => false) = true := by decide +kernel
example : (match commit (toyPP true) [1, 2, 3] with
    | .ok (c, _) => decide (c.root = merkleRoot toyHashes
        (((List.range 4).map (colOf ([[1, 2], [3, 0]].map toyE))).map (toyPP true).colHash))
    | _ => false) = true := by decide +kernel

end PCV.C08
