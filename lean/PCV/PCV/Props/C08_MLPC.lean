/-
  Property C08 (multilinear PST) — the commitment is the key-defined linear map of the evaluation
  vector: `commit = ⟨evals, powers_of_g[0]⟩ = g·f̃(t)`, additive and homogeneous.
-/
import PCV.Proofs.MLPC
import PCV.Props.Examples

namespace PCV.C08
open PCV
set_option linter.unusedSectionVars false
variable {F : Type} [Field F] [DecidableEq F]

/-- **Arbitrary key.**  Whatever `commit` returns is the dot product of the evaluation vector with
the first table of the key, tagged with the number of variables (the key's) — for any key scalars. -/
theorem mlpc_commit_is_msm (ck : MLPC.CK F) (nv : Nat) (evals : List F) (c : MLPC.Commitment F)
    (h : MLPC.commit ck nv evals = .ok c) :
    c.gProduct = dot (ck.powersOfG.headD []) evals ∧ c.nv = nv ∧ nv = ck.nv := by
  obtain ⟨hnv, rfl⟩ := MLPC.commit_ok h
  exact ⟨rfl, rfl, hnv⟩

/-- **Well-formed key.**  With the tables of trapdoor `t` (non-empty) and generator `g`, the
commitment of a polynomial with `2^|t|` evaluations is `g·f̃(t)`. -/
theorem mlpc_commit_spec (g h a : F) (ts : List F) (evals : List F)
    (he : evals.length = 2 ^ (ts.length + 1)) :
    MLPC.commit (MLPC.wfCK g h (a :: ts)) (ts.length + 1) evals
      = .ok ⟨ts.length + 1, g * MLPC.mleEval evals (a :: ts)⟩ :=
  MLPC.commit_wf (List.cons_ne_nil a ts) he

/-- the table `commit` uses is `g` times the `eq`-tensor of the trapdoor -/
theorem mlpc_commit_eq_tensor (g : F) (t evals : List F) (he : evals.length = 2 ^ t.length) :
    dot (MLPC.batchMul g (MLPC.eqTable t)) evals = g * MLPC.mleEval evals t := by
  rw [MLPC.dot_batchMul, MLPC.dot_eqTable t evals he]

/-- additivity of the commitment map, for an arbitrary key table -/
theorem mlpc_commit_add (b p q : List F) (h : p.length = q.length) :
    dot b (List.zipWith (· + ·) p q) = dot b p + dot b q :=
  dot_zipWith_add b h

/-- homogeneity of the commitment map, for an arbitrary key table -/
theorem mlpc_commit_scale (b p : List F) (c : F) : dot b (p.map (c * ·)) = c * dot b p :=
  dot_pscale_right b p c

/-- the zero polynomial commits to the identity -/
theorem mlpc_commit_zero (b : List F) (n : Nat) : dot b (List.replicate n (0 : F)) = 0 :=
  dot_replicate_zero_right b n

example : MLPC.commit (MLPC.wfCK (5 : K) 11 [7, 20]) 2 [1, 2, 3, 50] = .ok ⟨2, 19⟩
    ∧ (5 : K) * MLPC.mleEval [1, 2, 3, 50] [7, 20] = 19 := by decide +kernel
example : MLPC.commit (MLPC.wfCK (5 : K) 11 [7, 20]) 2 [4, 0, 9, 1] = .ok ⟨2, 4⟩
    ∧ MLPC.commit (MLPC.wfCK (5 : K) 11 [7, 20]) 2 [1 + 4, 2 + 0, 3 + 9, 50 + 1] = .ok ⟨2, 19 + 4⟩ := by
  decide +kernel

end PCV.C08
