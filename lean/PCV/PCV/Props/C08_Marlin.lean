/-
  Property C08 (MarlinKZG10) — plain and shifted commitments are the key-defined linear maps.
-/
import PCV.Proofs.MarlinMore
import PCV.Props.C01_Marlin

namespace PCV.C08
open PCV Marlin
variable {F : Type} [Field F] [DecidableEq F]

/-- **Marlin commitments.** With keys trimmed from trapdoor-made parameters, whatever `commit`
returns for a polynomial is `g·p(β) + γ·r(β)` and, under a degree bound `d`,
`g·β^(D−d)·p(β) + γ·r_s(β)` for the shifted part (the γ-powers are not shifted); the blinding
polynomials fit the published γ-powers. -/
theorem marlin_commit_spec {ck : CK F} {vk : VK F} {g γ β h : F} {D n m : Nat}
    (hwf : WF ck vk g γ β h D n m) (p : LPoly F) (rng : Bool) (draws : List F)
    (c : Comm F) (r : Rand F) (rest : List F)
    (hc : commitOne ck p rng draws = .ok (c, r, rest)) :
    c.comm = g * evalPoly p.poly β + γ * evalPoly r.rand β ∧
    (∀ d rs s, p.bound = some d → r.shifted = some rs → c.shifted = some s →
      s = g * fpow β (D - d) * evalPoly p.poly β + γ * evalPoly rs β) ∧
    (c.shifted.isSome = p.bound.isSome) := by
  obtain ⟨⟨_, h2, _, h4, h5⟩, _⟩ := commitOne_honest hwf hc
  exact ⟨h2, h5, h4.symm⟩

/-- the shifted window for bound `d` is `powers.drop (D − d)` of the universal parameters:
commitments under it are `β^(D−d)` times the plain map (stated on the dot product) -/
theorem marlin_shifted_window (g β : F) (D d : Nat) (p : List F) (hd : d ≤ D)
    (hp : (pnorm p).length ≤ d + 1) :
    dot p ((powers g β (D + 1)).drop (D - d)) = g * fpow β (D - d) * evalPoly p β := by
  rw [powers_drop, Nat.succ_sub (Nat.sub_le _ _), Nat.sub_sub_self hd]
  exact dot_powers_shift p g β (D - d) (d + 1) hp

/-- **Homomorphism (non-hiding, plain and shifted parts).** For keys from `trim`: if `p`, `q` and
`a·p + b·q` are committed without hiding under the same degree bound, then
`commit(a·p + b·q) = a·commit(p) + b·commit(q)` — for the plain part and for the shifted part. -/
theorem marlin_commit_homomorphic {ck : CK F} {vk : VK F} {g γ β h : F} {D n m : Nat}
    (hwf : WF ck vk g γ β h D n m) (lp lq ll : Label) (p q : List F) (a b : F) (bound : Option Nat)
    (rng : Bool) (dr₁ dr₂ dr₃ : List F) (cp cq cl : Comm F) (rp rq rl : Rand F) (r₁ r₂ r₃ : List F)
    (hp : commitOne ck ⟨lp, p, bound, none⟩ rng dr₁ = .ok (cp, rp, r₁))
    (hq : commitOne ck ⟨lq, q, bound, none⟩ rng dr₂ = .ok (cq, rq, r₂))
    (hl : commitOne ck ⟨ll, padd (pscale a p) (pscale b q), bound, none⟩ rng dr₃ = .ok (cl, rl, r₃)) :
    cl.comm = a * cp.comm + b * cq.comm ∧
    (∀ sp sq sl, cp.shifted = some sp → cq.shifted = some sq → cl.shifted = some sl →
      sl = a * sp + b * sq) := by
  obtain ⟨hp1, hp2⟩ := commitOne_nonhiding hwf rfl hp
  obtain ⟨hq1, hq2⟩ := commitOne_nonhiding hwf rfl hq
  obtain ⟨hl1, hl2⟩ := commitOne_nonhiding hwf rfl hl
  simp only at hp1 hp2 hq1 hq2 hl1 hl2
  -- both parts are `k·(·)(β)` for a key-defined `k`, which is linear in the polynomial
  have lin : ∀ k : F, k * evalPoly (padd (pscale a p) (pscale b q)) β
      = a * (k * evalPoly p β) + b * (k * evalPoly q β) := fun k => by
    rw [eval_padd, eval_pscale, eval_pscale, mul_add, mul_left_comm, mul_left_comm k b]
  constructor
  · rw [hl1, hp1, hq1, lin]
  · intro sp sq sl hsp hsq hsl
    obtain ⟨d, hd, rfl⟩ := hp2 sp hsp
    obtain ⟨d', hd', rfl⟩ := hq2 sq hsq
    obtain ⟨d'', hd'', rfl⟩ := hl2 sl hsl
    cases hd.symm.trans hd'
    cases hd.symm.trans hd''
    exact lin _

/-- the zero polynomial commits to the identity (plain part), whatever label and bound -/
theorem marlin_commit_zero {ck : CK F} {vk : VK F} {g γ β h : F} {D n m : Nat}
    (hwf : WF ck vk g γ β h D n m) (l : Label) (bound : Option Nat) (rng : Bool) (dr : List F)
    (c : Comm F) (r : Rand F) (rest : List F)
    (hc : commitOne ck ⟨l, [], bound, none⟩ rng dr = .ok (c, r, rest)) : c.comm = 0 := by
  rw [(commitOne_nonhiding hwf rfl hc).1]
  exact mul_zero g

example : commitOne C01.exCK C01.exPoly true [7, 8, 9, 4, 5, 6]
    = .ok (⟨43, some 90⟩, ⟨[7, 8, 9], some [4, 5, 6]⟩, []) := by decide +kernel

/-- non-vacuity of the homomorphism: `5·(1+2X) + 7·(3+X²)` under the bound 2 on the example key:
`5·15 + 7·21 = 20`, `5·30 + 7·42 = 40` in `ZMod 101` -/
example : commitOne C01.exCK ⟨[1], [1, 2], some 2, none⟩ false [] = .ok (⟨15, some 30⟩, ⟨[], some []⟩, []) ∧
    commitOne C01.exCK ⟨[2], [3, 0, 1], some 2, none⟩ false [] = .ok (⟨21, some 42⟩, ⟨[], some []⟩, []) ∧
    commitOne C01.exCK ⟨[3], padd (pscale 5 [1, 2]) (pscale 7 [3, 0, 1]), some 2, none⟩ false []
      = .ok (⟨20, some 40⟩, ⟨[], some []⟩, []) ∧
    (5 * 15 + 7 * 21 : K) = 20 ∧ (5 * 30 + 7 * 42 : K) = 40 := by decide +kernel

end PCV.C08
