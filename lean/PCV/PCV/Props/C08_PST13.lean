/-
  Property C08 — the commitment is the key-defined linear map of the polynomial: MarlinPST13.
  `MarlinPST13::commit` looks every term of the polynomial up in the monomial-indexed map
  `powers_of_g` and returns the MSM `Σ coeff · powers_of_g[term]` over the term vector as it is
  stored.  Stated for an ARBITRARY committer key (the map is whatever was published), then for the
  key of a trapdoor.
-/
import PCV.Proofs.PST13More
import PCV.Proofs.Combinations
import PCV.Props.Examples

set_option synthInstance.maxSize 512

namespace PCV.C08
open PCV PCV.MV PCV.C15Spec
variable {F : Type} [Field F] [DecidableEq F]

/-- **PST13: a non-hiding commitment is the key-defined sum.**  Arbitrary committer key; whatever
`commit` (no hiding bound) returns is `Σ coeff · powers_of_g[term]` over the stored term list
(`PST.keySum (PST.keyOf ck)`), with no blinding polynomial and the RNG untouched; it is returned
only within the supported degree. -/
theorem pst13_commit_key_sum (ck : PST.CK F) (p : MVPoly F) (rng : Bool) (draws : List F) (c : F)
    (r : MVPoly F) (rest : List F) (h : PST.commit ck p none rng draws = .ok (c, r, rest)) :
    c = PST.keySum (PST.keyOf ck) p ∧ r = [] ∧ rest = draws ∧ degreeMV p ≤ ck.supportedDegree :=
  PST.commit_plain_keySum h

/-- **… and it is always returned** when the degree is supported and every monomial of the
polynomial is published. -/
theorem pst13_commit_answers (ck : PST.CK F) (p : MVPoly F) (rng : Bool) (draws : List F)
    (hd : degreeMV p ≤ ck.supportedDegree)
    (hk : ∀ t ∈ termsOf p, (PST.mapGet ck.powersOfG t).isSome = true) :
    PST.commit ck p none rng draws = .ok (PST.keySum (PST.keyOf ck) p, [], draws) :=
  PST.commit_plain_ok ck p rng draws hd hk

/-- **Additive and homogeneous.**  For library-built polynomials `p`, `q` (terms made by
`SparseTerm::new`) and scalars `a`, `b`, with `a·p + b·q` formed by the library's own
`+= (scalar, &poly)`: `commit(a·p + b·q) = a·commit(p) + b·commit(q)`, under any key. -/
theorem pst13_commit_additive (ck : PST.CK F) (p q : MVPoly F) (a b : F)
    (hp : polyWf p = true) (hq : polyWf q = true) (rng : Bool) (draws : List F)
    (cp cq cc : F) (rp rq rc : MVPoly F) (dp dq dc : List F)
    (h1 : PST.commit ck p none rng draws = .ok (cp, rp, dp))
    (h2 : PST.commit ck q none rng draws = .ok (cq, rq, dq))
    (h3 : PST.commit ck (addScaledMV (addScaledMV [] a p) b q) none rng draws = .ok (cc, rc, dc)) :
    cc = a * cp + b * cq := by
  rw [(PST.commit_plain_keySum h3).1, (PST.commit_plain_keySum h1).1,
    (PST.commit_plain_keySum h2).1]
  have hp' := (polyWf_iff p).1 hp
  rw [PST.keySum_addScaledMV _ _ _ _ (forall_mem_termsOf_addScaledMV a forall_mem_termsOf_nil hp')
      ((polyWf_iff q).1 hq),
    PST.keySum_addScaledMV _ _ _ _ forall_mem_termsOf_nil hp', PST.keySum_nil, zero_add]

set_option linter.unusedSectionVars false in
/-- **The sum itself is additive and homogeneous** on raw term lists (no assumption on the terms):
concatenation adds, scaling scales. -/
theorem pst13_key_sum_linear (f : Term → F) (p q : MVPoly F) (a : F) :
    PST.keySum f (p ++ q) = PST.keySum f p + PST.keySum f q
      ∧ PST.keySum f (scaleMV a p) = a * PST.keySum f p :=
  ⟨PST.keySum_append f p q, PST.keySum_scaleMV f a p⟩

/-- **The zero polynomial commits to the identity** — the empty term list, and any term list whose
coefficients are all zero (within the supported degree, monomials published). -/
theorem pst13_commit_zero (ck : PST.CK F) (rng : Bool) (draws : List F) :
    PST.commit ck [] none rng draws = .ok (0, [], draws)
      ∧ ∀ p : MVPoly F, (∀ ct ∈ p, ct.1 = 0) → PST.keySum (PST.keyOf ck) p = 0 := by
  refine ⟨?_, fun p hp => PST.keySum_all_zero _ p hp⟩
  have := PST.commit_plain_ok ck [] rng draws (Nat.zero_le _) forall_mem_termsOf_nil
  simpa using this

/-- **Independent of the order of the terms**: two term lists that are permutations of each other
commit to the same element. -/
theorem pst13_commit_term_order (ck : PST.CK F) (p q : MVPoly F) (hperm : p.Perm q) (rng : Bool)
    (draws : List F) (cp cq : F) (rp rq : MVPoly F) (dp dq : List F)
    (h1 : PST.commit ck p none rng draws = .ok (cp, rp, dp))
    (h2 : PST.commit ck q none rng draws = .ok (cq, rq, dq)) : cp = cq := by
  rw [(PST.commit_plain_keySum h1).1, (PST.commit_plain_keySum h2).1]
  exact PST.keySum_perm _ p q hperm

/-- **Independent of duplicate and zero terms**: a raw term list (repeated monomials, zero
coefficients, any order) and its normal form `from_coefficients_vec` (sorted, merged, zeros
removed) commit to the same element. -/
theorem pst13_commit_normal_form (ck : PST.CK F) (l : MVPoly F) (rng : Bool) (draws : List F)
    (c1 c2 : F) (r1 r2 : MVPoly F) (d1 d2 : List F)
    (h1 : PST.commit ck l none rng draws = .ok (c1, r1, d1))
    (h2 : PST.commit ck (fromCoeffs l) none rng draws = .ok (c2, r2, d2)) : c1 = c2 := by
  rw [(PST.commit_plain_keySum h1).1, (PST.commit_plain_keySum h2).1, PST.keySum_fromCoeffs]

/-- **Under the key of a trapdoor** `β⃗` (`powers_of_g[t] = g·t(β⃗)`): the commitment is `g·p(β⃗)`,
plus `γ·r(β⃗)` for the blinding polynomial `r` when hiding. -/
theorem pst13_commit_trapdoor (g γ : F) (β : List F) (ts : List Term) (nv s D m : Nat)
    (p : MVPoly F) (hb : Option Nat) (rng : Bool) (draws : List F) (c : F) (r : MVPoly F)
    (rest : List F)
    (h : PST.commit (PST.wfCK g γ β ts nv s D m) p hb rng draws = .ok (c, r, rest)) :
    c = g * evalMV p β + γ * evalMV r β :=
  (PST.commit_spec g γ β ts nv s D m p hb rng draws c r rest h).1

/-! ### non-vacuity over `ZMod 101` (key of the trapdoor `(2,7)`, `g = 3`) -/

def exCK : PST.CK K := PST.wfCK (3 : K) 5 [2, 7] (specTerms 2 2) 2 2 2 3
def exP : MVPoly K := [(4, []), (6, [(1, 1)]), (9, [(0, 1), (1, 1)]), (2, [(0, 2)])]
def exQ : MVPoly K := [(4, []), (6, [(0, 1)]), (2, [(0, 2)])]

/-- the published elements, and `commit(p) = 4·3 + 6·21 + 9·42 + 2·12` -/
example : exCK.powersOfG
    = [([(0, 1)], 6), ([(1, 1)], 21), ([(0, 2)], 12), ([(0, 1), (1, 1)], 42), ([(1, 2)], 46), ([], 3)] := by
  decide +kernel
example : PST.commit exCK exP none false [] = .ok (4 * 3 + 6 * 21 + 9 * 42 + 2 * 12, [], []) := by decide +kernel
example : PST.commit exCK exP none false [] = .ok (35, [], []) := by decide +kernel
example : PST.commit exCK exQ none false [] = .ok (72, [], []) := by decide +kernel
/-- `2·p − q` built by the library's operations commits to `2·35 − 72` -/
example : addScaledMV (addScaledMV [] (2 : K) exP) (-1) exQ
    = [(4, []), (12, [(1, 1)]), (95, [(0, 1)]), (18, [(0, 1), (1, 1)]), (2, [(0, 2)])] := by decide +kernel
example : PST.commit exCK (addScaledMV (addScaledMV [] (2 : K) exP) (-1) exQ) none false []
    = .ok (2 * 35 + (-1) * 72, [], []) := by decide +kernel
example : polyWf exP = true ∧ polyWf exQ = true := by decide +kernel
/-- a raw term list of `p`: shuffled, `6x₁` split into `3x₁ + 3x₁`, a zero term — same commitment
as its normal form -/
example : PST.commit exCK
    [(2, [(0, 2)]), (3, [(1, 1)]), (0, [(0, 1)]), (4, []), (3, [(1, 1)]), (9, [(0, 1), (1, 1)])]
    none false [] = .ok (35, [], []) := by decide +kernel
example : fromCoeffs ([(2, [(0, 2)]), (3, [(1, 1)]), (0, [(0, 1)]), (4, []), (3, [(1, 1)]),
    (9, [(0, 1), (1, 1)])] : MVPoly K) = exP := by decide +kernel
example : PST.commit exCK [] none false [] = .ok (0, [], []) := by decide +kernel

end PCV.C08
