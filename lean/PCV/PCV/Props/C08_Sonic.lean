/-
  Property C08 — commitments are the key-defined linear map, SonicKZG10: one commitment per
  polynomial, under the plain powers or — for a degree bound `d` — under the shifted windows.
-/
import PCV.Proofs.SonicExamples

namespace PCV.C08
open PCV PCV.Sonic
open PCV.Marlin (Label LPoly Query)
variable {F : Type} [Field F] [DecidableEq F]

/-- **Arbitrary key.**  Whatever `commit` returns for a polynomial is the MSM of its coefficients
with the published `g`-elements it is committed under plus the MSM of the blinding coefficients with
the published `γ`-elements — for any key scalars; no blinding without a hiding bound. -/
theorem sonic_commit_is_msm (ck : CK F) (p : LPoly F) (rng : Bool) (draws : List F) (c : F)
    (r rest : List F) (h : commitOne ck p rng draws = .ok (c, r, rest)) :
    ∃ pw, powersFor ck p.bound = .ok pw ∧ c = dot pw.g p.poly + dot pw.gg r ∧ (p.hb = none → r = []) := by
  obtain ⟨_, _, pw, hpw, hk⟩ := commitOne_inv h
  exact ⟨pw, hpw, kzg_commit_msm hk⟩

/-- **Which key elements** (any parameter set): a polynomial with the enforced bound `d` is committed
under `powers_of_g[D-d ..]` and the truncated window of `powers_of_gamma_g` starting at `D-d`
(`min(shb+2, d+2)` entries); an unbounded one under the trimmed plain lists. -/
theorem sonic_shifted_window (pp : UParams F) (s shb : Nat) (l : List Nat) (ck : CK F) (vk : VK F)
    (ht : trim pp s shb (some l) = .ok (ck, vk)) (d : Nat) (hd : d ∈ l) :
    powersFor ck (some d)
      = .ok ⟨pp.powers.drop (pp.powers.length - 1 - d),
             (pp.gammaPowers.drop (pp.powers.length - 1 - d)).take (min (shb + 2) (d + 2))⟩ ∧
    powersFor ck none = .ok ⟨pp.powers.take (s + 1), pp.gammaPowers.take (shb + 2)⟩ := by
  obtain ⟨h1, _, _⟩ := powersFor_general ht hd
  obtain ⟨_, _, _, _, _, _, _, _, _, rfl, _⟩ := trim_inv ht
  exact ⟨h1, rfl⟩

/-- **Trapdoor-made key.**  The commitment of a polynomial with bound `d` is
`β^{D-d}·(g·p(β) + γ·r(β))` (exponent `0` without a bound); `r = []` without a hiding bound. -/
theorem sonic_commit_spec (g γ β bi h : F) (D s shb : Nat) (bounds : Option (List Nat))
    (ck : CK F) (vk : VK F) (ht : trim (wfPP g γ β bi h D) s shb bounds = .ok (ck, vk))
    (p : LPoly F) (rng : Bool) (draws : List F) (c : F) (r rest : List F)
    (hc : commitOne ck p rng draws = .ok (c, r, rest)) :
    c = fpow β (kOf D p.bound) * (g * evalPoly p.poly β + γ * evalPoly r β) ∧ (p.hb = none → r = []) := by
  obtain ⟨h1, _, _, h4, _⟩ := commitOne_spec ht hc
  exact ⟨h1, h4⟩

/-- **Additivity and homogeneity** (any key, same bound, no hiding): the commitment of `a·p + q` is
`a·commit(p) + commit(q)`. -/
theorem sonic_commit_linear (ck : CK F) (l₁ l₂ l₃ : Label) (p q : List F) (a : F) (b : Option Nat)
    (rng : Bool) (d₁ d₂ d₃ : List F) (c₁ c₂ c₃ : F) (r₁ r₂ r₃ e₁ e₂ e₃ : List F)
    (h₁ : commitOne ck ⟨l₁, p, b, none⟩ rng d₁ = .ok (c₁, r₁, e₁))
    (h₂ : commitOne ck ⟨l₂, q, b, none⟩ rng d₂ = .ok (c₂, r₂, e₂))
    (h₃ : commitOne ck ⟨l₃, padd (pscale a p) q, b, none⟩ rng d₃ = .ok (c₃, r₃, e₃)) :
    c₃ = a * c₁ + c₂ := by
  obtain ⟨pw₁, hp₁, hc₁, hr₁⟩ := sonic_commit_is_msm ck _ rng d₁ c₁ r₁ e₁ h₁
  obtain ⟨pw₂, hp₂, hc₂, hr₂⟩ := sonic_commit_is_msm ck _ rng d₂ c₂ r₂ e₂ h₂
  obtain ⟨pw₃, hp₃, hc₃, hr₃⟩ := sonic_commit_is_msm ck _ rng d₃ c₃ r₃ e₃ h₃
  simp only at hp₁ hp₂ hp₃ hc₁ hc₂ hc₃
  rw [hp₁] at hp₂ hp₃
  injection hp₂ with e₂'; injection hp₃ with e₃'
  subst e₂'; subst e₃'
  rw [hr₁ rfl] at hc₁; rw [hr₂ rfl] at hc₂; rw [hr₃ rfl] at hc₃
  rw [hc₁, hc₂, hc₃, dot_padd_right, dot_pscale_right]
  simp

/-- the zero polynomial (empty or all-zero coefficient vector) commits to the identity under every
bound; high-order zero coefficients do not change a commitment -/
theorem sonic_commit_zero (ck : CK F) (p : LPoly F) (rng : Bool) (draws : List F) (c : F)
    (r rest : List F) (hz : pnorm p.poly = []) (hh : p.hb = none)
    (h : commitOne ck p rng draws = .ok (c, r, rest)) : c = 0 := by
  obtain ⟨pw, _, hc, hr⟩ := sonic_commit_is_msm ck p rng draws c r rest h
  rw [hc, hr hh, dot_eq_zero_of_pnorm_nil _ hz, zero_add, dot_nil_right]

/-- non-vacuity: the three commitments of the concrete transcript, and their closed forms
(`β = 2`, `D = 4`: bound 3 ↦ shift `2¹`, bound 2 ↦ shift `2²`) -/
example : commitOne Ex.ck ⟨[112, 48], [1, 2, 3], some 3, some 1⟩ true [7, 0, 9, 4]
    = .ok (27, [7, 0, 9], [4]) := by decide +kernel
example : (27 : K) = fpow 2 (4 - 3) * (3 * evalPoly [1, 2, 3] 2 + 5 * evalPoly [7, 0, 9] 2) := by decide +kernel
example : commitOne Ex.ck ⟨[112, 50], [6, 1], some 2, none⟩ false ([] : List K) = .ok (96, [], []) := by
  decide +kernel
example : (96 : K) = fpow 2 (4 - 2) * (3 * evalPoly [6, 1] 2) := by decide +kernel
example : powersFor Ex.ck (some 2) = .ok ⟨[12, 24, 48], [20, 40, 80]⟩ := by decide +kernel
end PCV.C08
