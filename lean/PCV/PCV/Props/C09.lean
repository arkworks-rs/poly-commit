/-
  Property C09 — setup and trim produce well-formed, mutually consistent keys (MarlinKZG10 part).
-/
import PCV.Proofs.MarlinMore
import PCV.Props.C01_Marlin

namespace PCV.C09
open PCV Marlin
variable {F : Type} [Field F] [DecidableEq F]

/-- **MarlinKZG10 trim.** From parameters made by `setup` out of one trapdoor (`wfParams`):
the committer key holds exactly the first `s+1` powers and `hb+2` γ-powers, the shifted window is
`β^(D−B)…β^D` for the largest bound `B`, the verifier key carries `g·β^(D−d)` for exactly the
sorted, deduplicated bounds, and the degree reports are truthful. -/
theorem marlin_trim_faithful (g γ β h : F) (D s hb : Nat) (bounds : Option (List Nat))
    (ck : CK F) (vk : VK F) (ht : trim (wfParams g γ β h D) s hb bounds = .ok (ck, vk)) :
    WF ck vk g γ β h D (s + 1) (hb + 2) ∧ s ≤ D ∧ hb ≤ D ∧
      ck.bounds = bounds.map sortDedup ∧ vk.supported = s ∧ vk.maxDegree = D :=
  trim_wf g γ β h D s hb bounds ck vk ht

/-- the enforced bound list is sorted, duplicate-free and has the same members as the request -/
theorem marlin_bounds_sorted (l : List Nat) :
    (sortDedup l).Pairwise (· < ·) ∧ ∀ d, d ∈ sortDedup l ↔ d ∈ l :=
  ⟨sorted_sortDedup l, fun d => mem_sortDedup d l⟩

/-- **interoperability**: the verifier key's core does not depend on the trim request -/
theorem marlin_vk_core_independent (g γ β h : F) (D s₁ hb₁ s₂ hb₂ : Nat)
    (b₁ b₂ : Option (List Nat)) (ck₁ ck₂ : CK F) (vk₁ vk₂ : VK F)
    (h₁ : trim (wfParams g γ β h D) s₁ hb₁ b₁ = .ok (ck₁, vk₁))
    (h₂ : trim (wfParams g γ β h D) s₂ hb₂ b₂ = .ok (ck₂, vk₂)) : vk₁.vk = vk₂.vk := by
  rw [(trim_wf g γ β h D s₁ hb₁ b₁ ck₁ vk₁ h₁).1.vkeq, (trim_wf g γ β h D s₂ hb₂ b₂ ck₂ vk₂ h₂).1.vkeq]

set_option linter.unusedSectionVars false in
/-- **out-of-range trim requests are refused** -/
theorem marlin_trim_refuses (pp : UParams F) (s hb : Nat) (bounds : Option (List Nat))
    (h : s > pp.powers.length - 1) : ∃ e, trim pp s hb bounds = .error e := by
  unfold trim
  split
  · exact ⟨_, rfl⟩
  · exact ⟨_, rfl⟩
  · rw [if_pos h]; exact ⟨_, rfl⟩

example : trim (wfParams (3 : K) 5 2 7 3) 3 1 (some [2, 2]) = .ok (C01.exCK, C01.exVK) := by decide +kernel
example : trim (wfParams (3 : K) 5 2 7 3) 4 1 none = .error .trimTooLarge := by decide +kernel

end PCV.C09
