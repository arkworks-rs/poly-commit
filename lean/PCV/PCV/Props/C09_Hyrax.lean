/-
  Property C09 (setup and trim produce well-formed, mutually consistent keys) — Hyrax.
  Model: `PCV.Model.HyraxSetup` (`setup`, `trim`), `PCV.Model.Hyrax` (`commit`).  The hash-to-curve
  derivation is an arbitrary function `gen` of the hashed counter; that the real key elements ARE the
  Blake2s / `from_random_bytes` / cofactor-cleared points of those counters, pairwise distinct,
  non-identity, on the curve and in the prime-order subgroup, is checked by the correspondence run
  (`C09/hyrax-setup/*`) with an independent re-derivation.
-/
import PCV.Proofs.HyraxSetup
import PCV.Props.Examples

set_option linter.unusedSectionVars false

namespace PCV.C09
open PCV PCV.Hyrax
variable {F : Type} [Field F]

/-- `setup` without a number of variables, or with an odd one, is refused -/
theorem hyrax_setup_refused (gen : Nat → F) :
    setup gen none = .error .invalidNumVars ∧
    ∀ n, n % 2 = 1 → setup gen (some n) = .error .invalidNumVars := by
  refine ⟨rfl, fun n hn => ?_⟩
  unfold setup; simp [hn]

/-- **What `setup` publishes**: for an even `n`, exactly `2^(n/2)` commitment-key elements — element
`i` derived from counter `i` — and `h` derived from counter `2^(n/2)`; nothing else enters (no RNG, no
degree): two setups for the same `n` agree. -/
theorem hyrax_setup_ok (gen : Nat → F) (n : Nat) (hn : n % 2 = 0) :
    ∃ pp, setup gen (some n) = .ok pp ∧ pp.comKey.length = 2 ^ (n / 2) ∧
      (∀ i, i < 2 ^ (n / 2) → pp.comKey[i]? = some (gen i)) ∧ pp.h = gen (2 ^ (n / 2)) := by
  exact ⟨_, setup_ok_iff.2 ⟨hn, rfl⟩, by simp, fun i hi => by simp [hi], rfl⟩

/-- **Distinct generators**: when the derivation has no collision among the `2^(n/2) + 1` counters,
the key elements are pairwise distinct and distinct from `h`. -/
theorem hyrax_setup_distinct (gen : Nat → F) (n : Nat) (pp : UParams F)
    (h : setup gen (some n) = .ok pp)
    (hinj : ∀ i j, i ≤ 2 ^ (n / 2) → j ≤ 2 ^ (n / 2) → gen i = gen j → i = j) :
    pp.comKey.Nodup ∧ pp.h ∉ pp.comKey := by
  obtain ⟨_, rfl⟩ := setup_ok_iff.1 h
  constructor
  · refine List.Nodup.map_on ?_ List.nodup_range
    intro i hi j hj hij
    exact hinj i j (List.mem_range.1 hi).le (List.mem_range.1 hj).le hij
  · intro hm
    obtain ⟨i, hi, hg⟩ := List.mem_map.1 hm
    have hi := List.mem_range.1 hi
    exact Nat.ne_of_lt hi (hinj i _ hi.le (le_refl _) hg)

/-- **`trim` returns the parameters themselves** as committer key and as verifier key — the same
generators, all of them, whatever degree / hiding bound / degree bounds are requested; it never
refuses (the trait's `trim` has no argument for the number of variables). -/
theorem hyrax_trim_faithful (pp : UParams F) (d hb : Nat) (bounds : Option (List Nat)) :
    trim pp d hb bounds = .ok (pp, pp) := rfl

/-- **Keys interoperate and report the truth**: the key `setup` makes for `n` variables commits to
every polynomial in `n` variables … -/
theorem hyrax_setup_key_commits (gen : Nat → F) (n : Nat) (pp : UParams F)
    (h : setup gen (some n) = .ok pp) (p : MLPoly F) (hp : p.nv = n)
    (he : p.evals.length = 2 ^ p.nv) (ρs : List F) (hρ : 2 ^ (n / 2) ≤ ρs.length) :
    ∃ c st, commitOne pp.comKey pp.h p ρs = .ok (c, st) := by
  obtain ⟨hev, rfl⟩ := setup_ok_iff.1 h
  exact ⟨_, _, commitOne_ok_iff.2 ⟨hp ▸ hev, by simp [hp], he, by rw [hp]; exact hρ, rfl, rfl⟩⟩

/-- … and refuses (error or abort — never a commitment) every polynomial in another number of
variables: the requests beyond (or below) the parameters are refused at `commit`. -/
theorem hyrax_setup_key_refuses_other_nv (gen : Nat → F) (n : Nat) (pp : UParams F)
    (h : setup gen (some n) = .ok pp) (p : MLPoly F) (hp : p.nv / 2 ≠ n / 2) (ρs : List F) :
    ∃ e, commitOne pp.comKey pp.h p ρs = .error e := by
  refine exists_error_of_not_ok fun r hc => ?_
  obtain ⟨_, hks, _⟩ := commitOne_ok_iff.1 hc
  obtain ⟨_, rfl⟩ := setup_ok_iff.1 h
  rw [List.length_map, List.length_range] at hks
  exact hp (Nat.pow_right_injective (le_refl 2) hks).symm

/-! non-vacuity over `ZMod 101` with `gen i = 3·i + 2` -/
example : setup (fun i => ((3 * i + 2 : Nat) : K)) (some 4) = .ok ⟨[2, 5, 8, 11], 14⟩ := by decide +kernel
example : setup (fun i => ((3 * i + 2 : Nat) : K)) (some 3) = .error .invalidNumVars := by decide +kernel
example : ∀ i j, i ≤ 2 ^ (4 / 2) → j ≤ 2 ^ (4 / 2) →
    ((3 * i + 2 : Nat) : K) = ((3 * j + 2 : Nat) : K) → i = j := by
  have key : ∀ i ∈ List.range 5, ∀ j ∈ List.range 5,
      ((3 * i + 2 : Nat) : K) = ((3 * j + 2 : Nat) : K) → i = j := by decide +kernel
  intro i j hi hj
  exact key i (List.mem_range.2 (by norm_num at hi; omega)) j (List.mem_range.2 (by norm_num at hj; omega))
example : (commitOne ([2, 5] : List K) 8 ⟨2, [1, 2, 3, 4]⟩ [10, 20]).toBool = true := by decide +kernel
example : commitOne ([2, 5] : List K) 8 ⟨4, List.replicate 16 1⟩ [1, 2, 3, 4] = .error .invalidNumVars ∧
    commitOne ([2, 5, 8, 11] : List K) 14 ⟨2, [1, 2, 3, 4]⟩ [1, 2, 3, 4] = .error .abort := by decide +kernel

end PCV.C09
