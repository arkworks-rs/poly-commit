/-
  Property C09 — setup and trim, inner-product-argument scheme (`InnerProductArgPC::trim`; the
  transparent `setup` is hash-derived and is examined on the implementation by the harness:
  distinct, valid, non-identity generators recomputed from the protocol seed).
  `trim` returns two identical keys: the prefix of the parameters' generators whose length is the
  least power of two above the requested degree, the same `h`, `s`, truthful degree reports;
  requests beyond the parameters are refused.
-/
import PCV.Proofs.IPAVerify
import PCV.Props.Examples

namespace PCV.C09
open PCV
variable {F : Type} [Field F] [DecidableEq F]

theorem ipa_nextPow2Aux_le (n : Nat) :
    ∀ (fuel i j : Nat), i ≤ j → n ≤ 2 ^ j → IPA.nextPow2Aux n fuel (2 ^ i) ≤ 2 ^ j := by
  intro fuel
  induction fuel with
  | zero => intro i j hij _; exact Nat.pow_le_pow_right Nat.two_pos hij
  | succ f ih =>
    intro i j hij hn
    simp only [IPA.nextPow2Aux]
    split
    · exact Nat.pow_le_pow_right Nat.two_pos hij
    · rename_i hlt
      have hlt' : i < j :=
        (Nat.pow_lt_pow_iff_right Nat.one_lt_two).1 (Nat.lt_of_lt_of_le (Nat.not_le.1 hlt) hn)
      rw [← Nat.pow_succ']
      exact ih (i + 1) j hlt' hn

/-- `next_power_of_two` is the LEAST power of two that is large enough -/
theorem ipa_nextPow2_least (n j : Nat) (h : n ≤ 2 ^ j) : IPA.nextPow2 n ≤ 2 ^ j := by
  exact ipa_nextPow2Aux_le n n 0 j (Nat.zero_le j) h

set_option linter.unusedSectionVars false in
/-- **IPA trim, faithful sub-keys.** Whatever the parameters are (arbitrary generators — in
reality hash-derived ones of unknown discrete logarithm): an answered `trim(pp, supported)` returns
the same key twice (committer = verifier key); its generators are the first `n` generators of the
parameters with `n = next_power_of_two(supported + 1)`, the least power of two `≥ supported + 1`;
`h`, `s` are the parameters'; `supported_degree() = n − 1 ≥ supported` and
`max_degree() = |pp.comm_key| − 1` are truthful. -/
theorem ipa_trim_keys (pp : IPA.UParams F) (supported : Nat) (ck vk : IPA.CK F)
    (h : IPA.trim pp supported = .ok (ck, vk)) :
    vk = ck ∧ ck.commKey = pp.commKey.take ck.commKey.length ∧ ck.h = pp.h ∧ ck.s = pp.s ∧
    ck.commKey.length = IPA.nextPow2 (supported + 1) ∧ (∃ k, ck.commKey.length = 2 ^ k) ∧
    (∀ j, supported + 1 ≤ 2 ^ j → ck.commKey.length ≤ 2 ^ j) ∧
    IPA.supportedDegree ck + 1 = ck.commKey.length ∧ supported ≤ IPA.supportedDegree ck ∧
    ck.commKey.length ≤ pp.commKey.length ∧ ck.maxDegree = pp.commKey.length - 1 := by
  obtain ⟨_, hle, _, hck⟩ := IPA.trim_ok pp supported ck vk h
  obtain ⟨hvk, ⟨k, hk⟩, hpre, hh, hs, hsup, hmax⟩ := IPA.trim_spec pp supported ck vk h
  have hlen : ck.commKey.length = IPA.nextPow2 (supported + 1) := by
    rw [hck]; exact List.length_take.trans (Nat.min_eq_left hle)
  exact ⟨hvk, hpre, hh, hs, hlen, ⟨k, hk⟩,
    fun j hj => Nat.le_trans (Nat.le_of_eq hlen) (ipa_nextPow2_least _ j hj),
    (IPA.supported_succ ck k hk).trans hk.symm, hsup, Nat.le_trans (Nat.le_of_eq hlen) hle, hmax⟩

set_option linter.unusedSectionVars false in
/-- **IPA trim, the boundary.** Empty parameters abort (`max_degree()` underflows); a request whose
rounded-up size exceeds the parameters is refused with `TrimmingDegreeTooLarge`; every other request
is answered. -/
theorem ipa_trim_domain (pp : IPA.UParams F) (supported : Nat) :
    (pp.commKey = [] → IPA.trim pp supported = .error .abort) ∧
    (pp.commKey ≠ [] → IPA.nextPow2 (supported + 1) > pp.commKey.length →
      IPA.trim pp supported = .error .trimTooLarge) ∧
    (pp.commKey ≠ [] → IPA.nextPow2 (supported + 1) ≤ pp.commKey.length →
      ∃ ck, IPA.trim pp supported = .ok (ck, ck)) := by
  refine ⟨?_, ?_, ?_⟩
  · intro h; unfold IPA.trim; rw [h]; rfl
  · intro hne hgt; rw [IPA.trim_of_ne_nil pp supported hne, if_neg (Nat.not_le.2 hgt)]
  · intro hne hle; exact ⟨_, by rw [IPA.trim_of_ne_nil pp supported hne, if_pos hle]⟩

/-- **Keys from the same parameters interoperate**: of two trims the smaller key is a prefix of the
larger one, with the same `h`, `s` and the same `max_degree` (so a commitment to a polynomial that
fits the smaller key is the same group element under both). -/
theorem ipa_trim_interoperate (pp : IPA.UParams F) (s1 s2 : Nat) (ck1 vk1 ck2 vk2 : IPA.CK F)
    (h1 : IPA.trim pp s1 = .ok (ck1, vk1)) (h2 : IPA.trim pp s2 = .ok (ck2, vk2))
    (hle : ck1.commKey.length ≤ ck2.commKey.length) :
    ck1.commKey = ck2.commKey.take ck1.commKey.length ∧ ck1.h = ck2.h ∧ ck1.s = ck2.s ∧
      ck1.maxDegree = ck2.maxDegree := by
  obtain ⟨_, a2, a3, a4, _, _, _, _, _, _, a11⟩ := ipa_trim_keys pp s1 ck1 vk1 h1
  obtain ⟨_, b2, b3, b4, _, _, _, _, _, _, b11⟩ := ipa_trim_keys pp s2 ck2 vk2 h2
  refine ⟨?_, by rw [a3, b3], by rw [a4, b4], by rw [a11, b11]⟩
  conv_lhs => rw [a2]
  conv_rhs => rw [b2]
  rw [List.take_take, Nat.min_eq_left hle]

/-- **The key supports exactly what it reports**: a polynomial of degree `≤ supported_degree()` is
accepted by `commit`/`open`, one of degree `supported_degree() + 1` (or more) is refused with
`TooManyCoefficients`. -/
theorem ipa_commit_boundary (ck : IPA.CK F) (p : List F) :
    (pdeg p ≤ IPA.supportedDegree ck → IPA.checkDegreesAndBounds (IPA.supportedDegree ck) p none = .ok ()) ∧
    (pdeg p > IPA.supportedDegree ck → ∀ b,
      IPA.checkDegreesAndBounds (IPA.supportedDegree ck) p b = .error .tooManyCoefficients) := by
  constructor
  · intro h; unfold IPA.checkDegreesAndBounds; rw [if_neg (Nat.not_lt.2 h)]
  · intro h b; unfold IPA.checkDegreesAndBounds; rw [if_pos h]

/-! non-vacuity over `ZMod 101`: 8 generators; `trim(2)` rounds up to 4 and returns the 4-prefix
twice; `trim(4)` needs 8; `trim(8)` needs 16 and is refused; empty parameters abort; the boundary of
`commit` on the 4-element key -/
example : IPA.trim (⟨[3, 5, 7, 11, 2, 4, 6, 8], 13, 17⟩ : IPA.UParams K) 2
    = .ok (⟨[3, 5, 7, 11], 13, 17, 7⟩, ⟨[3, 5, 7, 11], 13, 17, 7⟩) := by decide +kernel
example : IPA.trim (⟨[3, 5, 7, 11, 2, 4, 6, 8], 13, 17⟩ : IPA.UParams K) 4
    = .ok (⟨[3, 5, 7, 11, 2, 4, 6, 8], 13, 17, 7⟩, ⟨[3, 5, 7, 11, 2, 4, 6, 8], 13, 17, 7⟩) := by decide +kernel
example : IPA.trim (⟨[3, 5, 7, 11, 2, 4, 6, 8], 13, 17⟩ : IPA.UParams K) 8 = .error .trimTooLarge := by
  decide +kernel
example : IPA.trim (⟨[], 13, 17⟩ : IPA.UParams K) 0 = .error .abort := by decide +kernel
example : IPA.nextPow2 (2 + 1) = 4 ∧ IPA.nextPow2 (8 + 1) > 8 ∧ (2 : Nat) + 1 ≤ 2 ^ 2 := by decide +kernel
example : IPA.commit (⟨[3, 5, 7, 11], 13, 17, 7⟩ : IPA.CK K) [⟨[1], [1, 2, 3, 4], none, none⟩] false []
    = .ok ([⟨[1], ⟨78, none⟩, none⟩], [⟨0, none⟩], []) := by decide +kernel
example : IPA.commit (⟨[3, 5, 7, 11], 13, 17, 7⟩ : IPA.CK K) [⟨[1], [1, 2, 3, 4, 5], none, none⟩] false []
    = .error .tooManyCoefficients := by decide +kernel

end PCV.C09
