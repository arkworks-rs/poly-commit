/-
  Property C09 (setup and trim produce well-formed, mutually consistent keys) — linear-code schemes.
  Model: `PCV.Model.LinCodeSetup`.  The linear-code "keys" are the parameter structs themselves; what
  there is to state is: the defaults `setup` installs, that the distance they report is usable by
  `calculate_t`, what degrees are reported and refused, and that `trim` hands out the parameters
  unchanged.  Matrix shapes (`compute_dimensions`), the number of opened columns (`calculate_t`) and
  the encoders are C13's (`Props/C13.lean`), not repeated here.
-/
import PCV.Model.LinCodeSetup
import PCV.Props.Examples

namespace PCV.C09
open PCV PCV.LinCode

/-- **Ligero defaults**: security parameter 128, well-formedness check on; inverse rate 4
(univariate: reported distance `3/4`) and 2 (multilinear: distance `1/2`), both usable by
`calculate_t` (`0 < d0 < 2·d1`). -/
theorem lincode_ligero_defaults :
    ligeroSetup.secParam = 128 ∧ ligeroSetup.rhoInv = 4 ∧ ligeroSetup.checkWf = true ∧
      ligeroSetup.distance = (3, 4) ∧ distanceUsable 3 4 = true ∧
    ligeroSetupML.secParam = 128 ∧ ligeroSetupML.rhoInv = 2 ∧ ligeroSetupML.checkWf = true ∧
      ligeroSetupML.distance = (1, 2) ∧ distanceUsable 1 2 = true := by decide +kernel

/-- every inverse rate `≥ 2` reports a usable distance (`rho_inv = 1` reports distance `0`, with
which `calculate_t` — hence `compute_dimensions` — refuses: `C13.calcT_unusable`) -/
theorem lincode_distance_usable (pp : LigeroParams) (h : 2 ≤ pp.rhoInv) :
    distanceUsable pp.distance.1 pp.distance.2 = true := by
  unfold LigeroParams.distance distanceUsable
  have h1 : 0 < pp.rhoInv := Nat.lt_of_lt_of_le Nat.zero_lt_two h
  have h2 : 0 < pp.rhoInv - 1 := Nat.sub_pos_of_lt h
  have h3 : pp.rhoInv - 1 < 2 * pp.rhoInv := by
    rw [Nat.two_mul]
    exact Nat.lt_of_le_of_lt (Nat.sub_le _ _) (Nat.lt_add_of_pos_left h1)
  simp [h1, h2, h3]

theorem lincode_distance_unusable (pp : LigeroParams) (h : pp.rhoInv ≤ 1) :
    distanceUsable pp.distance.1 pp.distance.2 = false := by
  simp only [LigeroParams.distance, distanceUsable]
  rcases Nat.le_one_iff_eq_zero_or_eq_one.1 h with h0 | h1
  · simp [h0]
  · simp [h1]

/-- **`setup` is truthful about the maximum**: it answers exactly when the requested degree is at
most the reported maximum and the field is suitable (`max ≠ 0`); everything beyond is
`InvalidParameters`. -/
theorem lincode_setup_iff (realMax maxDegree : Nat) :
    pcsSetup realMax maxDegree = .ok () ↔ maxDegree ≤ realMax ∧ realMax ≠ 0 := by
  unfold pcsSetup
  by_cases h : maxDegree > realMax ∨ realMax = 0
  · rw [if_pos h]
    exact ⟨fun h' => (nomatch h'), fun ⟨h1, h2⟩ => (h.elim (Nat.not_lt_of_le h1) h2).elim⟩
  · rw [if_neg h]
    exact ⟨fun _ => ⟨Nat.le_of_not_lt fun hh => h (Or.inl hh), fun hh => h (Or.inr hh)⟩, fun _ => rfl⟩

theorem lincode_setup_refuses (realMax maxDegree : Nat) (h : realMax < maxDegree ∨ realMax = 0) :
    pcsSetup realMax maxDegree = .error .invalidParameters := by
  unfold pcsSetup
  rw [if_pos h]

/-- **`trim` hands out the parameters unchanged** as committer and verifier key (so the two keys
always interoperate) and refuses exactly when the field is unsuitable. -/
theorem lincode_trim_faithful {P : Type} (realMax : Nat) (pp : P) :
    (realMax ≠ 0 → pcsTrim realMax pp = .ok (pp, pp)) ∧
    (realMax = 0 → pcsTrim realMax pp = .error .invalidParameters) := by
  unfold pcsTrim
  constructor
  · intro h; rw [if_neg h]
  · intro h; rw [if_pos h]

/-- the Ligero degree report over a field of two-adicity `s`: unsuitable exactly when `s < rho_inv`;
otherwise positive, so `setup`/`trim` answer for every degree up to it -/
theorem lincode_ligero_max_degree_pos (s : Nat) (pp : LigeroParams) :
    ligeroMaxDegree s pp = 0 ↔ s < pp.rhoInv := by
  unfold ligeroMaxDegree
  by_cases h : s < pp.rhoInv
  · simp [h]
  · simp only [h, if_false, iff_false]
    split
    · exact Nat.pos_iff_ne_zero.1 (Nat.two_pow_pos _)
    · decide

/-- over the scalar field of BLS12-381 (two-adicity 32) the defaults report `2^56` (univariate) and
`2^60` (multilinear) -/
theorem lincode_ligero_bls_report :
    ligeroMaxDegree 32 ligeroSetup = 2 ^ 56 ∧ ligeroMaxDegree 32 ligeroSetupML = 2 ^ 60 := by decide +kernel

/-! non-vacuity -/
example : pcsSetup (2 ^ 56) 1000 = .ok () ∧ pcsSetup (2 ^ 56) (2 ^ 56 + 1) = .error .invalidParameters ∧
    pcsSetup 0 0 = .error .invalidParameters := by decide +kernel
example : pcsTrim (2 ^ 56) ligeroSetup = .ok (ligeroSetup, ligeroSetup) ∧
    pcsTrim 0 ligeroSetup = .error .invalidParameters := by decide +kernel
example : ligeroMaxDegree 3 ligeroSetup = 0 ∧ ligeroMaxDegree 40 ligeroSetup = usizeMax := by decide +kernel

end PCV.C09
