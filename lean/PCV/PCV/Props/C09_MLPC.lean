/-
  Property C09 (multilinear PST) — `setup` publishes the `eq`-tensor tables of one trapdoor, and
  `trim` returns the sub-tables.
-/
import PCV.Proofs.MLPCSetup
import PCV.Props.Examples

namespace PCV.C09
open PCV
set_option linter.unusedSectionVars false
variable {F : Type} [Field F] [DecidableEq F]

/-- **`setup` is well-formed.**  For every `nv ≥ 1`, generators `g, h`, trapdoor `t ∈ F^nv` the model
of `MultilinearPC::setup` (rows of `eq_extension`, reversed product loop, `remove_dummy_variable`,
flatten / `batch_mul` / re-slice) returns `powers_of_g[i] = g·eqTable(t[i..])`,
`powers_of_h[i] = h·eqTable(t[i..])`, `g_mask[i] = g·tᵢ`, `num_vars = nv`. -/
theorem mlpc_setup_wellformed (nv : Nat) (g h : F) (t : List F) (hnv : nv ≠ 0) (ht : t.length = nv) :
    MLPC.setup nv g h t = .ok (MLPC.wfParams g h t) := MLPC.setup_eq hnv ht

/-- **Table recursion.**  Consecutive tables are tied by one trapdoor coordinate:
`powers[i][2b] = (1 − tᵢ)·powers[i+1][b]`, `powers[i][2b+1] = tᵢ·powers[i+1][b]` (`weave`), the last
table is `[(1 − t)·c, t·c]`. -/
theorem mlpc_tables_recursion (c a b : F) (ts : List F) :
    MLPC.tables c (a :: b :: ts)
        = MLPC.weave a ((MLPC.tables c (b :: ts)).headD []) :: MLPC.tables c (b :: ts)
    ∧ MLPC.tables c [a] = [[(1 - a) * c, a * c]] := by
  constructor
  · rw [MLPC.tables, MLPC.eqTable, MLPC.batchMul_weave]; rfl
  · simp only [MLPC.tables, MLPC.eqTable, MLPC.weave, MLPC.batchMul, List.map_cons, List.map_nil,
      mul_one, mul_comm c]

/-- every table has `2^(nv − i)` entries and there are `nv` of them -/
theorem mlpc_tables_shape (c : F) (t : List F) :
    (MLPC.tables c t).length = t.length
    ∧ ∀ i (hi : i < (MLPC.tables c t).length), ((MLPC.tables c t)[i]).length = 2 ^ (t.length - i) := by
  refine ⟨MLPC.tables_length c t, ?_⟩
  induction t with
  | nil => exact fun i hi => absurd hi (Nat.not_lt_zero i)
  | cons a ts ih =>
    intro i hi
    cases i with
    | zero => exact (MLPC.batchMul_length c _).trans (MLPC.eqTable_length _)
    | succ i =>
      simp only [MLPC.tables, List.getElem_cons_succ, List.length_cons, Nat.add_sub_add_right]
      exact ih i (Nat.lt_of_succ_lt_succ hi)

/-- **Pairing relations** the published elements satisfy (what the harness checks on the real
`setup` output): `e(P_g[x], h) = e(g, P_h[x])` entrywise, `e(g_mask[i], h) = e(g, h)^{tᵢ}`. -/
theorem mlpc_pairing_relations (g h : F) (E t : List F) :
    (MLPC.batchMul g E).map (· * h) = (MLPC.batchMul h E).map (g * ·)
    ∧ (MLPC.batchMul g t).map (· * h) = t.map (· * (g * h)) := by
  simp only [MLPC.batchMul, List.map_map, Function.comp_def]
  exact ⟨List.map_congr_left fun x _ => by ring, List.map_congr_left fun x _ => by ring⟩

/-- **`trim` returns the sub-tables** (any parameters): the last `s` tables of both groups, the last
`s` mask elements, the same generators, `nv = s`. -/
theorem mlpc_trim_subtables (pp : MLPC.UParams F) (s : Nat) (ck : MLPC.CK F) (vk : MLPC.VK F)
    (h : MLPC.trim pp s = .ok (ck, vk)) :
    s ≤ pp.numVars
    ∧ ck = ⟨s, pp.powersOfG.drop (pp.numVars - s), pp.powersOfH.drop (pp.numVars - s), pp.g, pp.h⟩
    ∧ vk = ⟨s, pp.g, pp.h, pp.gMask.drop (pp.numVars - s)⟩ := by
  unfold MLPC.trim at h
  split at h
  · cases h
  · rename_i hs
    dsimp only at h
    split at h
    · cases h
    · cases h
      exact ⟨not_not.1 hs, rfl, rfl⟩

/-- **`trim` of well-formed parameters** is the well-formed key pair of the trapdoor suffix
`t[nv−s..]` — the keys a `setup` with `s` variables and that trapdoor would give. -/
theorem mlpc_trim_wellformed (g h : F) (t : List F) (s : Nat) (hs : s ≤ t.length) :
    MLPC.trim (MLPC.wfParams g h t) s
      = .ok (MLPC.wfCK g h (t.drop (t.length - s)), MLPC.wfVK g h (t.drop (t.length - s))) :=
  MLPC.trim_wf g h t s hs

/-- **Out-of-range `trim` is refused** (`assert!(supported_num_vars <= params.num_vars)`). -/
theorem mlpc_trim_out_of_range (pp : MLPC.UParams F) (s : Nat) (hs : pp.numVars < s) :
    MLPC.trim pp s = .error .abort := MLPC.trim_refuses hs

example : MLPC.setup 3 (5 : K) 11 [3, 7, 20] = .ok (MLPC.wfParams 5 11 [3, 7, 20])
    ∧ (MLPC.wfParams (5 : K) 11 [3, 7, 20]).powersOfG
        = [[72, 94, 17, 25, 89, 18, 14, 80], [65, 42, 6, 94], [6, 100]] := by decide +kernel
example : MLPC.trim (MLPC.wfParams (5 : K) 11 [3, 7, 20]) 4 = .error .abort := by decide +kernel
example : MLPC.trim (MLPC.wfParams (5 : K) 11 [3, 7, 20]) 1
    = .ok (⟨1, [[6, 100]], [[94, 18]], 5, 11⟩, ⟨1, 5, 11, [100]⟩) := by decide +kernel

end PCV.C09
