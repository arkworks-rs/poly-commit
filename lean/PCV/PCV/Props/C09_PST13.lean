/-
  Property C09 — setup and trim produce well-formed, mutually consistent keys: MarlinPST13.
  `setup` is modelled with its RNG draws given (the trapdoor `β⃗` and the scalars of `g`, `gamma_g`,
  `h`); the harness checks the library's real `setup` against this model element by element and,
  independently of any trapdoor, through pairings.  The enumeration of the monomials
  (`Combinations`) is property C15; here: what is published for each of them, what `trim` keeps,
  what is refused.
-/
import PCV.Proofs.PST13More
import PCV.Props.Examples

set_option synthInstance.maxSize 512

namespace PCV.C09
open PCV PCV.MV
variable {F : Type} [Field F] [DecidableEq F]

/-- **PST13 `setup`: every published element is the stated power of one trapdoor.**  Whenever
`setup` answers (`num_vars ≥ 1`, `max_degree ≥ 1`): `powers_of_g` is indexed by exactly the
monomials in `num_vars` variables of total degree `≤ max_degree`, and the element of the monomial
`t` is `g·t(β⃗)`; `beta_h[i] = βᵢ·h`; `powers_of_gamma_g[i] = (γ·βᵢ, …, γ·βᵢ^(D+1))`; `gamma_g`, `h`
and the reported sizes are as drawn / requested. -/
theorem pst13_setup_elements (D nv : Nat) (betas : List F) (g γ h : F) (pp : PST.UParams F)
    (hs : PST.setup D nv betas g γ h = .ok pp) :
    1 ≤ nv ∧ 1 ≤ D
    ∧ (∀ kv ∈ pp.powersOfG, kv.2 = g * evalTerm kv.1 betas)
    ∧ (∀ t, t ∈ pp.powersOfG.map (·.1)
        ↔ (Term.wf t = true ∧ Term.varsBelow nv t = true ∧ Term.degree t ≤ D))
    ∧ (∀ t, Term.wf t = true → Term.varsBelow nv t = true → Term.degree t ≤ D →
        PST.mapGet pp.powersOfG t = some (g * evalTerm t betas))
    ∧ pp.betaH = (betas.take nv).map (fun b => h * b)
    ∧ pp.powersOfGammaG
        = (List.range nv).map (fun i => PST.gammaRow γ (getD' betas i 0) (D + 1) 1)
    ∧ pp.gammaG = γ ∧ pp.h = h ∧ pp.numVars = nv ∧ pp.maxDegree = D := by
  obtain ⟨hnv, hD, ts, hm, rfl⟩ := PST.setup_eq_of_ok hs
  refine ⟨hnv, hD, fun kv hkv => ?_, fun t => ?_, fun t h1 h2 h3 => ?_, rfl, ?_, rfl, rfl, rfl, rfl⟩
  · obtain ⟨t, ht, rfl⟩ := List.mem_map.1 hkv
    exact congrArg (g * ·) (PST.evalTerm_take ((hm t).1 ht).2.1 betas)
  · have hkeys : (PST.wfUP g γ h (betas.take nv) ts nv D).powersOfG.map (·.1) = ts :=
      (List.map_map ..).trans (List.map_id ts)
    rw [hkeys]
    exact hm t
  · rw [PST.wfUP, PST.mapGet_map, if_pos ((hm t).2 ⟨h1, h2, h3⟩), PST.evalTerm_take h2]
  · exact List.map_congr_left fun i hi => by rw [getD'_take betas 0 (List.mem_range.1 hi)]

/-- the `j`-th entry of a γ-row is `γ·βᵢ^(j+1)` -/
theorem pst13_gamma_row_entry (γ β : F) (n j : Nat) (b : F)
    (h : (PST.gammaRow γ β n 1)[j]? = some b) : b = γ * fpow β (j + 1) := by
  rw [PST.gammaRow_getElem?] at h
  split at h
  · rw [← Option.some.inj h, one_mul]
  · cases h

/-- **`trim` returns faithful sub-keys**: exactly the monomials of degree `≤ supported_degree` with
their elements unchanged, the first `supported_degree + 1` entries of every γ-row; the verifier
key has the same `g` (the element of the constant monomial), `gamma_g`, `h`, `beta_h`; the degree
reports are truthful; only `supported_degree ≤ max_degree` is answered. -/
theorem pst13_trim_faithful (pp : PST.UParams F) (s : Nat) (ck : PST.CK F) (vk : PST.VK F)
    (h : PST.trim pp s = .ok (ck, vk)) :
    s ≤ pp.maxDegree
    ∧ ck.powersOfG = pp.powersOfG.filter (fun kv => decide (Term.degree kv.1 ≤ s))
    ∧ (∀ t, PST.mapGet ck.powersOfG t
          = if Term.degree t ≤ s then PST.mapGet pp.powersOfG t else none)
    ∧ PST.mapGet pp.powersOfG [] = some vk.g
    ∧ vk.betaH = pp.betaH ∧ vk.h = pp.h ∧ vk.gammaG = pp.gammaG ∧ ck.gammaG = pp.gammaG
    ∧ ck.supportedDegree = s ∧ ck.numVars = pp.numVars :=
  PST.trim_spec pp s ck vk h

/-- **Keys from one `setup` interoperate with the trapdoor relation**: after `setup` and `trim`
the committer key serves every monomial of degree `≤ s` with `g·t(β⃗)` and none above; the verifier
key has `g`, `beta_h[i] = βᵢ·h`; and a non-hiding commitment to any polynomial of degree `≤ s` is
`g·p(β⃗)` — the value the verifier's pairing relation (C10) is about. -/
theorem pst13_setup_trim_consistent (D nv s : Nat) (betas : List F) (g γ h : F)
    (pp : PST.UParams F) (ck : PST.CK F) (vk : PST.VK F)
    (hs : PST.setup D nv betas g γ h = .ok pp) (ht : PST.trim pp s = .ok (ck, vk)) :
    (∀ t, Term.wf t = true → Term.varsBelow nv t = true → Term.degree t ≤ s →
        PST.mapGet ck.powersOfG t = some (g * evalTerm t betas))
    ∧ (∀ t, s < Term.degree t → PST.mapGet ck.powersOfG t = none)
    ∧ vk.g = g ∧ vk.h = h ∧ vk.gammaG = γ ∧ ck.gammaG = γ
    ∧ vk.betaH = (betas.take nv).map (fun b => h * b)
    ∧ ∀ (p : MVPoly F) (rng : Bool) (draws : List F), polyWf p = true → polyVarsBelow nv p = true →
        degreeMV p ≤ s → PST.commit ck p none rng draws = .ok (g * evalMV p betas, [], draws) := by
  obtain ⟨_, _, ts, hm, rfl⟩ := PST.setup_eq_of_ok hs
  have hsD : s ≤ D := (PST.trim_spec _ s ck vk ht).1
  have hcov : ∀ t, PST.Covered nv s t → t ∈ ts.filter fun t => decide (Term.degree t ≤ s) :=
    PST.covered_mem_filter nv s ts fun t ht => (hm t).2 ⟨ht.1, ht.2.1, Nat.le_trans ht.2.2 hsD⟩
  rw [PST.trim_wfUP g γ h _ ts nv D s hsD ((hm []).2 ⟨rfl, rfl, Nat.zero_le _⟩)] at ht
  obtain ⟨rfl, rfl⟩ := Prod.mk.inj (Except.ok.inj ht)
  have hlook : ∀ t, Term.wf t = true → Term.varsBelow nv t = true → Term.degree t ≤ s →
      PST.mapGet (PST.wfCK g γ (betas.take nv) (ts.filter fun t => decide (Term.degree t ≤ s)) nv s D
        (s + 1)).powersOfG t = some (g * evalTerm t betas) := fun t h1 h2 h3 => by
    rw [PST.wfCK, PST.mapGet_map, if_pos (hcov t ⟨h1, h2, h3⟩), PST.evalTerm_take h2]
  refine ⟨hlook, fun t ht' => ?_, rfl, rfl, rfl, rfl, rfl, fun p rng draws hp hpv hd => ?_⟩
  · rw [PST.wfCK, PST.mapGet_map]
    exact if_neg fun hmem : t ∈ ts.filter _ =>
      Nat.not_le.2 ht' (of_decide_eq_true (List.mem_filter.1 hmem).2)
  · exact PST.commit_plain_trapdoor _ p rng draws g betas hd fun t htm =>
      have hc := PST.covered_of_poly hp hpv hd t htm
      hlook t hc.1 hc.2.1 hc.2.2

/-- **Requests beyond the parameters are refused**: zero variables, zero degree, a supported degree
above the maximum. -/
theorem pst13_out_of_range_refused (D nv : Nat) (betas : List F) (g γ h : F) (pp : PST.UParams F)
    (s : Nat) :
    (nv < 1 → PST.setup D nv betas g γ h = .error .invalidNumVars) ∧
    (1 ≤ nv → D < 1 → PST.setup D nv betas g γ h = .error .degreeIsZero) ∧
    (s > pp.maxDegree → PST.trim pp s = .error .trimTooLarge) :=
  ⟨(PST.setup_refuses D nv betas g γ h).1, (PST.setup_refuses D nv betas g γ h).2,
    PST.trim_refuses pp s⟩

/-! ### non-vacuity over `ZMod 101`: `setup(max_degree = 2, num_vars = 2)` with the draws
`β⃗ = (2, 7)`, `g = 3`, `γ = 5`, `h = 11` -/

example : PST.setup 2 2 ([2, 7] : List K) 3 5 11
    = .ok { powersOfG := [([], 3), ([(1, 1)], 21), ([(0, 1)], 6), ([(1, 2)], 46),
                          ([(0, 1), (1, 1)], 42), ([(0, 2)], 12)],
            gammaG := 5, powersOfGammaG := [[10, 20, 40], [35, 43, 99]], h := 11,
            betaH := [22, 77], numVars := 2, maxDegree := 2 } := by decide +kernel
/-- e.g. the element of `x₀x₁` is `3·2·7`, of `x₁²` is `3·7²`; `beta_h = (11·2, 11·7)`;
the γ-row of `x₁` is `5·7, 5·7², 5·7³` -/
example : (42 : K) = 3 * (2 * 7) ∧ (46 : K) = 3 * 7 ^ 2 ∧ (77 : K) = 11 * 7
    ∧ ([35, 43, 99] : List K) = [5 * 7, 5 * 7 ^ 2, 5 * 7 ^ 3] := by decide +kernel
example : (match PST.setup 2 2 ([2, 7] : List K) 3 5 11 with
    | .ok pp => (match PST.trim pp 1 with
      | .ok (ck, vk) => ck.powersOfG == [([], 3), ([(1, 1)], 21), ([(0, 1)], 6)]
          && ck.powersOfGammaG == [[10, 20], [35, 43]] && vk.betaH == [22, 77] && vk.g == 3
      | .error _ => false)
    | .error _ => false) = true := by decide +kernel
example : PST.setup 2 0 ([] : List K) 3 5 11 = .error .invalidNumVars := by decide +kernel
example : PST.setup 0 2 ([2, 7] : List K) 3 5 11 = .error .degreeIsZero := by decide +kernel
example : (match PST.setup 2 2 ([2, 7] : List K) 3 5 11 with
    | .ok pp => PST.trim pp 3 == .error .trimTooLarge
    | .error _ => false) = true := by decide +kernel

/-- `pst13_setup_trim_consistent`: under the keys of that `setup` trimmed to degree 2,
`4 + 6x₁ + 9x₀x₁ + 2x₀²` commits to `3·p(2, 7) = 3·(4 + 42 + 126 + 8)` -/
example : (match PST.setup 2 2 ([2, 7] : List K) 3 5 11 with
    | .ok pp => (match PST.trim pp 2 with
      | .ok (ck, _) => PST.commit ck [(4, []), (6, [(1, 1)]), (9, [(0, 1), (1, 1)]), (2, [(0, 2)])]
          none false [] == .ok (3 * (4 + 42 + 126 + 8), [], [])
      | .error _ => false)
    | .error _ => false) = true := by decide +kernel

end PCV.C09
