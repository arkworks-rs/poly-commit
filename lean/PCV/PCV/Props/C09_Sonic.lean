/-
  Property C09 — setup and trim, SonicKZG10: the committer / verifier keys are exactly the stated
  sub-lists, windows and per-bound G2 elements of the parameters for `sort(dedup B)`; degree reports
  are truthful; out-of-range requests are refused, in-range requests answered.
-/
import PCV.Proofs.SonicExamples

namespace PCV.C09
open PCV PCV.Sonic
open PCV.Marlin (Label LPoly Query sortDedup)
variable {F : Type} [Field F] [DecidableEq F]

/-- **The plain parts of the keys** (any parameter set): `powers_of_g[..=s]`, the first `shb+2`
γ-powers, the sorted de-duplicated bound list, and `g, γg, h, βh` copied from the parameters. -/
theorem sonic_trim_sublists (pp : UParams F) (s shb : Nat) (bounds : Option (List Nat)) (ck : CK F)
    (vk : VK F) (ht : trim pp s shb bounds = .ok (ck, vk)) :
    ck.powers = pp.powers.take (s + 1) ∧ ck.gammaPowers = pp.gammaPowers.take (shb + 2) ∧
    ck.bounds = bounds.map sortDedup ∧ pp.powers.head? = some vk.g ∧
    vk.gammaG = getD' pp.gammaPowers 0 0 ∧ vk.h = pp.h ∧ vk.betaH = pp.betaH := by
  obtain ⟨g, tl, _, _, _, hp, _, _, _, rfl, rfl⟩ := trim_inv ht
  exact ⟨rfl, rfl, rfl, by rw [hp]; rfl, rfl, rfl, rfl⟩

/-- `sort(dedup B)` is strictly ascending and has exactly the elements of `B` -/
theorem sonic_trim_bounds_sorted (l : List Nat) :
    (sortDedup l).Pairwise (· < ·) ∧ ∀ d, d ∈ sortDedup l ↔ d ∈ l :=
  ⟨Marlin.sorted_sortDedup l, fun d => Marlin.mem_sortDedup d l⟩

/-- **The degree-bound parts** for a non-empty bound list `B` with largest element `b`:
`shifted_powers_of_g = powers_of_g[D-b ..]`; for each `d ∈ sort(dedup B)` the γ-window
`powers_of_gamma_g[D-d ..]` truncated to `min(shb+2, d+2)` entries and the G2 element
`neg_powers_of_h[D-d]`, in ascending order of `d`; and `b ≤ s`. -/
theorem sonic_trim_shifted (pp : UParams F) (s shb : Nat) (l : List Nat) (ck : CK F) (vk : VK F)
    (hne : sortDedup l ≠ []) (ht : trim pp s shb (some l) = .ok (ck, vk)) :
    let D := pp.powers.length - 1
    let b := (sortDedup l).getLastD 0
    b ≤ s ∧ ck.shiftedPowers = some (pp.powers.drop (D - b)) ∧
    ck.shiftedGamma = some ((sortDedup l).map fun d =>
      (d, (pp.gammaPowers.drop (D - d)).take (min (shb + 2) (d + 2)))) ∧
    vk.negH = some ((sortDedup l).map fun d => (d, getD' pp.negPowersH (D - d) 0)) := by
  obtain ⟨_, _, _, _, _, _, _, _, hsh, rfl, rfl⟩ := trim_inv ht
  obtain ⟨h1, hx⟩ := trimShifted_inv hne hsh
  injection hx with h2 hx; injection hx with h3 h4
  exact ⟨h1, h2, h3, h4⟩

/-- without enforced bounds (`None` or an empty list) the keys carry no shifted parts -/
theorem sonic_trim_no_bounds (pp : UParams F) (s shb : Nat) (bounds : Option (List Nat)) (ck : CK F)
    (vk : VK F) (hb : bounds = none ∨ bounds = some []) (ht : trim pp s shb bounds = .ok (ck, vk)) :
    ck.shiftedPowers = none ∧ ck.shiftedGamma = none ∧ vk.negH = none := by
  obtain ⟨_, _, _, _, _, _, _, _, hsh, rfl, rfl⟩ := trim_inv ht
  rw [trimShifted_of_empty (by rcases hb with rfl | rfl <;> simp [sortDedup])] at hsh
  injection hsh with hsh; injection hsh with h1 hsh; injection hsh with h2 h3
  exact ⟨h1.symm, h2.symm, h3.symm⟩

/-- **What a bounded polynomial is committed under / verified against**: the `d+1` powers
`powers_of_g[D-d ..= D]`, the truncated γ-window, and `get_shift_power(d) = neg_powers_of_h[D-d]`;
bounds outside `B` have no shift element. -/
theorem sonic_trim_per_bound (pp : UParams F) (s shb : Nat) (l : List Nat) (ck : CK F) (vk : VK F)
    (ht : trim pp s shb (some l) = .ok (ck, vk)) (d : Nat) :
    (d ∈ l → powersFor ck (some d)
        = .ok ⟨pp.powers.drop (pp.powers.length - 1 - d),
               gammaWindow pp.gammaPowers (pp.powers.length - 1) shb d⟩ ∧
      vk.shiftPower d = some (getD' pp.negPowersH (pp.powers.length - 1 - d) 0) ∧ d ≤ s) ∧
    (d ∉ l → vk.shiftPower d = none) :=
  ⟨fun hd => powersFor_general ht hd,
   fun hd => shiftPower_none ht
     (fun l' hl' => by injection hl' with e; subst e; exact hd)⟩

/-- **Parameters made by `setup` from a trapdoor** (`powers[i] = βⁱ·g`, `gamma[i] = βⁱ·γ`,
`neg_powers_of_h[i] = β^{-i}·h`): the trimmed keys are power lists again, and the G2 element of the
bound `d` is `β^{-(D-d)}·h`. -/
theorem sonic_trim_wf (g γ β bi h : F) (D s shb : Nat) (l : List Nat) (ck : CK F) (vk : VK F)
    (ht : trim (wfPP g γ β bi h D) s shb (some l) = .ok (ck, vk)) (d : Nat) (hd : d ∈ l) :
    ck.powers = powers g β (s + 1) ∧ ck.gammaPowers = powers γ β (shb + 2) ∧
    powersFor ck (some d) = .ok (KZG.wfPowers (fpow β (D - d) * g) (fpow β (D - d) * γ) β (d + 1)
      (min (shb + 2) (d + 2))) ∧
    vk.shiftPower d = some (fpow bi (D - d) * h) := by
  obtain ⟨_, _, h3, h4, _⟩ := trim_wf_basic g γ β bi h D s shb (some l) ck vk ht
  obtain ⟨h5, h6, _⟩ := trim_wf_bound ht hd
  exact ⟨h3, h4, h5, h6⟩

/-- **Truthful degree reports**: `supported_degree()` of both keys is the requested degree,
`max_degree()` is the size of the parameters. -/
theorem sonic_trim_degree_reports (pp : UParams F) (s shb : Nat) (bounds : Option (List Nat))
    (ck : CK F) (vk : VK F) (ht : trim pp s shb bounds = .ok (ck, vk)) :
    ck.supportedDegree = s ∧ vk.supported = s ∧ ck.maxDegree = pp.powers.length - 1 ∧
      vk.maxDegree = pp.powers.length - 1 ∧ s ≤ pp.powers.length - 1 :=
by
  obtain ⟨g, tl, _, _, _, hp, hs, _, _, rfl, rfl⟩ := trim_inv ht
  refine ⟨?_, rfl, rfl, rfl, hs⟩
  rw [hp, List.length_cons] at hs
  simp only [CK.supportedDegree, List.length_take, hp, List.length_cons]
  omega

/-- **Interoperability**: the pairing core `(g, γg, h, βh)` of the verifier key does not depend on
the trim arguments. -/
theorem sonic_trim_vk_interop (pp : UParams F) (s₁ s₂ shb₁ shb₂ : Nat) (b₁ b₂ : Option (List Nat))
    (ck₁ ck₂ : CK F) (vk₁ vk₂ : VK F) (h₁ : trim pp s₁ shb₁ b₁ = .ok (ck₁, vk₁))
    (h₂ : trim pp s₂ shb₂ b₂ = .ok (ck₂, vk₂)) :
    vk₁.g = vk₂.g ∧ vk₁.gammaG = vk₂.gammaG ∧ vk₁.h = vk₂.h ∧ vk₁.betaH = vk₂.betaH := by
  obtain ⟨_, _, _, _, _, a, _, _, _, _, rfl⟩ := trim_inv h₁
  obtain ⟨_, _, _, _, _, b, _, _, _, _, rfl⟩ := trim_inv h₂
  exact ⟨(List.cons.inj (a.symm.trans b)).1, rfl, rfl, rfl⟩

/-- **Out-of-range requests are refused**: supported degree above the parameters; a bound above the
supported degree; a hiding bound the γ-powers cannot serve. -/
theorem sonic_trim_refuses (pp : UParams F) (s shb : Nat) (bounds : Option (List Nat))
    (hp : pp.powers ≠ []) :
    (s > pp.powers.length - 1 → trim pp s shb bounds = .error .trimTooLarge) ∧
    (s ≤ pp.powers.length - 1 → (∃ l d, bounds = some l ∧ d ∈ l ∧ d > s) →
      trim pp s shb bounds = .error .unsupportedBound) ∧
    (shb + 2 > pp.gammaPowers.length → ∃ e, trim pp s shb bounds = .error e) := by
  refine ⟨fun hs => trim_refuses_too_large shb bounds hp hs, ?_,
    fun h => trim_refuses_hiding s bounds h⟩
  intro hs ⟨l, d, hb, hd, hds⟩
  rw [hb]; exact trim_refuses_bound shb hp hs hd hds

/-- **In-range requests are answered** on trapdoor-made parameters (no error, no abort). -/
theorem sonic_trim_ok (g γ β bi h : F) (D s shb : Nat) (bounds : Option (List Nat))
    (hs : s ≤ D) (hshb : shb ≤ D) (hb : ∀ l, bounds = some l → ∀ d ∈ l, d ≤ s) :
    ∃ ck vk, trim (wfPP g γ β bi h D) s shb bounds = .ok (ck, vk) :=
  trim_ok g γ β bi h D s shb bounds hs hshb hb

/-- non-vacuity: the concrete key of the examples (bounds given unsorted with a duplicate), a refusal
on each boundary, and the empty / `None` bound lists -/
example : trim Ex.pp 3 1 (some [3, 2, 3]) = .ok (Ex.ck, Ex.vk) ∧ sortDedup [3, 2, 3] = [2, 3] :=
  ⟨Ex.trim_eq, rfl⟩
example : trim Ex.pp 5 1 none = .error .trimTooLarge ∧
    trim Ex.pp 3 1 (some [4]) = .error .unsupportedBound ∧
    trim Ex.pp 3 5 none = .error .abort := by decide +kernel
example : trim Ex.pp 4 4 (some []) = .ok (⟨[3, 6, 12, 24, 48], [5, 10, 20, 40, 80, 59], none, none, some [], 4⟩,
    ⟨3, 5, 7, 14, none, 4, 4⟩) := by decide +kernel
end PCV.C09
