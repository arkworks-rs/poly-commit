/-
  Property C10 — verifiers decide exactly the scheme's published verification relation.
-/
import PCV.Proofs.KZG10
import PCV.Props.C01
import PCV.Props.Examples

namespace PCV.C10
open PCV
variable {F : Type} [Field F] [DecidableEq F]

/-- The KZG10 verification relation, written from the paper:
`e(C − v·G − rv·γG, H) = e(W, βH − z·H)`, in exponent form. -/
def KZGRelation (vk : KZG.VK F) (c z v : F) (π : KZG.Proof F) : Prop :=
  (c - v * vk.g - KZG.rvVal π.rv * vk.gammaG) * vk.h = π.w * (vk.betaH - z * vk.h)

/-- **KZG10.** `check` returns success exactly when the relation holds — for every verifier key
and every transcript, honest or not. -/
theorem kzg10_check_iff_relation (vk : KZG.VK F) (c z v : F) (π : KZG.Proof F) :
    KZG.check vk c z v π = true ↔ KZGRelation vk c z v π := by
  rw [KZG.check_iff_defect]
  unfold KZG.defect KZGRelation
  exact sub_eq_zero

/-- honest proofs satisfy the relation -/
theorem kzg10_honest_satisfies (g γ β h : F) (n m : Nat) (p : List F) (hb : Option Nat)
    (rng : Bool) (draws : List F) (c : F) (r rest : List F) (z : F) (π : KZG.Proof F)
    (hc : KZG.commit (KZG.wfPowers g γ β n m) p hb rng draws = .ok (c, r, rest))
    (ho : KZG.open (KZG.wfPowers g γ β n m) p z r = .ok π) :
    KZGRelation (KZG.wfVK g γ β h) c z (evalPoly p z) π :=
  (kzg10_check_iff_relation _ _ _ _ _).1
    (C01.kzg10_complete g γ β h n m p hb rng draws c r rest z π hc ho)

/-- every component the relation mentions influences the decision: from an accepting transcript,
changing exactly one of commitment / value / witness / `random_v` (with the stated non-degeneracy)
flips the decision -/
theorem kzg10_each_component_matters (vk : KZG.VK F) (c z v w rv d : F) (hd : d ≠ 0)
    (hh : vk.h ≠ 0) (hacc : KZG.check vk c z v ⟨w, some rv⟩ = true) :
    KZG.check vk (c + d) z v ⟨w, some rv⟩ = false ∧
    (vk.g ≠ 0 → KZG.check vk c z (v + d) ⟨w, some rv⟩ = false) ∧
    (vk.gammaG ≠ 0 → KZG.check vk c z v ⟨w, some (rv + d)⟩ = false) ∧
    (vk.betaH - z * vk.h ≠ 0 → KZG.check vk c z v ⟨w + d, some rv⟩ = false) ∧
    (w ≠ 0 → KZG.check vk c (z + d) v ⟨w, some rv⟩ = false) :=
  ⟨KZG.rejected_of_moved hacc (KZG.defect_add_comm ..) (mul_ne_zero hd hh),
    fun hg => KZG.rejected_of_moved hacc (KZG.defect_add_value ..)
      (mul_ne_zero (neg_ne_zero.2 (mul_ne_zero hd hg)) hh),
    fun hγ => KZG.rejected_of_moved hacc (KZG.defect_add_rv ..)
      (mul_ne_zero (neg_ne_zero.2 (mul_ne_zero hd hγ)) hh),
    fun hb => KZG.rejected_of_moved hacc (KZG.defect_add_witness ..)
      (neg_ne_zero.2 (mul_ne_zero hd hb)),
    fun hw => KZG.rejected_of_moved hacc (KZG.defect_add_point ..)
      (mul_ne_zero (mul_ne_zero hw hd) hh)⟩

example : KZG.check (KZG.wfVK (3 : K) 5 2 1) 64 5 (evalPoly [1, 2, 3] 5) ⟨81, some 30⟩ = true ∧
    (KZG.wfVK (3 : K) 5 2 1).h ≠ 0 := by decide +kernel

end PCV.C10
