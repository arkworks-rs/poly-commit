/-
  Property C10 (verifiers decide exactly the published relation; every component matters) — the
  trait-default `batch_check` / `check_combinations` of `poly-commit/src/lib.rs`.  The relation they
  decide is built from the scheme's own `check` (`checkF`): C05/C06 state it as an equivalence; here are
  the component-wise consequences.  Only property theorems live here; lemmas are in
  PCV/Proofs/TraitDefault*.lean.
-/
import PCV.Proofs.TraitDefaultLC
import PCV.Proofs.TraitDefaultToy

namespace PCV.C10
open PCV TraitDefault
variable {Pt : Type} [DecidableEq Pt] {C V PF σ : Type}

/-- **Every proof, commitment, value and point of an accepted default batch went through the scheme's
`check`.** If `batch_check` accepts, then for the `i`-th point-label group (map order) and the `i`-th
proof: the commitments and values gathered for the group's labels — the LAST commitment listed under
each label, the claimed evaluation stored under `(label, group point)` — exist, and the scheme's `check`
accepted exactly (those commitments, the group's point, those values, that proof). -/
theorem default_batch_components (ltP : Pt → Pt → Bool) (lblC : C → Label)
    (checkF : List C → Pt → List V → PF → σ → Except Err (Bool × σ))
    (comms : List C) (qs : List (Query Pt)) (evals : List ((Label × Pt) × V)) (πs : List PF) (s s' : σ)
    (hacc : batchCheck ltP lblC checkF comms qs evals πs s = .ok (true, s')) :
    πs.length = (groups (querySet ltP qs)).length ∧
    ∀ x ∈ (groups (querySet ltP qs)).zip πs, ∃ cs vs s1 s2,
      gatherCheck lblC comms evals x.1.2.1 x.1.2.2 = .ok (cs, vs) ∧
      cs.map lblC = x.1.2.2 ∧
      (∀ y ∈ x.1.2.2.zip (cs.zip vs), Marlin.lookupLast lblC y.1 comms = some y.2.1 ∧
        QS.lastWith (y.1, x.1.2.1) evals = some y.2.2) ∧
      checkF cs x.1.2.1 vs x.2 s1 = .ok (true, s2) := by
  obtain ⟨hl, bs, hch, hr⟩ := batchCheckSet_ok_iff.1 hacc
  refine ⟨hl, fun x hx => ?_⟩
  obtain ⟨cs, vs, s1, s2, hg, hc⟩ := chain_all_true_zip hch (List.all_eq_true.1 hr.symm) x hx
  obtain ⟨h1, h3⟩ := gatherCheck_labels hg
  exact ⟨cs, vs, s1, s2, hg, h1, h3, hc⟩

/-- **Every group's verdict matters**: if the per-group checks all answer (none refuses) and one of them,
anywhere — first, middle or last —, answers `false`, the batch answers `false`. -/
theorem default_batch_one_false_rejects (ltP : Pt → Pt → Bool) (lblC : C → Label)
    (checkF : List C → Pt → List V → PF → σ → Except Err (Bool × σ))
    (comms : List C) (qs : List (Query Pt)) (evals : List ((Label × Pt) × V)) (πs : List PF) (s s' : σ)
    (bs : List Bool) (hch : Chain lblC checkF comms evals (groups (querySet ltP qs)) πs bs s s')
    (hf : false ∈ bs) :
    batchCheck ltP lblC checkF comms qs evals πs s = .ok (false, s') := by
  exact batchCheckSet_ok_iff.2 ⟨(chain_lengths hch).1, bs, hch, ((chain_false_mem bs).2 hf).symm⟩

variable {F : Type} [Field F] [DecidableEq F]

/-- **The default `check_combinations` decides its relation, both ways**: it answers `false` iff the
evaluations are there and either the first queried equation (set order) that does not hold is a wrong
VALUE — everything needed to evaluate it being present — or all hold and the inner batch answers
`false`. (Acceptance: `C06.default_check_combinations_accepts_iff`; everything else is a refusal.) -/
theorem default_check_combinations_rejects_iff (ltP : Pt → Pt → Bool) (lblC : C → Label)
    (checkF : List C → Pt → List F → PF → σ → Except Err (Bool × σ))
    (lcs : List (LC.LinComb F)) (comms : List C) (qs : List (Query Pt))
    (ee : List ((Label × Pt) × F)) (πs : List PF) (evals : Option (List F)) (s s' : σ) :
    checkCombinations ltP lblC checkF lcs comms qs ee πs evals s = .ok (false, s') ↔
      ∃ evs, evals = some evs ∧
        (((∃ pre q post, querySet ltP qs = pre ++ q :: post ∧
            (∀ q' ∈ pre, EqnHolds lcs ee (polyEvals ltP (verifierPolyQuerySet ltP lcs qs) evs) q') ∧
            EqnFails lcs ee (polyEvals ltP (verifierPolyQuerySet ltP lcs qs) evs) q) ∧ s' = s) ∨
         ((∀ q ∈ qs, EqnHolds lcs ee (polyEvals ltP (verifierPolyQuerySet ltP lcs qs) evs) q) ∧
          batchCheckSet lblC checkF comms (verifierPolyQuerySet ltP lcs qs)
            (polyEvals ltP (verifierPolyQuerySet ltP lcs qs) evs) πs s = .ok (false, s'))) := by
  simp only [checkCombinations_false_iff, eqnLoop_false_iff, eqnLoop_true_iff, mem_querySet]

/-- a proof without evaluations is refused (`evals.unwrap()`) -/
theorem default_check_combinations_no_evals (ltP : Pt → Pt → Bool) (lblC : C → Label)
    (checkF : List C → Pt → List F → PF → σ → Except Err (Bool × σ))
    (lcs : List (LC.LinComb F)) (comms : List C) (qs : List (Query Pt))
    (ee : List ((Label × Pt) × F)) (πs : List PF) (s : σ) :
    checkCombinations ltP lblC checkF lcs comms qs ee πs none s = .error .abort := rfl

/-! non-vacuity over `ZMod 101` (`PCV.TraitDefault.Toy`): accepted batch; a `false` verdict of the FIRST
group only (wrong value of `a` under point label `x`; the groups of `y`, `z` accept) rejects; a wrong
proof for the last group rejects; a combination proof without evaluations is refused -/
example : batchCheck Toy.ltK Toy.lbl Toy.checkF Toy.polys Toy.qs Toy.evals [0, 1, 2] 0 = .ok (true, 3) := by
  decide +kernel
example : batchCheck Toy.ltK Toy.lbl Toy.checkF Toy.polys
    [([97], ([120], 3)), ([99], ([121], 4)), ([98], ([122], 7))]
    [(([97], 3), 7), (([99], 4), 20), (([98], 7), 21)] [0, 1, 2] 0 = .ok (false, 3) := by decide +kernel
example : batchCheck Toy.ltK Toy.lbl Toy.checkF Toy.polys Toy.qs Toy.evals [0, 1, 5] 0 = .ok (false, 3) := by
  decide +kernel
example : checkCombinations Toy.ltK Toy.lbl Toy.checkF Toy.lcs Toy.polys Toy.eqs Toy.eqEvals [0, 1] none 0
    = .error .abort := by decide +kernel

end PCV.C10
