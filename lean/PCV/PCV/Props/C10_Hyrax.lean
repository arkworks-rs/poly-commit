/-
  Property C10 (verifiers decide exactly the published relation) — Hyrax.
  The relation is written from the paper (Wahby et al., "Doubly-efficient zkSNARKs without trusted
  setup", Figure 6, proof-of-dot-product, equations (13) and (14)) with the code's Fiat–Shamir
  challenge, plus the evaluation-commitment equation of the "evaluation is revealed" variant.
-/
import PCV.Proofs.Hyrax
import PCV.Props.Examples

namespace PCV.C10
open PCV
variable {F : Type} [Field F] [DecidableEq F]

/-- The Hyrax opening relation for ONE committed polynomial, in exponent form
(`G = com_key`, `G₀ = com_key[0]`, `H = h`, `T` = row commitments, `L`,`R` = `eq`-tensors of the two
halves of the point, `c` = challenge):
* shape: `T` has `2^{n/2}` entries, `z` has as many entries as the key,
* `com_eval = v·G₀ + r_eval·H`                       (the claimed value is the committed one),
* `⟨R,z⟩·G₀ + z_b·H = c·com_eval + com_b`              (equation (14)),
* `⟨z,G⟩ + z_d·H = c·⟨L,T⟩ + com_d`                    (equation (13), `⟨L,T⟩` = commitment to `Lᵀ·M`). -/
def HyraxItemRelation (ks : List F) (hh : F) (L R : List F) (dim : Nat) (T : List F) (v : F)
    (π : Hyrax.Proof F) (c : F) : Prop :=
  ∃ g0, Hyrax.key0 ks = some g0 ∧ T.length = dim ∧ π.z.length = ks.length ∧
    π.comEval = v * g0 + π.rEval * hh ∧
    dot R π.z * g0 + π.zB * hh = c * π.comEval + π.comB ∧
    dot π.z ks + π.zD * hh = c * dot L T + π.comD

/-- The relation for a list of commitments opened at one point: an even number of variables, one
value and one proof per commitment, one squeezed challenge per proof, and the item relation for
every (commitment, value, proof, challenge). -/
def HyraxRelation (ks : List F) (hh : F) (coms : List (List F)) (point vs : List F)
    (πs : List (Hyrax.Proof F)) (cs : List F) : Prop :=
  point.length % 2 = 0 ∧ coms.length = πs.length ∧ vs.length = πs.length ∧ πs.length ≤ cs.length ∧
    ∀ x ∈ List.zip coms (List.zip vs (List.zip πs cs)),
      HyraxItemRelation ks hh (Hyrax.tensorL point) (Hyrax.tensorR point) (2 ^ (point.length / 2))
        x.1 x.2.1 x.2.2.1 x.2.2.2

omit [DecidableEq F] in
theorem hyrax_item_iff (ks : List F) (hh : F) (L R : List F) (dim : Nat) (T : List F) (v : F)
    (π : Hyrax.Proof F) (c : F) :
    Hyrax.ItemOK ks hh L R dim T v π c ↔ HyraxItemRelation ks hh L R dim T v π c := by
  unfold Hyrax.ItemOK HyraxItemRelation Hyrax.defectEval Hyrax.defect14 Hyrax.defect13
    Hyrax.innerProduct
  -- each defect vanishes iff the corresponding equation of the relation holds, up to commutativity
  refine exists_congr fun k0 => and_congr_right fun _ => and_congr_right fun _ =>
    and_congr eq_comm (and_congr ?_ (and_congr ?_ ?_))
  · rw [sub_eq_zero, mul_comm k0, mul_comm hh]
  · rw [sub_eq_zero, mul_comm k0, mul_comm hh, mul_comm π.comEval]
  · rw [sub_eq_zero, dot_comm ks, mul_comm hh, dot_comm T L, mul_comm _ c]

/-- **Hyrax.** `check` returns `Ok(true)` exactly when the relation holds — for every key, every
statement and every proof list, honest or not, well-shaped or not. -/
theorem hyrax_check_iff_relation (ks : List F) (hh : F) (coms : List (List F)) (point vs : List F)
    (πs : List (Hyrax.Proof F)) (cs : List F) :
    Hyrax.check ks hh coms point vs πs cs = .ok true ↔ HyraxRelation ks hh coms point vs πs cs := by
  rw [Hyrax.check_iff]
  unfold HyraxRelation
  simp only [hyrax_item_iff]

/-- `Ok(false)`, an error or an abort exactly when the relation fails -/
theorem hyrax_reject_iff_not_relation (ks : List F) (hh : F) (coms : List (List F))
    (point vs : List F) (πs : List (Hyrax.Proof F)) (cs : List F) :
    Hyrax.check ks hh coms point vs πs cs ≠ .ok true ↔ ¬ HyraxRelation ks hh coms point vs πs cs :=
  not_congr (hyrax_check_iff_relation ks hh coms point vs πs cs)

/-- honest transcripts satisfy the relation -/
theorem hyrax_honest_satisfies (ks : List F) (hh : F) (polys : List (Hyrax.MLPoly F))
    (point : List F) (ρdraws odraws cs : List F) (coms : List (List F))
    (sts : List (Hyrax.State F)) (rest : List F) (items : List (Hyrax.OpenItem F))
    (πs : List (Hyrax.Proof F))
    (hc : Hyrax.commit ks hh polys ρdraws = .ok (coms, sts, rest))
    (hst : items.map (·.st) = sts)
    (ho : Hyrax.open ks hh items point odraws cs = .ok πs) :
    HyraxRelation ks hh coms point (polys.map fun p => Hyrax.mleEval p.evals point) πs cs := by
  rw [← hyrax_check_iff_relation]
  exact (Hyrax.complete hc hst ho).1

/-- **Every component the relation mentions influences the decision.** From an accepted
single-polynomial transcript, changing exactly one of: the value (`G₀ ≠ 0`), `com_eval`, `com_d`,
`com_b`, `z_d`, `z_b`, `r_eval` (`H ≠ 0`) by `δ ≠ 0` — with the same challenge — makes `check`
not accept.  (For the Fiat–Shamir-hashed `com_*` the challenge changes as well; the statement for
an arbitrary new challenge is `hyrax_check_iff_relation` itself.) -/
theorem hyrax_each_component_matters (ks : List F) (hh g0 : F) (T point : List F) (v c ce cd cb : F)
    (z : List F) (zd zb re δ : F) (hk : Hyrax.key0 ks = some g0) (hδ : δ ≠ 0)
    (hacc : Hyrax.check ks hh [T] point [v] [⟨ce, cd, cb, z, zd, zb, re⟩] [c] = .ok true) :
    (g0 ≠ 0 → Hyrax.check ks hh [T] point [v + δ] [⟨ce, cd, cb, z, zd, zb, re⟩] [c] ≠ .ok true) ∧
    Hyrax.check ks hh [T] point [v] [⟨ce + δ, cd, cb, z, zd, zb, re⟩] [c] ≠ .ok true ∧
    Hyrax.check ks hh [T] point [v] [⟨ce, cd + δ, cb, z, zd, zb, re⟩] [c] ≠ .ok true ∧
    Hyrax.check ks hh [T] point [v] [⟨ce, cd, cb + δ, z, zd, zb, re⟩] [c] ≠ .ok true ∧
    (hh ≠ 0 → Hyrax.check ks hh [T] point [v] [⟨ce, cd, cb, z, zd + δ, zb, re⟩] [c] ≠ .ok true) ∧
    (hh ≠ 0 → Hyrax.check ks hh [T] point [v] [⟨ce, cd, cb, z, zd, zb + δ, re⟩] [c] ≠ .ok true) ∧
    (hh ≠ 0 → Hyrax.check ks hh [T] point [v] [⟨ce, cd, cb, z, zd, zb, re + δ⟩] [c] ≠ .ok true) := by
  have key : ∀ (v' : F) (π' : Hyrax.Proof F),
      Hyrax.check ks hh [T] point [v'] [π'] [c] = .ok true →
      π'.comEval = v' * g0 + π'.rEval * hh ∧
      dot (Hyrax.tensorR point) π'.z * g0 + π'.zB * hh = c * π'.comEval + π'.comB ∧
      dot π'.z ks + π'.zD * hh = c * dot (Hyrax.tensorL point) T + π'.comD := by
    intro v' π' h
    obtain ⟨g, hg, _, _, e⟩ := (hyrax_item_iff ..).1 (Hyrax.check_single_iff.1 h).2
    cases hk.symm.trans hg
    exact e
  obtain ⟨a1, a2, a3⟩ := key _ _ hacc
  simp only at a1 a2 a3
  -- in each case the changed transcript satisfies the same equation as the accepted one with one
  -- summand moved by `δ`; cancelling the rest leaves `δ = 0`
  refine ⟨fun hg h => ?_, fun h => ?_, fun h => ?_, fun h => ?_, fun hh0 h => ?_, fun hh0 h => ?_,
    fun hh0 h => ?_⟩ <;> obtain ⟨b1, b2, b3⟩ := key _ _ h
  · exact hδ (left_eq_add.1 (mul_right_cancel₀ hg (add_right_cancel (a1.symm.trans b1))))
  · exact hδ (add_eq_left.1 (b1.trans a1.symm))
  · exact hδ (left_eq_add.1 (add_left_cancel (a3.symm.trans b3)))
  · exact hδ (left_eq_add.1 (add_left_cancel (a2.symm.trans b2)))
  · exact hδ (add_eq_left.1 (mul_right_cancel₀ hh0 (add_left_cancel (b3.trans a3.symm))))
  · exact hδ (add_eq_left.1 (mul_right_cancel₀ hh0 (add_left_cancel (b2.trans a2.symm))))
  · exact hδ (left_eq_add.1 (mul_right_cancel₀ hh0 (add_left_cancel (a1.symm.trans b1))))

/-! non-vacuity over `ZMod 101` (the honest transcript of `C02_Hyrax`) -/
example : Hyrax.check ([3, 5] : List K) 7 [[88, 65]] [6, 17] [Hyrax.mleEval [1, 2, 3, 4] [6, 17]]
    [⟨29, 49, 92, [79, 1], 67, 16, 1⟩] [11] = .ok true ∧ Hyrax.key0 ([3, 5] : List K) = some 3 ∧
    (3 : K) ≠ 0 ∧ (7 : K) ≠ 0 := by decide +kernel
/-- a transcript outside the relation in each of the three equations -/
example : Hyrax.check ([3, 5] : List K) 7 [[88, 65]] [6, 17] [41] [⟨30, 49, 92, [79, 1], 67, 16, 1⟩] [11]
      = .ok false ∧
    Hyrax.check ([3, 5] : List K) 7 [[88, 65]] [6, 17] [41] [⟨29, 49, 93, [79, 1], 67, 16, 1⟩] [11]
      = .ok false ∧
    Hyrax.check ([3, 5] : List K) 7 [[88, 65]] [6, 17] [41] [⟨29, 50, 92, [79, 1], 67, 16, 1⟩] [11]
      = .ok false := by decide +kernel

end PCV.C10
