/-
  Property C10 — verifiers decide exactly the scheme's published verification relation,
  inner-product-argument scheme (BCMS20, Fig. "PC_DL.Check", with the code's challenge derivation).
-/
import PCV.Proofs.IPAVerify
import PCV.Props.C03_IPA
import PCV.Props.Examples

namespace PCV.C10
open PCV
variable {F : Type} [Field F] [DecidableEq F]

/-- The IPA verification relation, written from the paper.  With `Ĉ, v̂` the challenge-weighted
combination of the commitments (shifted parts included) and values (`v·z^{s−d}` for a bound `d`),
adjusted by the hiding commitment; `h′ = ξ₀·h`; `u₁..u_k` the round challenges, `k = log₂(s+1)`;
`h_u(X) = ∏ᵢ (1 + uᵢ·X^{2^{k−i}})`:
`Ĉ + v̂·h′ + Σᵢ (uᵢ⁻¹·Lᵢ + uᵢ·Rᵢ) = c·K + (c·h_u(z))·h′` and `K = ⟨coeffs(h_u), G⟩`. -/
def IPARelation (vk : IPA.VK F) (cs : List (IPA.LComm F)) (z : F) (vs : List F) (π : IPA.Proof F)
    (ξs ros : List F) : Prop :=
  π.lVec.length = π.rVec.length ∧ π.lVec.length = IPA.clog2 (IPA.supportedDegree vk + 1) ∧
  ∃ r ξr ror, IPA.succinctRun vk cs z vs π ξs ros = .ok (r, ξr, ror) ∧
    r.C + (vk.h * r.ξ₀) * r.V + r.lr
      = π.finalCommKey * π.c + (vk.h * r.ξ₀) * (π.c * Succinct.prodForm z r.us) ∧
    π.finalCommKey = dot vk.commKey (Succinct.computeCoeffs r.us)

/-- **IPA.** `check` returns success exactly when the relation holds — for every verifier key
and every transcript, honest or not, and all oracle outputs. -/
theorem ipa_check_iff_relation (vk : IPA.VK F) (cs : List (IPA.LComm F)) (z : F) (vs : List F)
    (π : IPA.Proof F) (ξs ros : List F) :
    IPA.check vk cs z vs π ξs ros = .ok true ↔ IPARelation vk cs z vs π ξs ros := by
  have hshape : IPA.badShape vk π = false ↔
      (π.lVec.length = π.rVec.length ∧ π.lVec.length = IPA.clog2 (IPA.supportedDegree vk + 1)) := by
    simp only [IPA.badShape, decide_eq_false_iff_not, not_or, ne_eq, not_not]
  rw [IPA.check_iff, hshape]
  unfold IPARelation
  rw [and_assoc]
  refine and_congr_right fun _ => and_congr_right fun _ => exists_congr fun r =>
    exists_congr fun ξr => exists_congr fun ror => and_congr_right fun _ => ?_
  unfold IPA.defect1 IPA.defect2
  rw [sub_eq_zero, sub_eq_zero, Succinct.evaluate_eq_prodForm, mul_comm (Succinct.prodForm z r.us),
    eq_comm (a := π.finalCommKey)]

/-- honest proofs satisfy the relation -/
theorem ipa_honest_satisfies (ck : IPA.CK F) (k : Nat) (hk : ck.commKey.length = 2 ^ k)
    (polys : List (IPA.LPoly F)) (hnf : ∀ p ∈ polys, pnorm p.poly = p.poly)
    (rng : Bool) (draws : List F) (comms : List (IPA.LComm F)) (sts : List (IPA.Rand F))
    (rest : List F) (hc : IPA.commit ck polys rng draws = .ok (comms, sts, rest))
    (z : F) (ξs ros : List F) (rng' : Bool) (draws' : List F) (π : IPA.Proof F)
    (ξr ror dr : List F)
    (ho : IPA.open ck polys comms z sts ξs ros rng' draws' = .ok (π, ξr, ror, dr)) :
    IPARelation ck comms z (polys.map fun p => evalPoly p.poly z) π ξs ros :=
  (ipa_check_iff_relation _ _ _ _ _ _ _).1
    (IPA.open_check_complete hk (IPA.commit_spec ck rng polys draws comms sts rest hc) hnf ho).1

/-- every other outcome (`Ok(false)`, an error, an abort) means the relation does not hold -/
theorem ipa_not_relation_of_not_accept (vk : IPA.VK F) (cs : List (IPA.LComm F)) (z : F)
    (vs : List F) (π : IPA.Proof F) (ξs ros : List F)
    (h : IPA.check vk cs z vs π ξs ros ≠ .ok true) : ¬ IPARelation vk cs z vs π ξs ros :=
  fun hr => h ((ipa_check_iff_relation _ _ _ _ _ _ _).2 hr)

/-- every component of the proof that is not hashed influences the decision: from an accepting
transcript, changing `final_comm_key` flips the decision unconditionally, changing `c` flips it
when `K + h′·h_u(z) ≠ 0` -/
theorem ipa_each_component_matters (vk : IPA.VK F) (cs : List (IPA.LComm F)) (z : F) (vs : List F)
    (π : IPA.Proof F) (ξs ros : List F) (d : F) (hd : d ≠ 0) (r : IPA.Run F) (ξr ror : List F)
    (hr : IPA.succinctRun vk cs z vs π ξs ros = .ok (r, ξr, ror))
    (hacc : IPA.check vk cs z vs π ξs ros = .ok true) :
    IPA.check vk cs z vs ⟨π.lVec, π.rVec, π.finalCommKey + d, π.c, π.hidingComm, π.rand⟩ ξs ros
      = .ok false ∧
    (π.finalCommKey + vk.h * r.ξ₀ * Succinct.evaluate r.us z ≠ 0 →
      IPA.check vk cs z vs ⟨π.lVec, π.rVec, π.finalCommKey, π.c + d, π.hidingComm, π.rand⟩ ξs ros
        = .ok false) := by
  obtain ⟨hb, _⟩ := IPA.check_accept_run hacc hr
  -- the changed proof has the same run, and at most one `final_comm_key` / `c` is accepted with it
  exact ⟨IPA.check_false_of_run _ hb hr fun h =>
      hd (add_eq_left.1 (C03.ipa_final_key_unique vk cs z vs π ξs ros _ hacc h)),
    fun hnd => IPA.check_false_of_run _ hb hr fun h =>
      hd (add_eq_left.1 (C03.ipa_c_unique vk cs z vs π ξs ros _ r ξr ror hr hnd hacc h))⟩

example : IPA.check (⟨[3, 5], 13, 17, 3⟩ : IPA.CK K) [⟨[1], ⟨57, none⟩, none⟩] 6 [58]
    ⟨[7], [83], 48, 10, none, none⟩ [2, 3, 4] [8, 9] = .ok true ∧
    (48 : K) + 13 * 8 * Succinct.evaluate [9] 6 ≠ 0 := by
  constructor
  · decide +kernel
  · decide +kernel

end PCV.C10
