/-
  Property C10 (verifiers decide exactly the published relation) — linear-code PCS.
-/
import PCV.Proofs.LinCodeProto
import PCV.Proofs.LinCodeToy

namespace PCV.C10
open PCV PCV.LinCode PCV.Merkle
variable {F : Type} [Field F] [DecidableEq F] {D : Type} [DecidableEq D]

/-- **The published relation of one opening** (Ligero / Brakedown with the code's transcript):
`v` (and the well-formedness vector, when required) has `n_cols` entries and its encoding `E(v)` has
exactly the `n_ext_cols` entries the commitment announces; the point has the number of coordinates
the announced shape asks for — the vectors `(a, b) = tensor(point)` have `n_cols` and `n_rows` entries
(fix D23); every opened column comes
with a Merkle path at the transcript's position that recomputes the committed root from the column's
hash; every opened column is consistent with the encoding of `v` under `b` — and with the encoding of
the well-formedness vector under the squeezed coefficients `r` — at the transcript's position
(`PreRelation`); and the claimed value is `⟨v, a⟩` for `(a, b) = tensor(point)`. -/
def LinCodeRelation (pp : Params F D) (point : Point F) (c : Comm D) (value : F) (π : Proof F D)
    (o : Oracle F) : Prop :=
  ∃ a, PreRelation pp point c π o a ∧ dot π.opening.v a = value

/-- the relation of a whole `check` call: every zipped (commitment, value) position has a proof
(and transcript outputs) satisfying the relation -/
def LinCodeRelationAll (pp : Params F D) (point : Point F) (cs : List (Comm D)) (vals : List F)
    (πs : List (Proof F D)) (os : List (Oracle F)) : Prop :=
  ∀ (i : Nat) c val, cs[i]? = some c → vals[i]? = some val →
    ∃ π o, πs[i]? = some π ∧ os[i]? = some o ∧ LinCodeRelation pp point c val π o

/-- **`check` (one polynomial) `= Ok(true)` ⇔ relation.** -/
theorem lincode_check_one_iff_relation (pp : Params F D) (point : Point F) (c : Comm D) (value : F)
    (π : Proof F D) (o : Oracle F) :
    checkOne pp point c value π o = .ok true ↔ LinCodeRelation pp point c value π o :=
  checkOne_ok_true_iff

/-- **`check = Ok(true)` ⇔ relation**, for any lists of commitments, values, proofs. -/
theorem lincode_check_iff_relation (pp : Params F D) (point : Point F) (cs : List (Comm D))
    (vals : List F) (πs : List (Proof F D)) (os : List (Oracle F)) :
    checkAll pp point cs vals πs os = .ok true ↔ LinCodeRelationAll pp point cs vals πs os := by
  simp only [checkAll_ok_true_iff, checkOne_ok_true_iff]
  rfl

/-- outside the relation the verifier answers `Ok(false)` or refuses — and `Ok(false)` exactly when
only the value test fails -/
theorem lincode_check_one_false_iff (pp : Params F D) (point : Point F) (c : Comm D) (value : F)
    (π : Proof F D) (o : Oracle F) :
    checkOne pp point c value π o = .ok false ↔
      ∃ a, PreRelation pp point c π o a ∧ dot π.opening.v a ≠ value := by
  simp only [checkOne_eq_ok_iff, decide_eq_false_iff_not]

/-- `¬ relation ⇔ Ok(false) ∨ refusal` -/
theorem lincode_not_relation_iff (pp : Params F D) (point : Point F) (cs : List (Comm D))
    (vals : List F) (πs : List (Proof F D)) (os : List (Oracle F)) :
    ¬ LinCodeRelationAll pp point cs vals πs os ↔
      checkAll pp point cs vals πs os = .ok false ∨ ∃ e, checkAll pp point cs vals πs os = .error e := by
  rw [← lincode_check_iff_relation]
  cases checkAll pp point cs vals πs os with
  | error e => simp
  | ok b => cases b <;> simp

/-- honest proofs satisfy the relation (C01), at a point with the right number of coordinates (`ha`,
`hb`; since fix D23 the lengths of the `tensor` vectors are part of the relation) -/
theorem lincode_honest_in_relation (pp : Params F D) (point : Point F) (coeffs : List F)
    (E : List F → List F) (k : Nat) (h : Encodes pp coeffs E k) (a b : List F) (o : Oracle F)
    (ht : tensor point (coeffMat pp.dims coeffs).m (coeffMat pp.dims coeffs).n = .ok (a, b))
    (ha : a.length = (coeffMat pp.dims coeffs).m) (hb : b.length = (coeffMat pp.dims coeffs).n)
    (hi : ∀ i ∈ o.indices, i < k) :
    LinCodeRelation pp point
      ⟨(coeffMat pp.dims coeffs).n, (coeffMat pp.dims coeffs).m, k,
        merkleRoot pp.hs (leavesOf pp (extOf pp coeffs E k))⟩
      (dot (vecMat b (coeffMat pp.dims coeffs).rows (coeffMat pp.dims coeffs).m) a)
      (honestProof pp coeffs E k b o) o :=
  ⟨a, honest_preRelation h o ht ha hb hi, rfl⟩

set_option linter.unusedSectionVars false in
/-- every opened column influences the decision: replacing one by a column with a different
`b`-combination leaves the relation -/
theorem lincode_column_matters (pp : Params F D) (point : Point F) (c : Comm D) (value : F)
    (π : Proof F D) (o : Oracle F) (h : LinCodeRelation pp point c value π o) (j q : Nat)
    (hq : o.indices[j]? = some q) (col' : List F) (a b : List F)
    (ht : tensor point c.nCols c.nRows = .ok (a, b)) (col : List F)
    (hc : π.opening.columns[j]? = some col) (hne : dot b col' ≠ dot b col) :
    ¬ LinCodeRelation pp point c value
      { π with opening := { π.opening with columns := π.opening.columns.set j col' } } o := by
  obtain ⟨a1, ⟨_, _, _, w, b1, hw, _, ht1, _, _, hcols, _⟩, _⟩ := h
  rintro ⟨a2, ⟨_, _, _, w2, b2, hw2, _, ht2, _, _, hcols2, _⟩, _⟩
  cases ht.symm.trans ht1
  cases ht.symm.trans ht2
  cases hw.symm.trans hw2
  obtain ⟨c1, x1, hc1, hx1, hd1⟩ := hcols j q hq
  obtain ⟨c2, x2, hc2, hx2, hd2⟩ := hcols2 j q hq
  cases hc.symm.trans hc1
  cases (List.getElem?_set_self (List.getElem?_eq_some_iff.1 hc).1).symm.trans hc2
  cases hx1.symm.trans hx2
  exact hne (hd2.trans hd1.symm)

set_option linter.unusedSectionVars false in
/-- **the announced codeword length influences the decision**: a transcript in the relation leaves
it when the commitment's `n_ext_cols` is changed (whatever positions the changed transcript yields),
because `E(v)` has one length only -/
theorem lincode_metadata_matters (pp : Params F D) (point : Point F) (c : Comm D) (value : F)
    (π : Proof F D) (o o' : Oracle F) (h : LinCodeRelation pp point c value π o) (k' : Nat)
    (hne : k' ≠ c.nExtCols) (value' : F) :
    ¬ LinCodeRelation pp point { c with nExtCols := k' } value' π o' := by
  obtain ⟨a1, ⟨_, _, _, w, b1, hw, hl, _⟩, _⟩ := h
  rintro ⟨a2, ⟨_, _, _, w2, b2, hw2, hl2, _⟩, _⟩
  cases hw.symm.trans hw2
  exact hne (hl2.symm.trans hl)

/-- … hence `check` does not accept it -/
theorem lincode_metadata_tamper_not_accepted (pp : Params F D) (point : Point F) (c : Comm D)
    (value : F) (π : Proof F D) (o o' : Oracle F)
    (h : checkOne pp point c value π o = .ok true) (k' : Nat) (hne : k' ≠ c.nExtCols) (value' : F) :
    checkOne pp point { c with nExtCols := k' } value' π o' ≠ .ok true := fun h' =>
  lincode_metadata_matters pp point c value π o o'
    ((lincode_check_one_iff_relation pp point c value π o).1 h) k' hne value'
    ((lincode_check_one_iff_relation pp point _ value' π o').1 h')

/-! non-vacuity: the relation holds for the toy honest proof, the decision is `Ok(true)` -/
example : LinCodeRelation (toyPP true) (.uni 5)
    ⟨2, 2, 4, merkleRoot toyHashes (leavesOf (toyPP true) (extOf (toyPP true) [1, 2, 3] toyE 4))⟩
    (dot (vecMat (tensorUni (5 : K) 2 2).2 (coeffMat (toyPP true).dims [1, 2, 3]).rows 2)
      (tensorUni (5 : K) 2 2).1)
    (honestProof (toyPP true) [1, 2, 3] toyE 4 (tensorUni (5 : K) 2 2).2 ⟨[7, 9], [2, 0, 3]⟩)
    ⟨[7, 9], [2, 0, 3]⟩ :=
  lincode_honest_in_relation (toyPP true) (.uni 5) [1, 2, 3] toyE 4 (toy_encodes _ _ (by decide +kernel)) _ _ _ rfl
    (by decide +kernel) (by decide +kernel) (by decide +kernel)
example : toyRun true (.uni 5) [1, 2, 3] ⟨[7, 9], [2, 0, 3]⟩ (evalPoly [1, 2, 3] 5) = .ok true := by
  decide +kernel
example : toyRun true (.uni 5) [1, 2, 3] ⟨[7, 9], [2, 0, 3]⟩ 0 = .ok false := by decide +kernel
/-- the toy honest transcript with the announced codeword length changed from 4 to 2 is refused -/
example : (2 : Nat) ≠ 4 ∧ (match commit (toyPP true) [1, 2, 3] with
    | .ok (c, st) =>
      match openOne (toyPP true) (.uni 5) c st ⟨[7, 9], [1, 0]⟩ with
      | .ok π => checkOne (toyPP true) (.uni 5) { c with nExtCols := 2 } (evalPoly [1, 2, 3] 5) π
          ⟨[7, 9], [1, 0]⟩
      | .error e => .error e
    | .error e => .error e) = .error .invalidCommitment := by decide +kernel

end PCV.C10
