/-
  Property C10 (multilinear PST) — `check` decides exactly the published verification relation.
-/
import PCV.Proofs.MLPC
import PCV.Props.Examples

namespace PCV.C10
open PCV
variable {F : Type} [Field F] [DecidableEq F]

/-- The verification relation of the multilinear PST scheme (XZZPD19 / Libra, App. A), in exponent
form: the transcript is well-shaped (exactly `nv` point coordinates, `nv` mask elements, exactly `nv` proof
elements) and `e(C − v·g, h) = ∏_{i<nv} e(g^{tᵢ} − zᵢ·g, πᵢ)`. -/
def MLPCRelation (vk : MLPC.VK F) (c : MLPC.Commitment F) (z : List F) (v : F) (πs : List F) : Prop :=
  z.length = vk.nv ∧ vk.nv ≤ vk.gMaskRandom.length ∧ πs.length = vk.nv
  ∧ (c.gProduct - v * vk.g) * vk.h
      = MLPC.relSum vk.g (vk.gMaskRandom.take vk.nv) (z.take vk.nv) πs

/-- **`check` accepts exactly when the relation holds** — for every key and every transcript,
honest or not. -/
theorem mlpc_check_iff_relation (vk : MLPC.VK F) (c : MLPC.Commitment F) (z : List F) (v : F)
    (πs : List F) : MLPC.check vk c z v πs = .ok true ↔ MLPCRelation vk c z v πs := by
  unfold MLPCRelation
  rw [MLPC.check_eq]
  split
  · next hs =>
    rw [Except.ok.injEq, decide_eq_true_eq, MLPC.defect_eq_rel, sub_eq_zero]
    exact ⟨fun h => ⟨hs.1, hs.2.1, hs.2.2, h⟩, fun h => h.2.2.2⟩
  · next hs => exact ⟨fun h => (by cases h), fun h => absurd ⟨h.1, h.2.1, h.2.2.1⟩ hs⟩

/-- when the relation fails the verifier answers `false` or aborts — never `true` -/
theorem mlpc_not_relation (vk : MLPC.VK F) (c : MLPC.Commitment F) (z : List F) (v : F)
    (πs : List F) (h : ¬ MLPCRelation vk c z v πs) :
    MLPC.check vk c z v πs = .ok false ∨ MLPC.check vk c z v πs = .error .abort := by
  have hn := mt (mlpc_check_iff_relation vk c z v πs).1 h
  rw [MLPC.check_eq] at hn ⊢
  split
  · next hs =>
    rw [if_pos hs] at hn
    exact Or.inl (congrArg _ (Bool.eq_false_iff.2 fun hd => hn (congrArg _ hd)))
  · exact Or.inr rfl

/-- honest transcripts satisfy the relation -/
theorem mlpc_honest_satisfies (g h : F) (t z evals : List F) (n' : Nat)
    (hz : z.length = t.length) (he : evals.length = 2 ^ t.length) :
    MLPCRelation (MLPC.wfVK g h t) ⟨n', g * MLPC.mleEval evals t⟩ z (MLPC.mleEval evals z)
      (MLPC.proofSpec h t z evals) :=
  (mlpc_check_iff_relation _ _ _ _ _).1 (MLPC.check_honest hz he)

/-- **Every component the relation mentions influences the decision**: from an accepting
transcript, changing exactly the commitment (`h ≠ 0`), the value (`g, h ≠ 0`) or one proof element
(`g_mask[i] − zᵢ·g ≠ 0`) by `d ≠ 0` flips the decision. -/
theorem mlpc_each_component_matters (vk : MLPC.VK F) (c : MLPC.Commitment F) (z : List F) (v : F)
    (πs : List F) (d : F) (hd : d ≠ 0) (hh : vk.h ≠ 0)
    (hacc : MLPC.check vk c z v πs = .ok true) :
    MLPC.check vk ⟨c.nv, c.gProduct + d⟩ z v πs = .ok false
    ∧ (vk.g ≠ 0 → MLPC.check vk c z (v + d) πs = .ok false)
    ∧ (∀ i (hi : i < (MLPC.pairingLefts vk z).length) (hp : i < πs.length),
        (MLPC.pairingLefts vk z)[i] ≠ 0 → MLPC.check vk c z v (πs.set i (πs[i] + d)) = .ok false) := by
  obtain ⟨h1, h2, h3, _⟩ := (mlpc_check_iff_relation vk c z v πs).1 hacc
  rw [MLPC.check_iff_defect vk c z v πs h1 h2 h3] at hacc
  refine ⟨?_, ?_, ?_⟩
  · have hdef := MLPC.defect_add vk c z v πs d 0
    simp only [add_zero, mul_zero, sub_zero, hacc, zero_add] at hdef
    rw [MLPC.check_eq, if_pos ⟨h1, h2, h3⟩, hdef]
    exact congrArg _ (decide_eq_false (mul_ne_zero hd hh))
  · intro hg
    have hdef := MLPC.defect_add vk c z v πs 0 d
    simp only [add_zero, zero_sub, hacc, zero_add] at hdef
    rw [MLPC.check_eq, if_pos ⟨h1, h2, h3⟩, hdef]
    exact congrArg _ (decide_eq_false (mul_ne_zero (neg_ne_zero.2 (mul_ne_zero hg hd)) hh))
  · intro i hi hp hne
    rw [MLPC.check_eq, if_pos ⟨h1, h2, by rw [List.length_set, h3]⟩,
      MLPC.defect_set hi hp]
    simp only [hacc, zero_sub, add_sub_cancel_left, neg_eq_zero, mul_eq_zero, hne, hd, or_self,
      decide_false]

example : MLPC.check (MLPC.wfVK (5 : K) 11 [7, 20]) ⟨2, 19⟩ [8, 13] 72 [31, 30] = .ok true
    ∧ (MLPC.wfVK (5 : K) 11 [7, 20]).h ≠ 0 ∧ (MLPC.wfVK (5 : K) 11 [7, 20]).g ≠ 0
    ∧ MLPC.pairingLefts (MLPC.wfVK (5 : K) 11 [7, 20]) [8, 13] = [96, 35] := by decide +kernel
example : ¬ MLPCRelation (MLPC.wfVK (5 : K) 11 [7, 20]) ⟨2, 19⟩ [8, 13] 73 [31, 30] := by
  rw [← mlpc_check_iff_relation]; decide +kernel

end PCV.C10
