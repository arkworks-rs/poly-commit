/-
  Property C10 (MarlinKZG10) — the verifier decides exactly the published relation.
-/
import PCV.Proofs.MarlinMore
import PCV.Props.C01_Marlin

namespace PCV.C10
open PCV Marlin
variable {F : Type} [Field F] [DecidableEq F]

/-- The Marlin verification relation written from the paper: with per-polynomial challenges
`ξⱼ` (and `ξ′ⱼ` for degree-bounded ones) derived from the transcript,
`e(Σ ξⱼCⱼ + ξ′ⱼ(Sⱼ − vⱼ·shift(dⱼ)) − (Σ ξⱼvⱼ)·G − rv·γG, H) = e(W, βH − zH)`. -/
def MarlinRelation (vk : VK F) (cs : List (LComm F)) (z : F) (vs : List F) (π : KZG.Proof F)
    (ξs : List F) : Prop :=
  ∃ C V rest, accumulate vk cs vs ξs = .ok ((C, V), rest) ∧
    (C - V * vk.vk.g - KZG.rvVal π.rv * vk.vk.gammaG) * vk.vk.h = π.w * (vk.vk.betaH - z * vk.vk.h)

/-- **`check` returns success exactly when the relation holds**, for every key and transcript. -/
theorem marlin_check_iff_relation (vk : VK F) (cs : List (LComm F)) (z : F) (vs : List F)
    (π : KZG.Proof F) (ξs : List F) :
    (∃ rest, check vk cs z vs π ξs = .ok (true, rest)) ↔ MarlinRelation vk cs z vs π ξs := by
  constructor
  · rintro ⟨rest, h⟩
    obtain ⟨C, V, ha, hd⟩ := check_true_iff.1 h
    exact ⟨C, V, rest, ha, sub_eq_zero.1 hd⟩
  · rintro ⟨C, V, rest, ha, hrel⟩
    exact ⟨rest, (check_iff_of_accumulate ha z π).2 (sub_eq_zero.2 hrel)⟩

/-- honest proofs satisfy the relation (C01) -/
theorem marlin_honest_satisfies {ck : CK F} {vk : VK F} {g γ β h : F} {D n m : Nat}
    (hwf : WF ck vk g γ β h D n m) (z : F) (l : List (Trip F))
    (hh : ∀ t ∈ l, Honest g γ β D t) (hl : ∀ t ∈ l, RandLen m t) (ξs : List F)
    (π : KZG.Proof F) (rest : List F)
    (ho : Marlin.open ck (l.map (·.1)) z (l.map (·.2.1)) ξs = .ok (π, rest))
    (hnd : ∀ acc r, openLoop ck z (l.map (·.1)) (l.map (·.2.1)) ξs ⟨[], [], [], [], [], false⟩
        = .ok (acc, r) → isZeroPoly acc.r = true → evalPoly acc.sr z = 0) :
    MarlinRelation vk (l.map (·.2.2)) z (l.map fun t => evalPoly t.1.poly z) π ξs :=
  (marlin_check_iff_relation _ _ _ _ _ _).1
    ⟨rest, open_check_complete hwf z l hh hl ξs π rest ho hnd⟩

/-- every claimed value influences the decision with its explicit weight `κⱼ` -/
theorem marlin_value_matters (vk : VK F) (cs : List (LComm F)) (z : F) (vs ds ξs : List F)
    (π : KZG.Proof F) (rest : List F) (hlen : ds.length = vs.length)
    (hacc : check vk cs z vs π ξs = .ok (true, rest))
    (hne : vk.vk.h * dot (kappa vk cs ξs) ds ≠ 0) :
    check vk cs z (List.zipWith (· + ·) vs ds) π ξs ≠ .ok (true, rest) := by
  intro hx
  exact hne ((check_perturbed_iff vk cs z vs ds ξs π rest hlen hacc).1 hx)

example : MarlinRelation C01.exVK [⟨[112], ⟨43, some 90⟩, some 2⟩] 10 [evalPoly [1, 2, 3] 10]
    ⟨49, some 68⟩ [11, 13] :=
  (marlin_check_iff_relation _ _ _ _ _ _).1 ⟨[], by decide +kernel⟩

end PCV.C10
