/-
  Property C10 — the verifier decides exactly the published relation: MarlinPST13 `check`.
  Published relation (PST13 with the Marlin-style batching and hiding):
      e(Σⱼ ξⱼ·(Cⱼ − vⱼ·G) − rv·γG, H) = Πᵢ e(Wᵢ, βᵢH − zᵢ·H)
  in exponent form `(Σⱼ ξⱼ(cⱼ − vⱼ·g) − rv·γ)·h = Σᵢ wᵢ·(βᵢh − zᵢ·h)`.  `check` answers `true` exactly
  when it holds, and every component the relation mentions moves the defect (lhs − rhs) by an
  explicit amount — so none of them can be dropped from the decision.
-/
import PCV.Proofs.PST13More
import PCV.Props.Examples

set_option synthInstance.maxSize 512

namespace PCV.C10
open PCV PCV.MV
variable {F : Type} [Field F] [DecidableEq F]

/-- the two sides of the published relation for accumulated `(C, V)` -/
def pst13Lhs (vk : PST.VK F) (C V : F) (π : PST.Proof F) : F :=
  (C - vk.g * V - vk.gammaG * PST.rvVal π.rv) * vk.h
def pst13Rhs (vk : PST.VK F) (z : List F) (π : PST.Proof F) : F :=
  PST.rhsSum vk.h vk.betaH z 0 π.w

/-- **`check = ok true` ⇔ the published pairing relation.**  Arbitrary verifier key, commitments,
point, values, proof and challenges; whenever `check` answers at all (one witness per key variable,
enough challenges, key and point long enough) the answer is `lhs = rhs`, with `(C, V)` the
challenge-weighted sums of commitments and values. -/
theorem pst13_check_iff_relation (vk : PST.VK F) (cs z vs : List F) (π : PST.Proof F) (ξs : List F)
    (a : F × F × List F) (hacc : PST.accumulate 0 0 cs vs ξs = .ok a)
    (hnv : π.w.length = vk.numVars)
    (hlen : π.w.length ≤ vk.betaH.length ∧ π.w.length ≤ z.length) :
    PST.check vk cs z vs π ξs = .ok true ↔ pst13Lhs vk a.1 a.2.1 π = pst13Rhs vk z π := by
  rw [PST.check_iff_defect vk cs z vs π ξs a hacc hnv hlen]
  unfold PST.defect pst13Lhs pst13Rhs
  rw [hacc]
  simp only [PST.defectCombined]
  exact sub_eq_zero

/-- … and whenever `check` answers, those side conditions hold -/
theorem pst13_check_answer_is_relation (vk : PST.VK F) (cs z vs : List F) (π : PST.Proof F)
    (ξs : List F) (b : Bool) (h : PST.check vk cs z vs π ξs = .ok b) :
    ∃ a, PST.accumulate 0 0 cs vs ξs = .ok a
      ∧ b = decide (pst13Lhs vk a.1 a.2.1 π = pst13Rhs vk z π) := by
  obtain ⟨_, a, ha, _, _, hb⟩ := (PST.check_ok_iff vk cs z vs π ξs b).1 h
  refine ⟨a, ha, ?_⟩
  rw [hb]
  unfold pst13Lhs pst13Rhs PST.defectCombined
  exact decide_eq_decide.2 sub_eq_zero

/-- **The accumulated pair is linear in commitments and values** (every `Cⱼ`, `vⱼ` and `ξⱼ` enters):
moving them by `(dcs, dvs)` moves `(C, V)` by the accumulation of the differences under the same
challenges. -/
theorem pst13_accumulate_linear (cs vs dcs dvs ξs : List F)
    (hl1 : dcs.length = cs.length) (hl2 : dvs.length = vs.length)
    (out dout : F × F × List F) (h : PST.accumulate 0 0 cs vs ξs = .ok out)
    (hd : PST.accumulate 0 0 dcs dvs ξs = .ok dout) :
    PST.accumulate 0 0 (List.zipWith (· + ·) cs dcs) (List.zipWith (· + ·) vs dvs) ξs
      = .ok (out.1 + dout.1, out.2.1 + dout.2.1, out.2.2) := by
  have := (PST.accumulate_add (ca := 0) (va := 0) (da := 0) (db := 0) hl1 hl2 h hd).1
  simpa using this

/-- **Commitment and value** (through their accumulated sums): `(C + dC, V + dV)` moves the defect
by `(dC − g·dV)·h`. -/
theorem pst13_defect_claim (vk : PST.VK F) (C V dC dV : F) (z : List F) (π : PST.Proof F) :
    PST.defectCombined vk (C + dC) (V + dV) z π
      = PST.defectCombined vk C V z π + (dC - vk.g * dV) * vk.h :=
  PST.defectCombined_shift vk C V dC dV z π

/-- **Every proof element**: witness `Wⱼ + δ` moves the defect by `−δ·(βⱼh − zⱼ·h)`; `rv + δ` by
`−γ·δ·h`; a dropped `rv` by `+γ·rv·h`. -/
theorem pst13_defect_proof_elements (vk : PST.VK F) (C V : F) (z pre post w : List F) (x δ : F)
    (rv : Option F) :
    PST.defectCombined vk C V z ⟨pre ++ (x + δ) :: post, rv⟩
        = PST.defectCombined vk C V z ⟨pre ++ x :: post, rv⟩
          - δ * (getD' vk.betaH pre.length 0 - vk.h * getD' z pre.length 0)
      ∧ PST.defectCombined vk C V z ⟨w, some (x + δ)⟩
        = PST.defectCombined vk C V z ⟨w, some x⟩ - vk.gammaG * δ * vk.h
      ∧ PST.defectCombined vk C V z ⟨w, none⟩
        = PST.defectCombined vk C V z ⟨w, some x⟩ + vk.gammaG * x * vk.h :=
  ⟨PST.defect_witness_shift vk C V z pre post x δ rv, PST.defect_rv_shift vk C V z w x δ⟩

set_option linter.unusedSectionVars false in
/-- **Every point coordinate**: `zⱼ + δ` moves the defect by `+Wⱼ·δ·h`. -/
theorem pst13_defect_point (vk : PST.VK F) (C V : F) (zpre zpost : List F) (a δ : F)
    (π : PST.Proof F) :
    PST.defectCombined vk C V (zpre ++ (a + δ) :: zpost) π
      = PST.defectCombined vk C V (zpre ++ a :: zpost) π + vk.h * δ * getD' π.w zpre.length 0 := by
  -- in `Σ Wᵢ·zᵢ` the point is the weight (`dot_comm`)
  simp only [PST.defectCombined, PST.rhsSum_eq, PST.wz_zero_eq_dot, dot_comm _ π.w, dot_update]
  ring

set_option linter.unusedSectionVars false in
/-- **Every verifier-key element**: `g + δ` moves the defect by `−δ·V·h`; `gamma_g + δ` by `−δ·rv·h`;
`h + δ` by `δ·(C − g·V − γ·rv + Σ Wᵢzᵢ)`; `beta_h[j] + δ` by `−δ·Wⱼ`. -/
theorem pst13_defect_key_elements (vk : PST.VK F) (C V δ : F) (z : List F) (π : PST.Proof F)
    (pre post : List F) (x : F) (hb : vk.betaH = pre ++ x :: post) :
    PST.defectCombined { vk with g := vk.g + δ } C V z π
        = PST.defectCombined vk C V z π - δ * V * vk.h
      ∧ PST.defectCombined { vk with gammaG := vk.gammaG + δ } C V z π
        = PST.defectCombined vk C V z π - δ * PST.rvVal π.rv * vk.h
      ∧ PST.defectCombined { vk with h := vk.h + δ } C V z π
        = PST.defectCombined vk C V z π
          + δ * (C - vk.g * V - vk.gammaG * PST.rvVal π.rv + PST.wz z 0 π.w)
      ∧ PST.defectCombined { vk with betaH := pre ++ (x + δ) :: post } C V z π
        = PST.defectCombined vk C V z π - δ * getD' π.w pre.length 0 := by
  refine ⟨?_, ?_, ?_, ?_⟩
  · unfold PST.defectCombined; ring
  · unfold PST.defectCombined; ring
  · simp only [PST.defectCombined, PST.rhsSum_eq]; ring
  · simp only [PST.defectCombined, PST.rhsSum_eq, hb, PST.wz_zero_eq_dot, dot_comm _ π.w, dot_update]; ring

/-- **Hence every component matters**: a transcript whose defect vanishes, with one component
replaced so that the stated shift `s` is non-zero, has a non-vanishing defect — `check` answers
`false`. -/
theorem pst13_component_matters (D s : F) (h0 : D = 0) (hs : s ≠ 0) :
    decide (D + s = 0) = false := by
  rw [h0, zero_add]
  exact decide_eq_false hs

/-- **The honest proof satisfies the relation** (restating C01): key of a trapdoor, one polynomial,
any hiding bound: the defect of the true claim vanishes. -/
theorem pst13_honest_satisfies_relation (g γ h : F) (β : List F) (ts : List Term)
    (nv s D m : Nat) (p : MVPoly F) (hb : Option Nat) (rng : Bool) (draws : List F) (c : F)
    (r : MVPoly F) (rest : List F) (z : List F) (ξ : F) (ξs : List F) (π : PST.Proof F)
    (hp : polyWf p = true) (hpv : polyVarsBelow nv p = true)
    (hβ : nv ≤ β.length) (hz : nv ≤ z.length)
    (hc : PST.commit (PST.wfCK g γ β ts nv s D m) p hb rng draws = .ok (c, r, rest))
    (ho : PST.open (PST.wfCK g γ β ts nv s D m) nv nv [p] z [r] (ξ :: ξs) = .ok π) :
    pst13Lhs (PST.wfVK g γ h β nv s D) (c * ξ) (evalMV p z * ξ) π
      = pst13Rhs (PST.wfVK g γ h β nv s D) z π := by
  have hrv := (PST.commit_spec g γ β ts nv s D m p hb rng draws c r rest hc).2.2.1
  have hchk := PST.single_check_eq g γ h β ts nv s D m nv nv p hb rng draws c r rest z ξ ξs π 0 0
    (Nat.le_refl _) (Nat.le_refl _) hp hpv hrv hβ hz hc ho
  simp only [add_zero] at hchk
  obtain ⟨a, ha, hb'⟩ := pst13_check_answer_is_relation _ _ _ _ _ _ _ hchk
  simp only [PST.accumulate, zero_add] at ha
  injection ha with ha
  subst ha
  simpa using hb'.symm

/-! ### non-vacuity over `ZMod 101`: the accepted transcript of the C01 example and each component
replaced -/

def exVK : PST.VK K := PST.wfVK (3 : K) 5 11 [2, 7] 2 2 2

example : PST.check exVK [27] [10, 20] [3] ⟨[10, 66], some 93⟩ [13] = .ok true := by decide +kernel
example : pst13Lhs exVK (27 * 13) (3 * 13) ⟨[10, 66], some 93⟩
    = pst13Rhs exVK [10, 20] ⟨[10, 66], some 93⟩ := by decide +kernel
example : PST.accumulate (0 : K) 0 [27] [3] [13] = .ok (48, 39, []) := by decide +kernel
/-- commitment, value, point coordinate, witness, `random_v`, challenge -/
example : PST.check exVK [28] [10, 20] [3] ⟨[10, 66], some 93⟩ [13] = .ok false := by decide +kernel
example : PST.check exVK [27] [10, 20] [4] ⟨[10, 66], some 93⟩ [13] = .ok false := by decide +kernel
example : PST.check exVK [27] [10, 21] [3] ⟨[10, 66], some 93⟩ [13] = .ok false := by decide +kernel
example : PST.check exVK [27] [10, 20] [3] ⟨[10, 67], some 93⟩ [13] = .ok false := by decide +kernel
example : PST.check exVK [27] [10, 20] [3] ⟨[10, 66], some 92⟩ [13] = .ok false := by decide +kernel
example : PST.check exVK [27] [10, 20] [3] ⟨[10, 66], some 93⟩ [14] = .ok false := by decide +kernel
/-- key elements `g`, `gamma_g`, `h`, `beta_h[1]` -/
example : PST.check { exVK with g := 4 } [27] [10, 20] [3] ⟨[10, 66], some 93⟩ [13] = .ok false := by
  decide +kernel
example : PST.check { exVK with gammaG := 6 } [27] [10, 20] [3] ⟨[10, 66], some 93⟩ [13] = .ok false := by
  decide +kernel
example : PST.check { exVK with h := 12 } [27] [10, 20] [3] ⟨[10, 66], some 93⟩ [13] = .ok false := by
  decide +kernel
example : PST.check { exVK with betaH := [22, 78] } [27] [10, 20] [3] ⟨[10, 66], some 93⟩ [13]
    = .ok false := by decide +kernel

/-- `pst13_accumulate_linear`: two commitments / values moved by `(1, 2)` / `(4, 7)` -/
example : PST.accumulate (0 : K) 0 [27, 13] [3, 62] [13, 17] = .ok (67, 83, [])
    ∧ PST.accumulate (0 : K) 0 [1, 2] [4, 7] [13, 17] = .ok (47, 70, [])
    ∧ PST.accumulate (0 : K) 0 [27 + 1, 13 + 2] [3 + 4, 62 + 7] [13, 17] = .ok (67 + 47, 83 + 70, []) := by
  decide +kernel

end PCV.C10
