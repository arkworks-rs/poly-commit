/-
  Property C10 — the SonicKZG10 verifier decides exactly the published verification relation.
-/
import PCV.Proofs.SonicExamples

namespace PCV.C10
open PCV PCV.Sonic
open PCV.Marlin (Label LPoly Query)
variable {F : Type} [Field F] [DecidableEq F]

/-- The SonicKZG10 verification relation, written from the paper (AuroraLight-style degree
enforcement on top of KZG10) with the code's challenge schedule `ξ₀, ξ₁, …` (one per commitment):
`∏_b e(Σ_{j : bⱼ = b} ξⱼ·Cⱼ, β^{-(D-b)}·H) = e((Σⱼ ξⱼvⱼ)·G − z·W + rv·γG, H) · e(W, βH)`
where unbounded commitments pair with `H`; every bound label must have its G2 element in the key.
In exponent form: -/
def SonicRelation (vk : VK F) (cs : List (LComm F)) (z : F) (vs : List F) (π : KZG.Proof F)
    (ξs : List F) : Prop :=
  boundsOk vk.shiftOf cs vs ξs = true ∧
  linC vk.shiftD cs vs ξs
    = (vk.g * linV cs vs ξs - π.w * z + KZG.rvVal π.rv * vk.gammaG) * vk.h + π.w * vk.betaH

/-- **`check` returns success exactly when the relation holds** — for every verifier key and every
transcript, honest or not (`hξ`: the sponge supplies the `1 + n` challenges). -/
theorem sonic_check_iff_relation (vk : VK F) (cs : List (LComm F)) (z : F) (vs : List F)
    (π : KZG.Proof F) (ξs rest : List F) (hξ : restOf cs vs ξs = some rest) :
    check vk cs z vs π ξs = .ok (true, rest) ↔ SonicRelation vk cs z vs π ξs := by
  rw [check_true_iff]
  unfold SonicRelation defect
  rw [sub_sub, sub_eq_zero]
  exact ⟨fun h => h.2, fun h => ⟨hξ, h⟩⟩

/-- … and never when it fails: the answer is then `false` or a refusal -/
theorem sonic_check_not_relation (vk : VK F) (cs : List (LComm F)) (z : F) (vs : List F)
    (π : KZG.Proof F) (ξs : List F) (hn : ¬ SonicRelation vk cs z vs π ξs) (r : List F) :
    check vk cs z vs π ξs ≠ .ok (true, r) := by
  intro h
  have h' := (check_true_iff ..).1 h
  exact hn ((sonic_check_iff_relation vk cs z vs π ξs r h'.1).1 h)

/-- honest proofs satisfy the relation -/
theorem sonic_honest_satisfies (g γ β bi h : F) (hb : β * bi = 1) (D s shb : Nat)
    (bounds : Option (List Nat)) (ck : CK F) (vk : VK F)
    (ht : trim (wfPP g γ β bi h D) s shb bounds = .ok (ck, vk))
    (ps : List (LPoly F)) (rng : Bool) (draws : List F) (cs : List (LComm F)) (rs : List (List F))
    (drest : List F) (hc : commit ck ps rng draws = .ok (cs, rs, drest))
    (z : F) (ξs : List F) (π : KZG.Proof F) (rest : List F)
    (ho : Sonic.open ck ps z rs ξs = .ok (π, rest)) :
    SonicRelation vk cs z (ps.map fun p => evalPoly p.poly z) π ξs := by
  have := open_check_complete g γ β bi h D s shb bounds ck vk ht cs ps rs
    (commit_honest g γ β bi h hb D s shb bounds ck vk ht ps rng draws cs rs drest hc) z ξs π rest ho
  exact (sonic_check_iff_relation vk cs z _ π ξs rest ((check_true_iff ..).1 this).1).1 this

/-- **Every component the relation mentions influences the decision**: from an accepting transcript,
changing exactly one of witness / `random_v` / point / one value / one commitment (with the stated
non-degeneracy) is no longer accepted. -/
theorem sonic_each_component_matters (vk : VK F) (cs : List (LComm F)) (z : F) (vs : List F)
    (w rv : F) (ξs rest : List F) (d : F) (hd : d ≠ 0)
    (hacc : check vk cs z vs ⟨w, some rv⟩ ξs = .ok (true, rest)) :
    (vk.betaH - z * vk.h ≠ 0 → check vk cs z vs ⟨w + d, some rv⟩ ξs ≠ .ok (true, rest)) ∧
    (vk.gammaG * vk.h ≠ 0 → check vk cs z vs ⟨w, some (rv + d)⟩ ξs ≠ .ok (true, rest)) ∧
    (w * vk.h ≠ 0 → check vk cs (z + d) vs ⟨w, some rv⟩ ξs ≠ .ok (true, rest)) ∧
    (∀ j, j < vs.length → vk.g * vk.h * valTerm d j cs ξs ≠ 0 →
      check vk cs z (addVals vs (spike j d vs.length)) ⟨w, some rv⟩ ξs ≠ .ok (true, rest)) ∧
    (∀ j, j < cs.length → commTerm vk.shiftD d j cs vs ξs ≠ 0 →
      check vk (addComms cs (spike j d cs.length)) z vs ⟨w, some rv⟩ ξs ≠ .ok (true, rest)) := by
  refine ⟨fun hne => rejected_of_moved hacc (defect_add_witness ..) (neg_ne_zero.2 (mul_ne_zero hd hne)),
    fun hne => rejected_of_moved hacc (defect_add_rv ..) ?_,
    fun hne => rejected_of_moved hacc (defect_add_point ..) ?_,
    fun j hj hne => rejected_of_moved hacc
      (defect_add_values vk cs z vs _ ξs _ (spike_length j d vs.length)) ?_,
    fun j hj hne hc => hne ?_⟩
  · rw [neg_mul, mul_assoc]
    exact neg_ne_zero.2 (mul_ne_zero hd hne)
  · rw [mul_right_comm]
    exact mul_ne_zero hne hd
  · rw [linV_spike d j cs vs.length ξs hj, mul_right_comm]
    exact neg_ne_zero.2 hne
  · rw [← linC_spike _ d j cs cs.length vs ξs hj]
    exact (accepted_comms_iff hacc _ (spike_length ..)).1 hc

/-- non-vacuity: the concrete honest transcript is accepting, the relation's side conditions hold on
it, and the executable model verifier is the independent implementation the harness compares with -/
example : check Ex.vk Ex.comms 5 Ex.vals ⟨3, some 27⟩ Ex.xis = .ok (true, [23]) ∧
    restOf Ex.comms Ex.vals Ex.xis = some [23] ∧
    Ex.vk.betaH - 5 * Ex.vk.h ≠ 0 ∧ Ex.vk.gammaG * Ex.vk.h ≠ 0 ∧ (3 : K) * Ex.vk.h ≠ 0 ∧
    Ex.vk.g * Ex.vk.h * valTerm (1 : K) 1 Ex.comms Ex.xis ≠ 0 ∧
    commTerm Ex.vk.shiftD (1 : K) 0 Ex.comms Ex.vals Ex.xis ≠ 0 := ⟨Ex.check_eq, by decide +kernel⟩
example : check Ex.vk Ex.comms 5 Ex.vals ⟨3 + 1, some 27⟩ Ex.xis = .ok (false, [23]) ∧
    check Ex.vk Ex.comms 5 Ex.vals ⟨3, some (27 + 1)⟩ Ex.xis = .ok (false, [23]) := by decide +kernel
end PCV.C10
