/-
  Property C11 — prover/verifier transcripts stay in lock-step; proofs are bound to them
  (MarlinKZG10 / KZG10 part).  In the pairing schemes the provers and verifiers only *squeeze*
  challenges, so the transcript is the list of challenges: lock-step = both sides consume the same
  prefix of the oracle list and leave the same remainder, after every operation of a history.
-/
import PCV.Proofs.MarlinMore
import PCV.Props.C01_Marlin

namespace PCV.C11
open PCV Marlin
variable {F : Type} [Field F] [DecidableEq F]

/-- one `open` operation of a history: the polynomials (with states and commitments) and the point -/
structure Op (F : Type) where
  l : List (Trip F)
  z : F

/-- the prover performs the operations in order on one oracle stream -/
def proverRun (ck : CK F) : List (Op F) → List F → Except Err (List (KZG.Proof F) × List F)
  | [], ξs => .ok ([], ξs)
  | op :: ops, ξs =>
    match Marlin.open ck (op.l.map (·.1)) op.z (op.l.map (·.2.1)) ξs with
    | .error e => .error e
    | .ok (π, ξs') =>
      match proverRun ck ops ξs' with
      | .error e => .error e
      | .ok (πs, rest) => .ok (π :: πs, rest)

/-- the verifier performs the corresponding checks in the same order on an identical stream;
returns the conjunction of the decisions and the remaining stream -/
def verifierRun (vk : VK F) : List (Op F) → List (KZG.Proof F) → List F → Except Err (Bool × List F)
  | [], _, ξs => .ok (true, ξs)
  | _ :: _, [], _ => .error .abort
  | op :: ops, π :: πs, ξs =>
    match check vk (op.l.map (·.2.2)) op.z (op.l.map fun t => evalPoly t.1.poly op.z) π ξs with
    | .error e => .error e
    | .ok (b, ξs') =>
      match verifierRun vk ops πs ξs' with
      | .error e => .error e
      | .ok (b', rest) => .ok (b && b', rest)

/-- non-degeneracy of one operation for every challenge stream (see `C01.marlin_complete`) -/
def NonDegenerate (ck : CK F) (op : Op F) : Prop :=
  ∀ ξs acc r, openLoop ck op.z (op.l.map (·.1)) (op.l.map (·.2.1)) ξs ⟨[], [], [], [], [], false⟩
      = .ok (acc, r) → isZeroPoly acc.r = true → evalPoly acc.sr op.z = 0

/-- **Lock-step over any history.** For every sequence of `open` operations on one stream: if the
prover answers them all, the verifier — running the corresponding checks in the same order on an
identically initialised stream — accepts every proof and ends with exactly the prover's remaining
stream. -/
theorem marlin_history_lockstep {ck : CK F} {vk : VK F} {g γ β h : F} {D n m : Nat}
    (hwf : WF ck vk g γ β h D n m) (ops : List (Op F))
    (hh : ∀ op ∈ ops, ∀ t ∈ op.l, Honest g γ β D t ∧ RandLen m t)
    (hnd : ∀ op ∈ ops, NonDegenerate ck op)
    (ξs : List F) (πs : List (KZG.Proof F)) (rest : List F)
    (hp : proverRun ck ops ξs = .ok (πs, rest)) :
    verifierRun vk ops πs ξs = .ok (true, rest) := by
  induction ops generalizing ξs πs rest with
  | nil => cases hp; rfl
  | cons op ops ih =>
    simp only [proverRun] at hp
    split at hp
    · cases hp
    · rename_i π ξs' ho
      split at hp
      · cases hp
      · rename_i πs' rest' hrec
        cases hp
        have hop := hh op List.mem_cons_self
        have hc := open_check_complete hwf op.z op.l (fun t ht => (hop t ht).1)
          (fun t ht => (hop t ht).2) ξs π ξs' ho (hnd op List.mem_cons_self ξs)
        have hrest := ih (fun op' hop' => hh op' (List.mem_cons_of_mem _ hop'))
          (fun op' hop' => hnd op' (List.mem_cons_of_mem _ hop'))
          ξs' πs' rest hrec
        simp only [verifierRun, hc, hrest, Bool.and_self]

/-- **A proof is bound to its challenge.** A KZG/Marlin opening of the single polynomial `p`
computed under the challenge `ξ` and verified under `ξ′` (a sponge in a different state) is
accepted iff `h·g·(ξ′ − ξ)·(p(β) − p(z)) = 0`: for a non-constant `p` only on the ≤ deg p roots of
`p(X) − p(z)` as a polynomial in the trapdoor. -/
theorem displaced_proof_iff (g γ β h : F) (n m : Nat) (p : List F) (z ξ ξ' : F) (π : KZG.Proof F)
    (ho : KZG.open (KZG.wfPowers g γ β n m) (pscale ξ p) z [] = .ok π) :
    KZG.check (KZG.wfVK g γ β h) (ξ' * (g * evalPoly p β)) z (ξ' * evalPoly p z) π = true
      ↔ h * (g * (ξ' - ξ) * (evalPoly p β - evalPoly p z)) = 0 := by
  -- the honest proof for `ξ·p` is accepted; the statement checked is displaced by `(ξ′ − ξ)·p`
  have h0 := KZG.open_check_complete g γ β h n m (pscale ξ p) [] z π (pnorm_nil_le m) ho
  rw [KZG.check_iff_defect, KZG.defect_wfVK, eval_pscale, eval_pscale, evalPoly_nil] at h0
  rw [KZG.check_iff_defect, KZG.defect_wfVK]
  exact moved_iff h0 (by ring)

theorem displaced_proof_rejected (g γ β h : F) (n m : Nat) (p : List F) (z ξ ξ' : F)
    (π : KZG.Proof F) (ho : KZG.open (KZG.wfPowers g γ β n m) (pscale ξ p) z [] = .ok π)
    (hg : g ≠ 0) (hh : h ≠ 0) (hξ : ξ' ≠ ξ) (hp : evalPoly p β ≠ evalPoly p z) :
    KZG.check (KZG.wfVK g γ β h) (ξ' * (g * evalPoly p β)) z (ξ' * evalPoly p z) π = false := by
  rw [Bool.eq_false_iff]
  intro hc
  have := (displaced_proof_iff g γ β h n m p z ξ ξ' π ho).1 hc
  simp only [mul_eq_zero, sub_eq_zero] at this
  rcases this with h1 | (h1 | h1) | h1
  · exact hh h1
  · exact hg h1
  · exact hξ h1
  · exact hp h1

/-- non-vacuity: the example transcript of C01 as a one-operation history -/
example : proverRun C01.exCK [⟨[(C01.exPoly, ⟨[7, 8, 9], some [4, 5, 6]⟩, ⟨[112], ⟨43, some 90⟩, some 2⟩)], 10⟩]
    [11, 13, 17] = .ok ([⟨49, some 68⟩], [17]) := by decide +kernel
example : verifierRun C01.exVK
    [⟨[(C01.exPoly, ⟨[7, 8, 9], some [4, 5, 6]⟩, ⟨[112], ⟨43, some 90⟩, some 2⟩)], 10⟩]
    [⟨49, some 68⟩] [11, 13, 17] = .ok (true, [17]) := by decide +kernel

end PCV.C11
