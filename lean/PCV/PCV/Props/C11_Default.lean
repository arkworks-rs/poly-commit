/-
  Property C11 (prover / verifier transcripts stay in lock-step) — the trait-default `batch_open` /
  `batch_check` / `check_combinations` of `poly-commit/src/lib.rs`.  Model: `PCV.Model.TraitDefault`; the
  caller's sponge (and RNG) is the abstract state threaded through the scheme's `open` / `check`.
  Only property theorems live here; lemmas are in PCV/Proofs/TraitDefault*.lean.
-/
import PCV.Proofs.TraitDefaultLC
import PCV.Proofs.TraitDefaultToy

namespace PCV.C11
open PCV TraitDefault
variable {Pt : Type} [DecidableEq Pt] {LP S C V PF σp σv : Type}

/-- **Lock-step of the default batch.** Let `R` relate the prover's and the verifier's state (e.g.
"the two sponges are equal"), and let one `open` and the `check` of the same group — same labels in the
same order, same point, the proof that `open` made — keep `R` whenever both answer.  Then after
`batch_open` and `batch_check` over the same query list the states are again related, WHATEVER the
verdict: a `false` of one group does not end the verifier's loop, so even a rejected batch leaves the
verifier's sponge where the prover's is. -/
theorem default_batch_lockstep (ltP : Pt → Pt → Bool) (lblP : LP → Label) (lblC : C → Label)
    (openF : List ((LP × S) × C) → Pt → σp → Except Err (PF × σp))
    (checkF : List C → Pt → List V → PF → σv → Except Err (Bool × σv))
    (R : σp → σv → Prop)
    (hstep : ∀ ts cs z vs π sp sp' sv sv' b, R sp sv →
      ts.map (fun t => lblP t.1.1) = cs.map lblC →
      openF ts z sp = .ok (π, sp') → checkF cs z vs π sv = .ok (b, sv') → R sp' sv')
    (polys : List LP) (sts : List S) (comms vcomms : List C) (qs : List (Query Pt))
    (evals : List ((Label × Pt) × V)) (sp : σp) (sv : σv) (πs : List PF) (sp' : σp) (b : Bool)
    (sv' : σv) (h0 : R sp sv)
    (ho : batchOpen ltP lblP openF polys sts comms qs sp = .ok (πs, sp'))
    (hc : batchCheck ltP lblC checkF vcomms qs evals πs sv = .ok (b, sv')) : R sp' sv' :=
  loops_lockstep hstep h0 ho (batchCheckLoop_of_ok hc)

/-- **Combination openings.** `check_combinations` touches the sponge only through its inner
`batch_check`: if it answers after the equation stage (in particular whenever it accepts) the state is
the one that inner batch leaves; if the equation stage finds a wrong claimed value it answers `false`
WITHOUT touching the sponge — the verifier's transcript then lags the prover's by the whole opening. -/
theorem default_combinations_state {F : Type} [Field F] [DecidableEq F]
    (ltP : Pt → Pt → Bool) (lblC : C → Label)
    (checkF : List C → Pt → List F → PF → σv → Except Err (Bool × σv))
    (lcs : List (LC.LinComb F)) (comms : List C) (qs : List (Query Pt))
    (ee : List ((Label × Pt) × F)) (πs : List PF) (evs : List F) (s : σv) (b : Bool) (s' : σv)
    (h : checkCombinations ltP lblC checkF lcs comms qs ee πs (some evs) s = .ok (b, s')) :
    (eqnLoop lcs ee (polyEvals ltP (verifierPolyQuerySet ltP lcs qs) evs) (querySet ltP qs) = .ok false ∧
      b = false ∧ s' = s) ∨
    (eqnLoop lcs ee (polyEvals ltP (verifierPolyQuerySet ltP lcs qs) evs) (querySet ltP qs) = .ok true ∧
      batchCheckSet lblC checkF comms (verifierPolyQuerySet ltP lcs qs)
        (polyEvals ltP (verifierPolyQuerySet ltP lcs qs) evs) πs s = .ok (b, s')) :=
  checkCombinations_ok_iff.1 h

/-- **Lock-step of a default combination opening**: the prover's `open_combinations` and an ACCEPTING
`check_combinations` over the same equations keep `R`, under the same per-call hypothesis as above. -/
theorem default_combinations_lockstep {F : Type} [Field F] [DecidableEq F]
    (ltP : Pt → Pt → Bool) (lblP : LP → Label) (lblC : C → Label) (evalP : LP → Pt → F)
    (openF : List ((LP × S) × C) → Pt → σp → Except Err (PF × σp))
    (checkF : List C → Pt → List F → PF → σv → Except Err (Bool × σv))
    (R : σp → σv → Prop)
    (hstep : ∀ ts cs z vs π sp sp' sv sv' b, R sp sv →
      ts.map (fun t => lblP t.1.1) = cs.map lblC →
      openF ts z sp = .ok (π, sp') → checkF cs z vs π sv = .ok (b, sv') → R sp' sv')
    (lcs : List (LC.LinComb F)) (polys : List LP) (sts : List S) (comms vcomms : List C)
    (qs : List (Query Pt)) (ee : List ((Label × Pt) × F))
    (sp : σp) (sv : σv) (πs : List PF) (evals : Option (List F)) (sp' : σp) (sv' : σv) (h0 : R sp sv)
    (ho : openCombinations ltP lblP evalP openF lcs polys sts comms qs sp = .ok ((πs, evals), sp'))
    (hc : checkCombinations ltP lblC checkF lcs vcomms qs ee πs evals sv = .ok (true, sv')) :
    R sp' sv' := by
  obtain ⟨evs, rfl, _, hb⟩ := checkCombinations_true_iff.1 hc
  obtain ⟨_, _, hbo, _⟩ := openCombinations_ok ho
  rw [← verifierPolyQuerySet_eq ltP lcs qs] at hbo
  exact loops_lockstep hstep h0 hbo (batchCheckLoop_of_ok hb)

/-! non-vacuity over `ZMod 101` (`PCV.TraitDefault.Toy`, state = call counter, `R` = equality): prover and
verifier both end in state 3, also when a claim is false; a wrong equation value leaves the verifier at 0 -/
example : batchOpen Toy.ltK Toy.lbl Toy.openF Toy.polys Toy.sts Toy.polys Toy.qs 0 = .ok ([0, 1, 2], 3) ∧
    batchCheck Toy.ltK Toy.lbl Toy.checkF Toy.polys Toy.qs Toy.evals [0, 1, 2] 0 = .ok (true, 3) := by decide +kernel
example : batchCheck Toy.ltK Toy.lbl Toy.checkF Toy.polys Toy.qs
    [(([97], 4), 9), (([98], 4), 12), (([99], 4), 20), (([98], 7), 21)] [0, 1, 2] 0 = .ok (false, 3) := by
  decide +kernel
example : openCombinations Toy.ltK Toy.lbl Toy.evalP Toy.openF Toy.lcs Toy.polys Toy.sts Toy.polys Toy.eqs 0
      = .ok (([0, 1], some [8, 14, 12, 21, 20]), 2) ∧
    checkCombinations Toy.ltK Toy.lbl Toy.checkF Toy.lcs Toy.polys Toy.eqs Toy.eqEvals [0, 1]
      (some [8, 14, 12, 21, 20]) 0 = .ok (true, 2) := by decide +kernel
example : checkCombinations Toy.ltK Toy.lbl Toy.checkF Toy.lcs Toy.polys Toy.eqs
    [(([101], 4), 9), (([101], 7), 13), (([102], 4), 8)] [0, 1] (some [8, 14, 12, 21, 20]) 0 = .ok (false, 0) := by
  decide +kernel
example : lcToPolyQuerySet Toy.ltK Toy.lcs (querySet Toy.ltK Toy.eqs) = verifierPolyQuerySet Toy.ltK Toy.lcs Toy.eqs := by
  decide +kernel

end PCV.C11
