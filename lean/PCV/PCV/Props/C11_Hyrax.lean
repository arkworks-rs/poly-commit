/-
  Property C11 — prover/verifier transcripts stay in lock-step; proofs are bound to them — Hyrax.
  Model: `PCV.Model.HyraxTranscript` (`HyraxPC::open` / `check` on a sponge that is its own event
  history; squeezes answered by a random oracle `ro`, an arbitrary function of the history), the
  trait defaults `batch_open` / `batch_check` / `open_combinations` / `check_combinations`
  (`PCV.Model.TraitDefault`) instantiated with them, histories in `PCV.Proofs.TranscriptHistory`.
  Only property theorems live here; lemmas are in PCV/Proofs/HyraxTranscript.lean, HyraxHistory.lean.
-/
import PCV.Proofs.HyraxHistory
import PCV.Proofs.HyraxTranscriptEx
import PCV.Props.C02_Hyrax

set_option linter.unusedSectionVars false

namespace PCV.C11
open PCV PCV.Hyrax
open PCV.TraitDefault (Label Query polyStComm)
variable {F : Type} [Field F] [DecidableEq F]

/-! ### (b) what is absorbed, when; what the challenges depend on -/

/-- **The event schedule of `open`.**  An answered `open` over `n` polynomials appends to the
sponge, per polynomial and in this order: `absorb key`, `absorb row_coms` (of THAT polynomial's
commitment), `absorb point`, `absorb com_eval`, `absorb com_d`, `absorb com_b`,
`squeeze_field_elements(1)` — `7·n` events, nothing else; it uses exactly `2^(ν/2) + 3` RNG draws
per polynomial. -/
theorem hyrax_open_schedule (ro : RO F) (ks : List F) (hh : F) (items : List (OpenItem F × List F))
    (point draws : List F) (s : Log F) (πs : List (Proof F)) (rest : List F) (s' : Log F)
    (h : openT ro ks hh items point draws s = .ok (πs, rest, s')) :
    s' = s ++ (((items.map (·.2)).zip (πs.map Proof.absorbed)).map
            fun x => iterEvents ks hh x.1 point x.2).flatten ∧
      s'.length = s.length + 7 * items.length ∧
      rest = draws.drop (items.length * (2 ^ (point.length / 2) + 3)) := by
  obtain ⟨_, h2, h3, h4⟩ := openLoopT_spec (openT_ok_iff.1 h).2
  refine ⟨by rw [h2, runLog_eq_append], ?_, h3⟩
  rw [h2, runLog_length]
  simp [h4]

/-- **The verifier's decisions are `Hyrax.check` on the squeezed challenges**, and those challenges
are `runChallenges`: a function of the oracle, the prior history, the key, the commitments, the
point and the ABSORBED proof components `(com_eval, com_d, com_b)` — not of the responses
`z, z_d, z_b, r_eval`, not of the claimed values.  Every theorem of C02/C03/C10 about `Hyrax.check`
with an explicit challenge list applies with this list. -/
theorem hyrax_check_decides_on_squeezed (ro : RO F) (ks : List F) (hh : F) (coms : List (List F))
    (point vs : List F) (πs : List (Proof F)) (s : Log F) :
    (checkT ro ks hh coms point vs πs s).map (·.1)
      = check ks hh coms point vs πs
          (runChallenges ro ks hh point coms (πs.map Proof.absorbed) s) :=
  checkT_fst ro ks hh coms point vs πs s

/-- **Fiat–Shamir binding of the log.**  After ANY answered `check` (`Ok(true)` or `Ok(false)`)
the verifier's sponge is the run log of the first `k` (commitment, absorbed triple) pairs, `k` the
number of iterations that reached their squeeze; accepted: all of them. -/
theorem hyrax_check_log (ro : RO F) (ks : List F) (hh : F) (coms : List (List F))
    (point vs : List F) (πs : List (Proof F)) (s : Log F) (b : Bool) (s' : Log F)
    (h : checkT ro ks hh coms point vs πs s = .ok (b, s')) :
    (∃ k, k ≤ πs.length ∧
      s' = runLog ks hh point (coms.take k) ((πs.take k).map Proof.absorbed) s) ∧
    (b = true → s' = runLog ks hh point coms (πs.map Proof.absorbed) s) :=
  ⟨checkT_log h, fun hb => checkT_accept_log (hb ▸ h)⟩

/-- **Which proof components influence later challenges.**  Two accepted checks of the same
commitments at the same point from the same history — with ANY values and ANY proofs that agree in
`(com_eval, com_d, com_b)` — end in the same sponge state: `z`, `z_d`, `z_b`, `r_eval` and the claimed
values never reach the transcript. -/
theorem hyrax_unabsorbed_components_do_not_matter (ro : RO F) (ks : List F) (hh : F)
    (coms : List (List F)) (point vs vs' : List F) (πs πs' : List (Proof F)) (s s1 s2 : Log F)
    (hab : πs.map Proof.absorbed = πs'.map Proof.absorbed)
    (h1 : checkT ro ks hh coms point vs πs s = .ok (true, s1))
    (h2 : checkT ro ks hh coms point vs' πs' s = .ok (true, s2)) : s1 = s2 := by
  rw [checkT_accept_log h1, checkT_accept_log h2, hab]

/-- … while each absorbed component does: run logs over the same commitments with different
absorbed triples (of the same length) differ, so the oracle is asked at another history. -/
theorem hyrax_absorbed_components_matter (ks : List F) (hh : F) (point : List F)
    (coms : List (List F)) (as as' : List (F × F × F)) (s : Log F)
    (hl : as.length = coms.length) (hl' : as'.length = coms.length) (hne : as ≠ as') :
    runLog ks hh point coms as s ≠ runLog ks hh point coms as' s :=
  fun h => hne (runLog_inj hl hl' h)

/-! ### (a) lock-step -/

/-- **`open` / `check` in lock-step.**  For every key, every list of honest items (state and row
commitments made by `commit` for the polynomial, any labels), every point, all draws, every oracle
and every prior history: if `open` answers, `check` — run on the same prior history with the true
values — accepts and ends with EXACTLY the prover's event history (hence in the prover's sponge
state: every later squeeze agrees). -/
theorem hyrax_open_check_lockstep (ro : RO F) (ks : List F) (hh : F) (point : List F)
    (items : List (OpenItem F × List F)) (polys : List (MLPoly F))
    (hh' : List.Forall₂ (HonestItem ks hh) items polys)
    (draws : List F) (s : Log F) (πs : List (Proof F)) (rest : List F) (s' : Log F)
    (ho : openT ro ks hh items point draws s = .ok (πs, rest, s')) :
    checkT ro ks hh (items.map (·.2)) point (polys.map fun p => mleEval p.evals point) πs s
      = .ok (true, s') :=
  openT_checkT_lockstep hh' ho

/-- **Lock-step over any history** of `open`, default `batch_open` and default
`open_combinations` calls on one sponge and one RNG.  Committed lists `polys / sts / comms` in
which every triple is honest; a verifier holding the same commitments (`hcm`); `ltP` the order of
the point type.  For every operation list with true claims (`Truthful`): if the prover answers all
of them, the verifier — performing the corresponding `check` / `batch_check` /
`check_combinations` in the same order from the same initial history — accepts every proof and ends
with exactly the prover's event history. -/
theorem hyrax_history_lockstep (ro : RO F) (ks : List F) (hh : F)
    (ltP : List F → List F → Bool) (hlt : QS.StrictTotal ltP) (hirr : ∀ a, ltP a a = false)
    (polys : List (LPoly F)) (sts : List (State F)) (comms vcomms : List (LComm F))
    (hlen1 : sts.length = polys.length) (hlen2 : comms.length = polys.length)
    (hhonest : GoodTrips ks hh (polyStComm polys sts comms))
    (hcm : ∀ l t, Marlin.lookupLast (fun (t : (LPoly F × State F) × LComm F) => t.1.1.label) l
        (polyStComm polys sts comms) = some t →
        Marlin.lookupLast (fun (c : LComm F) => c.label) l vcomms = some t.2)
    (ops : List (TrHistory.Op (List F) F (LPoly F) (State F) (LComm F)))
    (vops : List (TrHistory.VOp (List F) F (LComm F)))
    (ht : List.Forall₂ (TrHistory.Truthful ltP (fun (p : LPoly F) => p.label) evalLP (GoodTrips ks hh)
      polys sts comms) ops vops)
    (s : Log F) (draws : List F) (πs : List (TrHistory.OpProof F (List (Proof F))))
    (s' : Log F) (rest : List F)
    (hp : TrHistory.proverRun ltP (fun (p : LPoly F) => p.label) evalLP (openF ro ks hh) polys sts comms
      ops (s, draws) = .ok (πs, (s', rest))) :
    TrHistory.verifierRun ltP (fun (c : LComm F) => c.label) (checkF ro ks hh) vcomms vops πs s
      = .ok (true, s') := by
  obtain ⟨sv', hv, hR⟩ := TrHistory.history_lockstep ltP (fun (p : LPoly F) => p.label)
    (fun (c : LComm F) => c.label) evalLP (GoodTrips ks hh) polys sts comms vcomms hlt hirr
    (openF ro ks hh) (checkF ro ks hh) SameSponge (openF_checkF_complete ro ks hh)
    (TrHistory.htrip_of_length _ polys sts comms hlen1 hlen2)
    (fun ls ts h t ht => hhonest t (TrHistory.gatherOpen_mem _ _ ls ts h t ht))
    hcm ops vops ht (s, draws) s πs (s', rest) rfl hp
  unfold SameSponge at hR
  simp only at hR
  rw [hv, hR]

/-! ### (c) displaced proofs -/

/-- **The oracle is asked at another history.**  When the verifier's prior history differs from
the prover's, so does the history at which the challenge of the first polynomial is squeezed
(absorbing the same six items does not repair it) … -/
theorem hyrax_displaced_query_differs (ks : List F) (hh : F) (T point : List F) (ce cd cb : F)
    (s s₂ : Log F) (hne : s₂ ≠ s) :
    absorbIter s₂ ks hh T point ce cd cb ≠ absorbIter s ks hh T point ce cd cb := by
  rw [absorbIter_eq, absorbIter_eq]
  intro h
  exact hne (List.append_cancel_right h)

/-- … so under an oracle without collisions on that query the challenges differ. -/
theorem hyrax_displaced_challenge_differs (ro : RO F)
    (hro : ∀ h h' : Log F, h ≠ h' → ro.fe h 0 ≠ ro.fe h' 0)
    (ks : List F) (hh : F) (T point : List F) (ce cd cb : F) (s s₂ : Log F) (hne : s₂ ≠ s) :
    ro.fe (absorbIter s₂ ks hh T point ce cd cb) 0 ≠ ro.fe (absorbIter s ks hh T point ce cd cb) 0 :=
  hro _ _ (hyrax_displaced_query_differs ks hh T point ce cd cb s s₂ hne)

/-- **A displaced proof, exact condition (defect form).**  The honest proof of one polynomial made
at history `s` (challenge `ch`), verified — same commitment, same point, true value — at history
`s₂` (another prior transcript, or another position of a sequence), where the verifier squeezes
`c'`: accepted iff `com_eval·(c' − ch) = 0` and `⟨T,L⟩·c' = ⟨T,L⟩·ch` — this is `C02.hyrax_check_iff`
with the squeezed challenges. -/
theorem hyrax_displaced_iff (ro : RO F) (ks : List F) (hh k0 : F) (p : MLPoly F)
    (it : OpenItem F × List F) (hit : HonestItem ks hh it p) (hk : key0 ks = some k0)
    (point draws : List F) (s : Log F) (π : Proof F) (rest : List F) (s' : Log F)
    (ho : openT ro ks hh [it] point draws s = .ok ([π], rest, s')) (s₂ : Log F) :
    (∃ s₂', checkT ro ks hh [it.2] point [mleEval p.evals point] [π] s₂ = .ok (true, s₂')) ↔
      π.comEval * (ro.fe (absorbIter s₂ ks hh it.2 point π.comEval π.comD π.comB) 0
          - ro.fe (absorbIter s ks hh it.2 point π.comEval π.comD π.comB) 0) = 0 ∧
      dot it.2 (tensorL point) * ro.fe (absorbIter s₂ ks hh it.2 point π.comEval π.comD π.comB) 0
        = dot it.2 (tensorL point) * ro.fe (absorbIter s ks hh it.2 point π.comEval π.comD π.comB) 0 := by
  obtain ⟨hn, h1, _⟩ := openT_single_inv ho
  obtain ⟨ρs, hc⟩ := hit
  have hT := (honest_item_ok hn hc h1).2.1
  rw [← except_map_fst_ok_true, checkT_single,
    C02.hyrax_check_iff ks hh k0 p ρs it.2 it.1.st point _ _ _ _ _ π hn hk hc h1 it.2 point _ _ hT rfl,
    sub_self, sub_self, mul_zero]
  exact ⟨fun h => ⟨h.2.1.symm, h.2.2⟩, fun h => ⟨rfl, h.1.symm, h.2⟩⟩

/-- **A displaced proof is rejected**: with different challenges (`hyrax_displaced_challenge_differs`)
the verifier does not accept unless BOTH the evaluation commitment `com_eval = p̃(z)·G₀ + r_eval·H`
and the combined row commitment `⟨T,L⟩` (a commitment to `Lᵀ·M`) are the identity — conditions on
the commitment randomness the prover does not control after the fact, and which hold for no
polynomial (constant or not) when the blinders are uniform, except with probability `2/|F|`. -/
theorem hyrax_displaced_rejected (ro : RO F) (ks : List F) (hh k0 : F) (p : MLPoly F)
    (it : OpenItem F × List F) (hit : HonestItem ks hh it p) (hk : key0 ks = some k0)
    (point draws : List F) (s : Log F) (π : Proof F) (rest : List F) (s' : Log F)
    (ho : openT ro ks hh [it] point draws s = .ok ([π], rest, s')) (s₂ : Log F)
    (hc : ro.fe (absorbIter s₂ ks hh it.2 point π.comEval π.comD π.comB) 0
        ≠ ro.fe (absorbIter s ks hh it.2 point π.comEval π.comD π.comB) 0)
    (hnz : π.comEval ≠ 0 ∨ dot it.2 (tensorL point) ≠ 0) (s₂' : Log F) :
    checkT ro ks hh [it.2] point [mleEval p.evals point] [π] s₂ ≠ .ok (true, s₂') := by
  intro h
  obtain ⟨h2, h3⟩ := (hyrax_displaced_iff ro ks hh k0 p it hit hk point draws s π rest s' ho s₂).1 ⟨s₂', h⟩
  rcases hnz with hz | hz
  · rcases mul_eq_zero.1 h2 with h0 | h0
    · exact hz h0
    · exact hc (sub_eq_zero.1 h0)
  · exact hc (mul_left_cancel₀ hz h3)

/-! ### non-vacuity (K = ZMod 101; data in `PCV.Proofs.HyraxTranscriptEx`) -/

/-- one `open` of two honest items and the `check` of its proofs: accepted, same 14 events -/
example : ∃ πs rest s', openT TEx.ro ([3, 5] : List K) 7 (toItems TEx.trips) [6, 17] TEx.draws [] = .ok (πs, rest, s') ∧
    checkT TEx.ro [3, 5] 7 ((toItems TEx.trips).map (·.2)) [6, 17]
      ((TEx.trips.map (·.1.1.poly)).map fun p => mleEval p.evals [6, 17]) πs [] = .ok (true, s') ∧
    s'.length = 14 := by
  have hok : (match openT TEx.ro ([3, 5] : List K) 7 (toItems TEx.trips) [6, 17] TEx.draws [] with
      | .ok _ => true | .error _ => false) = true := by decide +kernel
  cases h : openT TEx.ro ([3, 5] : List K) 7 (toItems TEx.trips) [6, 17] TEx.draws [] with
  | error e => simp [h] at hok
  | ok r =>
    obtain ⟨πs, rest, s'⟩ := r
    refine ⟨πs, rest, s', rfl, hyrax_open_check_lockstep _ _ _ _ _ _ (honest_toItems TEx.good) _ _ _ _ _ h, ?_⟩
    have := (hyrax_open_schedule _ _ _ _ _ _ _ _ _ _ h).2.1
    simpa [toItems, TEx.trips, TEx.polys, TEx.sts, TEx.comms, TraitDefault.polyStComm] using this
/-- the honest-items hypothesis on the example -/
example : List.Forall₂ (HonestItem ([3, 5] : List K) 7) (toItems TEx.trips) (TEx.trips.map (·.1.1.poly)) :=
  honest_toItems TEx.good

/-- a three-operation history (`open`, `batch_open` over two point labels, `open_combinations`) on
one sponge: the prover appends 42 events and uses 30 draws … -/
example : TEx.proverOut = .ok (TEx.histProofs, (TEx.histLog, TEx.draws.drop 30)) ∧ TEx.histLog.length = 42 :=
  ⟨TEx.prover_eq, TEx.histLog_length⟩
/-- … and the verifier accepts everything and ends with the same 42 events (not by running it:
`TEx.verifier_eq` is the lock-step theorem applied to the prover's run and the hypotheses below) -/
example : TrHistory.verifierRun TEx.ltVec (fun (c : LComm K) => c.label) (checkF TEx.ro [3, 5] 7)
    TEx.comms TEx.vops TEx.histProofs [] = .ok (true, TEx.histLog) := TEx.verifier_eq
/-- the hypotheses of `hyrax_history_lockstep` on that history: order, honest triples, and the three
operations' claims are the true ones; the one on the verifier's commitment list (`hcm`: it is the
prover's, labelled like the polynomials) is `TrHistory.hcm_of_labels`, as in `TEx.verifier_eq` -/
example : QS.StrictTotal TEx.ltVec ∧ (∀ a, TEx.ltVec a a = false) ∧
    GoodTrips ([3, 5] : List K) 7 (polyStComm TEx.polys TEx.sts TEx.comms) :=
  ⟨TEx.ltVec_strict, TEx.ltVec_irrefl, TEx.good⟩
example : List.Forall₂ (TrHistory.Truthful TEx.ltVec (fun (p : LPoly K) => p.label) evalLP
    (GoodTrips ([3, 5] : List K) 7) TEx.polys TEx.sts TEx.comms) TEx.ops TEx.vops := TEx.truthful

/-- a displaced proof: the first proof of the history (made at the empty history) verified after
one other event is rejected; the hypotheses of `hyrax_displaced_rejected` hold (`com_eval = 29 ≠ 0`,
the two challenges are `45` and `52`), while at its own position it is accepted -/
example : openT TEx.ro ([3, 5] : List K) 7 (toItems (TEx.trips.take 1)) [6, 17] TEx.draws []
      = .ok ([⟨29, 16, 54, [16, 8], 29, 58, 1⟩], TEx.draws.drop 5,
          absorbIter [] [3, 5] 7 [88, 65] [6, 17] 29 16 54 ++ [.squeezeField 1]) ∧
    key0 ([3, 5] : List K) = some 3 ∧
    TEx.ro.fe (absorbIter [.squeezeField 1] [3, 5] 7 [88, 65] [6, 17] 29 16 54) 0
      ≠ TEx.ro.fe (absorbIter [] [3, 5] 7 [88, 65] [6, 17] 29 16 54) 0 ∧ (29 : K) ≠ 0 ∧
    (checkT TEx.ro ([3, 5] : List K) 7 [[88, 65]] [6, 17] [41] [⟨29, 16, 54, [16, 8], 29, 58, 1⟩]
      [.squeezeField 1]).map (·.1) = .ok false ∧
    (checkT TEx.ro ([3, 5] : List K) 7 [[88, 65]] [6, 17] [41] [⟨29, 16, 54, [16, 8], 29, 58, 1⟩]
      []).map (·.1) = .ok true := by decide +kernel
/-- a proof rejected at the evaluation commitment leaves the verifier's sponge untouched (the
verifier then lags the prover by the whole opening) -/
example : checkT TEx.ro ([3, 5] : List K) 7 [[88, 65]] [6, 17] [42] [⟨29, 16, 54, [16, 8], 29, 58, 1⟩] []
    = .ok (false, []) := by decide +kernel

end PCV.C11
