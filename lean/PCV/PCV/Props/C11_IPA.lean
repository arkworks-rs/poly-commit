/-
  Property C11 — prover/verifier transcripts stay in lock-step; proofs are bound to them,
  inner-product-argument scheme.  The model threads the sponge squeezes `ξs` and the random-oracle
  outputs `ros` as explicit streams: lock-step = prover and verifier consume the same prefix in the
  same order and leave the same remainder, after every operation of a history (`open`/`check`,
  the trait-default `batch_open` against IPA's `batch_check`).
-/
import PCV.Proofs.IPABatch
import PCV.Proofs.IPALC
import PCV.Props.Examples

namespace PCV.C11
open PCV
variable {F : Type} [Field F] [DecidableEq F]

/-- `check` together with what it leaves of the two streams (the model's `IPA.check` drops them) -/
def ipaCheckT (vk : IPA.VK F) (cs : List (IPA.LComm F)) (z : F) (vs : List F) (π : IPA.Proof F)
    (ξs ros : List F) : Except Err (Bool × List F × List F) :=
  if IPA.badShape vk π then .error .incorrectInputLength
  else
  match IPA.succinctCheck vk cs z vs π ξs ros with
  | .error e => .error e
  | .ok (o, ξr, ror) => .ok (IPA.finalKeyOk vk π o, ξr, ror)

/-- `ipaCheckT` decides like `check` -/
theorem ipa_checkT_decision (vk : IPA.VK F) (cs : List (IPA.LComm F)) (z : F) (vs : List F)
    (π : IPA.Proof F) (ξs ros : List F) :
    IPA.check vk cs z vs π ξs ros
      = match ipaCheckT vk cs z vs π ξs ros with
        | .error e => .error e
        | .ok x => .ok x.1 := by
  unfold IPA.check ipaCheckT
  cases IPA.badShape vk π with
  | true => rfl
  | false =>
    simp only [Bool.false_eq_true, if_false]
    cases IPA.succinctCheck vk cs z vs π ξs ros with
    | error e => rfl
    | ok x => rfl

/-- **IPA, one operation.** `check` on the true values accepts the prover's proof and leaves the
sponge stream and the random-oracle stream exactly where `open` left them. -/
theorem ipa_open_check_lockstep (ck : IPA.CK F) (k : Nat) (hk : ck.commKey.length = 2 ^ k)
    (polys : List (IPA.LPoly F)) (comms : List (IPA.LComm F)) (sts : List (IPA.Rand F))
    (hall : IPA.AllCommitted ck polys comms sts) (hnf : ∀ p ∈ polys, pnorm p.poly = p.poly)
    (z : F) (ξs ros : List F) (rng : Bool) (draws : List F) (π : IPA.Proof F) (ξr ror dr : List F)
    (ho : IPA.open ck polys comms z sts ξs ros rng draws = .ok (π, ξr, ror, dr)) :
    ipaCheckT ck comms z (polys.map fun p => evalPoly p.poly z) π ξs ros = .ok (true, ξr, ror) := by
  obtain ⟨hshape, ⟨us, hsc, hd2⟩, _, _⟩ := IPA.open_succinct_complete hk hall hnf ho
  unfold ipaCheckT
  rw [hshape, hsc]
  simp [IPA.finalKeyOk, hd2]

/-- one `open` operation of a history: committed polynomials (with commitments and states), the
point, whether the caller passes an RNG -/
structure IpaOp (F : Type) where
  polys : List (IPA.LPoly F)
  comms : List (IPA.LComm F)
  sts : List (IPA.Rand F)
  z : F
  rng : Bool

/-- the prover performs the operations in order on one sponge, one random oracle, one RNG -/
def ipaProverRun (ck : IPA.CK F) : List (IpaOp F) → List F → List F → List F →
    Except Err (List (IPA.Proof F) × List F × List F × List F)
  | [], ξs, ros, draws => .ok ([], ξs, ros, draws)
  | op :: ops, ξs, ros, draws =>
    match IPA.open ck op.polys op.comms op.z op.sts ξs ros op.rng draws with
    | .error e => .error e
    | .ok (π, ξs', ros', draws') =>
      match ipaProverRun ck ops ξs' ros' draws' with
      | .error e => .error e
      | .ok (πs, a, b, c) => .ok (π :: πs, a, b, c)

/-- the verifier performs the corresponding checks in the same order on identical streams; returns
the conjunction of the decisions and the remaining streams -/
def ipaVerifierRun (vk : IPA.VK F) : List (IpaOp F) → List (IPA.Proof F) → List F → List F →
    Except Err (Bool × List F × List F)
  | [], _, ξs, ros => .ok (true, ξs, ros)
  | _ :: _, [], _, _ => .error .abort
  | op :: ops, π :: πs, ξs, ros =>
    match ipaCheckT vk op.comms op.z (op.polys.map fun p => evalPoly p.poly op.z) π ξs ros with
    | .error e => .error e
    | .ok (b, ξs', ros') =>
      match ipaVerifierRun vk ops πs ξs' ros' with
      | .error e => .error e
      | .ok (b', a, c) => .ok (b && b', a, c)

/-- **IPA, lock-step over any history.** For every sequence of `open` operations on one sponge and
one random oracle (any polynomials with bounds / hiding, any points): if the prover answers them all,
the verifier — running the corresponding checks in the same order on identically initialised
streams — accepts every proof and ends with exactly the prover's remaining streams. -/
theorem ipa_history_lockstep (ck : IPA.CK F) (k : Nat) (hk : ck.commKey.length = 2 ^ k)
    (ops : List (IpaOp F))
    (hh : ∀ op ∈ ops, IPA.AllCommitted ck op.polys op.comms op.sts ∧
      ∀ p ∈ op.polys, pnorm p.poly = p.poly)
    (ξs ros draws : List F) (πs : List (IPA.Proof F)) (ξr ror dr : List F)
    (hp : ipaProverRun ck ops ξs ros draws = .ok (πs, ξr, ror, dr)) :
    ipaVerifierRun ck ops πs ξs ros = .ok (true, ξr, ror) := by
  induction ops generalizing ξs ros draws πs ξr ror dr with
  | nil =>
    cases hp
    rfl
  | cons op ops ih =>
    simp only [ipaProverRun] at hp
    split at hp
    · cases hp
    · rename_i π ξs' ros' draws' ho
      split at hp
      · cases hp
      · rename_i πs' a b c hrec
        cases hp
        have hc := ipa_open_check_lockstep ck k hk op.polys op.comms op.sts (hh op List.mem_cons_self).1
          (hh op List.mem_cons_self).2 op.z ξs ros op.rng draws π ξs' ros' draws' ho
        have hrest := ih (fun op' hop' => hh op' (List.mem_cons_of_mem _ hop')) ξs' ros' draws' πs' _ _ _ hrec
        simp only [ipaVerifierRun, hc, hrest, Bool.and_self]

/-- `batch_check`'s loop with what it leaves of the two streams (after the last point label it
examined) -/
def ipaBatchSuccinctT (vk : IPA.VK F) (comms : List (IPA.LComm F)) (evals : List ((IPA.Label × F) × F)) :
    List (IPA.Label × (F × List IPA.Label)) → List (IPA.Proof F) → List F → List F →
    Except Err (Option (List (List F)) × List F × List F)
  | g :: gs, π :: πs, ξs, ros =>
    if IPA.badShape vk π then .error .incorrectInputLength
    else
    match IPA.gatherComms comms evals g.2.1 g.2.2 with
    | .error e => .error e
    | .ok (cs, vs) =>
      match IPA.succinctCheck vk cs g.2.1 vs π ξs ros with
      | .error e => .error e
      | .ok (none, ξs', ros') => .ok (none, ξs', ros')
      | .ok (some us, ξs', ros') =>
        match ipaBatchSuccinctT vk comms evals gs πs ξs' ros' with
        | .error e => .error e
        | .ok (none, a, b) => .ok (none, a, b)
        | .ok (some uss, a, b) => .ok (some (us :: uss), a, b)
  | _, _, ξs, ros => .ok (some [], ξs, ros)

/-- `ipaBatchSuccinctT` computes what `batch_check`'s loop computes -/
theorem ipa_batchSuccinctT_result (vk : IPA.VK F) (comms : List (IPA.LComm F))
    (evals : List ((IPA.Label × F) × F)) :
    ∀ (gs : List (IPA.Label × (F × List IPA.Label))) (πs : List (IPA.Proof F)) (ξs ros : List F),
      IPA.batchSuccinct vk comms evals gs πs ξs ros
        = match ipaBatchSuccinctT vk comms evals gs πs ξs ros with
          | .error e => .error e
          | .ok x => .ok x.1 := by
  intro gs
  induction gs with
  | nil => intro πs ξs ros; rfl
  | cons g gs ih =>
    intro πs ξs ros
    cases πs with
    | nil => rfl
    | cons π πs =>
      simp only [IPA.batchSuccinct, ipaBatchSuccinctT]
      cases IPA.badShape vk π with
      | true => rfl
      | false =>
        simp only [Bool.false_eq_true, if_false]
        cases IPA.gatherComms comms evals g.2.1 g.2.2 with
        | error e => rfl
        | ok x =>
          obtain ⟨cs, vs⟩ := x
          simp only
          cases IPA.succinctCheck vk cs g.2.1 vs π ξs ros with
          | error e => rfl
          | ok y =>
            obtain ⟨o, ξs', ros'⟩ := y
            cases o with
            | none => rfl
            | some us =>
              simp only
              rw [ih πs ξs' ros']
              cases ipaBatchSuccinctT vk comms evals gs πs ξs' ros' with
              | error e => rfl
              | ok w =>
                obtain ⟨o2, a, b⟩ := w
                cases o2 <;> rfl

/-- **IPA, batch operations.** The loop of `batch_check` on the proofs of the trait-default
`batch_open` (one `open` per point label in sorted order) passes every succinct check and leaves
both streams exactly where the prover left them — for every query set. -/
theorem ipa_batch_lockstep (ck : IPA.CK F) (k : Nat) (hk : ck.commKey.length = 2 ^ k)
    (polys : List (IPA.LPoly F)) (comms : List (IPA.LComm F)) (sts : List (IPA.Rand F))
    (hall : IPA.AllCommitted ck polys comms sts) (hnf : ∀ p ∈ polys, pnorm p.poly = p.poly)
    (evals : List ((IPA.Label × F) × F)) (rng : Bool) :
    ∀ (gs : List (IPA.Label × (F × List IPA.Label))) (ξs ros draws : List F) (πs : List (IPA.Proof F))
      (ξr ror dr : List F), IPA.TrueEvals polys comms sts evals gs →
      IPA.batchOpenGroups ck polys comms sts rng gs ξs ros draws = .ok (πs, ξr, ror, dr) →
      ∃ uss, ipaBatchSuccinctT ck comms evals gs πs ξs ros = .ok (some uss, ξr, ror) := by
  intro gs
  induction gs with
  | nil =>
    intro ξs ros draws πs ξr ror dr _ h
    cases h
    exact ⟨[], rfl⟩
  | cons g gs ih =>
    intro ξs ros draws πs ξr ror dr hev h
    obtain ⟨cs, vs, us, π, πs', ξs', ros', draws', rfl, hg, hshape, hsc, _, hrec⟩ :=
      IPA.batch_group_step hk hall hnf hev h
    obtain ⟨uss, hbs⟩ := ih ξs' ros' draws' πs' ξr ror dr
      (fun g' hg' => hev g' (List.mem_cons_of_mem _ hg')) hrec
    exact ⟨us :: uss, by
      simp only [ipaBatchSuccinctT, hshape, Bool.false_eq_true, if_false, hg, hsc, hbs]⟩

/-- **IPA, combination operations.** `check_combinations` hands `batch_check` the combined
commitments and adjusted values; its loop on the proofs of `open_combinations` passes every succinct
check and leaves both streams exactly where the prover left them (the combination phase itself
touches neither the sponge nor the random oracle). -/
theorem ipa_lc_lockstep (ck : IPA.CK F) (k : Nat) (hk : ck.commKey.length = 2 ^ k)
    (polys : List (IPA.LPoly F)) (comms : List (IPA.LComm F)) (sts : List (IPA.Rand F))
    (hall : IPA.AllCommitted ck polys comms sts) (hnf : ∀ p ∈ polys, pnorm p.poly = p.poly)
    (lcs : List (LC.LinComb F)) (qs : List (IPA.Query F)) (evals : List ((IPA.Label × F) × F))
    (hev : ∀ g ∈ Marlin.groupQueries qs, ∀ l ∈ g.2.2, ∀ lc,
      Marlin.lookupLast (fun (lc : LC.LinComb F) => lc.label) l lcs = some lc →
      Marlin.lookupEval evals l g.2.1
        = some (IPA.lcPolyValue (polys.zip (sts.zip comms)) g.2.1 lc.terms + IPA.constSum lcs l))
    (ξs ros : List F) (rng : Bool) (draws : List F) (πs : List (IPA.Proof F)) (ξr ror dr : List F)
    (ho : IPA.openCombinations ck lcs polys comms sts qs ξs ros rng draws = .ok (πs, ξr, ror, dr)) :
    ∃ lcC uss, IPA.verifierComms comms lcs = .ok lcC ∧
      ipaBatchSuccinctT ck lcC (IPA.adjustEvals lcs evals) (Marlin.groupQueries qs) πs ξs ros
        = .ok (some uss, ξr, ror) := by
  obtain ⟨as, h1, h2, h3, h4, h5⟩ := IPA.lc_reduction ck polys comms sts hall hnf lcs qs evals hev
    ξs ros rng draws πs ξr ror dr ho
  unfold IPA.batchOpen at h5
  obtain ⟨uss, hu⟩ := ipa_batch_lockstep ck k hk _ _ _ h2 h3 (IPA.adjustEvals lcs evals) rng
    (Marlin.groupQueries qs) ξs ros draws πs ξr ror dr h4 h5
  exact ⟨_, uss, h1, hu⟩

/-- **IPA, a proof is bound to the sponge challenge.** A transcript accepted at one position of the
sponge stream and presented at another position (other challenges `ξ′, …`), with the random-oracle
outputs held fixed, is accepted iff `(ξ′ − ξ)·(C + ξ₀·h·v) = 0` — one unbounded commitment `C` with
claimed value `v`.  For the hash-derived generators the form `C + ξ₀·h·v = ⟨p,G⟩ + ρ·S + ξ₀·p(z)·h`
vanishes only on a hyperplane of key scalars unless `p = 0`, `ρ = 0`. -/
theorem ipa_displaced_sponge_iff (vk : IPA.VK F) (c : IPA.LComm F) (z v : F) (π : IPA.Proof F)
    (ξ ξ1 ξ2 ξ' ξ1' ξ2' : F) (ξs ξs' ros : List F) (r : IPA.Run F) (ξr ror : List F)
    (hbound : c.bound = none) (hsh : c.comm.shifted = none)
    (hr : IPA.succinctRun vk [c] z [v] π (ξ :: ξ1 :: ξ2 :: ξs) ros = .ok (r, ξr, ror))
    (hacc : IPA.check vk [c] z [v] π (ξ :: ξ1 :: ξ2 :: ξs) ros = .ok true) :
    IPA.check vk [c] z [v] π (ξ' :: ξ1' :: ξ2' :: ξs') ros
      = .ok (decide ((ξ' - ξ) * (c.comm.comm + vk.h * r.ξ₀ * v) = 0)) := by
  obtain ⟨hb, h1, h2⟩ := IPA.check_accept_run hacc hr
  rw [IPA.check_congr hb (IPA.accLoop_single_none vk z c v ξ ξ1 ξ2 ξs hbound hsh)
    (IPA.accLoop_single_none vk z c v ξ' ξ1' ξ2' ξs' hbound hsh) hr, h1]
  have e : (0 : F) + (c.comm.comm * ξ' - c.comm.comm * ξ + vk.h * r.ξ₀ * (ξ' * v - ξ * v))
      = (ξ' - ξ) * (c.comm.comm + vk.h * r.ξ₀ * v) := by
    ring
  rw [e, decide_eq_true h2, Bool.and_true]

/-- … hence rejected whenever the challenges differ and the form does not vanish -/
theorem ipa_displaced_sponge_rejected (vk : IPA.VK F) (c : IPA.LComm F) (z v : F) (π : IPA.Proof F)
    (ξ ξ1 ξ2 ξ' ξ1' ξ2' : F) (ξs ξs' ros : List F) (r : IPA.Run F) (ξr ror : List F)
    (hbound : c.bound = none) (hsh : c.comm.shifted = none)
    (hr : IPA.succinctRun vk [c] z [v] π (ξ :: ξ1 :: ξ2 :: ξs) ros = .ok (r, ξr, ror))
    (hacc : IPA.check vk [c] z [v] π (ξ :: ξ1 :: ξ2 :: ξs) ros = .ok true)
    (hξ : ξ' ≠ ξ) (hform : c.comm.comm + vk.h * r.ξ₀ * v ≠ 0) :
    IPA.check vk [c] z [v] π (ξ' :: ξ1' :: ξ2' :: ξs') ros = .ok false := by
  rw [ipa_displaced_sponge_iff vk c z v π ξ ξ1 ξ2 ξ' ξ1' ξ2' ξs ξs' ros r ξr ror hbound hsh hr hacc,
    decide_eq_false (mul_ne_zero (sub_ne_zero.2 hξ) hform)]

/-- **IPA, a proof is bound to the round challenges** (any statement, any polynomials, hiding or
not): a transcript accepted with the round challenges `us` and accepted again at another position of
the history, where the random oracle returns the round challenges `us′`, forces
`⟨G, coeffs(h_us′)⟩ = ⟨G, coeffs(h_us)⟩` — a linear relation between the hash-derived generators
whenever `us′ ≠ us`. -/
theorem ipa_displaced_rounds (vk : IPA.VK F) (cs cs' : List (IPA.LComm F)) (z z' : F) (vs vs' : List F)
    (π : IPA.Proof F) (ξs ros ξs' ros' : List F)
    (h1 : IPA.check vk cs z vs π ξs ros = .ok true)
    (h2 : IPA.check vk cs' z' vs' π ξs' ros' = .ok true) :
    ∃ r r' a b a' b', IPA.succinctRun vk cs z vs π ξs ros = .ok (r, a, b) ∧
      IPA.succinctRun vk cs' z' vs' π ξs' ros' = .ok (r', a', b') ∧
      dot vk.commKey (Succinct.computeCoeffs r'.us) = dot vk.commKey (Succinct.computeCoeffs r.us) := by
  obtain ⟨_, r, a, b, hr, _, hd⟩ := (IPA.check_iff vk cs z vs π ξs ros).1 h1
  obtain ⟨_, r', a', b', hr', _, hd'⟩ := (IPA.check_iff vk cs' z' vs' π ξs' ros').1 h2
  exact ⟨r, r', a, b, a', b', hr, hr', (sub_eq_zero.1 hd').trans (sub_eq_zero.1 hd).symm⟩

/-! non-vacuity over `ZMod 101`: the two-operation history "open `4 + 9X` at 6, then at 7" on one
sponge / oracle stream under the 2-element key: the verifier accepts both and ends where the prover
ends; the first proof presented at the second position is rejected -/
example : ipaProverRun (⟨[3, 5], 13, 17, 3⟩ : IPA.CK K)
    [⟨[⟨[1], [4, 9], none, none⟩], [⟨[1], ⟨57, none⟩, none⟩], [⟨0, none⟩], 6, false⟩,
     ⟨[⟨[1], [4, 9], none, none⟩], [⟨[1], ⟨57, none⟩, none⟩], [⟨0, none⟩], 7, false⟩]
    [2, 3, 4, 5, 6, 7, 1] [8, 9, 10, 4, 3] []
    = .ok ([⟨[7], [83], 48, 10, none, none⟩, ⟨[26], [19], 23, 6, none, none⟩], [1], [3], []) := by
  decide +kernel
example : ipaVerifierRun (⟨[3, 5], 13, 17, 3⟩ : IPA.CK K)
    [⟨[⟨[1], [4, 9], none, none⟩], [⟨[1], ⟨57, none⟩, none⟩], [⟨0, none⟩], 6, false⟩,
     ⟨[⟨[1], [4, 9], none, none⟩], [⟨[1], ⟨57, none⟩, none⟩], [⟨0, none⟩], 7, false⟩]
    [⟨[7], [83], 48, 10, none, none⟩, ⟨[26], [19], 23, 6, none, none⟩]
    [2, 3, 4, 5, 6, 7, 1] [8, 9, 10, 4, 3] = .ok (true, [1], [3]) := by decide +kernel
example : IPA.check (⟨[3, 5], 13, 17, 3⟩ : IPA.CK K) [⟨[1], ⟨57, none⟩, none⟩] 6 [58]
    ⟨[7], [83], 48, 10, none, none⟩ [5, 6, 7, 1] [10, 4, 3] = .ok false := by decide +kernel
example : IPA.check (⟨[3, 5], 13, 17, 3⟩ : IPA.CK K) [⟨[1], ⟨57, none⟩, none⟩] 6 [58]
    ⟨[7], [83], 48, 10, none, none⟩ [5, 6, 7, 1] [8, 9] = .ok false := by decide +kernel

end PCV.C11
