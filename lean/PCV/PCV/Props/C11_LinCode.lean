/-
  Property C11 — prover/verifier transcripts stay in lock-step; proofs are bound to them — the
  linear-code schemes (univariate / multilinear Ligero, Brakedown).
  Model: `PCV.Model.LinCodeTranscript` (`LinearCodePCS::open` / `generate_proof` / `check` and
  `get_indices_from_sponge` on a sponge that is its own event history; squeezes answered by a random
  oracle `ro`, an arbitrary function of the history), the trait defaults of `lib.rs`
  (`PCV.Model.TraitDefault`) instantiated with them, histories in `PCV.Proofs.TranscriptHistory`.
  Only property theorems live here; lemmas are in PCV/Proofs/LinCodeTranscript.lean, LinCodeHistory.lean.
-/
import PCV.Proofs.LinCodeHistory
import PCV.Proofs.LinCodeTranscriptEx
import PCV.Props.C02_LinCode
import PCV.Props.C10_LinCode

namespace PCV.C11
open PCV PCV.LinCode PCV.Merkle
open PCV.TraitDefault (Label Query polyStComm)
variable {F : Type} [Field F] [DecidableEq F] {D : Type} [DecidableEq D] {Pt : Type} [DecidableEq Pt]

/-! ### (b) what is absorbed, when; what the challenges depend on -/

/-- **The prover's transcript.**  An answered `open` of one polynomial ran `transcriptOne`: absorb
the root; [flag on: squeeze `n_rows` field elements `r`, absorb `r·M`]; absorb the point; absorb
`v = b·M`; `t = calculate_t(.., ext_mat.m)` times (squeeze `get_num_bytes` bytes, absorb them back).
The vectors it absorbed are the ones it SENDS (`π.wf`, `π.opening.v`), and the proof is
`LinCode.openOne` on the squeezed outputs. -/
theorem lincode_open_transcript (ro : TRO F D) (tp : TParams F D) (point : Point F) (c : Comm D)
    (st : State F D) (s : TLog F D) (π : Proof F D) (s' : TLog F D)
    (h : openOneT ro tp point c st s = .ok (π, s')) :
    ∃ t r idx, tp.tOf st.extMat.m = .ok t ∧ openOne tp.pp point c st ⟨r, idx⟩ = .ok π ∧
      transcriptOne ro c.nRows st.extMat.m t c.root π.wf point.toVec π.opening.v s
        = .ok (r, idx, s') :=
  openOneT_spec h

/-- **The verifier's transcript and decision.**  `check` answers `b` and leaves the sponge `s'` iff
`transcriptOne` — run on the commitment's root / `n_rows` / `n_ext_cols`, the point, and the two
vectors READ in the proof (`wf` only when the flag is on) — yields outputs `(r, idx)` and `s'`, and
`LinCode.checkOne` answers `b` on `(r, idx)`.  Every theorem of C02/C03/C10 about `LinCode.checkOne`
with explicit oracle outputs applies with these. -/
theorem lincode_check_transcript (ro : TRO F D) (tp : TParams F D) (point : Point F) (c : Comm D)
    (value : F) (π : Proof F D) (s : TLog F D) (b : Bool) (s' : TLog F D) :
    checkOneT ro tp point c value π s = .ok (b, s') ↔
      ∃ t r idx, tp.tOf c.nExtCols = .ok t ∧
        transcriptOne ro c.nRows c.nExtCols t c.root (usedWf tp.pp.checkWf π.wf) point.toVec
          π.opening.v s = .ok (r, idx, s') ∧
        checkOne tp.pp point c value π ⟨r, idx⟩ = .ok b :=
  checkOneT_ok_iff

/-- **The event schedule of one opening**: `3 + 2·[flag] + 2·t` events, `t` positions, `n_rows`
coefficients when the flag is on. -/
theorem lincode_event_schedule (ro : TRO F D) (nRows nExt t : Nat) (root : D) (wf : Option (List F))
    (pointVec v : List F) (s : TLog F D) (r : List F) (idx : List Nat) (s' : TLog F D)
    (h : transcriptOne ro nRows nExt t root wf pointVec v s = .ok (r, idx, s')) :
    s'.length = s.length + 3 + (if wf.isSome then 2 else 0) + 2 * t ∧ idx.length = t ∧
      (wf.isSome = true → r.length = nRows) := by
  rw [transcriptOne_eq] at h
  split at h
  · cases h
  rename_i hgi
  cases h
  obtain ⟨i1, i2, _⟩ := getIndicesT_spec hgi
  refine ⟨?_, i1, ?_⟩
  · rw [i2]
    cases wf <;> simp [verifierWf, Sponge.absorb, Sponge.squeezeField]
  · cases wf with
    | none => simp
    | some w => intro _; simp [verifierWf, Sponge.squeezeField]

/-- **Which proof components influence later challenges.**  Two answered checks of the same
commitment at the same point from the same history, with proofs that agree in `opening.v` and in
the well-formedness vector the verifier uses, end in the same sponge state — whatever their opened
columns, their Merkle paths, the claimed values and the verdicts.  (`v` and `wf` do influence it:
they are arguments of `transcriptOne`.) -/
theorem lincode_unabsorbed_components_do_not_matter (ro : TRO F D) (tp : TParams F D)
    (point : Point F) (c : Comm D) (value value' : F) (π π' : Proof F D) (s : TLog F D)
    (b b' : Bool) (s1 s2 : TLog F D) (hv : π.opening.v = π'.opening.v)
    (hw : usedWf tp.pp.checkWf π.wf = usedWf tp.pp.checkWf π'.wf)
    (h1 : checkOneT ro tp point c value π s = .ok (b, s1))
    (h2 : checkOneT ro tp point c value' π' s = .ok (b', s2)) : s1 = s2 := by
  obtain ⟨t, r, idx, ht, htr, _⟩ := checkOneT_ok_iff.1 h1
  obtain ⟨t', r', idx', ht', htr', _⟩ := checkOneT_ok_iff.1 h2
  rw [ht] at ht'
  cases ht'
  rw [hv, hw, htr'] at htr
  simp only [Except.ok.injEq, Prod.mk.injEq] at htr
  exact htr.2.2.symm

/-! ### (a) lock-step -/

/-- **`open` / `check` in lock-step, one polynomial.**  For every linear row encoder, every shape,
every hash, every oracle and every prior history, with and without the well-formedness check, at a
point with the number of coordinates the matrix width asks for (`hfit`, `PointFits`: whenever
`tensor` answers its vector `a` has `n_cols` entries — every univariate point, `lincode_point_fits`;
needed since fix D23, because `open` answers without looking at `a` while `check` refuses an `a` of
another length, e.g. a multilinear point on a width that is not a power of two): if
`open` answers, `check` on the same prior history accepts the claimed value and ends with EXACTLY
the prover's event history. -/
theorem lincode_open_check_lockstep_one (ro : TRO F D) (tp : TParams F D) (point : Point F)
    (coeffs : List F) (E : List F → List F) (k : Nat) (h : Encodes tp.pp coeffs E k)
    (hfit : PointFits point (coeffMat tp.pp.dims coeffs).m (coeffMat tp.pp.dims coeffs).n)
    (s : TLog F D) (π : Proof F D) (s' : TLog F D)
    (ho : openOneT ro tp point (commitC tp.pp coeffs E k) (commitSt tp.pp coeffs E k) s = .ok (π, s')) :
    checkOneT ro tp point (commitC tp.pp coeffs E k) (claimed tp.pp point coeffs) π s
      = .ok (true, s') :=
  oneT_lockstep h hfit ho

set_option linter.unusedSectionVars false in
/-- which points fit: every univariate point, whatever the shape; a multilinear point exactly when the
width is a power of two (or the point has too few coordinates for `tensor` to answer, and then `open`
aborts); hence every point when the width is a power of two -/
theorem lincode_point_fits (nCols nRows : Nat) :
    (∀ z : F, PointFits (Point.uni z) nCols nRows) ∧
    (∀ pt : List F, PointFits (Point.ml pt) nCols nRows ↔
      pt.length < ceilLog2 nCols ∨ 2 ^ ceilLog2 nCols = nCols) ∧
    (2 ^ ceilLog2 nCols = nCols → ∀ point : Point F, PointFits point nCols nRows) :=
  ⟨fun z => pointFits_uni z nCols nRows, fun pt => pointFits_ml_iff pt nCols nRows,
    fun h point => pointFits_of_pow2 point nCols nRows h⟩

/-- the commitment and state of the lock-step theorems are what `commit` returns -/
theorem lincode_commit_is (pp : Params F D) (coeffs : List F) (E : List F → List F) (k : Nat)
    (h : Encodes pp coeffs E k) :
    commit pp coeffs = .ok (commitC pp coeffs E k, commitSt pp coeffs E k) :=
  commit_eq pp coeffs E k h

/-- **`open` / `check` in lock-step, a list of polynomials on one sponge** (`hfit`: the point fits
the width of every matrix, as in `lincode_open_check_lockstep_one`). -/
theorem lincode_open_check_lockstep (ro : TRO F D) (tp : TParams F D) (point : Point F)
    (ts : List (List F × Comm D × State F D))
    (hh : ∀ t ∈ ts, HonestTriple tp.pp t.1 t.2.1 t.2.2)
    (hfit : ∀ t ∈ ts, PointFits point (coeffMat tp.pp.dims t.1).m (coeffMat tp.pp.dims t.1).n)
    (s : TLog F D) (πs : List (Proof F D)) (s' : TLog F D)
    (ho : openAllT ro tp point (ts.map (·.2.1)) (ts.map (·.2.2)) s = .ok (πs, s')) :
    checkAllT ro tp point (ts.map (·.2.1)) (ts.map fun t => claimed tp.pp point t.1) πs s
      = .ok (true, s') :=
  allT_lockstep ro tp point ts hh hfit s πs s' ho

/-- **Lock-step over any history** of `open`, default `batch_open` and default
`open_combinations` calls on one sponge (committed lists in which every triple is honest; a verifier
holding the same commitments; `Pt` the point type of the scheme, embedded by `ι` — `Point.uni` for
univariate Ligero, `Point.ml` for the multilinear schemes, `id` for both kinds at once — and `ltP`
its order; `GoodTrips` also asks that every point of `Pt` fits the width of every committed matrix,
which is needed since fix D23, see `lincode_open_check_lockstep_one`: no condition for `ι = Point.uni`
(`goodTrips_uni`), power-of-two widths otherwise (`goodTrips_of_pow2`)): for every operation list with
true claims, if the prover answers all of them, the verifier — performing the corresponding
`check` / `batch_check` / `check_combinations` in the same order from the same initial history —
accepts every proof and ends with exactly the prover's event history. -/
theorem lincode_history_lockstep (ro : TRO F D) (tp : TParams F D) (ι : Pt → Point F)
    (ltP : Pt → Pt → Bool) (hlt : QS.StrictTotal ltP) (hirr : ∀ a, ltP a a = false)
    (polys : List (LPoly F)) (sts : List (State F D)) (comms vcomms : List (LComm D))
    (hlen1 : sts.length = polys.length) (hlen2 : comms.length = polys.length)
    (hhonest : GoodTrips tp.pp ι (polyStComm polys sts comms))
    (hcm : ∀ l t, Marlin.lookupLast (fun (t : (LPoly F × State F D) × LComm D) => t.1.1.label) l
        (polyStComm polys sts comms) = some t →
        Marlin.lookupLast (fun (c : LComm D) => c.label) l vcomms = some t.2)
    (ops : List (TrHistory.Op Pt F (LPoly F) (State F D) (LComm D)))
    (vops : List (TrHistory.VOp Pt F (LComm D)))
    (ht : List.Forall₂ (TrHistory.Truthful ltP (fun (p : LPoly F) => p.label)
      (fun lp z => evalLP tp.pp lp (ι z)) (GoodTrips tp.pp ι) polys sts comms) ops vops)
    (s : TLog F D) (πs : List (TrHistory.OpProof F (List (Proof F D)))) (s' : TLog F D)
    (hp : TrHistory.proverRun ltP (fun (p : LPoly F) => p.label) (fun lp z => evalLP tp.pp lp (ι z))
      (fun ts z => openF ro tp ts (ι z)) polys sts comms ops s = .ok (πs, s')) :
    TrHistory.verifierRun ltP (fun (c : LComm D) => c.label) (fun cs z => checkF ro tp cs (ι z))
      vcomms vops πs s = .ok (true, s') := by
  obtain ⟨sv', hv, hR⟩ := TrHistory.history_lockstep ltP (fun (p : LPoly F) => p.label)
    (fun (c : LComm D) => c.label) (fun lp z => evalLP tp.pp lp (ι z)) (GoodTrips tp.pp ι)
    polys sts comms vcomms hlt hirr
    (fun ts z => openF ro tp ts (ι z)) (fun cs z => checkF ro tp cs (ι z)) (fun sp sv => sp = sv)
    (openF_checkF_complete ro tp ι)
    (TrHistory.htrip_of_length _ polys sts comms hlen1 hlen2)
    (fun ls ts h t ht => hhonest t (TrHistory.gatherOpen_mem _ _ ls ts h t ht))
    hcm ops vops ht s s πs s' rfl hp
  rw [hv, hR]

/-! ### (c) displaced proofs -/

/-- **A proof checked at another history: the explicit condition.**  `check` accepts at history
`s₂` iff the transcript derived THERE — coefficients `r'` and column positions `idx'` — puts the
statement and the proof in the published relation of C10 (`C10.LinCodeRelation`). -/
theorem lincode_displaced_iff (ro : TRO F D) (tp : TParams F D) (point : Point F) (c : Comm D)
    (value : F) (π : Proof F D) (s₂ : TLog F D) :
    (∃ s₂', checkOneT ro tp point c value π s₂ = .ok (true, s₂')) ↔
      ∃ t r' idx' s₂', tp.tOf c.nExtCols = .ok t ∧
        transcriptOne ro c.nRows c.nExtCols t c.root (usedWf tp.pp.checkWf π.wf) point.toVec
          π.opening.v s₂ = .ok (r', idx', s₂') ∧
        C10.LinCodeRelation tp.pp point c value π ⟨r', idx'⟩ := by
  constructor
  · rintro ⟨s₂', h⟩
    obtain ⟨t, r, idx, h1, h2, h3⟩ := checkOneT_ok_iff.1 h
    exact ⟨t, r, idx, s₂', h1, h2, checkOne_ok_true_iff.1 h3⟩
  · rintro ⟨t, r, idx, s₂', h1, h2, h3⟩
    exact ⟨s₂', checkOneT_ok_iff.2 ⟨t, r, idx, h1, h2, checkOne_ok_true_iff.2 h3⟩⟩

/-- **Displaced, other column positions ⇒ refused.**  The honest proof made at history `s` (column
positions `idx`) checked at a history `s₂` where the transcript yields positions `idx'` that differ
from `idx` at some place `j`: `check` returns an error — never a verdict, whatever the polynomial
(constant or not): the `j`-th Merkle path sits at position `idx[j]` (`C02.lincode_other_positions_refused`). -/
theorem lincode_displaced_positions_refused (ro : TRO F D) (tp : TParams F D) (point : Point F)
    (coeffs : List F) (E : List F → List F) (k : Nat) (s : TLog F D) (π : Proof F D) (s' : TLog F D)
    (ho : openOneT ro tp point (commitC tp.pp coeffs E k) (commitSt tp.pp coeffs E k) s = .ok (π, s'))
    (value : F) (s₂ : TLog F D) (t : Nat) (ht : tp.tOf k = .ok t)
    (r : List F) (idx : List Nat) (s1 : TLog F D)
    (h1 : transcriptOne ro (coeffMat tp.pp.dims coeffs).n k t
        (merkleRoot tp.pp.hs (leavesOf tp.pp (extOf tp.pp coeffs E k))) π.wf point.toVec
        π.opening.v s = .ok (r, idx, s1))
    (r' : List F) (idx' : List Nat) (s2 : TLog F D)
    (h2 : transcriptOne ro (coeffMat tp.pp.dims coeffs).n k t
        (merkleRoot tp.pp.hs (leavesOf tp.pp (extOf tp.pp coeffs E k))) π.wf point.toVec
        π.opening.v s₂ = .ok (r', idx', s2))
    (j q q' : Nat) (hq : idx[j]? = some q) (hq' : idx'[j]? = some q') (hne : q ≠ q')
    (b : Bool) (s₂' : TLog F D) :
    checkOneT ro tp point (commitC tp.pp coeffs E k) value π s₂ ≠ .ok (b, s₂') := by
  intro hc
  obtain ⟨t0, r0, idx0, ab, ht0, hten, _, hπ, hidx, htr, hu⟩ := openOneT_honest ho
  cases ht.symm.trans ht0
  rw [h1] at htr
  simp only [Except.ok.injEq, Prod.mk.injEq] at htr
  obtain ⟨rfl, rfl, _⟩ := htr
  obtain ⟨t', r'', idx'', ht', htr', hck⟩ := checkOneT_ok_iff.1 hc
  simp only [commitC] at ht' htr'
  cases ht.symm.trans ht'
  rw [hu, h2] at htr'
  simp only [Except.ok.injEq, Prod.mk.injEq] at htr'
  obtain ⟨rfl, rfl, _⟩ := htr'
  rw [hπ] at hck
  obtain ⟨e, he⟩ := C02.lincode_other_positions_refused tp.pp point coeffs E k ab.2 ⟨r, idx⟩ ⟨r', idx'⟩
    value (commitC tp.pp coeffs E k) j q q' hq hq' hne
  cases he.symm.trans hck

/-- **Displaced, same positions but other well-formedness coefficients: exact condition.**  When the
transcript at `s₂` happens to yield the same positions `idx` but coefficients `r'` (the squeeze of
`r` comes right after the root, so it changes with the prior history): accepted iff
`(r' − r)·M_ext[:, q] = 0` on every opened column `q` (flag on), the value is the claimed one, and
(fix D23) the vectors of `tensor` have the lengths of the matrix, i.e. the point has the right number
of coordinates.  With the flag off nothing but the positions binds the proof to the transcript. -/
theorem lincode_displaced_coefficients_iff (pp : Params F D) (point : Point F) (coeffs : List F)
    (E : List F → List F) (k : Nat) (h : Encodes pp coeffs E k) (a b r r' : List F) (idx : List Nat)
    (value : F)
    (ht : tensor point (coeffMat pp.dims coeffs).m (coeffMat pp.dims coeffs).n = .ok (a, b))
    (hi : ∀ i ∈ idx, i < k) :
    checkOne pp point (commitC pp coeffs E k) value (honestProof pp coeffs E k b ⟨r, idx⟩) ⟨r', idx⟩
        = .ok true ↔
      a.length = (coeffMat pp.dims coeffs).m ∧ b.length = (coeffMat pp.dims coeffs).n ∧
      (pp.checkWf = true → ∀ q ∈ idx, dot r' (colOf (extOf pp coeffs E k).rows q)
        = dot r (colOf (extOf pp coeffs E k).rows q)) ∧
      dot (vecMat b (coeffMat pp.dims coeffs).rows (coeffMat pp.dims coeffs).m) a = value :=
  (checkOne_honestProof_iff h ht hi).trans
    ⟨fun ⟨hla, hlb, _, hrr, hv⟩ => ⟨hla, hlb, hrr, hv⟩,
     fun ⟨hla, hlb, hrr, hv⟩ => ⟨hla, hlb, fun _ _ => rfl, hrr, hv⟩⟩

set_option linter.unusedSectionVars false in
/-- **The oracle is asked at another history**: when the verifier's prior history differs from the
prover's, every query of the opening (`r`, each position) is made at a different history, since both
append the same events to different prefixes. -/
theorem lincode_displaced_query_differs (s s₂ : TLog F D) (evs : TLog F D) (hne : s₂ ≠ s) :
    s₂ ++ evs ≠ s ++ evs := fun h => hne (List.append_cancel_right h)

/-! ### non-vacuity (K = ZMod 101; data in `PCV.Proofs.LinCodeTranscriptEx`: toy code, `t = 3`) -/

/-- one opening with the well-formedness check: 11 events on both sides, accepted -/
example : ∃ π s', openOneT TEx.ro (TEx.tp true) (.uni 5) (commitC (toyPP true) [1, 2, 3] toyE 4)
      (commitSt (toyPP true) [1, 2, 3] toyE 4) [] = .ok (π, s') ∧
    checkOneT TEx.ro (TEx.tp true) (.uni 5) (commitC (toyPP true) [1, 2, 3] toyE 4)
      (claimed (toyPP true) (.uni 5) [1, 2, 3]) π [] = .ok (true, s') ∧ s'.length = 11 := by
  have hok : (match openOneT TEx.ro (TEx.tp true) (.uni 5) (commitC (toyPP true) [1, 2, 3] toyE 4)
      (commitSt (toyPP true) [1, 2, 3] toyE 4) [] with
      | .ok x => decide (x.2.length = 11) | .error _ => false) = true := by decide +kernel
  cases h : openOneT TEx.ro (TEx.tp true) (.uni 5) (commitC (toyPP true) [1, 2, 3] toyE 4)
      (commitSt (toyPP true) [1, 2, 3] toyE 4) [] with
  | error e => simp [h] at hok
  | ok r =>
    obtain ⟨π, s'⟩ := r
    simp only [h, decide_eq_true_eq] at hok
    exact ⟨π, s', rfl, lincode_open_check_lockstep_one _ _ _ _ toyE 4 (toy_encodes true _ (by decide +kernel))
      (pointFits_uni _ _ _) _ _ _ h, hok⟩
/-- … and without it: 9 events -/
example : (match openOneT TEx.ro (TEx.tp false) (.uni 5) (commitC (toyPP false) [1, 2, 3] toyE 4)
      (commitSt (toyPP false) [1, 2, 3] toyE 4) [] with
    | .ok (π, s') => decide (checkOneT TEx.ro (TEx.tp false) (.uni 5) (commitC (toyPP false) [1, 2, 3] toyE 4)
        (evalPoly [1, 2, 3] 5) π [] = .ok (true, s') ∧ s'.length = 9)
    | .error _ => false) = true := by decide +kernel
example : Encodes (toyPP true) [1, 2, 3] toyE 4 := toy_encodes true _ (by decide +kernel)

/-- a three-operation history (`open`, `batch_open` over two point labels, `open_combinations`) on
one sponge: six openings, 66 events … -/
example : TEx.proverOut = .ok (TEx.histProofs, TEx.histLog) ∧ TEx.histLog.length = 66 :=
  ⟨TEx.prover_eq, TEx.histLog_length⟩
/-- … and the verifier accepts everything and ends with the same 66 events (not by running it:
`TEx.verifier_eq` is the lock-step theorem applied to the prover's run and the hypotheses below) -/
example : TrHistory.verifierRun TEx.ltPt (fun (c : LComm Nat) => c.label) (checkF TEx.ro (TEx.tp true))
    (TEx.comms true) TEx.vops TEx.histProofs [] = .ok (true, TEx.histLog) := TEx.verifier_eq
/-- the hypotheses of `lincode_history_lockstep` on that history (point type `Point K`, `ι = id`:
univariate and multilinear points alike fit the `2 × 2` matrices): order, honest triples, and below the
three operations' claims; the one on the verifier's commitment list (`hcm`: it is the prover's, labelled
like the polynomials) is `TrHistory.hcm_of_labels`, as in `TEx.verifier_eq` -/
example : QS.StrictTotal TEx.ltPt ∧ (∀ a, TEx.ltPt a a = false) ∧
    GoodTrips (toyPP true) (id : Point K → Point K) (polyStComm TEx.polys (TEx.sts true) (TEx.comms true)) :=
  ⟨TEx.ltPt_strict, TEx.ltPt_irrefl, TEx.good true⟩
/-- a univariate point fits every width, a multilinear point does not fit a width of 3 -/
example : PointFits (Point.uni (5 : K)) 3 2 ∧ ¬ PointFits (Point.ml ([3, 8] : List K)) 3 2 :=
  ⟨pointFits_uni _ _ _, fun h => absurd ((pointFits_ml_iff _ _ _).1 h) (by decide +kernel)⟩
example : List.Forall₂ (TrHistory.Truthful TEx.ltPt (fun (p : LPoly K) => p.label) (evalLP (toyPP true))
    (GoodTrips (toyPP true) (id : Point K → Point K)) TEx.polys (TEx.sts true) (TEx.comms true)) TEx.ops TEx.vops :=
  TEx.truthful

/-- a displaced proof with the well-formedness check: the proof made at the empty history has
positions `[1, 3, 1]`; at a history with one more event the transcript gives `[2, 0, 2]` — the
hypotheses of `lincode_displaced_positions_refused` — and `check` refuses -/
example : (match openOneT TEx.ro (TEx.tp true) (.uni 5) (commitC (toyPP true) [1, 2, 3] toyE 4)
      (commitSt (toyPP true) [1, 2, 3] toyE 4) [] with
    | .ok (π, _) =>
      decide ((transcriptOne TEx.ro 2 4 3 (commitC (toyPP true) [1, 2, 3] toyE 4).root π.wf [5] π.opening.v []).map
          (·.2.1) = .ok [1, 3, 1] ∧
        (transcriptOne TEx.ro 2 4 3 (commitC (toyPP true) [1, 2, 3] toyE 4).root π.wf [5] π.opening.v
          [.squeezeField 1]).map (·.2.1) = .ok [2, 0, 2] ∧
        checkOneT TEx.ro (TEx.tp true) (.uni 5) (commitC (toyPP true) [1, 2, 3] toyE 4)
          (evalPoly [1, 2, 3] 5) π [.squeezeField 1] = .error .invalidCommitment)
    | .error _ => false) = true := by decide +kernel
/-- without the well-formedness check only the positions bind the proof: at a history where the
oracle happens to give the same positions `[3, 1, 3]` the displaced proof is accepted (consistent
with `lincode_displaced_coefficients_iff`), at another one it is refused -/
example : (match openOneT TEx.ro (TEx.tp false) (.uni 5) (commitC (toyPP false) [1, 2, 3] toyE 4)
      (commitSt (toyPP false) [1, 2, 3] toyE 4) [] with
    | .ok (π, _) =>
      decide ((checkOneT TEx.ro (TEx.tp false) (.uni 5) (commitC (toyPP false) [1, 2, 3] toyE 4)
          (evalPoly [1, 2, 3] 5) π [.squeezeField 1, .squeezeField 1, .squeezeField 1, .squeezeField 1]).map (·.1)
            = .ok true ∧
        checkOneT TEx.ro (TEx.tp false) (.uni 5) (commitC (toyPP false) [1, 2, 3] toyE 4)
          (evalPoly [1, 2, 3] 5) π [.squeezeField 1] = .error .invalidCommitment)
    | .error _ => false) = true := by decide +kernel
example : tensor (Point.uni (5 : K)) 2 2 = .ok (tensorUni 5 2 2) ∧ (∀ i ∈ [1, 3, 1], i < 4) := by decide +kernel

end PCV.C11
