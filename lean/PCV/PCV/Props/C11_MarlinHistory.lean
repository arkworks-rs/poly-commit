/-
  Property C11 (MarlinKZG10) — lock-step over histories that mix `open`, `batch_open` and
  `open_combinations` on one sponge.  As in `Props/C11.lean` the transcript of the pairing schemes is
  the list of squeezed challenges; prover and verifier are in lock-step when they leave the same
  remainder after every operation.  Here are the operations, the two runs and the condition `HistoryOk`
  (every polynomial under an `open_combinations` unbounded); the lock-step theorems are in
  `Props/C11_MarlinHistoryBounded`.
-/
import PCV.Proofs.MarlinLCComplete
import PCV.Props.C11
import PCV.Props.C06_MarlinComplete

namespace PCV.C11
open PCV Marlin
variable {F : Type} [Field F] [DecidableEq F]

/-- one operation of a mixed history -/
inductive MOp (F : Type)
  | single (l : List (Trip F)) (z : F)
  | batch (l : List (Trip F)) (qs : List (Query F)) (evals : List ((Label × F) × F)) (rs : List F)
  | comb (l : List (Trip F)) (lcs : List (LC.LinComb F)) (qs : List (Query F))
      (evals : List ((Label × F) × F)) (rs : List F)
  deriving DecidableEq

/-- what the prover returns for one operation -/
inductive MProof (F : Type)
  | one (π : KZG.Proof F)
  | many (πs : List (KZG.Proof F))
  deriving DecidableEq

/-- `batch_check` together with the challenge stream it leaves (the model's `batchCheck` returns the
decision only; the stream is the one `combine_and_normalize` leaves) -/
def batchCheckS (vk : VK F) (comms : List (LComm F)) (qs : List (Query F))
    (evals : List ((Label × F) × F)) (πs : List (KZG.Proof F)) (ξs rs : List F) :
    Except Err (Bool × List F) :=
  match combineGroups vk comms evals (groupQueries qs) ξs with
  | .error e => .error e
  | .ok (_, rest) =>
    match batchCheck vk comms qs evals πs ξs rs with
    | .error e => .error e
    | .ok b => .ok (b, rest)

/-- `check_combinations` with the stream it leaves -/
def checkCombinationsS (vk : VK F) (comms : List (LComm F)) (lcs : List (LC.LinComb F))
    (qs : List (Query F)) (evals : List ((Label × F) × F)) (πs : List (KZG.Proof F))
    (ξs rs : List F) : Except Err (Bool × List F) :=
  match combineAllComm comms lcs with
  | .error e => .error e
  | .ok lcComms => batchCheckS vk lcComms qs (adjustEvals lcs evals) πs ξs rs

/-- `checkCombinationsS` decides what `check_combinations` decides -/
theorem checkCombinationsS_decision (vk : VK F) (comms : List (LComm F)) (lcs : List (LC.LinComb F))
    (qs : List (Query F)) (evals : List ((Label × F) × F)) (πs : List (KZG.Proof F))
    (ξs rs : List F) (b : Bool) (rest : List F)
    (h : checkCombinationsS vk comms lcs qs evals πs ξs rs = .ok (b, rest)) :
    checkCombinations vk comms lcs qs evals πs ξs rs = .ok b := by
  unfold checkCombinationsS at h
  unfold checkCombinations
  split at h
  · cases h
  · rename_i lcComms hc
    unfold batchCheckS at h
    split at h
    · cases h
    · split at h
      · cases h
      · rename_i b' hb
        cases h
        rw [hc]
        exact hb

def proverStep (ck : CK F) : MOp F → List F → Except Err (MProof F × List F)
  | .single l z, ξs =>
    match Marlin.open ck (l.map (·.1)) z (l.map (·.2.1)) ξs with
    | .error e => .error e
    | .ok (π, r) => .ok (.one π, r)
  | .batch l qs _ _, ξs =>
    match batchOpen ck (l.map (·.1)) (l.map (·.2.1)) qs ξs with
    | .error e => .error e
    | .ok (πs, r) => .ok (.many πs, r)
  | .comb l lcs qs _ _, ξs =>
    match openCombinations ck (l.map (·.1)) (l.map (·.2.1)) (l.map (·.2.2)) lcs qs ξs with
    | .error e => .error e
    | .ok (πs, r) => .ok (.many πs, r)

def verifierStep (vk : VK F) : MOp F → MProof F → List F → Except Err (Bool × List F)
  | .single l z, .one π, ξs =>
    check vk (l.map (·.2.2)) z (l.map fun t => evalPoly t.1.poly z) π ξs
  | .batch l qs evals rs, .many πs, ξs => batchCheckS vk (l.map (·.2.2)) qs evals πs ξs rs
  | .comb l lcs qs evals rs, .many πs, ξs =>
    checkCombinationsS vk (l.map (·.2.2)) lcs qs evals πs ξs rs
  | _, _, _ => .error .abort

def proverRunM (ck : CK F) : List (MOp F) → List F → Except Err (List (MProof F) × List F)
  | [], ξs => .ok ([], ξs)
  | op :: ops, ξs =>
    match proverStep ck op ξs with
    | .error e => .error e
    | .ok (π, ξs') =>
      match proverRunM ck ops ξs' with
      | .error e => .error e
      | .ok (πs, rest) => .ok (π :: πs, rest)

def verifierRunM (vk : VK F) : List (MOp F) → List (MProof F) → List F → Except Err (Bool × List F)
  | [], _, ξs => .ok (true, ξs)
  | _ :: _, [], _ => .error .abort
  | op :: ops, π :: πs, ξs =>
    match verifierStep vk op π ξs with
    | .error e => .error e
    | .ok (b, ξs') =>
      match verifierRunM vk ops πs ξs' with
      | .error e => .error e
      | .ok (b', rest) => .ok (b && b', rest)

/-- the hypotheses under which one operation is an honest, truthful request -/
def MOpOk (ck : CK F) (g γ β : F) (D m : Nat) : MOp F → List F → Prop
  | .single l z, ξs =>
    (∀ t ∈ l, Honest g γ β D t ∧ RandLen m t) ∧
    (∀ acc r, openLoop ck z (l.map (·.1)) (l.map (·.2.1)) ξs ⟨[], [], [], [], [], false⟩ = .ok (acc, r) →
      isZeroPoly acc.r = true → evalPoly acc.sr z = 0)
  | .batch l qs evals _, ξs =>
    (∀ t ∈ l, Honest g γ β D t ∧ RandLen m t ∧ t.2.2.label = t.1.label) ∧
    (∀ gr ∈ groupQueries qs, ∀ lab ∈ gr.2.2, ∀ t, lookupT lab l none = some t →
      lookupEval evals lab gr.2.1 = some (evalPoly t.1.poly gr.2.1)) ∧
    GroupsND ck (l.map (·.1)) (l.map (·.2.1)) (groupQueries qs) ξs
  | .comb l lcs qs evals _, _ =>
    (∀ t ∈ l, (Honest g γ β D t ∧ t.1.bound = none) ∧ RandLen m t ∧ t.2.2.label = t.1.label) ∧
    (lcs.map (·.label)).Nodup ∧
    (∀ gr ∈ groupQueries qs, ∀ lc ∈ lcs, lc.label ∈ gr.2.2 →
      lookupEval evals lc.label gr.2.1 = some (lcPolyValue l gr.2.1 lc.terms + lcConstant lc))

/-- the per-operation hypotheses along the prover's run (each at the stream state it meets) -/
def HistoryOk (ck : CK F) (g γ β : F) (D m : Nat) : List (MOp F) → List F → Prop
  | [], _ => True
  | op :: ops, ξs =>
    MOpOk ck g γ β D m op ξs ∧
    match proverStep ck op ξs with
    | .error _ => True
    | .ok (_, ξs') => HistoryOk ck g γ β D m ops ξs'

/-- non-vacuity: a history `open ; batch_open ; open_combinations` over the example of C01/C06 runs
through on the stream `[11,13,17,19,23,29,31,37,41]` and is accepted in lock-step -/
def exHistory : List (MOp K) :=
  [.single (C01.exBatch.take 1) 5,
   .batch C01.exBatch C01.exQueries
     [(([97], 5), evalPoly [1, 2, 3] 5), (([98], 5), evalPoly [4, 0, 1] 5), (([98], 9), evalPoly [4, 0, 1] 9)] [29],
   .comb C01.exBatch C06.exLCs C06.exLCQueries C06.exLCEvals [3]]
example : ∃ πs rest, proverRunM C01.exCK exHistory [11, 13, 17, 19, 23, 29, 31, 37, 41] = .ok (πs, rest) ∧
    verifierRunM C01.exVK exHistory πs [11, 13, 17, 19, 23, 29, 31, 37, 41] = .ok (true, rest) ∧
    rest = [37, 41] := by
  exact ⟨[.one ⟨52, none⟩, .many [⟨42, none⟩, ⟨21, none⟩], .many [⟨68, none⟩, ⟨33, none⟩]], [37, 41],
    by decide +kernel⟩

end PCV.C11
