/-
  Property C11 (MarlinKZG10, degree bounds) — lock-step over histories that mix `open`, `batch_open` and
  `open_combinations` on one sponge, where the combinations may name degree-bounded polynomials in the
  one way the code allows (alone, with coefficient one).  Operations, runs and the condition `HistoryOk`,
  which asks every polynomial under an `open_combinations` to be unbounded, are those of
  `Props/C11_MarlinHistory`; here the per-operation condition of that case is the one of
  `C06.marlin_lc_bounded_lockstep` (`HistoryOkB`, implied by `HistoryOk`), and
  `C11.marlin_mixed_history_lockstep` is the special case of `C11.marlin_mixed_history_lockstep_bounded`.
-/
import PCV.Proofs.MarlinDecidable
import PCV.Props.C11_MarlinHistory
import PCV.Props.C06_MarlinBounded

namespace PCV.C11
open PCV Marlin
variable {F : Type} [Field F] [DecidableEq F]

/-- the hypotheses under which one operation is an honest, truthful request — degree bounds allowed
under `open_combinations`: every combination is a combination of unbounded polynomials (`LCUnbounded`)
or the single term `1 · p` (`LCSingle`, `p` bounded or not); the last conjunct is the side condition of
`batch_open` (`GroupsND`) on the combined polynomials and states, at the stream the operation meets (it
only concerns bounded HIDING polynomials).  `open` and `batch_open` are as in `MOpOk`. -/
def MOpOkB (ck : CK F) (g γ β : F) (D m : Nat) : MOp F → List F → Prop
  | .single l z, ξs => MOpOk ck g γ β D m (.single l z) ξs
  | .batch l qs evals rs, ξs => MOpOk ck g γ β D m (.batch l qs evals rs) ξs
  | .comb l lcs qs evals _, ξs =>
    (∀ t ∈ l, Honest g γ β D t ∧ RandLen m t ∧ t.2.2.label = t.1.label) ∧
    (lcs.map (·.label)).Nodup ∧
    (∀ lc ∈ lcs, LCUnbounded l lc ∨ LCSingle lc) ∧
    (∀ gr ∈ groupQueries qs, ∀ lc ∈ lcs, lc.label ∈ gr.2.2 →
      lookupEval evals lc.label gr.2.1 = some (lcPolyValue l gr.2.1 lc.terms + lcConstant lc)) ∧
    (∀ ts, combineAll l lcs = .ok ts →
      GroupsND ck (ts.map (·.1)) (ts.map (·.2.1)) (groupQueries qs) ξs)

-- the instances for quantifiers over lists and options are put in front of Mathlib's for multisets,
-- finsets and finite types, which are tried first and fail slowly
attribute [local instance 2000] List.decidableBAll Option.decidableForallMem in
instance MOpOkB.decidable (ck : CK F) (g γ β : F) (D m : Nat) (op : MOp F) (ξs : List F) :
    Decidable (MOpOkB ck g γ β D m op ξs) := by
  cases op <;> unfold MOpOkB <;> try unfold MOpOk
  all_goals exact inferInstance

/-- the condition is weaker than `MOpOk`: an operation over unbounded polynomials only satisfies it -/
theorem mOpOk_imp_mOpOkB (ck : CK F) (g γ β : F) (D m : Nat) (op : MOp F) (ξs : List F)
    (hok : MOpOk ck g γ β D m op ξs) : MOpOkB ck g γ β D m op ξs := by
  cases op with
  | single l z => exact hok
  | batch l qs evals rs => exact hok
  | comb l lcs qs evals rs =>
    obtain ⟨hh, hnodup, hev⟩ := hok
    exact ⟨fun t ht => ⟨(hh t ht).1.1, (hh t ht).2⟩, hnodup,
      fun lc _ => .inl (lcUnbounded_of_all (fun t ht => (hh t ht).1.2) lc), hev,
      lc_groupsND_of_unbounded fun t ht => (hh t ht).1⟩

/-- one operation, degree bounds allowed under `open_combinations`: the verifier's step accepts and
leaves the prover's remaining stream -/
theorem step_lockstep_bounded {ck : CK F} {vk : VK F} {g γ β h : F} {D n m : Nat}
    (hwf : WF ck vk g γ β h D n m) (op : MOp F) (ξs : List F) (hok : MOpOkB ck g γ β D m op ξs)
    (π : MProof F) (rest : List F) (hp : proverStep ck op ξs = .ok (π, rest)) :
    verifierStep vk op π ξs = .ok (true, rest) := by
  cases op with
  | single l z =>
    simp only [proverStep] at hp
    split at hp
    · cases hp
    · rename_i π' r ho
      cases hp
      exact open_check_complete hwf z l (fun t ht => (hok.1 t ht).1) (fun t ht => (hok.1 t ht).2) ξs π' rest ho
        hok.2
  | batch l qs evals rs =>
    simp only [proverStep] at hp
    split at hp
    · cases hp
    · rename_i πs r ho
      cases hp
      obtain ⟨hh, hev, hnd⟩ := hok
      obtain ⟨trip, htrip, hlen, hdef⟩ := batchOpenGroups_accept hwf l (fun t ht => (hh t ht).1)
        (fun t ht => (hh t ht).2.1) (fun t ht => (hh t ht).2.2) evals (groupQueries qs) hev ξs πs rest ho hnd
      simp only [verifierStep, batchCheckS, htrip,
        batchCheck_all_true vk (l.map (·.2.2)) qs evals πs ξs rs trip rest htrip hlen hdef]
  | comb l lcs qs evals rs =>
    simp only [proverStep] at hp
    split at hp
    · cases hp
    · rename_i πs r ho
      cases hp
      obtain ⟨hh, hnodup, hadm, hev, hnd⟩ := hok
      obtain ⟨lcComms, hcc, trip, htrip, hlen, hdef⟩ := C06.marlin_lc_bounded_lockstep hwf l
        (fun t ht => (hh t ht).1) (fun t ht => (hh t ht).2.1) (fun t ht => (hh t ht).2.2)
        lcs hnodup hadm qs evals hev ξs πs rest ho hnd
      simp only [verifierStep, checkCombinationsS, hcc, batchCheckS, htrip,
        batchCheck_all_true vk lcComms qs (adjustEvals lcs evals) πs ξs rs trip rest htrip hlen hdef]

/-- the per-operation hypotheses `MOpOkB` along the prover's run (each at the stream state it meets) -/
def HistoryOkB (ck : CK F) (g γ β : F) (D m : Nat) : List (MOp F) → List F → Prop
  | [], _ => True
  | op :: ops, ξs =>
    MOpOkB ck g γ β D m op ξs ∧
    match proverStep ck op ξs with
    | .error _ => True
    | .ok (_, ξs') => HistoryOkB ck g γ β D m ops ξs'

instance HistoryOkB.decidable (ck : CK F) (g γ β : F) (D m : Nat) :
    ∀ ops ξs, Decidable (HistoryOkB ck g γ β D m ops ξs)
  | [], _ => isTrue trivial
  | op :: ops, ξs => by
    have := HistoryOkB.decidable ck g γ β D m ops
    unfold HistoryOkB
    split <;> exact inferInstance

/-- a history that satisfies `HistoryOk` satisfies `HistoryOkB` -/
theorem historyOk_imp_historyOkB (ck : CK F) (g γ β : F) (D m : Nat) (ops : List (MOp F)) (ξs : List F)
    (hok : HistoryOk ck g γ β D m ops ξs) : HistoryOkB ck g γ β D m ops ξs := by
  induction ops generalizing ξs with
  | nil => trivial
  | cons op ops ih =>
    obtain ⟨hok1, hok2⟩ := hok
    refine ⟨mOpOk_imp_mOpOkB ck g γ β D m op ξs hok1, ?_⟩
    split
    · trivial
    · rename_i π ξs' ho
      rw [ho] at hok2
      exact ih ξs' hok2

/-- **Lock-step over any mixed history, degree bounds included.**  For every sequence of `open`,
`batch_open` and `open_combinations` operations on one challenge stream, each an honest and truthful
request (`HistoryOkB`: the polynomials under `open_combinations` may carry degree bounds, a combination
naming one being the single term `1 · p`): if the prover answers them all, the verifier — running
`check`, `batch_check`, `check_combinations` in the same order on an identically initialised stream,
with any randomizers of its own — accepts every proof and ends with exactly the prover's remaining
stream. -/
theorem marlin_mixed_history_lockstep_bounded {ck : CK F} {vk : VK F} {g γ β h : F} {D n m : Nat}
    (hwf : WF ck vk g γ β h D n m) (ops : List (MOp F)) (ξs : List F)
    (hok : HistoryOkB ck g γ β D m ops ξs) (πs : List (MProof F)) (rest : List F)
    (hp : proverRunM ck ops ξs = .ok (πs, rest)) :
    verifierRunM vk ops πs ξs = .ok (true, rest) := by
  induction ops generalizing ξs πs rest with
  | nil => cases hp; rfl
  | cons op ops ih =>
    simp only [proverRunM] at hp
    split at hp
    · cases hp
    · rename_i π ξs' ho
      split at hp
      · cases hp
      · rename_i πs' rest' hrec
        cases hp
        obtain ⟨hok1, hok2⟩ := hok
        rw [ho] at hok2
        simp only [verifierRunM, step_lockstep_bounded hwf op ξs hok1 π ξs' ho,
          ih ξs' hok2 πs' rest hrec, Bool.and_self]

/-- **Lock-step over any mixed history.**  For every sequence of `open`, `batch_open` and
`open_combinations` operations on one challenge stream, each an honest and truthful request
(`HistoryOk`): if the prover answers them all, the verifier — running `check`, `batch_check`,
`check_combinations` in the same order on an identically initialised stream, with any randomizers of
its own — accepts every proof and ends with exactly the prover's remaining stream. -/
theorem marlin_mixed_history_lockstep {ck : CK F} {vk : VK F} {g γ β h : F} {D n m : Nat}
    (hwf : WF ck vk g γ β h D n m) (ops : List (MOp F)) (ξs : List F)
    (hok : HistoryOk ck g γ β D m ops ξs) (πs : List (MProof F)) (rest : List F)
    (hp : proverRunM ck ops ξs = .ok (πs, rest)) :
    verifierRunM vk ops πs ξs = .ok (true, rest) :=
  marlin_mixed_history_lockstep_bounded hwf ops ξs (historyOk_imp_historyOkB ck g γ β D m ops ξs hok) πs rest hp

/-! non-vacuity over `ZMod 101` (keys `C01.exCK`/`C01.exVK`: `g = 3`, `γ = 5`, `β = 2`, `D = 3`, blinding
length `m = 3`): the history `open ; open_combinations ; batch_open` in which the `open_combinations` is
the one of `C06.exBTrips`/`C06.exBLCs` — the combination `c = 1 · p` names the degree-bounded HIDING
polynomial `p`, next to a two-term combination of unbounded polynomials -/
def exHistoryB : List (MOp K) :=
  [.single (C01.exBatch.take 1) 5,
   .comb C06.exBTrips C06.exBLCs C06.exBQueries C06.exBEvals [29],
   .batch C01.exBatch C01.exQueries
     [(([97], 5), evalPoly [1, 2, 3] 5), (([98], 5), evalPoly [4, 0, 1] 5), (([98], 9), evalPoly [4, 0, 1] 9)] [3]]

/-- `HistoryOk` does not cover this history (`p` is bounded) … -/
example : ¬ HistoryOk C01.exCK (3 : K) 5 2 3 3 exHistoryB [7, 11, 13, 17, 19, 23, 31, 37, 41, 43, 47] := by
  intro h
  have hs1 : proverStep C01.exCK (.single (C01.exBatch.take 1) 5) [7, 11, 13, 17, 19, 23, 31, 37, 41, 43, 47]
      = .ok (.one ⟨79, none⟩, [11, 13, 17, 19, 23, 31, 37, 41, 43, 47]) := by decide +kernel
  simp only [exHistoryB, HistoryOk, hs1] at h
  have := (h.2.1.1 _ (List.mem_cons_self)).1.2
  exact absurd this (by decide +kernel)

/-- … `HistoryOkB` holds: every hypothesis of `marlin_mixed_history_lockstep_bounded` is satisfiable on a
history with a bounded single-term combination -/
theorem exHistoryB_ok :
    HistoryOkB C01.exCK (3 : K) 5 2 3 3 exHistoryB [7, 11, 13, 17, 19, 23, 31, 37, 41, 43, 47] := by
  decide +kernel

/-- the theorem applied: the keys are the ones `trim` makes (`C01.exCK`/`C01.exVK`, `WF` by `trim_wf`) -/
example (πs : List (MProof K)) (rest : List K)
    (hp : proverRunM C01.exCK exHistoryB [7, 11, 13, 17, 19, 23, 31, 37, 41, 43, 47] = .ok (πs, rest)) :
    verifierRunM C01.exVK exHistoryB πs [7, 11, 13, 17, 19, 23, 31, 37, 41, 43, 47] = .ok (true, rest) :=
  marlin_mixed_history_lockstep_bounded
    (trim_wf (3 : K) 5 2 7 3 3 1 (some [2]) C01.exCK C01.exVK (by decide +kernel)).1
    exHistoryB _ exHistoryB_ok πs rest hp

/-- and the history runs through: the prover answers, the verifier accepts every proof (the second one
opens the bounded combination) and both are left with `[43, 47]` -/
example : ∃ πs rest, proverRunM C01.exCK exHistoryB [7, 11, 13, 17, 19, 23, 31, 37, 41, 43, 47] = .ok (πs, rest) ∧
    verifierRunM C01.exVK exHistoryB πs [7, 11, 13, 17, 19, 23, 31, 37, 41, 43, 47] = .ok (true, rest) ∧
    rest = [43, 47] := by
  exact ⟨[.one ⟨79, none⟩, .many [⟨10, some 14⟩, ⟨6, some 84⟩], .many [⟨88, none⟩, ⟨40, none⟩]], [43, 47],
    by decide +kernel⟩

end PCV.C11
