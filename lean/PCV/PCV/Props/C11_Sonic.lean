/-
  Property C11 — prover/verifier transcripts stay in lock-step; proofs are bound to them, SonicKZG10.
  Sonic's prover and verifier only SQUEEZE challenges (`1 + n` per `open` / `check`, the same per point
  label of a batch, of a combination batch), so the transcript is the list of challenges: lock-step =
  both sides consume the same prefix of the stream and leave the same remainder after every operation
  of a history of `open` / `batch_open` / `open_combinations`.
  Only property theorems live here; lemmas are in PCV/Proofs/SonicHistory.lean.
-/
import PCV.Proofs.SonicLCExamples

namespace PCV.C11
open PCV PCV.Sonic
open PCV.Marlin (Label LPoly Query groupQueries lookupLast lookupEval)
variable {F : Type} [Field F] [DecidableEq F]

/-- **The squeeze schedule of `open`**: whatever it is given, an answered `open` leaves the stream
without its first `1 + n` challenges (`n` polynomials zipped with states). -/
theorem sonic_open_schedule (ck : CK F) (ps : List (LPoly F)) (z : F) (sts : List (List F))
    (ξs : List F) (π : KZG.Proof F) (rest : List F)
    (h : Sonic.open ck ps z sts ξs = .ok (π, rest)) :
    rest = ξs.drop (min ps.length sts.length + 1) := by
  obtain ⟨P, R, hloop, _⟩ := open_ok_inv ck ps z sts ξs π rest h
  exact openLoop_rest hloop

/-- **The squeeze schedule of `check`**: accepted or rejected, for any (even malformed) statement and
proof, `check` leaves the stream without its first `1 + n` challenges (`n` commitments zipped with
values) — the verifier's consumption never depends on the proof. -/
theorem sonic_check_schedule (vk : VK F) (cs : List (LComm F)) (z : F) (vs : List F)
    (π : KZG.Proof F) (ξs : List F) (b : Bool) (rest : List F)
    (h : check vk cs z vs π ξs = .ok (b, rest)) :
    rest = ξs.drop (min cs.length vs.length + 1) := by
  rw [check_eq] at h
  cases hr : restOf cs vs ξs with
  | none => rw [hr] at h; cases h
  | some r =>
    rw [hr] at h
    dsimp only at h
    split at h
    · cases h; exact restOf_drop hr
    · cases h

/-- **`open` / `check` in lock-step**: the verifier accepts the honest proof for the true values and
returns the very list of unused challenges the prover returned. -/
theorem sonic_open_check_lockstep (g γ β bi h : F) (hb : β * bi = 1) (D s shb : Nat)
    (bounds : Option (List Nat)) (ck : CK F) (vk : VK F)
    (ht : trim (wfPP g γ β bi h D) s shb bounds = .ok (ck, vk))
    (ps : List (LPoly F)) (rng : Bool) (draws : List F) (cs : List (LComm F)) (rs : List (List F))
    (drest : List F) (hc : commit ck ps rng draws = .ok (cs, rs, drest))
    (z : F) (ξs : List F) (π : KZG.Proof F) (rest : List F)
    (ho : Sonic.open ck ps z rs ξs = .ok (π, rest)) :
    check vk cs z (ps.map fun p => evalPoly p.poly z) π ξs = .ok (true, rest) :=
  open_check_complete g γ β bi h D s shb bounds ck vk ht cs ps rs
    (commit_honest g γ β bi h hb D s shb bounds ck vk ht ps rng draws cs rs drest hc) z ξs π rest ho

/-- **`batch_open` / `batch_check` in lock-step**: accepted for every randomizer list, and the
verifier's stream ends where the prover's does. -/
theorem sonic_batch_lockstep (g γ β bi h : F) (hb : β * bi = 1) (D s shb : Nat)
    (bounds : Option (List Nat)) (ck : CK F) (vk : VK F)
    (ht : trim (wfPP g γ β bi h D) s shb bounds = .ok (ck, vk))
    (ps : List (LPoly F)) (rng : Bool) (draws : List F) (cs : List (LComm F)) (rs : List (List F))
    (drest : List F) (hc : commit ck ps rng draws = .ok (cs, rs, drest))
    (qs : List (Query F)) (evals : List ((Label × F) × F))
    (hev : ∀ gr ∈ groupQueries qs, ∀ l ∈ gr.2.2, ∀ x,
      lookupLast (fun (x : LPoly F × List F) => x.1.label) l (ps.zip rs) = some x →
      lookupEval evals l gr.2.1 = some (evalPoly x.1.poly gr.2.1))
    (ξs : List F) (πs : List (KZG.Proof F)) (rest : List F)
    (ho : batchOpen ck ps rs qs ξs = .ok (πs, rest)) (vrs : List F) :
    batchCheckT vk cs qs evals πs ξs vrs = .ok (true, rest) :=
  batchCheckT_complete ht
    (commit_honest g γ β bi h hb D s shb bounds ck vk ht ps rng draws cs rs drest hc)
    (commit_labels ck ps rng draws cs rs drest hc) hev ho vrs

/-- the stream-returning forms of the batch verifiers make the decisions of the plain forms -/
theorem sonic_threaded_decisions (vk : VK F) (comms : List (LComm F)) (lcs : List (LC.LinComb F))
    (qs : List (Query F)) (evals : List ((Label × F) × F)) (πs : List (KZG.Proof F)) (ξs rs : List F) :
    batchCheck vk comms qs evals πs ξs rs = (batchCheckT vk comms qs evals πs ξs rs).map (·.1) ∧
    checkCombinations vk comms lcs qs evals πs ξs rs
      = (checkCombinationsT vk comms lcs qs evals πs ξs rs).map (·.1) :=
  ⟨batchCheckT_fst vk comms qs evals πs ξs rs, checkCombinationsT_fst vk comms lcs qs evals πs ξs rs⟩

/-- **`open_combinations` / `check_combinations` in lock-step.** -/
theorem sonic_lc_lockstep (g γ β bi h : F) (hb : β * bi = 1) (D s shb : Nat)
    (bounds : Option (List Nat)) (ck : CK F) (vk : VK F)
    (ht : trim (wfPP g γ β bi h D) s shb bounds = .ok (ck, vk))
    (ps : List (LPoly F)) (rng : Bool) (draws : List F) (cs : List (LComm F)) (rs : List (List F))
    (drest : List F) (hc : commit ck ps rng draws = .ok (cs, rs, drest))
    (lcs : List (LC.LinComb F)) (qs : List (Query F)) (evals : List ((Label × F) × F))
    (hev : ∀ gr ∈ groupQueries qs, ∀ l ∈ gr.2.2, ∀ lc,
      lookupLast (fun (lc : LC.LinComb F) => lc.label) l lcs = some lc →
      lookupEval evals l gr.2.1
        = some (lcPolyValue (labelMap ps rs cs) gr.2.1 lc.terms + constSum lcs l))
    (ξs : List F) (πs : List (KZG.Proof F)) (rest : List F)
    (ho : openCombinations ck ps rs cs lcs qs ξs = .ok (πs, rest)) (vrs : List F) :
    checkCombinationsT vk cs lcs qs evals πs ξs vrs = .ok (true, rest) :=
  lc_complete hb ht hc hev ho vrs

/-- **Lock-step over any history.**  For every sequence of `open` (of honest triples), `batch_open`
and `open_combinations` operations with true claims on one challenge stream: if the prover answers
them all, the verifier — running the corresponding checks in the same order on an identically
initialised stream, with ANY randomizers — accepts every proof and ends with exactly the prover's
remaining stream. -/
theorem sonic_history_lockstep (g γ β bi h : F) (hb : β * bi = 1) (D s shb : Nat)
    (bounds : Option (List Nat)) (ck : CK F) (vk : VK F)
    (ht : trim (wfPP g γ β bi h D) s shb bounds = .ok (ck, vk))
    (ps : List (LPoly F)) (rng : Bool) (draws : List F) (cs : List (LComm F)) (rs : List (List F))
    (drest : List F) (hc : commit ck ps rng draws = .ok (cs, rs, drest))
    (ops : List (Op F)) (htrue : ∀ op ∈ ops, Truthful ck vk g γ β h s shb ps rs cs op)
    (ξs : List F) (πss : List (List (KZG.Proof F))) (rest : List F)
    (hp : proverRun ck ps rs cs ops ξs = .ok (πss, rest)) (vrss : List (List F)) :
    verifierRun vk cs ops πss vrss ξs = .ok (true, rest) := by
  have hh := commit_honest g γ β bi h hb D s shb bounds ck vk ht ps rng draws cs rs drest hc
  have hl := commit_labels ck ps rng draws cs rs drest hc
  fun_induction proverRun ck ps rs cs ops ξs generalizing πss rest vrss with
  | case1 => cases hp; rfl
  | case2 | case3 => cases hp
  | case4 op ops ξs πs ξs' hop πss' rest' hrec ih =>
    cases hp
    have hrest := ih (fun op' hop' => htrue op' (List.mem_cons_of_mem _ hop')) πss' rest' hrec vrss.tail
    -- the check belonging to the first operation accepts and leaves the prover's stream
    have hop1 : verifyOp vk cs op πs (vrss.headD []) ξs = .ok (true, ξs') := by
      have ht1 := htrue op (List.mem_cons_self ..)
      cases op with
      | single l z =>
        dsimp only at hop
        split at hop
        · cases hop
        next π r hopen =>
          cases hop
          have := open_check_complete g γ β bi h D s shb bounds ck vk ht _ _ _ ht1 z ξs π _ hopen
          rwa [List.map_map] at this
      | batch qs evals => exact batchCheckT_complete ht hh hl ht1 hop _
      | comb lcs qs evals => exact lc_complete hb ht hc ht1 hop _
    simp only [verifierRun, hop1, hrest, Bool.and_self]

/-- **A proof is bound to the challenges it was made under.**  The honest proof for `(ps, z)` made
under the challenges `ξs`, verified — same commitments, same true values — under the challenges
`ξs'` of another sponge state or another position of a history, is accepted iff
`h·(T(ξs') − T(ξs)) = 0`, `T(ξ) = Σⱼ ξⱼ·(g·(pⱼ(β) − pⱼ(z)) + γ·rⱼ(β))`. -/
theorem sonic_displaced_iff (g γ β bi h : F) (hb : β * bi = 1) (D s shb : Nat)
    (bounds : Option (List Nat)) (ck : CK F) (vk : VK F)
    (ht : trim (wfPP g γ β bi h D) s shb bounds = .ok (ck, vk))
    (ps : List (LPoly F)) (rng : Bool) (draws : List F) (cs : List (LComm F)) (rs : List (List F))
    (drest : List F) (hc : commit ck ps rng draws = .ok (cs, rs, drest))
    (z : F) (ξs : List F) (π : KZG.Proof F) (rest : List F)
    (ho : Sonic.open ck ps z rs ξs = .ok (π, rest))
    (ξs' rest' : List F) (hr : restOf cs (ps.map fun p => evalPoly p.poly z) ξs' = some rest') :
    check vk cs z (ps.map fun p => evalPoly p.poly z) π ξs' = .ok (true, rest') ↔
      h * (dispT g γ β z ps rs ξs' - dispT g γ β z ps rs ξs) = 0 :=
  displaced_iff ht
    (commit_honest g γ β bi h hb D s shb bounds ck vk ht ps rng draws cs rs drest hc) ho hr

set_option linter.unusedVariables false in
/-- **One non-hiding polynomial, displaced**: made under `ξ`, verified under `ξ' ≠ ξ`, never accepted
unless the trapdoor is a root of `p(X) − p(z)` — impossible for a constant `p` only, where the claim
is transcript-independent. -/
theorem sonic_displaced_rejected (g γ β bi h : F) (hb : β * bi = 1) (D s shb : Nat)
    (bounds : Option (List Nat)) (ck : CK F) (vk : VK F)
    (ht : trim (wfPP g γ β bi h D) s shb bounds = .ok (ck, vk))
    (c : LComm F) (p : LPoly F) (hh : Honest ck vk g γ β h s shb [c] [p] [[]])
    (z ξ ξ' : F) (ξs ξs' : List F) (π : KZG.Proof F) (rest : List F)
    (ho : Sonic.open ck [p] z [[]] (ξ :: ξs) = .ok (π, rest))
    (hg : g ≠ 0) (hh0 : h ≠ 0) (hξ : ξ' ≠ ξ) (hp : evalPoly p.poly β ≠ evalPoly p.poly z)
    (ξ2 : F) (rest' : List F) :
    check vk [c] z [evalPoly p.poly z] π (ξ' :: ξ2 :: ξs') ≠ .ok (true, rest') := by
  intro hacc
  have h0 := (displaced_iff ht hh ho ((check_true_iff ..).1 hacc).1).1 hacc
  -- `h ≠ 0`, so `T(ξ' ∷ _) = T(ξ ∷ _)`; for one polynomial without hiding that is
  -- `ξ'·(g·(p(β) − p(z))) = ξ·(g·(p(β) − p(z)))`
  have h1 := sub_eq_zero.1 ((mul_eq_zero.1 h0).resolve_left hh0)
  simp only [dispT, evalPoly_nil, mul_zero, add_zero] at h1
  exact hξ (mul_right_cancel₀ (mul_ne_zero hg (sub_ne_zero.2 hp)) h1)

/-! ### non-vacuity (K = ZMod 101) -/

/-- a three-operation history (combination opening, plain opening, batch opening) on one stream: the
prover consumes 9 + 3 + 5 challenges … -/
example : proverRun Ex.ck Ex.polys Ex.rands Ex.comms ExLC.ops ExLC.stream
    = .ok (ExLC.histProofs, [79, 83]) := ExLC.prover_eq
/-- … and the verifier, replaying, accepts everything and is left with the same two -/
example : verifierRun Ex.vk Ex.comms ExLC.ops ExLC.histProofs [[7, 8], [], [9]] ExLC.stream
    = .ok (true, [79, 83]) := ExLC.verifier_eq
/-- every operation of that history is truthful (the hypothesis `htrue` of `sonic_history_lockstep`):
the plain opening is over honest triples, the claimed evaluations / combination values are the true ones -/
example : ∀ op ∈ ExLC.ops, Truthful Ex.ck Ex.vk (3 : K) 5 2 7 3 1 Ex.polys Ex.rands Ex.comms op := by
  have hh := ExLC.honest
  intro op hop
  simp only [ExLC.ops, List.mem_cons, List.not_mem_nil, or_false] at hop
  rcases hop with rfl | rfl | rfl
  · exact ExLC.claims_true
  · -- the plain opening of the first two committed polynomials
    exact ⟨hh.1, hh.2.1, trivial⟩
  · -- the batch opening
    decide +kernel
/-- the proof of the second operation verified first (other challenges) is rejected; the verifier
still squeezes its `1 + 2` challenges -/
example : verifyOp Ex.vk Ex.comms (.single (ExLC.trips.take 2) 6) [⟨2, some 37⟩] [] ExLC.stream
    = .ok (false, ExLC.stream.drop 3) := by decide +kernel
/-- the single-operation schedule on the transcript of C01's example: 1 + 3 challenges -/
example : Sonic.open Ex.ck Ex.polys 5 Ex.rands Ex.xis = .ok (Ex.proof, Ex.xis.drop 4) ∧
    check Ex.vk Ex.comms 5 Ex.vals Ex.proof Ex.xis = .ok (true, Ex.xis.drop 4) := by decide +kernel

/-- the hypotheses of `sonic_displaced_rejected` on a concrete instance: the unbounded non-hiding
`p1 = 4 + X²` of the example, its commitment `24`, a proof made under `ξ = 11`; verified under
`ξ' = 13` it is rejected -/
example : Honest Ex.ck Ex.vk (3 : K) 5 2 7 3 1 [⟨[112, 49], 24, none⟩]
    [⟨[112, 49], [4, 0, 1], none, none⟩] [[]] :=
  ⟨⟨rfl, ⟨7, by decide +kernel, by decide +kernel⟩, by decide +kernel, by decide +kernel,
    by decide +kernel⟩, trivial⟩
example : Sonic.open Ex.ck [⟨[112, 49], [4, 0, 1], none, none⟩] 5 [[]] [11, 13] = .ok (⟨29, none⟩, []) ∧
    (3 : K) ≠ 0 ∧ (7 : K) ≠ 0 ∧ (13 : K) ≠ 11 ∧ evalPoly ([4, 0, 1] : List K) 2 ≠ evalPoly [4, 0, 1] 5 ∧
    check Ex.vk [⟨[112, 49], 24, none⟩] 5 [evalPoly [4, 0, 1] 5] ⟨29, none⟩ [13, 17, 19]
      = .ok (false, [19]) ∧
    check Ex.vk [⟨[112, 49], 24, none⟩] 5 [evalPoly [4, 0, 1] 5] ⟨29, none⟩ [11, 17, 19]
      = .ok (true, [19]) := by decide +kernel

end PCV.C11
