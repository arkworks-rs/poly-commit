/-
  Property C12 — serialization: every artefact round-trips through canonical serialization, the
  reported size is the number of bytes written, truncated input is an error.
  Only property theorems live here; the lemmas are in PCV/Proofs/Codec.lean, the model in
  PCV/Model/Codec.lean, the field lists of the hand-written impls in PCV/Generated/SerSchemas.lean
  (regenerated from the Rust source by translators/ser_schema.py on every `./check C12`).

  Trusted (hypotheses `Good (fc f) (fd f)` below): the primitive encodings of `ark-serialize`
  (curve points, field elements) and the derive macro (a derived impl is the `seq` of its fields in
  declaration order).  `usize`, tuples, `Vec`/`BTreeMap`, `Option` and the hand-written structs are
  proved.
-/
import PCV.Proofs.Codec
import PCV.Proofs.CodecExamples
import PCV.Generated.SerSchemas

namespace PCV.C12
open PCV PCV.Codec PCV.Schema

/-! ### What `Good` gives (the three clauses of the property, in its own words) -/

/-- `deser(ser x ‖ rest) = (x, rest)`: nothing is lost and exactly the bytes written are consumed. -/
theorem good_roundtrip {α : Type} {c : Codec α} {D : α → Prop} (h : Good c D) (a : α) (ha : D a)
    (rest : List Nat) : c.dec (c.enc a ++ rest) = some (a, rest) :=
  h.rt a ha rest

/-- `ser(deser(ser x)) = ser x`. -/
theorem good_reserialize {α : Type} {c : Codec α} {D : α → Prop} (h : Good c D) (a : α) (ha : D a)
    (y : α) (r : List Nat) (hy : c.dec (c.enc a) = some (y, r)) : c.enc y = c.enc a := by
  rw [← List.append_nil (c.enc a), h.rt a ha []] at hy
  cases hy
  rfl

/-- `serialized_size` is the number of bytes written. -/
theorem good_size {α : Type} {c : Codec α} {D : α → Prop} (h : Good c D) (a : α) (ha : D a) :
    (c.enc a).length = c.size a :=
  h.len a ha

/-- every proper prefix of an encoding is refused -/
theorem good_prefix_fails {α : Type} {c : Codec α} {D : α → Prop} (h : Good c D) (a : α) (ha : D a)
    (l : List Nat) (hl : l <+: c.enc a) (hne : l ≠ c.enc a) : c.dec l = none := by
  obtain ⟨t, ht⟩ := hl
  exact h.pf a ha l t (fun h0 => hne (by rw [← ht, h0, List.append_nil])) ht

/-! ### The combinators preserve `Good` -/

/-- `usize` (8 bytes little endian) on values below `2^64` -/
theorem usize_good : Good usize (fun n => n < 2 ^ 64) :=
  fixedWidth_good 8 (leBytes 8) leVal (fun _ => 8) _ (fun n _ => leBytes_length 8 n)
    (fun n hn => by rw [leVal_leBytes]; exact Nat.mod_eq_of_lt hn) (fun _ _ => rfl)

/-- tuples / consecutive fields -/
theorem seq_good {α β : Type} {a : Codec α} {b : Codec β} {Da : α → Prop} {Db : β → Prop}
    (ha : Good a Da) (hb : Good b Db) : Good (seq a b) (fun x => Da x.1 ∧ Db x.2) where
  rt x hx rest := by
    simp only [seq, List.append_assoc, ha.rt x.1 hx.1, hb.rt x.2 hx.2]
  len x hx := by
    simp only [seq, List.length_append, ha.len x.1 hx.1, hb.len x.2 hx.2]
  pf x hx l t ht h := by
    rcases ha.dec_prefix hx.1 h with h1 | ⟨bs, h1, h2⟩
    · simp only [seq, h1]
    · simp only [seq, h1, hb.pf x.2 hx.2 bs t ht h2]

theorem pair_good {α β : Type} {a : Codec α} {b : Codec β} {Da : α → Prop} {Db : β → Prop}
    (ha : Good a Da) (hb : Good b Db) : Good (pair a b) (fun x => Da x.1 ∧ Db x.2) :=
  seq_good ha hb

/-- `Vec<T>` with its `u64` length prefix -/
theorem vec_good {α : Type} {c : Codec α} {D : α → Prop} (h : Good c D) :
    Good (vec c) (fun xs => xs.length < 2 ^ 64 ∧ ∀ x ∈ xs, D x) where
  rt xs hx rest := by
    have h1 : usize.dec (leBytes 8 xs.length ++ (encAll c xs ++ rest)) = _ :=
      usize_good.rt xs.length hx.1 _
    simp only [vec, List.append_assoc, h1, decN_encAll h xs hx.2 rest]
  len xs hx := by
    simp only [vec, List.length_append, leBytes_length, encAll_length h xs hx.2]
  pf xs hx l t ht hl := by
    rcases usize_good.dec_prefix hx.1 hl with h1 | ⟨bs, h1, h2⟩
    · simp only [vec, h1]
    · simp only [vec, h1, decN_prefix h xs hx.2 ht h2]

/-- `BTreeMap<K,V>` as the list of its entries -/
theorem btreeMap_good {κ ν : Type} {k : Codec κ} {v : Codec ν} {Dk : κ → Prop} {Dv : ν → Prop}
    (hk : Good k Dk) (hv : Good v Dv) :
    Good (btreeMap k v) (fun m => m.length < 2 ^ 64 ∧ ∀ e ∈ m, Dk e.1 ∧ Dv e.2) :=
  vec_good (pair_good hk hv)

/-- `Option<T>` with its tag byte -/
theorem option_good {α : Type} {c : Codec α} {D : α → Prop} (h : Good c D) :
    Good (option c) (fun o => ∀ x, o = some x → D x) where
  rt o ho rest := by
    cases o with
    | none => simp [option, optEnc, optDec]
    | some x => simp [option, optEnc, optDec, h.rt x (ho x rfl)]
  len o ho := by
    cases o with
    | none => rfl
    | some x =>
      simp only [option, optEnc, optSize, List.length_cons, h.len x (ho x rfl)]
      exact Nat.add_comm _ _
  pf o ho l t ht hl := by
    cases l with
    | nil => rfl
    | cons b l' =>
      cases o with
      | none =>
        simp only [option, optEnc, List.cons_append, List.cons.injEq, List.append_eq_nil_iff] at hl
        exact absurd hl.2.2 ht
      | some x =>
        simp only [option, optEnc, List.cons_append, List.cons.injEq] at hl
        obtain ⟨rfl, hl'⟩ := hl
        simp [option, optDec, h.pf x (ho x rfl) l' t ht hl']

/-- a struct serialized through an isomorphic tuple (derived impls) -/
theorem map_good {α β : Type} {c : Codec α} {D : α → Prop} (h : Good c D) (f : α → β) (g : β → α) :
    Good (map c f g) (fun b => D (g b) ∧ f (g b) = b) where
  rt b hb rest := by
    simp only [map, h.rt (g b) hb.1, hb.2]
  len b hb := h.len (g b) hb.1
  pf b hb l t ht hl := by
    simp only [map, h.pf (g b) hb.1 l t ht hl]

/-- `Validate::Yes` keeps all three facts on the values that pass `check` … -/
theorem validated_good {α : Type} {c : Codec α} {D : α → Prop} (h : Good c D) (chk : α → Bool) :
    Good (guard c chk) (fun a => D a ∧ chk a = true) where
  rt a ha rest := by
    simp only [Codec.guard, h.rt a ha.1, ha.2, if_true]
  len a ha := h.len a ha.1
  pf a ha l t ht hl := by
    simp only [Codec.guard, h.pf a ha.1 l t ht hl]

/-- … and whatever it accepts, `Validate::No` accepts with the same value. -/
theorem validated_agrees {α : Type} (c : Codec α) (chk : α → Bool) (l : List Nat) (a : α)
    (r : List Nat) (h : (guard c chk).dec l = some (a, r)) : c.dec l = some (a, r) ∧ chk a = true := by
  simp only [Codec.guard] at h
  split at h
  · cases h
  · next hd =>
    split at h
    · next hc => cases h; exact ⟨hd, hc⟩
    · cases h

/-- The one composite field type of the hand-written impls,
`sonic_pc::VerifierKey::degree_bounds_and_neg_powers_of_h : Option<Vec<(usize, G2Affine)>>`,
is good as soon as the point encoding is. -/
theorem sonic_bounds_field_good {G2 : Type} {g2 : Codec G2} {D : G2 → Prop} (h : Good g2 D) :
    Good (option (vec (pair usize g2)))
      (fun o => ∀ v, o = some v → v.length < 2 ^ 64 ∧ ∀ e ∈ v, e.1 < 2 ^ 64 ∧ D e.2) :=
  option_good (vec_good (pair_good usize_good h))

/-! ### Hand-written impls -/

/-- **Struct-level theorem.**  A hand-written impl is given by the fields `serialize_with_mode`
writes (in order), the locals `deserialize_with_mode` reads (in order) with the field each
initialises, the fields `serialized_size` sums, and for each prepared field the local it is rebuilt
from.  If these lists agree (`SchemaOK`, decidable) then for any good field codecs the impl's codec
round-trips, reports its length, and refuses proper prefixes, on every well-formed record (`WF`:
exactly the declared fields, field values in the domains of their codecs, `prepared_X = prep X`). -/
theorem roundtrip_of_schema_agree {V : Type} [Inhabited V] (s : Schema) (hok : s.SchemaOK = true)
    (fc : String → Codec V) (fd : String → V → Prop) (prep : String → V → V)
    (hfc : ∀ f ∈ s.written, Good (fc f) (fd f)) :
    Good (s.structCodec fc prep) (s.WF fd prep) := by
  have ok := okProps_of_schemaOK s hok
  have hg : ∀ x, s.WF fd prep x →
      ∀ r ∈ s.read, Good (fc r.field) (fd r.field) ∧ fd r.field (x.get r.field) := by
    intro x hx r hr
    exact ⟨hfc _ (ok.read_written hr), hx.2.1 _ (ok.read_written hr)⟩
  refine ⟨?_, ?_, ?_⟩
  · intro x hx rest
    simp only [structCodec, ← ok.readWritten, decFields_enc s.read (hg x hx) rest, build_eq ok hx]
  · intro x hx
    simp only [structCodec]
    rw [sizeFields_perm fc x ok.sizedPerm]
    exact encFields_length s.written fun f hf => ⟨hfc f hf, hx.2.1 f hf⟩
  · intro x hx l t ht hl
    simp only [structCodec] at hl ⊢
    rw [← ok.readWritten] at hl
    rw [decFields_prefix s.read (hg x hx) ht hl]

/-- The lists extracted from the current Rust source satisfy the side condition.  (Swapping two
reads in a deserializer, dropping a summand of `serialized_size`, or rebuilding `prepared_beta_h`
from `h` makes this `decide` fail — see the mutants below.) -/
theorem generated_schemas_ok : ∀ s ∈ Generated.SerSchemas.all, s.2.SchemaOK = true := by
  decide +kernel

/-- **Corollary: every hand-written impl of the crate** (`kzg10::{UniversalParams, Powers,
VerifierKey}`, `sonic_pc::VerifierKey`, `marlin_pst13_pc::{UniversalParams, VerifierKey}` — whatever
T1 found) round-trips, reports its length and refuses truncated input, given that the encodings of
its fields do. -/
theorem generated_roundtrip {V : Type} [Inhabited V] (s : String × Schema)
    (hs : s ∈ Generated.SerSchemas.all) (fc : String → Codec V) (fd : String → V → Prop)
    (prep : String → V → V) (hfc : ∀ f ∈ s.2.written, Good (fc f) (fd f)) :
    Good (s.2.structCodec fc prep) (s.2.WF fd prep) :=
  roundtrip_of_schema_agree s.2 (generated_schemas_ok s hs) fc fd prep hfc

/-- … and with `Validate::Yes` on records whose checked fields pass. -/
theorem generated_roundtrip_validated {V : Type} [Inhabited V] (s : String × Schema)
    (hs : s ∈ Generated.SerSchemas.all) (fc : String → Codec V) (fd : String → V → Prop)
    (prep : String → V → V) (chk : String → V → Bool)
    (hfc : ∀ f ∈ s.2.written, Good (fc f) (fd f)) :
    Good (s.2.structCodecV fc prep chk)
      (fun x => s.2.WF fd prep x ∧ s.2.checkAll chk x = true) :=
  validated_good (generated_roundtrip s hs fc fd prep hfc) (s.2.checkAll chk)

/-! ### Non-vacuity: concrete instances, and mutants the side condition rejects
(the fixed example schema `Ex.vkSchema` and its mutants are in `PCV/Proofs/CodecExamples.lean`, so
that a legitimate change of the Rust structs does not disturb these examples) -/
section Examples
open Ex

-- the hypotheses of `roundtrip_of_schema_agree` are satisfiable: schema, field codecs, record
example : vkSchema.SchemaOK = true := by decide +kernel
example : vkSchema.ValidateOK = true := by decide +kernel
example : ∀ f ∈ vkSchema.written, Good (fc2 f) (fun v => v.length = 2) :=
  fun _ _ => raw_good 2
example : vkSchema.WF (fun _ v => v.length = 2) prep2 vk0 := vk0_wf
-- … and the conclusion evaluated on it
example : (vkSchema.structCodec fc2 prep2).enc vk0 = [1, 2, 3, 4, 5, 6, 7, 8] := by decide +kernel
example : (vkSchema.structCodec fc2 prep2).dec ([1, 2, 3, 4, 5, 6, 7, 8] ++ [9, 9])
    = some (vk0, [9, 9]) := by decide +kernel
example : (vkSchema.structCodec fc2 prep2).size vk0 = 8 := by decide +kernel
example : (vkSchema.structCodec fc2 prep2).dec [1, 2, 3, 4, 5, 6, 7] = none := by decide +kernel

-- mutant 1: the deserializer reads `gamma_g` before `g`
example : vkSwapped.SchemaOK = false := by decide +kernel
example : (vkSwapped.structCodec fc2 prep2).dec ((vkSwapped.structCodec fc2 prep2).enc vk0)
    ≠ some (vk0, []) := by decide +kernel
-- mutant 2: `serialized_size` forgets `beta_h`
example : vkShortSize.SchemaOK = false := by decide +kernel
example : ((vkShortSize.structCodec fc2 prep2).enc vk0).length
    ≠ (vkShortSize.structCodec fc2 prep2).size vk0 := by decide +kernel
-- mutant 3: `prepared_beta_h` is rebuilt from `h`
example : vkWrongPrep.SchemaOK = false := by decide +kernel
example : (vkWrongPrep.structCodec fc2 prep2).dec ((vkWrongPrep.structCodec fc2 prep2).enc vk0)
    ≠ some (vk0, []) := by decide +kernel
-- mutant 4: a field is not written at all; mutant 5: a checked field is no longer checked
example : vkDropped.SchemaOK = false := by decide +kernel
example : vkUnchecked.SchemaOK = true ∧ vkUnchecked.ValidateOK = false := by decide +kernel

-- the combinators on concrete values: `Option<Vec<(usize, u64)>>` as in the Sonic verifier key
example : (option (vec (pair usize usize))).enc (some [(2, 258)])
    = [1, 1, 0, 0, 0, 0, 0, 0, 0, 2, 0, 0, 0, 0, 0, 0, 0, 2, 1, 0, 0, 0, 0, 0, 0] := by
  decide +kernel
example : (option (vec (pair usize usize))).dec
    ([1, 1, 0, 0, 0, 0, 0, 0, 0, 2, 0, 0, 0, 0, 0, 0, 0, 2, 1, 0, 0, 0, 0, 0, 0] ++ [7])
    = some (some [(2, 258)], [7]) := by decide +kernel
example : (option (vec (pair usize usize))).dec
    [1, 1, 0, 0, 0, 0, 0, 0, 0, 2, 0, 0, 0, 0, 0, 0, 0, 2, 1, 0, 0, 0, 0, 0] = none := by
  decide +kernel
example : (option (vec (pair usize usize))).size (some [(2, 258)]) = 25 := by decide +kernel
example : (option usize).dec [2, 0, 0, 0, 0, 0, 0, 0, 0] = none := by decide +kernel
example : (vec usize).dec [] = none := by decide +kernel

end Examples
end PCV.C12
