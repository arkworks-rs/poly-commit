/-
  Property C13 — linear-code proofs carry the column openings their security level needs.
  Only property theorems live here; lemmas are in PCV/Proofs/{CalcT,RS,BrakedownEnc}.lean.

  Partial (by nature of the code, DESIGN §5 C13): `calculate_t` is IEEE-754 code which Lean does not
  model; the theorems below are about `tSpec`, the exact quantity it has to return, and
  "`calculate_t = tSpec`" is established by the correspondence run of this property (grid of
  (field, λ, d, n) points, plus exact big-integer evaluation of the bound at `t` and `t − 1`).
-/
import PCV.Proofs.CalcT
import PCV.Proofs.RS
import PCV.Proofs.BrakedownEnc
import PCV.Props.Examples

namespace PCV.C13
open PCV PCV.LinCode
variable {F : Type} [Field F]

/-! ### the number of opened columns -/

/-- The ℕ-inequality evaluated by the model is exactly the scheme's soundness bound
`2·(1 − d/2)^t + n/q ≤ 2^(−λ)` for the relative distance `d = d0/d1`. -/
theorem bound_is_soundness_bound (lam d0 d1 n q t : Nat) (hd : d0 ≤ 2 * d1) (hd1 : 0 < d1)
    (hq : 0 < q) :
    boundHolds lam d0 d1 n q t = true ↔
      (2 : ℚ) * (1 - ((d0 : ℚ) / d1) / 2) ^ t + (n : ℚ) / q ≤ 1 / 2 ^ lam :=
  boundHolds_iff_rat lam d0 d1 n q t hd hd1 hq

/-- More openings never hurt: the bound is monotone in `t`. -/
theorem bound_mono (lam d0 d1 n q : Nat) {t t' : Nat} (hle : t ≤ t')
    (h : boundHolds lam d0 d1 n q t = true) : boundHolds lam d0 d1 n q t' = true :=
  bound_mono_le hle h

/-- **`tSpec` is the smallest count for which the bound holds, capped at the codeword length.** -/
theorem tSpec_least (lam d0 d1 n q r : Nat) (hd0 : 0 < d0) (hd : d0 < 2 * d1) (hq : 0 < q) :
    tSpec lam d0 d1 n q = some r ↔
      ∃ t, r = min t n ∧ boundHolds lam d0 d1 n q t = true ∧
        ∀ k, k < t → boundHolds lam d0 d1 n q k = false :=
  tSpec_eq_some_iff hd0 hd hq

/-- `tSpec` refuses exactly when no number of openings reaches the security level … -/
theorem tSpec_none_iff (lam d0 d1 n q : Nat) (hd0 : 0 < d0) (hd : d0 < 2 * d1) (hq : 0 < q) :
    tSpec lam d0 d1 n q = none ↔ ∀ t, boundHolds lam d0 d1 n q t = false :=
  tSpec_eq_none_iff hd0 hd hq

/-- … which happens exactly when the field is too small for the codeword length and security
parameter: `n/q ≥ 2^(−λ)`. -/
theorem tSpec_exists_iff (lam d0 d1 n q : Nat) (hd0 : 0 < d0) (hd : d0 < 2 * d1) (hq : 0 < q) :
    (tSpec lam d0 d1 n q).isSome = true ↔ n * 2 ^ lam < q :=
  tSpec_isSome_iff hd0 hd hq

/-- the reported count never exceeds the codeword length -/
theorem tSpec_capped (lam d0 d1 n q r : Nat) (h : tSpec lam d0 d1 n q = some r) : r ≤ n := by
  obtain ⟨t, _, rfl⟩ := Option.map_eq_some_iff.1 h
  rw [capAt_eq_min]
  exact Nat.min_le_right _ _

/-- The search cap of the executable specification loses nothing: if the bound holds anywhere it
holds at `tCap`. -/
theorem search_cap_justified (lam d0 d1 n q t : Nat) (hd0 : 0 < d0) (hd : d0 < 2 * d1) (hq : 0 < q)
    (h : boundHolds lam d0 d1 n q t = true) : boundHolds lam d0 d1 n q (tCap lam d1 q) = true :=
  bound_at_cap hd0 hd hq h

/-- The driver's certified fast evaluation is the specification, whatever hint it is given. -/
theorem fast_evaluation_exact (lam d0 d1 n q hint : Nat) :
    tSpecFast lam d0 d1 n q hint = tSpec lam d0 d1 n q :=
  tSpecFast_eq lam d0 d1 n q hint

/-- The model of `calculate_t` returns `t` iff the distance is usable and `t = tSpec`; -/
theorem calcT_ok (lam d0 d1 n q hint t : Nat) :
    calcT lam d0 d1 n q hint = .ok t ↔
      distanceUsable d0 d1 = true ∧ tSpec lam d0 d1 n q = some t := by
  rw [calcT_eq]
  cases distanceUsable d0 d1 <;> cases tSpec lam d0 d1 n q <;> simp

/-- and **unusable parameter combinations are reported as errors** (`InvalidParameters`). -/
theorem calcT_unusable (lam d0 d1 n q hint : Nat) :
    (∃ e, calcT lam d0 d1 n q hint = .error e) ↔
      distanceUsable d0 d1 = false ∨ tSpec lam d0 d1 n q = none := by
  rw [calcT_eq]
  cases distanceUsable d0 d1 <;> cases tSpec lam d0 d1 n q <;> simp

theorem calcT_error_is_invalidParameters (lam d0 d1 n q hint : Nat) (e : Err)
    (h : calcT lam d0 d1 n q hint = .error e) : e = .invalidParameters := by
  rw [calcT_eq] at h
  split at h
  · split at h
    · cases h
    · cases h; rfl
  · cases h; rfl

/-! ### the positions -/

/-- every position derived from the transcript is inside the codeword -/
theorem indices_in_range (n : Nat) (hn : 0 < n) (squeezes : List (List Nat)) :
    ∀ i ∈ getIndices n squeezes, i < n :=
  getIndices_lt n hn squeezes

/-- **An opening authenticates exactly `t = tSpec` columns, at positions `< n_ext_cols` that are the
squeezed byte strings folded big-endian and reduced mod `n_ext_cols`.** -/
theorem opening_positions (lam d0 d1 nExt q hint : Nat) (sq : List (List Nat))
    (idx : List Nat) (rest : List (List Nat))
    (h : openedPositions lam d0 d1 nExt q hint sq = .ok (idx, rest)) :
    ∃ t, distanceUsable d0 d1 = true ∧ tSpec lam d0 d1 nExt q = some t ∧
      idx = getIndices nExt (sq.take t) ∧ rest = sq.drop t ∧
      (t ≤ sq.length → idx.length = t) ∧ (0 < nExt → ∀ i ∈ idx, i < nExt) := by
  unfold openedPositions at h
  split at h
  · cases h
  · next t hc =>
    cases h
    obtain ⟨hu, hs⟩ := (calcT_ok lam d0 d1 nExt q hint t).1 hc
    refine ⟨t, hu, hs, rfl, rfl, fun hle => ?_, fun hn => getIndices_lt nExt hn _⟩
    rw [getIndices_length, List.length_take, Nat.min_eq_left hle]

/-! ### the row encoding -/

/-- **Ligero (Reed–Solomon)**: `E(a·x + b·y) = a·E(x) + b·E(y)` for messages of equal length. -/
theorem rs_encode_linear (ω : F) (len : Nat) (a b : F) (x y : List F) (h : x.length = y.length) :
    rsEncode ω len (lc a x b y) = lc a (rsEncode ω len x) b (rsEncode ω len y) :=
  evalAt_lc _ a b h

/-- the Reed–Solomon codeword has the declared length and entry `j` is the message polynomial at `ωʲ` -/
theorem rs_encode_length (ω : F) (len : Nat) (msg : List F) : (rsEncode ω len msg).length = len :=
  rs_length ω len msg

theorem rs_encode_entry (ω : F) (len : Nat) (msg : List F) (j : Nat) (h : j < len) :
    (rsEncode ω len msg)[j]? = some (evalPoly msg (ω ^ j)) := by
  unfold rsEncode evalAt
  rw [List.getElem?_map, domainPts_get ω len j h]
  rfl

/-- **Brakedown**: the three-pass encoder is linear on the messages it accepts, -/
theorem brakedown_encode_linear (pp : BParams F) (a b : F) (x y cx cy : List F)
    (hx : encode pp x = .ok cx) (hy : encode pp y = .ok cy) :
    encode pp (lc a x b y) = .ok (lc a cx b cy) := by
  rw [encode_ok_iff] at hx hy ⊢
  obtain ⟨hx1, hs, rfl⟩ := hx
  obtain ⟨hy1, _, rfl⟩ := hy
  have hxy : x.length = y.length := by rw [hx1, hy1]
  exact ⟨by rw [lc_length_eq a b hxy, hx1], hs, ((lin_encodeCore pp) a b x y hxy).1.symm⟩

/-- every codeword has the declared length `m_ext`, -/
theorem brakedown_encode_length (pp : BParams F) (x cx : List F) (hx : encode pp x = .ok cx) :
    cx.length = pp.mExt := by
  obtain ⟨_, hs, rfl⟩ := (encode_ok_iff pp x cx).1 hx
  exact encodeCore_length pp x hs

/-- and a message of the wrong length is refused with `EncodingError`. -/
theorem brakedown_encode_refuses (pp : BParams F) (x : List F) (h : x.length ≠ pp.m) :
    encode pp x = .error .encodingError :=
  encode_wrong_length pp x h

/-! ### non-vacuity -/

-- λ = 2, d = 1/2, n = 20, q = 101: thirteen openings are needed, twelve do not suffice
example : boundHolds 2 1 2 20 101 13 = true ∧ boundHolds 2 1 2 20 101 12 = false := by
  decide +kernel
example : tSpec 2 1 2 20 101 = some 13 := by decide +kernel
-- the cap `min t n` is active for a short codeword, and a field that is too small is refused
example : tSpec 2 1 2 5 101 = some 5 := by decide +kernel
example : tSpec 5 1 2 20 101 = none := by decide +kernel
example : calcT 2 1 2 20 101 0 = .ok 13 := by decide +kernel
example : calcT 2 0 2 20 101 0 = .error .invalidParameters := by decide +kernel
example : calcT 2 4 2 20 101 0 = .error .invalidParameters := by decide +kernel
-- positions: two bytes per index for n = 1000
example : getNumBytes 1000 = 2 ∧ getIndices 1000 [[1, 2], [255, 255], [0, 0]] = [258, 535, 0] := by
  decide +kernel
example : openedPositions 2 1 2 20 101 0 (List.replicate 15 [7]) =
    .ok (List.replicate 13 7, List.replicate 2 [7]) := by decide +kernel
-- Reed–Solomon over `ZMod 101` with `ω = 10` of order 4
example : rsEncode (10 : K) 4 [1, 2] = [3, 21, 100, 82] := by decide +kernel
example : rsEncode (10 : K) 4 (lc 5 [1, 2] 7 [3, 4]) =
    lc 5 (rsEncode (10 : K) 4 [1, 2]) 7 (rsEncode (10 : K) 4 [3, 4]) := by decide +kernel
-- a one-level Brakedown code (`toyParams`): `m = 2`, `A : 2×1`, base code of length 2, `B : 2×1`
example : shapeOk (toyParams K) = true := by decide +kernel
example : encode (toyParams K) [1, 2] = .ok [1, 2, 11, 11, 33] := by decide +kernel
example : encode (toyParams K) [1, 2, 3] = .error .encodingError := by decide +kernel
example : encode (toyParams K) (lc 5 [1, 2] 7 [3, 4]) = .ok (lc 5 [1, 2, 11, 11, 33] 7 [3, 4, 25, 25, 75]) := by
  decide +kernel

end PCV.C13
