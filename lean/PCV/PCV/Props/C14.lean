/-
  Property C14 — streaming KZG: the space-efficient (streaming) committer and prover return exactly
  what the time-efficient ones return, a polynomial with more coefficients than the key has powers is
  refused by all of them (fix D24: never committed or opened as its truncation), the verifier accepts
  the true evaluations and nothing else, and the folded-polynomial iterators enumerate the successive
  foldings.
  Only property theorems live here; lemmas are in PCV/Proofs/StreamKZG{,Multi,Verify,Extract}.lean and
  PCV/Proofs/Fold{,Commit}.lean.

  Reading of the model: `SKZG.CK.new g g2 τ D m` is the key `CommitterKey::new(D, m, rng)` makes from
  its three draws; `CKS.ofTime ck` is `CommitterKeyStream::from(&ck)` (`Reverse` of the powers), a
  streamed polynomial is the reversed coefficient list.  The MSM buffer size does not occur: it only
  splits a sum into chunks.
-/
import PCV.Proofs.StreamKZGVerify
import PCV.Proofs.StreamKZGExtract
import PCV.Proofs.FoldCommit
import PCV.Props.Examples

namespace PCV.C14
open PCV PCV.SKZG
variable {F : Type} [Field F]

/-! ### single point: time = space -/

/-- **`CommitterKeyStream::open` = `CommitterKey::open`** (evaluation *and* proof) for EVERY
coefficient list, every point and every key (any list of G1 elements, well-formed or not) with at
least as many elements as the polynomial has coefficients: both answer, and the same. -/
theorem space_open_eq_time_open (ck : CK F) (p : List F) (α : F)
    (h : p.length ≤ ck.powersOfG.length) :
    ∃ o, Space.open (CKS.ofTime ck) p.reverse α = .ok o ∧ Time.open ck p α = .ok o :=
  ⟨_, (SKZG.space_open_eq_time_open ck p α).trans (SKZG.time_open_eq α h),
    SKZG.time_open_eq α h⟩

/-- … and with a shorter key the streaming prover aborts (an assertion since fix D24, the `usize`
underflow of the skip before it) instead of answering. -/
theorem space_open_refuses_short_key (ck : CK F) (p : List F) (α : F)
    (h : ck.powersOfG.length < p.length) :
    Space.open (CKS.ofTime ck) p.reverse α = .error .abort :=
  (SKZG.space_open_eq_time_open ck p α).trans (SKZG.time_open_abort α h)

/-- **`CommitterKeyStream::commit` = `CommitterKey::commit`** under the same condition: both answer,
and the same. -/
theorem space_commit_eq_time_commit (ck : CK F) (p : List F)
    (h : p.length ≤ ck.powersOfG.length) :
    ∃ c, Space.commit (CKS.ofTime ck) p.reverse = .ok c ∧ Time.commit ck p = .ok c :=
  ⟨_, (SKZG.space_commit_eq_time_commit ck p).trans (SKZG.time_commit_eq h),
    SKZG.time_commit_eq h⟩

/-- What both provers return: the evaluation `p(α)` and the MSM of the synthetic-division
quotient. -/
theorem time_open_spec (ck : CK F) (p : List F) (α : F) (h : p.length ≤ ck.powersOfG.length) :
    Time.open ck p α = .ok (evalPoly p α, dot ck.powersOfG (divLin p α).1) :=
  SKZG.time_open_eq α h

/-- What both committers return: the MSM of the coefficients with the key. -/
theorem time_commit_spec (ck : CK F) (p : List F) (h : p.length ≤ ck.powersOfG.length) :
    Time.commit ck p = .ok (dot ck.powersOfG p) :=
  SKZG.time_commit_eq h

/-- `batch_commit` is `commit` on every polynomial, when none is oversize. -/
theorem time_batch_commit_spec (ck : CK F) (ps : List (List F))
    (h : ∀ p ∈ ps, p.length ≤ ck.powersOfG.length) :
    Time.batchCommit ck ps = .ok (ps.map (dot ck.powersOfG)) :=
  SKZG.time_batchCommit_eq h

example : Space.open (CKS.ofTime (CK.new (3 : K) 5 7 6 2)) ([4, 9, 2, 77, 5] : List K).reverse 11
    = Time.open (CK.new (3 : K) 5 7 6 2) [4, 9, 2, 77, 5] 11 := by decide +kernel
example : Time.open (CK.new (3 : K) 5 7 6 2) [4, 9, 2, 77, 5] 11 = .ok (95, 72) := by decide +kernel
example : Time.commit (CK.new (3 : K) 5 7 6 2) [4, 9, 2, 77, 5] = .ok 98 := by decide +kernel
example : Time.batchCommit (CK.new (3 : K) 5 7 8 3) [[4, 9, 2, 77, 5], [1, 0, 6, 8, 0, 0]]
    = .ok [98, 27] := by decide +kernel
example : Space.open (CKS.ofTime (CK.new (3 : K) 5 7 3 2)) ([4, 9, 2, 77, 5] : List K).reverse 11
    = .error .abort := by decide +kernel

/-! ### an oversize polynomial is refused, never truncated (fix D24) -/

/-- **`CommitterKey::commit` refuses a polynomial longer than the key** (before the fix the MSM dropped
the coefficients without a power and the commitment was the one of the truncated polynomial, which
opens to the truncation's evaluations, not the polynomial's). -/
theorem time_commit_refuses_oversize (ck : CK F) (p : List F)
    (h : ck.powersOfG.length < p.length) :
    Time.commit ck p = .error .abort :=
  SKZG.time_commit_abort h

/-- … and `batch_commit` refuses the whole batch when one of its polynomials is. -/
theorem time_batch_commit_refuses_oversize (ck : CK F) (ps : List (List F))
    (h : ∃ p ∈ ps, ck.powersOfG.length < p.length) :
    Time.batchCommit ck ps = .error .abort := by
  induction ps with
  | nil => simp at h
  | cons p ps ih =>
    by_cases hp : ck.powersOfG.length < p.length
    · simp only [Time.batchCommit, time_commit_abort hp]
    · have hrest : ∃ q ∈ ps, ck.powersOfG.length < q.length := by
        obtain ⟨q, hq, hlt⟩ := h
        rcases List.mem_cons.1 hq with rfl | hq
        · exact absurd hlt hp
        · exact ⟨q, hq, hlt⟩
      simp only [Time.batchCommit, time_commit_eq (Nat.le_of_not_lt hp), ih hrest]

/-- **`CommitterKey::open` refuses a polynomial longer than the key** (before the fix the evaluation was
the polynomial's and the proof the commitment of the truncated quotient). -/
theorem time_open_refuses_oversize (ck : CK F) (p : List F) (α : F)
    (h : ck.powersOfG.length < p.length) :
    Time.open ck p α = .error .abort :=
  SKZG.time_open_abort α h

/-- since the fix the time- and the space-efficient committer and single-point prover agree on EVERY
input, the refused ones included -/
theorem space_eq_time_everywhere (ck : CK F) (p : List F) (α : F) :
    Space.commit (CKS.ofTime ck) p.reverse = Time.commit ck p
      ∧ Space.open (CKS.ofTime ck) p.reverse α = Time.open ck p α :=
  ⟨SKZG.space_commit_eq_time_commit ck p, SKZG.space_open_eq_time_open ck p α⟩

-- a key for degree 3 (four powers) and a polynomial with five coefficients
example : (CK.new (3 : K) 5 7 3 2).powersOfG.length < ([4, 9, 2, 77, 5] : List K).length := by decide +kernel
example : Time.commit (CK.new (3 : K) 5 7 3 2) [4, 9, 2, 77, 5] = .error .abort := by decide +kernel
example : Time.batchCommit (CK.new (3 : K) 5 7 3 2) [[4, 9], [4, 9, 2, 77, 5]] = .error .abort := by
  decide +kernel
example : Time.open (CK.new (3 : K) 5 7 3 2) [4, 9, 2, 77, 5] 11 = .error .abort := by decide +kernel
-- high-order zeros count: the assertion is on the length of the slice
example : Time.commit (CK.new (3 : K) 5 7 3 2) [4, 9, 2, 77, 0] = .error .abort := by decide +kernel

/-! ### single point: the verifier -/

variable [DecidableEq F]

/-- **Completeness of `verify`.** For a key made by `CommitterKey::new` from any `g, g2, τ` with
`D ≥ 1` and at least one evaluation point, any polynomial with at most `D+1` coefficients and any
point: the verifier key derived from the committer key accepts the commitment, the evaluation and
the proof the (time- or, by the theorems above, space-efficient) prover returns. -/
theorem verify_open_complete (g g2 τ : F) (D m : Nat) (hD : 1 ≤ D) (hm : 1 ≤ m) (p : List F) (α : F)
    (hp : p.length ≤ D + 1) (vk : VK F) (hvk : VK.ofTime (CK.new g g2 τ D m) = .ok vk) :
    ∃ c o, Time.commit (CK.new g g2 τ D m) p = .ok c ∧ Time.open (CK.new g g2 τ D m) p α = .ok o
      ∧ verify vk c α o.1 o.2 = .ok true := by
  refine ⟨_, _, SKZG.time_commit_new hp, SKZG.time_open_new α hp, ?_⟩
  have h := SKZG.verify_new hD hm 0 hp (Or.inl hvk) (SKZG.time_commit_new hp)
    (SKZG.time_open_new α hp)
  simpa using h

/-- **`verify` decides exactly the claim.** Same setting; the value is shifted by an arbitrary `δ`:
accepted iff `g·g2·δ = 0`. -/
theorem verify_iff (g g2 τ : F) (D m : Nat) (hD : 1 ≤ D) (hm : 1 ≤ m) (p : List F) (α δ : F)
    (hp : p.length ≤ D + 1) (vk : VK F) (hvk : VK.ofTime (CK.new g g2 τ D m) = .ok vk)
    (c : F) (o : F × F) (hc : Time.commit (CK.new g g2 τ D m) p = .ok c)
    (ho : Time.open (CK.new g g2 τ D m) p α = .ok o) :
    verify vk c α (o.1 + δ) o.2 = .ok true ↔ g * g2 * δ = 0 := by
  rw [SKZG.verify_new hD hm δ hp (Or.inl hvk) hc ho]
  simp only [Except.ok.injEq, decide_eq_true_eq]

/-- **A wrong value is rejected**: with non-trivial generators, `value + δ`, `δ ≠ 0`, is never
accepted with the honest proof. -/
theorem wrong_value_rejected (g g2 τ : F) (D m : Nat) (hD : 1 ≤ D) (hm : 1 ≤ m) (p : List F)
    (α δ : F) (hp : p.length ≤ D + 1) (vk : VK F) (hvk : VK.ofTime (CK.new g g2 τ D m) = .ok vk)
    (hg : g ≠ 0) (hg2 : g2 ≠ 0) (hδ : δ ≠ 0)
    (c : F) (o : F × F) (hc : Time.commit (CK.new g g2 τ D m) p = .ok c)
    (ho : Time.open (CK.new g g2 τ D m) p α = .ok o) :
    verify vk c α (o.1 + δ) o.2 = .ok false :=
  SKZG.wrong_value_rejected g g2 τ D m hD hm p α δ hp vk hvk hg hg2 hδ c o hc ho

/-- **A key without `τ·g2` verifies nothing** (fix D22): with fewer than two G2 powers — a key made for zero
evaluation points — or without a G1 power, `verify` rejects every claim, true or false, whatever the proof
(before the fix the truncated MSM left `−α·g2` and `π = −(C − v·g)/α` proved any value `v`). -/
theorem verify_degenerate_key_rejects (vk : VK F) (c α v π : F)
    (h : vk.powersOfG2.length < 2 ∨ vk.powersOfG.length = 0) :
    verify vk c α v π = .ok false := by
  unfold verify
  rw [if_pos h]

example : verify (⟨[3], [5]⟩ : VK K) 7 2 9 11 = .ok false := by decide +kernel

/-- the verifier key derived from the *stream* key decides single-point claims the same way -/
theorem verify_stream_key_iff (g g2 τ : F) (D m : Nat) (hD : 1 ≤ D) (hm : 1 ≤ m) (p : List F)
    (α δ : F) (hp : p.length ≤ D + 1) (vk : VK F)
    (hvk : VK.ofSpace (CKS.ofTime (CK.new g g2 τ D m)) = .ok vk)
    (c : F) (o : F × F) (hc : Time.commit (CK.new g g2 τ D m) p = .ok c)
    (ho : Time.open (CK.new g g2 τ D m) p α = .ok o) :
    verify vk c α (o.1 + δ) o.2 = .ok true ↔ g * g2 * δ = 0 := by
  rw [SKZG.verify_new hD hm δ hp (Or.inr hvk) hc ho]
  simp only [Except.ok.injEq, decide_eq_true_eq]

example : VK.ofTime (CK.new (3 : K) 5 7 6 2) = .ok ⟨[3, 21], [5, 35, 43]⟩ := by decide +kernel
-- (the commitment `98` and the opening `(95, 72)` are the ones of the examples above)
example : verify (⟨[3, 21], [5, 35, 43]⟩ : VK K) 98 11 95 72 = .ok true := by decide +kernel
example : verify (⟨[3, 21], [5, 35, 43]⟩ : VK K) 98 11 (95 + 1) 72 = .ok false := by decide +kernel
example : (3 : K) ≠ 0 ∧ (5 : K) ≠ 0 ∧ (1 : K) ≠ 0 := by decide +kernel

/-! ### multi-point / multi-polynomial openings -/

/-- **`CommitterKeyStream::open_multi_points` returns the proof of `CommitterKey::open_multi_points`**:
the sliding-window division of the stream and the schoolbook division of the coefficient vector by
the vanishing polynomial commit to the same quotient — for EVERY coefficient list (shorter than the
point set, with zero leading coefficients, …), every non-empty point list (distinct or not) and
every key (any G1 list) with at least as many elements as coefficients. -/
theorem space_open_multi_points_eq_time (ck : CK F) (p pts : List F) (hm : 1 ≤ pts.length)
    (hL : p.length ≤ ck.powersOfG.length) :
    ∃ r, Space.openMultiPoints (CKS.ofTime ck) p.reverse pts = .ok r
      ∧ Time.openMultiPoints ck p pts = .ok r.2 :=
  ⟨_, SKZG.space_openMulti_eq hm hL, SKZG.time_openMulti_spaceRes pts hL⟩

/-- **`CommitterKey::open_multi_points` refuses a polynomial longer than the key** (fix D24; before it
the quotient was committed as its truncation), whatever the points. -/
theorem time_open_multi_points_refuses_oversize (ck : CK F) (p pts : List F)
    (h : ck.powersOfG.length < p.length) :
    Time.openMultiPoints ck p pts = .error .abort :=
  SKZG.time_openMulti_abort pts h

/-- … and `batch_open_multi_points` through it, when the η-combination of the polynomials — as the
`DensePolynomial` the code forms, i.e. without high-order zero coefficients — is longer than the key. -/
theorem time_batch_open_multi_points_refuses_oversize (ck : CK F) (ps : List (List F))
    (pts b : List F) (η : F) (hb : linearCombination ps (powersOf η ps.length) = some b)
    (h : ck.powersOfG.length < (pnorm b).length) :
    Time.batchOpenMultiPoints ck ps pts η = .error .abort := by
  unfold Time.batchOpenMultiPoints
  split
  · rfl
  · rw [hb]
    exact time_openMulti_abort pts h

example : Time.openMultiPoints (CK.new (3 : K) 5 7 3 3) [4, 9, 2, 77, 5] [2, 3, 10] = .error .abort := by
  decide +kernel
example : linearCombination ([[4, 9, 2, 77, 5], [1, 0, 6]] : List (List K)) (powersOf 13 2)
    = some [17, 9, 80, 77, 5] := by decide +kernel
example : (CK.new (3 : K) 5 7 3 3).powersOfG.length < (pnorm ([17, 9, 80, 77, 5] : List K)).length := by
  decide +kernel
example : Time.batchOpenMultiPoints (CK.new (3 : K) 5 7 3 3) [[4, 9, 2, 77, 5], [1, 0, 6]] [2, 3, 10] 13
    = .error .abort := by decide +kernel
-- high-order zeros of the combination do not count (the `DensePolynomial` drops them) …
example : Time.batchOpenMultiPoints (CK.new (3 : K) 5 7 3 3) [[4, 9, 2, 77, 0, 0]] [2, 3, 10] 13
    = .ok 29 := by decide +kernel
-- … but those of the slice handed to `open_multi_points` itself do
example : Time.openMultiPoints (CK.new (3 : K) 5 7 3 3) [4, 9, 2, 77, 0, 0] [2, 3, 10] = .error .abort := by
  decide +kernel

omit [DecidableEq F] in
/-- **The remainder the streaming prover returns** has one entry per point and, read as a
big-endian polynomial, takes the value `p(a)` at every evaluation point `a` (it is `p mod Z`; the
time-efficient prover returns no remainder). -/
theorem space_open_multi_points_remainder (ck : CK F) (p pts : List F) (hm : 1 ≤ pts.length)
    (hL : p.length ≤ ck.powersOfG.length) (r : List F × F)
    (h : Space.openMultiPoints (CKS.ofTime ck) p.reverse pts = .ok r) :
    r.1.length = pts.length ∧ ∀ a ∈ pts, evalPoly r.1.reverse a = evalPoly p a := by
  rw [SKZG.space_openMulti_eq hm hL] at h
  cases h
  exact ⟨(winDiv_length p pts).2, fun a ha => by
    rw [winDiv_spec p pts a, prodLin_eq_zero_of_mem pts a ha, mul_zero, zero_add]; rfl⟩

/-- **Completeness of `verify_multi_points`.** Key made by `CommitterKey::new(D, m)` with `m ≤ D`,
at most `m` distinct points, a non-empty list of polynomials with at most `D+1` coefficients, any
batching challenge `η`: the batched proof of `batch_open_multi_points` is accepted together with the
commitments of `batch_commit` and the true evaluations — by the verifier key derived from the
committer key and by the one derived from the stream key. -/
theorem verify_multi_points_complete (g g2 τ : F) (D m : Nat) (ps : List (List F)) (pts : List F)
    (η π : F) (hps : ps ≠ []) (hlen : ∀ p ∈ ps, p.length ≤ D + 1) (hnd : pts.Nodup)
    (hm : pts.length ≤ m) (hD : m ≤ D)
    (hπ : Time.batchOpenMultiPoints (CK.new g g2 τ D m) ps pts η = .ok π) (vk : VK F)
    (hvk : VK.ofTime (CK.new g g2 τ D m) = .ok vk
      ∨ VK.ofSpace (CKS.ofTime (CK.new g g2 τ D m)) = .ok vk) :
    ∃ cs, Time.batchCommit (CK.new g g2 τ D m) ps = .ok cs
      ∧ verifyMultiPoints vk cs pts (ps.map (fun p => pts.map (evalPoly p))) π η = .ok true := by
  refine ⟨_, SKZG.time_batchCommit_new hlen, ?_⟩
  rw [SKZG.verifyMulti_new hps hlen hnd hm hD (List.length_map _) (SKZG.evalTable_rows ps pts) hπ hvk
      (SKZG.time_batchCommit_new hlen),
    sub_self, mul_zero, decide_eq_true rfl]

/-- **`verify_multi_points` decides exactly the claim.** Same setting, arbitrary claimed evaluation
vectors (one per polynomial): accepted iff `g·g2·(I_claimed(τ) − I_true(τ)) = 0`, where `I` is the
η-combination of the Lagrange interpolants of the evaluation vectors over the points
(`SKZG.interpAt`).  (`I_claimed − I_true` is a polynomial of degree `< m` in `τ`; it is the zero
polynomial only if the η-combinations of the claimed and true vectors coincide.) -/
theorem verify_multi_points_iff (g g2 τ : F) (D m : Nat) (ps : List (List F)) (pts : List F)
    (claimed : List (List F)) (η π : F) (hps : ps ≠ []) (hlen : ∀ p ∈ ps, p.length ≤ D + 1)
    (hnd : pts.Nodup) (hm : pts.length ≤ m) (hD : m ≤ D) (hcl : claimed.length = ps.length)
    (hrows : ∀ e ∈ claimed, e.length = pts.length)
    (hπ : Time.batchOpenMultiPoints (CK.new g g2 τ D m) ps pts η = .ok π) (vk : VK F)
    (hvk : VK.ofTime (CK.new g g2 τ D m) = .ok vk
      ∨ VK.ofSpace (CKS.ofTime (CK.new g g2 τ D m)) = .ok vk)
    (cs : List F) (hcs : Time.batchCommit (CK.new g g2 τ D m) ps = .ok cs) :
    verifyMultiPoints vk cs pts claimed π η = .ok true
      ↔ g * g2 * (interpAt pts claimed η τ
          - interpAt pts (ps.map (fun p => pts.map (evalPoly p))) η τ) = 0 := by
  rw [SKZG.verifyMulti_new hps hlen hnd hm hD hcl hrows hπ hvk hcs]
  simp only [Except.ok.injEq, decide_eq_true_eq]

/-- **Out of the verifier key's domain: refused.** More evaluation points than the key was made for,
or an evaluation table that does not have one row per commitment and one entry per point, is rejected
whatever proof and values are presented (the repair of D20: the multi-scalar multiplications would
otherwise truncate the vanishing polynomial and the interpolant, and the truncated equation can be
satisfied with false evaluations computed from public data). -/
theorem verify_multi_points_out_of_shape (vk : VK F) (comms pts : List F) (evals : List (List F))
    (π η : F)
    (h : pts.length ≥ vk.powersOfG2.length ∨ pts.length > vk.powersOfG.length ∨
      comms.length ≠ evals.length ∨ ∃ e ∈ evals, e.length ≠ pts.length) :
    verifyMultiPoints vk comms pts evals π η = .ok false := by
  unfold verifyMultiPoints
  rw [if_pos]
  rcases h with h | h | h | ⟨e, he, hne⟩
  · exact Or.inl h
  · exact Or.inr (Or.inl h)
  · exact Or.inr (Or.inr (Or.inl h))
  · refine Or.inr (Or.inr (Or.inr ?_))
    rw [List.any_eq_true]
    exact ⟨e, he, decide_eq_true hne⟩

/-- non-vacuity: a key for one point (two G2 powers) presented with two points -/
example : verifyMultiPoints (⟨[3], [5, 10]⟩ : VK K) [7] [4, 9] [[1, 2]] 6 1 = .ok false := by decide +kernel

/-- **A changed evaluation is rejected by `verify_multi_points`**: the value of polynomial `a` at
point `b` shifted by `δ ≠ 0` (`SKZG.bumpAt`), non-trivial generators, batching challenge `η ≠ 0`
and a trapdoor outside the point set (`τ ∈ pts` would make the Lagrange basis polynomial of another
point vanish at `τ`): the honest batched proof is not accepted, with either verifier key. -/
theorem wrong_multi_value_rejected (g g2 τ : F) (D m : Nat) (ps : List (List F)) (pts : List F)
    (η π δ : F) (a b : Nat) (hps : ps ≠ []) (hlen : ∀ p ∈ ps, p.length ≤ D + 1) (hnd : pts.Nodup)
    (hm : pts.length ≤ m) (hD : m ≤ D)
    (hπ : Time.batchOpenMultiPoints (CK.new g g2 τ D m) ps pts η = .ok π) (vk : VK F)
    (hvk : VK.ofTime (CK.new g g2 τ D m) = .ok vk
      ∨ VK.ofSpace (CKS.ofTime (CK.new g g2 τ D m)) = .ok vk)
    (ha : a < ps.length) (hb : b < pts.length) (hg : g ≠ 0) (hg2 : g2 ≠ 0) (hη : η ≠ 0)
    (hδ : δ ≠ 0) (hτ : τ ∉ pts)
    (cs : List F) (hcs : Time.batchCommit (CK.new g g2 τ D m) ps = .ok cs) :
    verifyMultiPoints vk cs pts
      (bumpAt (ps.map (fun p => pts.map (evalPoly p))) a b δ) π η = .ok false := by
  have hdiff := interpAt_bump_ne pts (ps.map (fun p => pts.map (evalPoly p))) η τ δ a b
    (by simpa using ha) (by simp [List.getD, ha]; exact hb) hb hnd hτ hη hδ
  rw [SKZG.verifyMulti_new hps hlen hnd hm hD (by rw [bumpAt_length, List.length_map])
      (bumpAt_rows _ a b δ pts.length (evalTable_rows ps pts)) hπ hvk hcs,
    decide_eq_false (mul_ne_zero (mul_ne_zero hg hg2) hdiff)]

example : bumpAt ([[19, 8, 34], [89, 69, 16]] : List (List K)) 1 1 1 = [[19, 8, 34], [89, 70, 16]] := by
  decide +kernel
example : (7 : K) ∉ ([2, 3, 10] : List K) ∧ (13 : K) ≠ 0 := by decide +kernel

example : Space.openMultiPoints (CKS.ofTime (CK.new (3 : K) 5 7 8 3)) ([4, 9, 2, 77, 5] : List K).reverse
    [2, 3, 10] = .ok ([83, 79, 34], 56) := by decide +kernel
-- (`decide +kernel`: the field inverse of `ZMod 101` is evaluated by the kernel)
example : Time.openMultiPoints (CK.new (3 : K) 5 7 8 3) [4, 9, 2, 77, 5] [2, 3, 10] = .ok 56 := by
  decide +kernel
example : Space.openMultiPoints (CKS.ofTime (CK.new (3 : K) 5 7 8 3)) ([4, 9] : List K).reverse
    [2, 3, 10] = .ok ([0, 9, 4], 0) := by decide +kernel
example : Time.batchOpenMultiPoints (CK.new (3 : K) 5 7 8 3) [[4, 9, 2, 77, 5], [1, 0, 6, 8, 0, 0]]
    [2, 3, 10] 13 = .ok 65 := by decide +kernel
example : VK.ofSpace (CKS.ofTime (CK.new (3 : K) 5 7 8 3)) = .ok ⟨[3, 21, 46], [5, 35, 43, 99]⟩ := by
  decide +kernel
example : verifyMultiPoints (⟨[3, 21, 46], [5, 35, 43, 99]⟩ : VK K) [98, 27] [2, 3, 10]
    [[19, 8, 34], [89, 69, 16]] 65 13 = .ok true := by decide +kernel
example : verifyMultiPoints (⟨[3, 21, 46], [5, 35, 43, 99]⟩ : VK K) [98, 27] [2, 3, 10]
    [[19, 8, 34], [89, 70, 16]] 65 13 = .ok false := by decide +kernel
example : ([2, 3, 10] : List K).Nodup := by decide +kernel

/-- **Streaming KZG, algebraic forger against `verify`.**  `C = g·p(τ)`, any proof element built from the
published powers, `π = Σ aᵢ·(τⁱg)`, any claimed value: acceptance is exactly "the trapdoor is a root of
`p − v − a·(X − α)`", which for a false value is a non-zero polynomial (value `p(α) − v` at `α`). -/
theorem single_point_algebraic_forgery_reveals_trapdoor (g g2 τ : F) (a' b : Nat) (ha : 1 ≤ a')
    (hb : 2 ≤ b) (p a : List F) (α v : F) (hg : g ≠ 0) (hg2 : g2 ≠ 0) (hv : v ≠ evalPoly p α)
    (hacc : verify ⟨PCV.powers g τ a', PCV.powers g2 τ b⟩ (g * evalPoly p τ) α v (g * evalPoly a τ)
      = .ok true) :
    evalPoly (KZG.extractPoly p a α v) τ = 0 ∧ evalPoly (KZG.extractPoly p a α v) α ≠ 0 := by
  exact ⟨(SKZG.single_forgery_root ha hb hg hg2).1 hacc,
    extractPoly_at_point_ne a hv⟩

/-- … counted: all but at most `max(|p|, |a|+1) − 1` trapdoors refuse a false value -/
theorem single_point_algebraic_forgery_exceptional_set (p a : List F) (α v : F) (hv : v ≠ evalPoly p α) :
    ∃ S : Finset F, S.card ≤ max (max p.length 1) (a.length + 1) - 1 ∧
      ∀ (g g2 τ : F) (a' b : Nat), g ≠ 0 → g2 ≠ 0 → 1 ≤ a' → 2 ≤ b → τ ∉ S →
        verify ⟨PCV.powers g τ a', PCV.powers g2 τ b⟩ (g * evalPoly p τ) α v (g * evalPoly a τ)
          ≠ .ok true := by
  obtain ⟨S, hcard, hS⟩ := Roots.zeros_bounded (KZG.extractPoly p a α v)
    ⟨α, extractPoly_at_point_ne a hv⟩
  refine ⟨S, le_trans hcard (Nat.sub_le_sub_right (KZG.extractPoly_length p a α v) 1), ?_⟩
  intro g g2 τ a' b hg hg2 ha hb hτ hacc
  exact hτ (hS τ ((single_forgery_root ha hb hg hg2).1 hacc))

/-! ### multi-point verifier against ANY proof element an algebraic prover can form -/

/-- **Streaming KZG, algebraic forger against `verify_multi_points`.**  Honest commitments, a well-formed
key, distinct points, ANY claimed table of the right shape, and ANY proof element of the form
`π = Σ aᵢ·(τⁱg)` (every element a prover can build from the published key): acceptance is the single
relation `Σ ηⁱpᵢ(τ) − I_η(τ) − a(τ)·Z(τ) = 0`, whose left-hand side, as a polynomial in the trapdoor, takes
at the `j`-th evaluation point the η-combination of the errors of column `j` of the claimed table.  So if
that combined error is non-zero, the accepted forgery exhibits a non-zero polynomial of known coefficients
with the trapdoor as a root. -/
theorem multi_points_algebraic_forgery_reveals_trapdoor (g g2 τ : F) (a' b : Nat) (ps : List (List F))
    (pts : List F) (evals : List (List F)) (a : List F) (η : F) (hg : g ≠ 0) (hg2 : g2 ≠ 0)
    (hnd : pts.Nodup) (ha : pts.length ≤ a') (hb : pts.length + 1 ≤ b) (hev : evals ≠ [])
    (hcl : ps.length = evals.length) (hrows : ∀ e ∈ evals, e.length = pts.length)
    (hacc : verifyMultiPoints ⟨PCV.powers g τ a', PCV.powers g2 τ b⟩
      (ps.map (fun p => g * evalPoly p τ)) pts evals (g * evalPoly a τ) η = .ok true) :
    forgeFun ps pts evals a η τ = 0 ∧
      ∀ j (hj : j < pts.length), forgeFun ps pts evals a η pts[j] = colErr ps evals η pts[j] j :=
  ⟨(SKZG.multi_forgery_root hg hg2 hnd ha hb hev hcl hrows).1 hacc,
   fun _ hj => SKZG.forgeFun_at_point ps evals a η hnd hj⟩

/-- … counted over trapdoors: for fixed polynomials (length ≤ `n`), points, table, challenge and forger
coefficients with a non-zero combined error in some column, all but at most
`max(n, m, |a| + m + 1) − 1` trapdoors refuse the forgery (`m` points). -/
theorem multi_points_algebraic_forgery_exceptional_set (ps : List (List F)) (pts : List F)
    (evals : List (List F)) (a : List F) (η : F) (n : Nat) (hps : ∀ p ∈ ps, p.length ≤ n)
    (hnd : pts.Nodup) (hev : evals ≠ []) (hcl : ps.length = evals.length)
    (hrows : ∀ e ∈ evals, e.length = pts.length) (j : Nat) (hj : j < pts.length)
    (herr : colErr ps evals η pts[j] j ≠ 0) :
    ∃ S : Finset F, S.card ≤ max (max n pts.length) (a.length + (pts.length + 1)) - 1 ∧
      ∀ (g g2 τ : F) (a' b : Nat), g ≠ 0 → g2 ≠ 0 → pts.length ≤ a' → pts.length + 1 ≤ b → τ ∉ S →
        verifyMultiPoints ⟨PCV.powers g τ a', PCV.powers g2 τ b⟩ (ps.map (fun p => g * evalPoly p τ))
          pts evals (g * evalPoly a τ) η ≠ .ok true := by
  obtain ⟨Q, hQl, hQe⟩ := forgeFun_poly pts a η hps hev hcl
  have hne : ∃ x, evalPoly Q x ≠ 0 :=
    ⟨pts[j], by rw [hQe, forgeFun_at_point ps evals a η hnd hj]; exact herr⟩
  obtain ⟨S, hcard, hS⟩ := Roots.zeros_bounded Q hne
  refine ⟨S, le_trans hcard (Nat.sub_le_sub_right hQl 1), ?_⟩
  intro g g2 τ a' b hg hg2 ha hb hτ hacc
  rw [multi_forgery_root hg hg2 hnd ha hb hev hcl hrows] at hacc
  exact hτ (hS τ (by rw [hQe]; exact hacc))

/-- … and counted over batching challenges: ONE false entry (polynomial `i`, column `j`) makes the combined
error of that column non-zero for all but at most `(number of polynomials) − 1` values of `η`, however the
other entries of the table were chosen (errors planted to cancel included). -/
theorem multi_points_false_entry_survives_batching (ps : List (List F)) (evals : List (List F)) (z : F)
    (j : Nat) (hcl : ps.length = evals.length) (i : Nat) (hi : i < ps.length)
    (hfalse : evalPoly (ps.getD i []) z ≠ (evals.getD i []).getD j 0) :
    ∃ S : Finset F, S.card ≤ ps.length - 1 ∧ ∀ η, η ∉ S → colErr ps evals η z j ≠ 0 := by
  have hi' : i < evals.length := hcl ▸ hi
  have hL : ((ps.zip evals).map (fun pe => evalPoly pe.1 z - pe.2.getD j 0)).getD i 0 ≠ 0 := by
    have hi2 : i < ((ps.zip evals).map (fun pe => evalPoly pe.1 z - pe.2.getD j 0)).length := by
      rw [List.length_map, List.length_zip, ← hcl, Nat.min_self]; exact hi
    rw [← List.getElem_eq_getD (h := hi2), List.getElem_map, List.getElem_zip]
    rw [← List.getElem_eq_getD (h := hi), ← List.getElem_eq_getD (h := hi')] at hfalse
    exact sub_ne_zero.2 hfalse
  obtain ⟨S, hcard, hS⟩ := Roots.zeros_bounded_of_coeff _ ⟨i, hL⟩
  refine ⟨S, ?_, ?_⟩
  · refine le_trans hcard ?_
    simp only [List.length_map, List.length_zip]
    omega
  · intro η hη h0
    rw [colErr_eq_evalPoly η z j hcl] at h0
    exact hη (hS η h0)

-- non-vacuity: two polynomials, the table of the example above with one entry moved, η = 13:
-- the combined error of column 1 is non-zero
example : colErr ([[4, 9, 2, 77, 5], [1, 0, 6, 8, 0, 0]] : List (List K)) [[19, 8, 34], [89, 70, 16]] 13 3 1
    = 88 := by decide +kernel
example : evalPoly (([[4, 9, 2, 77, 5], [1, 0, 6, 8, 0, 0]] : List (List K)).getD 1 []) 3
    ≠ (([[19, 8, 34], [89, 70, 16]] : List (List K)).getD 1 []).getD 1 0 := by decide +kernel

/-! ### folded-polynomial iterators -/

open PCV.Fold

omit [DecidableEq F] in
/-- **`FoldedPolynomialTree` enumerates the successive foldings, for every length.**  For every
coefficient vector `cs` (little-endian; the iterator reads `cs.reverse`), every challenge list and
every level `1 ≤ i ≤ depth`: the items of level `i`, in the order the iterator yields them, are the
coefficients of `fold (… (fold cs u₀) …) u_{i-1}`, highest degree first — whether or not the length
is a multiple of `2^depth` (`init_stack` = zero padding). -/
theorem folded_tree_enumerates_fold (chal cs : List F) (i : Nat) (h1 : 1 ≤ i)
    (h2 : i ≤ chal.length) :
    Tree.level (Tree.toList cs.reverse chal) i = (foldAll cs (chal.take i)).reverse :=
  Fold.tree_level_eq_fold chal cs i h1 h2

omit [DecidableEq F] in
/-- … and the tree iterator yields nothing else: every item has a level in `1..depth` (so the base
polynomial is skipped and `challenges[level]` is always in range). -/
theorem folded_tree_levels_in_range (chal csBE : List F) :
    ∀ item ∈ Tree.toList csBE chal, 1 ≤ item.1 ∧ item.1 ≤ chal.length := by
  obtain ⟨out, ho⟩ := emits_total chal (initStack csBE.length chal.length) csBE
  rw [toList_eq_of_emits chal csBE out ho]
  exact emits_levels ho (initStack_sorted _ _).2

omit [DecidableEq F] in
/-- **`FoldedPolynomialStream` enumerates the full folding, for every length** (depth 0: the
stream itself). -/
theorem folded_stream_enumerates_fold (chal cs : List F) :
    Stream.toList cs.reverse chal = (foldAll cs chal).reverse := by
  unfold Stream.toList
  cases chal with
  | nil =>
    have h0 : (initStack cs.reverse.length ([] : List F).length : List (Nat × F)) = [] :=
      if_neg (not_not.2 (Nat.mod_one _))
    rw [h0]
    exact collectS_of_emits (streamS_depth_zero cs.reverse) _ (Nat.lt_succ_self _)
  | cons u us =>
    obtain ⟨out, ho⟩ := emits_total (u :: us) (initStack cs.reverse.length (u :: us).length)
      cs.reverse
    have hS := streamS_of_emits ho (Nat.succ_pos _)
    have hlev := tree_level_eq_fold (u :: us) cs (u :: us).length (Nat.succ_pos _) (Nat.le_refl _)
    rw [toList_eq_of_emits (u :: us) cs.reverse out ho, List.take_length] at hlev
    rw [hlev] at hS
    refine collectS_of_emits hS _ ?_
    rw [List.length_reverse, List.length_reverse]
    exact Nat.lt_succ_of_le (foldAll_length_le (u :: us) cs)

omit [DecidableEq F] in
/-- **`commit_folding`** (the per-level skip `len(srs) − ⌈n/2ⁱ⌉` aligns level `i` with the SRS): the
commitments are the time-efficient commitments of the explicitly folded polynomials, for every
length, every depth and every key (any G1 list) at least as long as the input. -/
theorem commit_folding_eq_time (ck : CK F) (cs chal : List F) (h : cs.length ≤ ck.powersOfG.length) :
    ∃ cms, commitFolding (CKS.ofTime ck) cs.reverse chal = .ok cms
      ∧ Time.batchCommit ck (foldings cs chal) = .ok cms := by
  refine ⟨_, commitFolding_eq_dot chal h, time_batchCommit_eq ?_⟩
  intro p hp
  rw [foldings_eq] at hp
  obtain ⟨j, _, rfl⟩ := List.mem_map.1 hp
  exact (foldAll_length_le (chal.take (j + 1)) cs).trans h

/-- **`open_folding`**: there are per-level results `R[j]` = what the streaming `open_multi_points`
returns on the `(j+1)`-fold folding (whose proof component is the time-efficient
`open_multi_points` proof) such that `open_folding` returns their remainders and the single proof
`Σⱼ etas[j]·R[j].proof`. -/
theorem open_folding_consistent (ck : CK F) (cs chal pts etas : List F) (hm : 1 ≤ pts.length)
    (hL : cs.length ≤ ck.powersOfG.length) (he : chal.length ≤ etas.length) :
    ∃ R : List (List F × F), R.length = chal.length ∧
      (∀ j (hj : j < R.length),
        Space.openMultiPoints (CKS.ofTime ck) (foldAll cs (chal.take (j + 1))).reverse pts = .ok R[j]
        ∧ Time.openMultiPoints ck (foldAll cs (chal.take (j + 1))) pts = .ok R[j].2) ∧
      openFolding (CKS.ofTime ck) cs.reverse chal pts etas
        = .ok (R.map (·.1),
            lsum ((List.range chal.length).map (fun j => etas.getD j 0 * (R.getD j ([], 0)).2))) := by
  refine ⟨(List.range chal.length).map (fun j => spaceRes ck (foldAll cs (chal.take (j + 1))) pts),
    by simp, ?_, ?_⟩
  · intro j hj
    have hle := foldAll_length_le (chal.take (j + 1)) cs
    simp only [List.getElem_map, List.getElem_range]
    exact ⟨space_openMulti_eq hm (hle.trans hL), time_openMulti_spaceRes pts (hle.trans hL)⟩
  · rw [openFolding_eq hm hL he]
    simp only [List.map_map, Function.comp_def]
    congr 3
    apply List.map_congr_left
    intro j hj
    have hjd : j < chal.length := List.mem_range.1 hj
    simp [List.getD, hjd]

example : Tree.toList ([1, 2, 3, 4, 5, 6, 7] : List K).reverse [2, 3]
    = [(1, 7), (1, 17), (2, 38), (1, 11), (1, 5), (2, 38)] := by decide +kernel
example : foldings ([1, 2, 3, 4, 5, 6, 7] : List K) [2, 3] = [[5, 11, 17, 7], [38, 38]] := by decide +kernel
example : Stream.toList ([1, 2, 3, 4, 5, 6, 7] : List K).reverse [2, 3] = [38, 38] := by decide +kernel
example : (initStack 5 3 : List (Nat × K)) = [(0, 0), (1, 0)] := by decide +kernel
example : commitFolding (CKS.ofTime (CK.new (3 : K) 5 7 8 3)) ([1, 2, 3, 4, 5, 6, 7] : List K).reverse [2, 3]
    = .ok [50, 3] := by decide +kernel
example : Time.batchCommit (CK.new (3 : K) 5 7 8 3) (foldings ([1, 2, 3, 4, 5, 6, 7] : List K) [2, 3])
    = .ok [50, 3] := by decide +kernel
example : openFolding (CKS.ofTime (CK.new (3 : K) 5 7 8 3)) ([1, 2, 3, 4, 5, 6, 7] : List K).reverse [2, 3]
    [2, 3, 10] [1, 13] = .ok ([[21, 23, 21], [0, 38, 38]], 21) := by decide +kernel

end PCV.C14
