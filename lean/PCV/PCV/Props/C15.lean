/-
  Property C15 — PST13 parameters cover every monomial; any multivariate polynomial opens.
  Only property theorems live here; lemmas are in PCV/Proofs (MVPoly, Combinations, Comb*, PST13).

  Terms are the `(variable, power)` lists of `SparseTerm`; `Term.wf` (variables strictly
  increasing, powers positive) is the invariant of every `SparseTerm::new` result, so "every
  polynomial" below means every polynomial that can be built through the library's constructors.
-/
import PCV.Proofs.PST13
import PCV.Proofs.Combinations
import PCV.Proofs.CombInv
import PCV.Proofs.CombCompleteSetup
import PCV.Proofs.CombCompleteCount
import PCV.Props.Examples

-- the `DecidableEq` instances of the nested result tuples in the `decide` examples are large
set_option synthInstance.maxSize 512

namespace PCV.C15
open PCV PCV.MV PCV.C15Spec
variable {F : Type} [Field F] [DecidableEq F]

/-! ### (a) the quotient decomposition of `divide_at_point` is exact -/

/-- **Exact division.** For every sparse polynomial `p` over `nv` variables (mixed monomials of
any shape), every point `z` and every `x`:
`p(x) − p(z) = Σᵢ (xᵢ − zᵢ)·wᵢ(x)` with `w = divide_at_point(p, z)`; there are `nv` quotients. -/
theorem divideAtPoint_exact (nv : Nat) (p : MVPoly F) (z x : List F)
    (hwf : polyWf p = true) (hv : polyVarsBelow nv p = true) :
    evalMV p x - evalMV p z = PST.quotSum x z 0 (PST.divideAtPoint nv p z)
      ∧ (PST.divideAtPoint nv p z).length = nv :=
  ⟨PST.divideAtPoint_exact nv p z x hwf hv, PST.divideAtPoint_length nv p z⟩

/-- non-vacuity: a polynomial with mixed monomials `4 + 6x₁ + 9x₀x₁ + 2x₀²` over `ZMod 101`, its
quotients at `(10, 20)`, and the identity at `x = (5, 7)` -/
example : polyWf ([(4, []), (6, [(1, 1)]), (9, [(0, 1), (1, 1)]), (2, [(0, 2)])] : MVPoly K) = true
    ∧ polyVarsBelow 2 ([(4, []), (6, [(1, 1)]), (9, [(0, 1), (1, 1)]), (2, [(0, 2)])] : MVPoly K) = true := by
  decide +kernel
example : PST.divideAtPoint 2 ([(4, []), (6, [(1, 1)]), (9, [(0, 1), (1, 1)]), (2, [(0, 2)])] : MVPoly K)
    [10, 20] = [[(20, []), (9, [(1, 1)]), (2, [(0, 1)])], [(96, [])]] := by decide +kernel
example : PST.quotSum ([5, 7] : List K) [10, 20] 0
    [[(20, []), (9, [(1, 1)]), (2, [(0, 1)])], [(96, [])]] ≠ 0 := by decide +kernel

/-! ### (b) the `Combinations` iterator -/

/-- **The multiset iterator, every input.** Whenever `Combinations::new(original, k)` does not
panic (`|original| > k ≥ 1`), the collected outputs are strictly increasing in the lexicographic
order — so no vector is produced twice — and each output consists of the entries of the sorted
input at `k` strictly increasing in-range positions (a sub-multiset of the input; in particular no
index of the iterator is ever out of bounds), is itself sorted and has length `k`. -/
theorem combinations_sorted_distinct (original : List Nat) (k : Nat) (outs : List (List Nat))
    (h : combinations original k = .ok outs) :
    outs.Pairwise (· < ·) ∧ outs.Nodup ∧
      ∀ v ∈ outs, Comb.Good (sortNat original) k v ∧ v.Pairwise (· ≤ ·) ∧ v.length = k ∧
        ∀ x ∈ v, x ∈ original :=
  Comb.combinations_spec original k outs h

/-- **The multiset iterator is complete, every input.** Whenever `Combinations::new(original, k)`
does not panic, EVERY sorted length-`k` sub-multiset of the input (every length-`k` sublist of the
sorted input) is among the outputs — each `next` moves to the lexicographic successor, the first
output is the minimum, `None` is returned only at the maximum, and the `2^|original|` collection
bound is never reached.  With `combinations_sorted_distinct`: the outputs are exactly the distinct
sorted sub-multisets, each once. -/
theorem combinations_complete (original : List Nat) (k : Nat) (outs : List (List Nat))
    (h : combinations original k = .ok outs) :
    ∀ w, List.Sublist w (sortNat original) → w.length = k → w ∈ outs :=
  Comb.combinations_complete original k outs h

/-- non-vacuity: the crate's own `complicated` unit test, with the input unsorted -/
example : combinations [4, 2, 1, 3, 2] 3
    = .ok [[1, 2, 2], [1, 2, 3], [1, 2, 4], [1, 3, 4], [2, 2, 3], [2, 2, 4], [2, 3, 4]] := by decide +kernel

/-! ### (c) the enumeration behind `setup` -/

/-- **The specification list, all `(n, D)`.** `specTerms n D` contains exactly the monomials
(`SparseTerm::new` results) in variables `< n` of total degree `≤ D`, each once. -/
theorem specTerms_exact (n D : Nat) :
    (specTerms n D).Nodup ∧
    ∀ t, t ∈ specTerms n D ↔ (Term.wf t = true ∧ Term.varsBelow n t = true ∧ Term.degree t ≤ D) :=
  ⟨nodup_specTerms n D, mem_specTerms n D⟩

set_option linter.unusedVariables false in
/-- **Completeness of the enumeration, ALL `num_vars ≥ 1`, `max_degree ≥ 1`.** `setup` succeeds,
and the term list it builds has `C(n+D, D)` entries, no duplicates, consists exactly of the
monomials of total degree `≤ D` in `n` variables, and is a permutation of the specification list.
(Through `combinations_complete` for the iterator and the bijection multiset ↔ monomial; no
restriction to the grid.) -/
theorem setupTerms_complete (n D : Nat) (hn : 1 ≤ n) (hD : 1 ≤ D) :
    ∃ l, setupTerms n D = .ok l ∧ l.length = Nat.choose (n + D) D ∧ l.Nodup ∧
      (∀ t, t ∈ l ↔ (Term.wf t = true ∧ Term.varsBelow n t = true ∧ Term.degree t ≤ D)) ∧
      l.Perm (specTerms n D) := by
  exact ⟨_, Comb.setupTerms_eq_specTerms n D hn, specTerms_length n D, nodup_specTerms n D,
    mem_specTerms n D, List.Perm.refl _⟩

set_option linter.unusedVariables false in
/-- **The grid, including the order** (`num_vars, max_degree ∈ 1..6`): the list `setup` builds IS
the specification list, in the code's order.  (An instance of `Comb.setupTerms_eq_specTerms`, which
has no upper bounds.) -/
theorem setupTerms_grid_order (n D : Nat) (hn1 : 1 ≤ n) (hn6 : n ≤ 6) (hD1 : 1 ≤ D) (hD6 : D ≤ 6) :
    setupTerms n D = .ok (specTerms n D) ∧ (specTerms n D).length = Nat.choose (n + D) D :=
  ⟨Comb.setupTerms_eq_specTerms n D hn1, specTerms_length n D⟩

/-- non-vacuity / shape: the list for two variables, degree two, in the code's order -/
example : setupTerms 2 2 = .ok [[(0, 1)], [(1, 1)], [(0, 2)], [(0, 1), (1, 1)], [(1, 2)], []] := by
  decide +kernel

/-! ### (d) trim -/

/-- **Trim keeps exactly the monomials of degree `≤ supported_degree`**, with unchanged
elements (as a list and as a lookup table), refuses only `supported_degree > max_degree`-shaped
requests, and gives the verifier `g = powers_of_g[1]`, `beta_h`, `h`, `gamma_g` unchanged. -/
theorem trim_keeps_exactly (pp : PST.UParams F) (s : Nat) (ck : PST.CK F) (vk : PST.VK F)
    (h : PST.trim pp s = .ok (ck, vk)) :
    s ≤ pp.maxDegree
    ∧ ck.powersOfG = pp.powersOfG.filter (fun kv => decide (Term.degree kv.1 ≤ s))
    ∧ (∀ t, PST.mapGet ck.powersOfG t
          = if Term.degree t ≤ s then PST.mapGet pp.powersOfG t else none)
    ∧ PST.mapGet pp.powersOfG [] = some vk.g
    ∧ vk.betaH = pp.betaH ∧ vk.h = pp.h ∧ vk.gammaG = pp.gammaG ∧ ck.gammaG = pp.gammaG
    ∧ ck.supportedDegree = s ∧ ck.numVars = pp.numVars :=
  PST.trim_spec pp s ck vk h

/-- non-vacuity: the model's own `setup` followed by `trim` to degree 1 (trapdoor `(2,7)`) -/
example : (match PST.setup 2 2 ([2, 7] : List K) 3 5 11 with
    | .ok pp => (match PST.trim pp 1 with
      | .ok (ck, vk) => ck.powersOfG == [([], 3), ([(1, 1)], 21), ([(0, 1)], 6)] && vk.betaH == [22, 77]
      | .error _ => false)
    | .error _ => false) = true := by decide +kernel

/-- **Trimming a well-formed key** (the one `setup` publishes for a trapdoor `β⃗` over the monomial
list `ts`) gives the well-formed committer key over exactly the monomials of degree `≤ s`, with
`s + 1` γ-powers per variable, and the matching verifier key. -/
theorem trim_wellformed_key (g γ h : F) (β : List F) (ts : List Term) (nv D s : Nat) (hs : s ≤ D)
    (h0 : [] ∈ ts) :
    PST.trim (PST.wfUP g γ h β ts nv D) s
      = .ok (PST.wfCK g γ β (ts.filter (fun t => decide (Term.degree t ≤ s))) nv s D (s + 1),
             PST.wfVK g γ h β nv s D) :=
  PST.trim_wfUP g γ h β ts nv D s hs h0

/-- **The trimmed specification list covers every monomial of degree `≤ s`** (all `n`, `D ≥ s`). -/
theorem trimmed_key_covers (n D s : Nat) (hs : s ≤ D) :
    ∀ t, PST.Covered n s t → t ∈ (specTerms n D).filter (fun t => decide (Term.degree t ≤ s)) :=
  PST.covered_mem_filter n s (specTerms n D) (fun t ht =>
    (mem_specTerms n D t).2 ⟨ht.1, ht.2.1, Nat.le_trans ht.2.2 hs⟩)

/-! ### (e) completeness -/

/-- **Nothing within the supported degree is refused by `commit`.** Key well-formed over a
monomial list containing every monomial of degree `≤ s` in `nv` variables: any polynomial of
degree `≤ s` — arbitrary mixed monomials — is committed, without hiding or with any hiding bound
`1 ≤ hb ≤ s` (given an RNG with enough draws). -/
theorem pst13_commit_total (g γ : F) (β : List F) (ts : List Term) (nv s D : Nat)
    (hcov : ∀ t, PST.Covered nv s t → t ∈ ts) (p : MVPoly F)
    (hp : polyWf p = true) (hpv : polyVarsBelow nv p = true) (hd : degreeMV p ≤ s)
    (hb : Option Nat) (draws : List F)
    (hhb : ∀ b, hb = some b → 1 ≤ b ∧ b ≤ s ∧ 1 + nv * (b + 1) ≤ draws.length) :
    ∃ out, PST.commit (PST.wfCK g γ β ts nv s D (s + 1)) p hb true draws = .ok out :=
  PST.commit_ok g γ β ts nv s D hcov p hp hpv hd hb draws hhb

/-- **Nothing committed is refused by `open`**, at any point: polynomials of degree `≤ s`, blinding
polynomials of the shape `commit` draws (univariate terms of degree `≤ m`, the number of γ-powers
per variable), enough challenges; whatever numbers of variables `nvp`, `nvr ≤ nv` the combined
polynomials are declared over. -/
theorem pst13_open_total (g γ : F) (β : List F) (ts : List Term) (nv s D m : Nat)
    (hcov : ∀ t, PST.Covered nv s t → t ∈ ts)
    (nvp nvr : Nat) (hnvr : nvr ≤ nv) (ps rs : List (MVPoly F)) (z ξs : List F)
    (hps : ∀ p ∈ ps, polyWf p = true ∧ polyVarsBelow nv p = true ∧ degreeMV p ≤ s)
    (hrs : ∀ r ∈ rs, ∀ t ∈ termsOf r, PST.UniCovered nv m t)
    (hξ : ps.length ≤ ξs.length) (hz : nv ≤ z.length) :
    ∃ π, PST.open (PST.wfCK g γ β ts nv s D m) nvp nvr ps z rs ξs = .ok π :=
  PST.open_ok g γ β ts nv s D m hcov nvp nvr hnvr ps rs z ξs hps hrs hξ hz

/-- **Completeness, one polynomial, declared over any number `nvp ≤ nv` of variables** (`nvr ≤ nv`
the declared variable count of the blinding polynomial: `nv` when hiding, `0` for the empty one).
Key well-formed for an arbitrary trapdoor `β⃗` (`powers_of_g[t] = g·t(β⃗)` over any monomial list
`ts`, `powers_of_gamma_g[i][j] = γ·βᵢ^(j+1)`, `beta_h[i] = βᵢ·h`), any hiding bound, RNG stream,
point and challenge: if the committer returns `(c, r)` and the prover returns `π`, the verifier
accepts the true value `p(z)`.  `open` returns one witness per variable of the key, so this
includes polynomials declared over fewer variables than the key (the zero polynomial declared over
`0` variables among them). -/
theorem pst13_complete_fewer_vars (g γ h : F) (β : List F) (ts : List Term) (nv s D m nvp nvr : Nat)
    (p : MVPoly F)
    (hb : Option Nat) (rng : Bool) (draws : List F) (c : F) (r : MVPoly F) (rest : List F)
    (z : List F) (ξ : F) (ξs : List F) (π : PST.Proof F)
    (hnvp : nvp ≤ nv) (hnvr : nvr ≤ nv)
    (hp : polyWf p = true) (hpv : polyVarsBelow nvp p = true) (hrv : polyVarsBelow nvr r = true)
    (hβ : nv ≤ β.length) (hz : nv ≤ z.length)
    (hc : PST.commit (PST.wfCK g γ β ts nv s D m) p hb rng draws = .ok (c, r, rest))
    (ho : PST.open (PST.wfCK g γ β ts nv s D m) nvp nvr [p] z [r] (ξ :: ξs) = .ok π) :
    PST.check (PST.wfVK g γ h β nv s D) [c] z [evalMV p z] π (ξ :: ξs) = .ok true
      ∧ π.w.length = nv := by
  have hchk : PST.check (PST.wfVK g γ h β nv s D) [c] z [evalMV p z] π (ξ :: ξs) = .ok true := by
    simpa using PST.single_check_eq g γ h β ts nv s D m nvp nvr p hb rng draws c r rest z ξ ξs π 0 0
      hnvp hnvr hp hpv hrv hβ hz hc ho
  exact ⟨hchk, ((PST.check_ok_iff _ _ _ _ _ _ _).1 hchk).1⟩

/-- non-vacuity: `4 + 6x₀ + 2x₀²` declared over ONE variable under the two-variable key, hiding
bound 1 (blinding polynomial over both variables); the proof has two witnesses and is accepted.
And the zero polynomial declared over zero variables. -/
example : polyVarsBelow 1 ([(4, []), (6, [(0, 1)]), (2, [(0, 2)])] : MVPoly K) = true := by decide +kernel
example : PST.commit (PST.wfCK (3 : K) 5 [2, 7] (specTerms 2 2) 2 2 2 3)
    [(4, []), (6, [(0, 1)]), (2, [(0, 2)])] (some 1) true [7, 5, 9, 4, 8, 11]
    = .ok (13, [(7, []), (4, [(1, 1)]), (5, [(0, 1)]), (8, [(1, 2)]), (9, [(0, 2)])], [11]) := by decide +kernel
example : PST.open (PST.wfCK (3 : K) 5 [2, 7] (specTerms 2 2) 2 2 2 3) 1 2
    [[(4, []), (6, [(0, 1)]), (2, [(0, 2)])]] [10, 20]
    [[(7, []), (4, [(1, 1)]), (5, [(0, 1)]), (8, [(1, 2)]), (9, [(0, 2)])]] [13]
    = .ok ⟨[31, 59], some 36⟩ := by decide +kernel
example : PST.check (PST.wfVK (3 : K) 5 11 [2, 7] 2 2 2) [13] [10, 20] [62] ⟨[31, 59], some 36⟩ [13]
    = .ok true := by decide +kernel
example : PST.open (PST.wfCK (3 : K) 5 [2, 7] (specTerms 2 2) 2 2 2 3) 0 0 [[]] [10, 20] [[]] [13]
    = .ok ⟨[0, 0], none⟩ := by decide +kernel

/-- **Completeness, one polynomial** declared over the key's `nv` variables (the common case of
`pst13_complete_fewer_vars`). -/
theorem pst13_complete (g γ h : F) (β : List F) (ts : List Term) (nv s D m : Nat) (p : MVPoly F)
    (hb : Option Nat) (rng : Bool) (draws : List F) (c : F) (r : MVPoly F) (rest : List F)
    (z : List F) (ξ : F) (ξs : List F) (π : PST.Proof F)
    (hp : polyWf p = true) (hpv : polyVarsBelow nv p = true)
    (hβ : nv ≤ β.length) (hz : nv ≤ z.length)
    (hc : PST.commit (PST.wfCK g γ β ts nv s D m) p hb rng draws = .ok (c, r, rest))
    (ho : PST.open (PST.wfCK g γ β ts nv s D m) nv nv [p] z [r] (ξ :: ξs) = .ok π) :
    PST.check (PST.wfVK g γ h β nv s D) [c] z [evalMV p z] π (ξ :: ξs) = .ok true :=
  (pst13_complete_fewer_vars g γ h β ts nv s D m nv nv p hb rng draws c r rest z ξ ξs π
    (Nat.le_refl _) (Nat.le_refl _) hp hpv
    (PST.commit_spec g γ β ts nv s D m p hb rng draws c r rest hc).2.2.1 hβ hz hc ho).1

/-- **Completeness, challenge-combined list.** Any number of polynomials `ps` with blinding
polynomials `rs` (of the shape `commit` produces: univariate terms), opened together at `z` under
the challenges `ξs` (`nvp`, `nvr ≤ nv`: the numbers of variables the combined polynomial and
blinding polynomial are declared over): whenever the prover returns a proof, the verifier —
consuming the same challenges — accepts the commitments `g·pⱼ(β⃗) + γ·rⱼ(β⃗)` with the true values. -/
theorem pst13_complete_list (g γ h : F) (β : List F) (ts : List Term) (nv s D m nvp nvr : Nat)
    (ps rs : List (MVPoly F)) (z ξs : List F) (π : PST.Proof F)
    (hnvp : nvp ≤ nv) (hnvr : nvr ≤ nv)
    (hlen : ps.length = rs.length)
    (hps : ∀ p ∈ ps, polyWf p = true ∧ polyVarsBelow nvp p = true)
    (hrs : ∀ r ∈ rs, polyWf r = true ∧ polyVarsBelow nvr r = true ∧
      ∀ t ∈ termsOf r, PST.isUni t = true)
    (hβ : nv ≤ β.length) (hz : nv ≤ z.length)
    (ho : PST.open (PST.wfCK g γ β ts nv s D m) nvp nvr ps z rs ξs = .ok π) :
    PST.check (PST.wfVK g γ h β nv s D) (PST.comms g γ β ps rs) z
      (ps.map (fun p => evalMV p z)) π ξs = .ok true :=
  PST.open_check_complete g γ h β ts nv s D m nvp nvr ps rs z ξs π hnvp hnvr hlen hps hrs hβ hz ho

/-- **What `commit` returns** under a well-formed key: the key-defined value
`g·p(β⃗) + γ·r(β⃗)`, a blinding polynomial of the shape the prover's γ-table lookup assumes, and
only for polynomials within the supported degree. -/
theorem pst13_commit_spec (g γ : F) (β : List F) (ts : List Term) (nv s D m : Nat) (p : MVPoly F)
    (hb : Option Nat) (rng : Bool) (draws : List F) (c : F) (r : MVPoly F) (rest : List F)
    (h : PST.commit (PST.wfCK g γ β ts nv s D m) p hb rng draws = .ok (c, r, rest)) :
    c = g * evalMV p β + γ * evalMV r β ∧ polyWf r = true ∧ polyVarsBelow nv r = true
      ∧ (∀ t ∈ termsOf r, PST.isUni t = true) ∧ degreeMV p ≤ s :=
  PST.commit_spec g γ β ts nv s D m p hb rng draws c r rest h

/-- non-vacuity over `ZMod 101`: key for trapdoor `(2,7)` over `setup`'s monomial list for
`(2,2)`; a hiding commitment to a mixed-monomial polynomial (one blinding draw is `0`, its term is
dropped), its opening at `(10,20)` under challenge `13`, and the accepted check -/
example : PST.commit (PST.wfCK (3 : K) 5 [2, 7] (specTerms 2 2) 2 2 2 3)
    [(4, []), (6, [(1, 1)]), (9, [(0, 1), (1, 1)]), (2, [(0, 2)])] (some 1) true [7, 0, 9, 4, 8, 11]
    = .ok (27, [(7, []), (4, [(1, 1)]), (8, [(1, 2)]), (9, [(0, 2)])], [11]) := by decide +kernel
example : PST.open (PST.wfCK (3 : K) 5 [2, 7] (specTerms 2 2) 2 2 2 3) 2 2
    [[(4, []), (6, [(1, 1)]), (9, [(0, 1), (1, 1)]), (2, [(0, 2)])]] [10, 20]
    [[(7, []), (4, [(1, 1)]), (8, [(1, 2)]), (9, [(0, 2)])]] [13] = .ok ⟨[10, 66], some 93⟩ := by
  decide +kernel
example : PST.check (PST.wfVK (3 : K) 5 11 [2, 7] 2 2 2) [27] [10, 20] [3] ⟨[10, 66], some 93⟩ [13]
    = .ok true := by decide +kernel
example : PST.check (PST.wfVK (3 : K) 5 11 [2, 7] 2 2 2) [27] [10, 20] [4] ⟨[10, 66], some 93⟩ [13]
    = .ok false := by decide +kernel

set_option linter.unusedVariables false in
/-- **End to end, ALL `n ≥ 1`, `D ≥ 1`, `s ≤ D`.** `setup`'s term list exists; the key published
for any trapdoor over that list trims to degree `s`; and then every polynomial `p` of degree `≤ s`
in `n` variables — arbitrary mixed monomials — is committed, opened at every point `z`, and the
opening is accepted.  (Stated without hiding; the hiding case is `pst13_commit_total` +
`pst13_open_total` + `pst13_complete` with the same covering key.) -/
theorem pst13_end_to_end (n D s : Nat) (hn : 1 ≤ n) (hD : 1 ≤ D) (hs : s ≤ D) (g γ h : F)
    (β z : List F) (hβ : n ≤ β.length) (hz : n ≤ z.length)
    (p : MVPoly F) (hp : polyWf p = true) (hpv : polyVarsBelow n p = true) (hd : degreeMV p ≤ s)
    (ξ : F) :
    ∃ l ck vk c π, setupTerms n D = .ok l ∧ PST.trim (PST.wfUP g γ h β l n D) s = .ok (ck, vk)
      ∧ PST.commit ck p none true [] = .ok (c, [], [])
      ∧ PST.open ck n n [p] z [[]] [ξ] = .ok π
      ∧ PST.check vk [c] z [evalMV p z] π [ξ] = .ok true := by
  obtain ⟨l, hl, _, hmem⟩ := Comb.setupTerms_general n D hn
  have h0 : ([] : Term) ∈ l := (hmem []).2 ⟨rfl, rfl, Nat.zero_le _⟩
  have htrim := PST.trim_wfUP g γ h β l n D s hs h0
  have hcov := PST.covered_mem_filter n s l (fun t ht =>
    (hmem t).2 ⟨ht.1, ht.2.1, Nat.le_trans ht.2.2 hs⟩)
  obtain ⟨⟨c, r, rest⟩, hc⟩ := PST.commit_ok g γ β _ n s D hcov p hp hpv hd none []
    (fun b hb => by cases hb)
  obtain ⟨hr, hrest⟩ := PST.commit_none _ p true [] c r rest hc
  subst hr; subst hrest
  obtain ⟨π, ho⟩ := PST.open_ok g γ β _ n s D (s + 1) hcov n n (Nat.le_refl _) [p] [[]] z [ξ]
    (fun q hq => by simp only [List.mem_singleton] at hq; subst hq; exact ⟨hp, hpv, hd⟩)
    (fun r hr t ht => by simp only [List.mem_singleton] at hr; subst hr; simp [termsOf] at ht)
    (by simp) hz
  refine ⟨l, _, _, c, π, hl, htrim, hc, ho, ?_⟩
  exact pst13_complete g γ h β _ n s D (s + 1) p none true [] c [] [] z ξ [] π hp hpv hβ hz hc ho

/-- non-vacuity of the end-to-end hypotheses: the example polynomial has degree `2 ≤ s = D = 2`
in `n = 2` variables -/
example : degreeMV ([(4, []), (6, [(1, 1)]), (9, [(0, 1), (1, 1)]), (2, [(0, 2)])] : MVPoly K) ≤ 2 := by
  decide +kernel

/-! ### (f) the verifier decides exactly `defect = 0`; changed claims are refused -/

/-- **`check` is the published relation.** Whenever the accumulation does not run out of
challenges, the proof has exactly one witness per key variable (otherwise the code returns
`IncorrectInputLength`) and no more witnesses than the key has `beta_h` / the point has
coordinates (otherwise the code panics), `check` accepts iff the explicit defect
`(Σξⱼ(Cⱼ − vⱼ·g) − rv·γ)·h − Σᵢ Wᵢ·(βᵢh − zᵢ·h)` is zero — for an arbitrary verifier key. -/
theorem check_iff_defect (vk : PST.VK F) (cs z vs : List F) (π : PST.Proof F) (ξs : List F)
    (a : F × F × List F) (hacc : PST.accumulate 0 0 cs vs ξs = .ok a)
    (hnv : π.w.length = vk.numVars)
    (hlen : π.w.length ≤ vk.betaH.length ∧ π.w.length ≤ z.length) :
    PST.check vk cs z vs π ξs = .ok true ↔ PST.defect vk cs z vs π ξs = 0 :=
  PST.check_iff_defect vk cs z vs π ξs a hacc hnv hlen

/-- non-vacuity: the accumulation of the example claim succeeds (`27·13`, `3·13` in `ZMod 101`) -/
example : PST.accumulate (0 : K) 0 [27] [3] [13] = .ok (48, 39, []) := by decide +kernel

/-- **Wrong value refused.** The honest proof for `(p, z)` against the claim `p(z) + δ`:
rejected whenever `δ·ξ·g·h ≠ 0`. -/
theorem wrong_value_rejected (g γ h : F) (β : List F) (ts : List Term) (nv s D m : Nat)
    (p : MVPoly F) (hb : Option Nat) (rng : Bool) (draws : List F) (c : F) (r : MVPoly F)
    (rest : List F) (z : List F) (ξ : F) (ξs : List F) (π : PST.Proof F) (δ : F)
    (hp : polyWf p = true) (hpv : polyVarsBelow nv p = true)
    (hβ : nv ≤ β.length) (hz : nv ≤ z.length)
    (hc : PST.commit (PST.wfCK g γ β ts nv s D m) p hb rng draws = .ok (c, r, rest))
    (ho : PST.open (PST.wfCK g γ β ts nv s D m) nv nv [p] z [r] (ξ :: ξs) = .ok π)
    (hne : δ * ξ * g * h ≠ 0) :
    PST.check (PST.wfVK g γ h β nv s D) [c] z [evalMV p z + δ] π (ξ :: ξs) = .ok false := by
  have := PST.single_check_eq g γ h β ts nv s D m nv nv p hb rng draws c r rest z ξ ξs π 0 δ
    (Nat.le_refl _) (Nat.le_refl _) hp hpv
    (PST.commit_spec g γ β ts nv s D m p hb rng draws c r rest hc).2.2.1 hβ hz hc ho
  rw [add_zero] at this
  rw [this, decide_eq_false (fun h0 => hne (by linear_combination -h0))]

/-- **Other commitment refused.** The honest proof against a commitment moved by `dc`
(a commitment to another polynomial, or any other group element): rejected whenever `dc·ξ·h ≠ 0`. -/
theorem other_commitment_rejected (g γ h : F) (β : List F) (ts : List Term) (nv s D m : Nat)
    (p : MVPoly F) (hb : Option Nat) (rng : Bool) (draws : List F) (c : F) (r : MVPoly F)
    (rest : List F) (z : List F) (ξ : F) (ξs : List F) (π : PST.Proof F) (dc : F)
    (hp : polyWf p = true) (hpv : polyVarsBelow nv p = true)
    (hβ : nv ≤ β.length) (hz : nv ≤ z.length)
    (hc : PST.commit (PST.wfCK g γ β ts nv s D m) p hb rng draws = .ok (c, r, rest))
    (ho : PST.open (PST.wfCK g γ β ts nv s D m) nv nv [p] z [r] (ξ :: ξs) = .ok π)
    (hne : dc * ξ * h ≠ 0) :
    PST.check (PST.wfVK g γ h β nv s D) [c + dc] z [evalMV p z] π (ξ :: ξs) = .ok false := by
  have := PST.single_check_eq g γ h β ts nv s D m nv nv p hb rng draws c r rest z ξ ξs π dc 0
    (Nat.le_refl _) (Nat.le_refl _) hp hpv
    (PST.commit_spec g γ β ts nv s D m p hb rng draws c r rest hc).2.2.1 hβ hz hc ho
  rw [add_zero] at this
  rw [this, decide_eq_false (fun h0 => hne (by rwa [mul_zero, sub_zero] at h0))]

/-- non-vacuity of the rejection hypotheses on the example above: `δ = 1`, `ξ = 13`, `g = 3`,
`h = 11` -/
example : (1 : K) * 13 * 3 * 11 ≠ 0 := by decide +kernel

end PCV.C15
