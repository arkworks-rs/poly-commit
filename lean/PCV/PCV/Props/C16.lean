/-
  Property C16 — the public algebraic helpers satisfy their defining identities:
  `LinearCombination` arithmetic preserves meaning, `evaluate_query_set` returns the evaluations of
  the queried polynomials, and `SuccinctCheckPolynomial::evaluate` agrees with the expanded
  coefficient vector.  Only property theorems live here; lemmas are in PCV/Proofs.
-/
import PCV.Proofs.LC
import PCV.Proofs.Succinct
import PCV.Proofs.TraitDefault
import PCV.Props.Examples

set_option linter.unusedSectionVars false

namespace PCV.C16
open PCV
variable {F : Type} [Field F]

/-! ### `LinearCombination` operators (`data_structures.rs`) -/

/-- `LinearCombination::empty` has value `0`. -/
theorem lc_empty (l : LC.Label) (σ : LC.Label → F) : LC.value (LC.empty l : LC.LinComb F) σ = 0 :=
  LC.value_empty l σ

/-- `LinearCombination::new(label, terms)` has the value `Σ cᵢ·σ(tᵢ)` of its terms. -/
theorem lc_new (l : LC.Label) (ts : List (F × LC.LCTerm)) (σ : LC.Label → F) :
    LC.value (LC.new l ts) σ = LC.termsValue σ ts :=
  LC.value_new l ts σ

/-- `a.push((c, t))`: `value a + c·σ(t)`, with `One ↦ 1`. -/
theorem lc_push (a : LC.LinComb F) (c : F) (t : LC.LCTerm) (σ : LC.Label → F) :
    LC.value (LC.push a (c, t)) σ = LC.value a σ + c * LC.termVal σ t :=
  LC.value_push a c t σ

/-- `a += (c, &b)`. -/
theorem lc_add_scaled (a b : LC.LinComb F) (c : F) (σ : LC.Label → F) :
    LC.value (LC.addScaled a c b) σ = LC.value a σ + c * LC.value b σ :=
  LC.value_addScaled a b c σ

/-- `a -= (c, &b)`. -/
theorem lc_sub_scaled (a b : LC.LinComb F) (c : F) (σ : LC.Label → F) :
    LC.value (LC.subScaled a c b) σ = LC.value a σ - c * LC.value b σ :=
  LC.value_subScaled a b c σ

/-- `a += &b`. -/
theorem lc_add_lc (a b : LC.LinComb F) (σ : LC.Label → F) :
    LC.value (LC.addLC a b) σ = LC.value a σ + LC.value b σ :=
  LC.value_addLC a b σ

/-- `a -= &b`. -/
theorem lc_sub_lc (a b : LC.LinComb F) (σ : LC.Label → F) :
    LC.value (LC.subLC a b) σ = LC.value a σ - LC.value b σ :=
  LC.value_subLC a b σ

/-- `a += c` (constant). -/
theorem lc_add_const (a : LC.LinComb F) (c : F) (σ : LC.Label → F) :
    LC.value (LC.addConst a c) σ = LC.value a σ + c :=
  LC.value_addConst a c σ

/-- `a -= c` (constant). -/
theorem lc_sub_const (a : LC.LinComb F) (c : F) (σ : LC.Label → F) :
    LC.value (LC.subConst a c) σ = LC.value a σ - c :=
  LC.value_subConst a c σ

/-- `a *= c`. -/
theorem lc_mul_const (a : LC.LinComb F) (c : F) (σ : LC.Label → F) :
    LC.value (LC.mulConst a c) σ = LC.value a σ * c :=
  LC.value_mulConst a c σ

/-- **Operation sequences.** For every initial combination, every sequence of public operations
(of any length) and every assignment `σ`: the value of the result is the same sequence of field
operations applied to the value of the initial combination. -/
theorem lc_op_sequence (a : LC.LinComb F) (ops : List (LC.Op F)) (σ : LC.Label → F) :
    LC.value (LC.applyOps a ops) σ = LC.specOps σ (LC.value a σ) ops :=
  LC.value_applyOps a ops σ

/-- The label of the left operand survives every operation sequence. -/
theorem lc_label_preserved (a : LC.LinComb F) (ops : List (LC.Op F)) :
    (LC.applyOps a ops).label = a.label :=
  LC.label_applyOps a ops

/-- non-vacuity: a sequence using every operator, with a repeated label (terms are not merged) and
its value under a concrete assignment -/
example :
    LC.applyOps (LC.new [97] [((3 : K), LC.LCTerm.poly [112])])
      [.addScaled 2 ⟨[98], [(5, .poly [112]), (1, .one)]⟩, .subScaled 4 ⟨[98], [(7, .poly [113])]⟩,
       .addLC ⟨[99], [(1, .poly [113])]⟩, .subLC ⟨[99], [(2, .one)]⟩, .addConst 9, .subConst 1,
       .mulConst 3, .push 6 (.poly [112])]
      = ⟨[97], [(9, .poly [112]), (30, .poly [112]), (6, .one), (17, .poly [113]), (3, .poly [113]),
          (95, .one), (27, .one), (98, .one), (6, .poly [112])]⟩ := by decide +kernel
example :
    LC.value (LC.applyOps (LC.new [97] [((3 : K), LC.LCTerm.poly [112])])
      [.addScaled 2 ⟨[98], [(5, .poly [112]), (1, .one)]⟩, .subConst 1, .mulConst 3])
      (fun l => if l = [112] then 10 else 0) = 90 := by decide +kernel

/-! ### `evaluate_query_set` (`lib.rs`) -/

section QuerySet
variable {P Pt : Type} [DecidableEq Pt]

/-- **`evaluate_query_set`.** If the call returns (no panic), then the returned map has exactly the
keys `(label, point)` of the query set, and every query `(label, (_, point))` is mapped to the
evaluation at `point` of the polynomial registered under `label` (the last one with that label in
`polys`, as `BTreeMap::from_iter` keeps it). -/
theorem evaluate_query_set_spec (ltL : QS.Label → QS.Label → Bool)
    (ltK : QS.Label × Pt → QS.Label × Pt → Bool) (evalP : P → Pt → F)
    (polys : List (QS.Label × P)) (qs : List (QS.Label × (QS.Label × Pt)))
    (m : List ((QS.Label × Pt) × F))
    (h : QS.evaluateQuerySet ltL ltK evalP polys qs = .ok m) :
    (∀ k, k ∈ QS.keys m ↔ ∃ q ∈ qs, QS.keyOf q = k) ∧
    (∀ q ∈ qs, ∃ p, QS.lastWith q.1 polys = some p ∧
      QS.lookup (QS.keyOf q) m = some (evalP p q.2.2)) :=
  QS.evaluateQuerySet_spec h

/-- **Totality / refusal.** The call returns iff every queried label names one of the polynomials;
otherwise it panics (`expect("polynomial in evaluated lc is not found")`). -/
theorem evaluate_query_set_ok_iff (ltL : QS.Label → QS.Label → Bool)
    (ltK : QS.Label × Pt → QS.Label × Pt → Bool) (evalP : P → Pt → F)
    (polys : List (QS.Label × P)) (qs : List (QS.Label × (QS.Label × Pt))) :
    ((∃ m, QS.evaluateQuerySet ltL ltK evalP polys qs = .ok m) ↔
        ∀ q ∈ qs, (QS.lastWith q.1 polys).isSome = true) ∧
    ((¬ ∃ m, QS.evaluateQuerySet ltL ltK evalP polys qs = .ok m) →
        QS.evaluateQuerySet ltL ltK evalP polys qs = .error .abort) := by
  have h := QS.evalLoop_ok_iff ltK evalP (QS.fromList ltL polys []) qs []
  simp only [QS.lookup_fromList_nil] at h
  exact h

/-- The returned association list is strictly sorted by key (it is a `BTreeMap`: no duplicate
keys), for every strict total order on the keys. -/
theorem evaluate_query_set_sorted (ltL : QS.Label → QS.Label → Bool)
    (ltK : QS.Label × Pt → QS.Label × Pt → Bool) (hlt : QS.StrictTotal ltK) (evalP : P → Pt → F)
    (polys : List (QS.Label × P)) (qs : List (QS.Label × (QS.Label × Pt)))
    (m : List ((QS.Label × Pt) × F))
    (h : QS.evaluateQuerySet ltL ltK evalP polys qs = .ok m) : QS.Sorted ltK m :=
  QS.evalLoop_sorted hlt List.Pairwise.nil h

/-- the order used by the code (`Ord` of `(String, T)`) is a strict total order whenever the order
of the points is: the hypothesis of `evaluate_query_set_sorted` is satisfiable -/
theorem key_order_strict_total (ltP : Pt → Pt → Bool) (h : QS.StrictTotal ltP) :
    QS.StrictTotal (QS.ltKey ltP) :=
  QS.strictTotal_ltKey ltP h

/-- the order of points used in the examples (representatives in `0..100`) is strict total -/
example : QS.StrictTotal (fun a b : K => decide (a.val < b.val)) :=
  ⟨fun _ _ _ h1 h2 => decide_eq_true (Nat.lt_trans (of_decide_eq_true h1) (of_decide_eq_true h2)),
    fun _ _ hne h => decide_eq_true (Nat.lt_of_le_of_ne (Nat.le_of_not_lt (of_decide_eq_false h))
      fun e => hne (ZMod.val_injective 101 e).symm)⟩

/-- non-vacuity: two polynomials (one label given twice: the later one wins), three queries sharing
labels and points, result sorted by `(label, point)` -/
example :
    QS.evaluateQuerySet QS.ltLabel (QS.ltKey (fun a b : K => decide (a.val < b.val))) (evalPoly (F := K))
      [([112], [1, 2]), ([113], [0, 0, 1]), ([112], [5, 1])]
      [([113], ([122], 3)), ([112], ([122], 3)), ([112], ([119], 2)), ([113], ([120], 3))]
      = .ok [(([112], 2), 7), (([112], 3), 8), (([113], 3), 9)] := by decide +kernel
/-- non-vacuity of the refusal: an unknown label aborts -/
example :
    QS.evaluateQuerySet QS.ltLabel (QS.ltKey (fun a b : K => decide (a.val < b.val))) (evalPoly (F := K))
      [([112], [1, 2])] [([112], ([122], 3)), ([114], ([122], 3))] = .error .abort := by decide +kernel

end QuerySet

/-! ### `SuccinctCheckPolynomial` (`ipa_pc/data_structures.rs`) -/

/-- `compute_coeffs` returns `2^k` coefficients for `k` challenges. -/
theorem computeCoeffs_length (us : List F) :
    (Succinct.computeCoeffs us).length = 2 ^ us.length :=
  Succinct.computeCoeffs_length us

/-- The structure of the coefficient vector: the first challenge multiplies the upper half,
the remaining challenges act on both halves alike. -/
theorem computeCoeffs_cons (u : F) (us : List F) :
    Succinct.computeCoeffs (u :: us)
      = Succinct.computeCoeffs us ++ (Succinct.computeCoeffs us).map (· * u) :=
  Succinct.computeCoeffs_cons u us

/-- **`evaluate(z)` equals Horner evaluation of `compute_coeffs()` at `z`**, for every challenge
list (any length) and every point. -/
theorem evaluate_eq_horner (us : List F) (z : F) :
    Succinct.evaluate us z = evalPoly (Succinct.computeCoeffs us) z :=
  Succinct.evaluate_eq_horner us z

/-- **Product form**: `evaluate us z = ∏ᵢ (1 + uᵢ · z^(2^(k-i)))`, `i = 1..k`: the first challenge
pairs with the highest power `z^(2^(k-1))`, the last with `z`. -/
theorem evaluate_eq_product (us : List F) (z : F) :
    Succinct.evaluate us z = Succinct.prodForm z us :=
  Succinct.evaluate_eq_prodForm us z

/-- non-vacuity: three challenges; `coeffs[j] = ∏ {uᵢ : bit (k-i) of j is set}` -/
example : Succinct.computeCoeffs [(2 : K), 3, 5] = [1, 5, 3, 15, 2, 10, 6, 30] := by decide +kernel
example : Succinct.evaluate [(2 : K), 3, 5] 7 = 14 := by decide +kernel
example : evalPoly (Succinct.computeCoeffs [(2 : K), 3, 5]) 7 = 14 := by decide +kernel
example : Succinct.computeCoeffs ([] : List K) = [1] ∧ Succinct.evaluate ([] : List K) 7 = 1 := by
  decide +kernel

end PCV.C16
