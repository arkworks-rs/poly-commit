/-
  Property C17 — out-of-domain requests are refused, never answered with a wrong result;
  in-domain requests never abort.
-/
import PCV.Proofs.KZG10Domain
import PCV.Props.Examples

namespace PCV.C17
open PCV
variable {F : Type} [Field F] [DecidableEq F]

/-- **KZG10 commit, outside the domain.** A polynomial larger than the key, a hiding bound without
an RNG, or a hiding bound beyond the published γ-powers ends in an error, never in a commitment. -/
theorem kzg10_commit_refuses (pw : KZG.Powers F) (p : List F) (hb : Option Nat) (rng : Bool)
    (draws : List F) (h : ¬ KZG.InDomainCommit pw p hb rng) :
    ∃ e, KZG.commit pw p hb rng draws = .error e := by
  cases hc : KZG.commit pw p hb rng draws with
  | error e => exact ⟨e, rfl⟩
  | ok x => exact absurd (KZG.commit_ok_imp_inDomain hc) h

/-- **KZG10 commit, inside the domain.** The request is answered — no error, no abort
(`hrng`: the caller's RNG eventually yields a non-zero field element). -/
theorem kzg10_commit_ok (pw : KZG.Powers F) (p : List F) (hb : Option Nat) (rng : Bool)
    (draws : List F) (h : KZG.InDomainCommit pw p hb rng)
    (hrng : ∀ hh, hb = some hh → (KZG.randPoly (hh + 1) draws).isSome) :
    ∃ x, KZG.commit pw p hb rng draws = .ok x := by
  obtain ⟨hd, hh⟩ := h
  cases hb with
  | none => exact ⟨_, KZG.commit_none pw p rng draws (Nat.not_lt.2 hd)⟩
  | some b =>
    obtain ⟨⟨r, rest⟩, hr⟩ := Option.isSome_iff_exists.1 (hrng b rfl)
    refine ⟨(_, r, rest), (KZG.commit_some_ok_iff (Nat.not_lt.2 hd)).2
      ⟨(hh b rfl).1, hr, ?_, rfl⟩⟩
    rw [KZG.randPoly_pdeg hr]
    exact (KZG.checkHidingBound_ok _ _).2 ⟨Nat.succ_ne_zero b, (hh b rfl).2⟩

/-- **KZG10 open.** Refused beyond the key, answered within it. -/
theorem kzg10_open_refuses (pw : KZG.Powers F) (p r : List F) (z : F)
    (h : pdeg p + 1 > pw.g.length) : KZG.open pw p z r = .error .tooManyCoefficients :=
  KZG.open_refuses pw p r z h

theorem kzg10_open_ok (pw : KZG.Powers F) (p r : List F) (z : F)
    (h : ¬ (pdeg p + 1 > pw.g.length)) : ∃ π, KZG.open pw p z r = .ok π :=
  KZG.open_ok pw p r z h

/-- **KZG10 batch_check.** Slices of different lengths are refused. -/
theorem kzg10_batch_shape_refused (vk : KZG.VK F) (cs zs vs : List F) (πs : List (KZG.Proof F))
    (rs : List F)
    (hl : ¬ (cs.length = zs.length ∧ cs.length = vs.length ∧ cs.length = πs.length)) :
    KZG.batchCheck vk cs zs vs πs rs = .error .incorrectInputLength :=
  KZG.batchCheck_shape vk cs zs vs πs rs hl

/-- non-vacuity: both sides of the boundary are inhabited -/
example : KZG.InDomainCommit (KZG.wfPowers (3 : K) 5 2 3 4) [1, 2, 3] (some 1) true := by decide +kernel
example : ¬ KZG.InDomainCommit (KZG.wfPowers (3 : K) 5 2 3 4) [1, 2, 3, 4] none true := by decide +kernel
example : ¬ KZG.InDomainCommit (KZG.wfPowers (3 : K) 5 2 3 4) [1, 2, 3] (some 3) true := by decide +kernel
example : ¬ KZG.InDomainCommit (KZG.wfPowers (3 : K) 5 2 3 4) [1, 2, 3] (some 1) false := by decide +kernel

end PCV.C17
