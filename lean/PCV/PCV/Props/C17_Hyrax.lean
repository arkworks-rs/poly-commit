/-
  Property C17 (out-of-domain requests are refused, never answered with a wrong result) — Hyrax.
  Model: `PCV.Model.Hyrax` (`commit`, `open`, `check`), `PCV.Model.HyraxSetup` (`setup`).
  Every refusal branch of the model: an odd or missing number of variables, a key made for another
  number of variables (too small: `InvalidNumberOfVariables`; otherwise the `pedersen_commit`
  assertion aborts), an evaluation table of the wrong size, mismatched labels, a polynomial whose
  number of variables is not the point's, a wrong number of values / proofs, a commitment of the wrong
  size — and conversely what every ANSWER implies about its request.  In-domain requests never abort:
  `C01.hyrax_honest_total` (commit + open answer) with `C01.hyrax_complete` (check accepts); the
  combined statement is `hyrax_in_domain_answered` below.
-/
import PCV.Proofs.Hyrax
import PCV.Model.HyraxSetup
import PCV.Props.Examples

set_option linter.unusedSectionVars false

namespace PCV.C17
open PCV PCV.Hyrax
variable {F : Type} [Field F] [DecidableEq F]

/-! ### `setup` -/

/-- no number of variables, or an odd one: `InvalidNumberOfVariables` -/
theorem hyrax_setup_refuses (gen : Nat → F) (nv : Option Nat) (h : nv = none ∨ ∃ n, nv = some n ∧ n % 2 = 1) :
    setup gen nv = .error .invalidNumVars := by
  rcases h with rfl | ⟨n, rfl, hn⟩
  · rfl
  · simp [setup, hn]

/-! ### `commit` -/

/-- a polynomial with an odd number of variables is refused -/
theorem hyrax_commit_odd_refused (ks : List F) (hh : F) (p : MLPoly F) (ρs : List F)
    (h : p.nv % 2 = 1) : commitOne ks hh p ρs = .error .invalidNumVars := by
  unfold commitOne; simp [h]

/-- more variables than the key has elements: `InvalidNumberOfVariables` -/
theorem hyrax_commit_too_many_vars_refused (ks : List F) (hh : F) (p : MLPoly F) (ρs : List F)
    (hn : p.nv % 2 = 0) (h : ks.length < p.nv) : commitOne ks hh p ρs = .error .invalidNumVars := by
  unfold commitOne
  simp only
  rw [if_neg (Nat.mod_two_ne_one.2 hn), if_pos h]

/-- **Whatever `commit` answers was in the domain**: an even number of variables, exactly `2^n`
evaluations, a key of exactly `2^(n/2)` generators; and the answer has one row commitment per row.
So a polynomial over another number of variables than the key's, or an evaluation table of another
size, is refused (error or abort) — never answered by a commitment to something else. -/
theorem hyrax_commit_answer_shape (ks : List F) (hh : F) (p : MLPoly F) (ρs c : List F) (st : State F)
    (h : commitOne ks hh p ρs = .ok (c, st)) :
    p.nv % 2 = 0 ∧ p.evals.length = 2 ^ p.nv ∧ ks.length = 2 ^ (p.nv / 2) ∧
      c.length = 2 ^ (p.nv / 2) := by
  obtain ⟨h1, h2, h3, h4, rfl, _⟩ := commitOne_ok_iff.1 h
  exact ⟨h1, h3, h2, rowCommits_rowsOf_length ks hh p.evals ρs _ h4⟩

/-- a key for another number of variables is refused -/
theorem hyrax_commit_wrong_key_refused (ks : List F) (hh : F) (p : MLPoly F) (ρs : List F)
    (h : ks.length ≠ 2 ^ (p.nv / 2)) : ∃ e, commitOne ks hh p ρs = .error e :=
  exists_error_of_not_ok fun r hc => h (hyrax_commit_answer_shape ks hh p ρs r.1 r.2 hc).2.2.1

/-- an evaluation table of the wrong size is refused -/
theorem hyrax_commit_wrong_table_refused (ks : List F) (hh : F) (p : MLPoly F) (ρs : List F)
    (h : p.evals.length ≠ 2 ^ p.nv) : ∃ e, commitOne ks hh p ρs = .error e :=
  exists_error_of_not_ok fun r hc => h (hyrax_commit_answer_shape ks hh p ρs r.1 r.2 hc).2.1

/-! ### `open` -/

/-- a point with an odd number of coordinates is refused -/
theorem hyrax_open_odd_refused (ks : List F) (hh : F) (items : List (OpenItem F)) (point : List F)
    (draws cs : List F) (h : point.length % 2 = 1) :
    Hyrax.open ks hh items point draws cs = .error .invalidNumVars := by
  unfold Hyrax.open; simp [h]

/-- **Whatever `open` answers was in the domain**: the point has an even number of coordinates,
every (polynomial, commitment) pair carries the same label (`MismatchedLabels` otherwise), every
polynomial has exactly as many variables as the point (`MismatchedNumVars` otherwise), and there is
one proof per item. -/
theorem hyrax_open_answer_shape (ks : List F) (hh : F) (items : List (OpenItem F)) (point : List F)
    (draws cs : List F) (πs : List (Proof F)) (h : Hyrax.open ks hh items point draws cs = .ok πs) :
    point.length % 2 = 0 ∧ πs.length = items.length ∧
      ∀ it ∈ items, it.polyLabel = it.comLabel ∧ it.nv = point.length := by
  replace h := open_ok_iff.1 h
  refine ⟨h.1, ?_⟩
  replace h := h.2
  induction items generalizing draws cs πs with
  | nil => cases h; exact ⟨rfl, nofun⟩
  | cons it its ih =>
    obtain ⟨c, cs', π, πs', rfl, hl, hnv, _, _, hrest, rfl⟩ := openLoop_cons_ok_iff.1 h
    obtain ⟨i1, i2⟩ := ih _ _ _ hrest
    exact ⟨congrArg (· + 1) i1, List.forall_mem_cons.2 ⟨⟨hl, hnv⟩, i2⟩⟩

/-- mismatched labels at any position: refused -/
theorem hyrax_open_mismatched_labels_refused (ks : List F) (hh : F) (items : List (OpenItem F))
    (point draws cs : List F) (it : OpenItem F) (hit : it ∈ items) (hl : it.polyLabel ≠ it.comLabel) :
    ∃ e, Hyrax.open ks hh items point draws cs = .error e :=
  exists_error_of_not_ok fun πs ho =>
    hl ((hyrax_open_answer_shape ks hh items point draws cs πs ho).2.2 it hit).1

/-- a polynomial over another number of variables than the point has coordinates: refused -/
theorem hyrax_open_wrong_nv_refused (ks : List F) (hh : F) (items : List (OpenItem F))
    (point draws cs : List F) (it : OpenItem F) (hit : it ∈ items) (hl : it.nv ≠ point.length) :
    ∃ e, Hyrax.open ks hh items point draws cs = .error e :=
  exists_error_of_not_ok fun πs ho =>
    hl ((hyrax_open_answer_shape ks hh items point draws cs πs ho).2.2 it hit).2

/-! ### `check` -/

/-- a point with an odd number of coordinates: `InvalidNumberOfVariables` -/
theorem hyrax_check_odd_refused (ks : List F) (hh : F) (coms : List (List F)) (point vs : List F)
    (πs : List (Proof F)) (cs : List F) (h : point.length % 2 = 1) :
    check ks hh coms point vs πs cs = .error .invalidNumVars := check_odd h

/-- a missing evaluation or a wrong number of proofs: `IncorrectInputLength` (finding D2: before
the repair the lists were zipped and an empty proof list was accepted) -/
theorem hyrax_check_wrong_counts_refused (ks : List F) (hh : F) (coms : List (List F))
    (point vs : List F) (πs : List (Proof F)) (cs : List F) (hn : point.length % 2 = 0)
    (h : coms.length ≠ πs.length ∨ vs.length ≠ πs.length) :
    check ks hh coms point vs πs cs = .error .incorrectInputLength :=
  check_lengths hn h

/-- **A positive verification result implies a well-shaped request**: even number of coordinates,
one value and one proof per commitment, every commitment has `2^(n/2)` rows and every `z` has as many
entries as the key. -/
theorem hyrax_accept_shape (ks : List F) (hh : F) (coms : List (List F)) (point vs : List F)
    (πs : List (Proof F)) (cs : List F) (h : check ks hh coms point vs πs cs = .ok true) :
    point.length % 2 = 0 ∧ coms.length = πs.length ∧ vs.length = πs.length ∧
      (∀ c ∈ coms, c.length = 2 ^ (point.length / 2)) ∧ ∀ π ∈ πs, π.z.length = ks.length := by
  exact check_shapes h

/-! ### in-domain requests never abort -/

/-- **In-domain requests are answered.**  Key of `2^(n/2)` generators, `n` even, polynomials in `n`
variables with `2^n` evaluations, enough draws and challenges: `commit` answers, `open` answers,
`check` answers `Ok(true)`. -/
theorem hyrax_in_domain_answered (ks : List F) (hh : F) (point : List F) (hn : point.length % 2 = 0)
    (hks : ks.length = 2 ^ (point.length / 2)) (polys : List (MLPoly F))
    (ρdraws odraws cs : List F)
    (hp : ∀ p ∈ polys, p.nv = point.length ∧ p.evals.length = 2 ^ p.nv)
    (h1 : polys.length * 2 ^ (point.length / 2) ≤ ρdraws.length)
    (h2 : polys.length * (2 ^ (point.length / 2) + 3) ≤ odraws.length)
    (h3 : polys.length ≤ cs.length) :
    ∃ coms sts rest πs, commit ks hh polys ρdraws = .ok (coms, sts, rest) ∧
      Hyrax.open ks hh (honestItems polys sts) point odraws cs = .ok πs ∧
      check ks hh coms point (polys.map fun p => mleEval p.evals point) πs cs = .ok true := by
  obtain ⟨coms, sts, rest, πs, a, b, c⟩ := honest_total (hh := hh) hn hks hp h1 h2 h3
  exact ⟨coms, sts, rest, πs, a, c, (complete a b c).1⟩

/-! non-vacuity over `ZMod 101` -/
example : commitOne ([3, 5] : List K) 7 ⟨3, List.replicate 8 1⟩ [1, 2] = .error .invalidNumVars ∧
    commitOne ([3, 5] : List K) 7 ⟨4, List.replicate 16 1⟩ [1, 2, 3, 4] = .error .invalidNumVars ∧
    commitOne ([3, 5, 6, 8] : List K) 7 ⟨2, [1, 2, 3, 4]⟩ [1, 2, 3, 4] = .error .abort ∧
    commitOne ([3, 5] : List K) 7 ⟨2, [1, 2, 3]⟩ [1, 2] = .error .abort := by decide +kernel
example : Hyrax.open ([3, 5] : List K) 7 [⟨[1], [2], 2, ⟨[10, 20], ⟨2, 2, [[1, 3], [2, 4]]⟩⟩⟩] [6, 17]
      [1, 2, 3, 4, 5] [11] = .error .mismatchedLabels ∧
    Hyrax.open ([3, 5] : List K) 7 [⟨[1], [1], 4, ⟨[10, 20], ⟨2, 2, [[1, 3], [2, 4]]⟩⟩⟩] [6, 17]
      [1, 2, 3, 4, 5] [11] = .error .invalidNumVars ∧
    Hyrax.open ([3, 5] : List K) 7 [⟨[1], [1], 2, ⟨[10, 20], ⟨2, 2, [[1, 3], [2, 4]]⟩⟩⟩] [6, 17, 3]
      [1, 2, 3, 4, 5] [11] = .error .invalidNumVars := by decide +kernel
example : check ([3, 5] : List K) 7 [[88, 65]] [6, 17] [41] [] [11] = .error .incorrectInputLength ∧
    check ([3, 5] : List K) 7 [[88, 65]] [6, 17] [] [⟨29, 49, 92, [79, 1], 67, 16, 1⟩] [11]
      = .error .incorrectInputLength ∧
    check ([3, 5] : List K) 7 [[88, 65, 1]] [6, 17] [41] [⟨29, 49, 92, [79, 1], 67, 16, 1⟩] [11]
      = .error .invalidCommitment ∧
    check ([3, 5] : List K) 7 [[88, 65]] [6, 17] [41] [⟨29, 49, 92, [79, 1], 67, 16, 1⟩] [11]
      = .ok true := by decide +kernel
example : ([3, 5] : List K).length = 2 ^ (([6, 17] : List K).length / 2) ∧
    ([6, 17] : List K).length % 2 = 0 := by decide +kernel

end PCV.C17
