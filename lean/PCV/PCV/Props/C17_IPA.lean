/-
  Property C17 — out-of-domain requests are refused, never answered with a wrong result,
  inner-product-argument scheme: `commit`, `open`, `check`, `batch_check` (`trim` is in C09_IPA,
  the combination policy in C06_IPA).  "Refused" = `Err(..)` or an abort (assertion / `expect` /
  index / underflow), i.e. `Except.error` in the model.
-/
import PCV.Proofs.IPAVerify
import PCV.Props.Examples

namespace PCV.C17
open PCV
variable {F : Type} [Field F] [DecidableEq F]

/-- **commit, the three refusals of the admission test and the missing RNG**, for the first
offending polynomial whatever follows it: degree above the supported degree
(`TooManyCoefficients`); a bound below the degree or above the supported degree
(`IncorrectDegreeBound`); a hiding bound without an RNG (`OptionalRng` panics). -/
theorem ipa_commit_refuses (ck : IPA.CK F) (p : IPA.LPoly F) (ps : List (IPA.LPoly F)) (rng : Bool)
    (draws : List F) :
    (pdeg p.poly > IPA.supportedDegree ck →
      IPA.commit ck (p :: ps) rng draws = .error .tooManyCoefficients) ∧
    (∀ b, p.bound = some b → pdeg p.poly ≤ IPA.supportedDegree ck →
      (b < pdeg p.poly ∨ b > IPA.supportedDegree ck) →
      IPA.commit ck (p :: ps) rng draws = .error .incorrectBound) ∧
    (IPA.checkDegreesAndBounds (IPA.supportedDegree ck) p.poly p.bound = .ok () →
      p.hb.isSome = true → rng = false → IPA.commit ck (p :: ps) rng draws = .error .abort) := by
  refine ⟨?_, ?_, ?_⟩
  · intro h
    simp only [IPA.commit, IPA.commitOne, IPA.checkDegreesAndBounds, if_pos h]
  · intro b hb hdeg hbad
    simp only [IPA.commit, IPA.commitOne, IPA.checkDegreesAndBounds, hb]
    rw [if_neg (Nat.not_lt.2 hdeg), if_pos hbad]
  · intro hadm hh hr
    subst hr
    simp only [IPA.commit, IPA.commitOne, hadm, IPA.drawRand, hh]
    simp

/-- **commit, anywhere in the list**: an answered `commit` let every polynomial pass — a polynomial
outside the key's domain at any position makes the whole call fail (no partial output). -/
theorem ipa_commit_refuses_anywhere (ck : IPA.CK F) (polys : List (IPA.LPoly F)) (rng : Bool)
    (draws : List F) (p : IPA.LPoly F) (hp : p ∈ polys) (e : Err)
    (hbad : IPA.checkDegreesAndBounds (IPA.supportedDegree ck) p.poly p.bound = .error e) :
    ∃ e', IPA.commit ck polys rng draws = .error e' := by
  cases h : IPA.commit ck polys rng draws with
  | error e' => exact ⟨e', rfl⟩
  | ok x =>
    have := IPA.commit_admission ck rng polys draws x h p hp
    rw [this] at hbad; cases hbad

/-- **commit, inside the domain** (with an RNG that has two draws per polynomial): every admissible
list is answered — no abort. -/
theorem ipa_commit_ok (ck : IPA.CK F) :
    ∀ (polys : List (IPA.LPoly F)) (draws : List F),
      (∀ p ∈ polys, IPA.checkDegreesAndBounds (IPA.supportedDegree ck) p.poly p.bound = .ok ()) →
      2 * polys.length ≤ draws.length → ∃ out, IPA.commit ck polys true draws = .ok out := by
  intro polys
  induction polys with
  | nil => intro draws _ _; exact ⟨_, rfl⟩
  | cons p ps ih =>
    intro draws hadm hlen
    match draws, hlen with
    | a :: b :: ds, hlen =>
      obtain ⟨st, rest, hdr, hrest⟩ := IPA.drawRand_two p.hb.isSome p.bound.isSome a b ds
      obtain ⟨⟨cs, sts, d⟩, hout⟩ := ih rest (fun q hq => hadm q (List.mem_cons_of_mem _ hq))
        (by simp only [List.length_cons] at hlen; omega)
      simp only [IPA.commit, IPA.commitOne, hadm p List.mem_cons_self, hdr, hout]
      exact ⟨_, rfl⟩

/-- **open refuses what commit refuses**, wherever it stands in the list: an answered `open`
let every polynomial it combined pass the admission test. -/
theorem ipa_open_refuses_admission (ck : IPA.CK F) (polys : List (IPA.LPoly F))
    (comms : List (IPA.LComm F)) (sts : List (IPA.Rand F)) (z : F) (ξs ros : List F) (rng : Bool)
    (draws : List F) (hl1 : polys.length ≤ comms.length) (hl2 : polys.length ≤ sts.length)
    (p : IPA.LPoly F) (hp : p ∈ polys) (e : Err)
    (hbad : IPA.checkDegreesAndBounds (IPA.supportedDegree ck) p.poly p.bound = .error e) :
    ∃ e', IPA.open ck polys comms z sts ξs ros rng draws = .error e' := by
  cases h : IPA.open ck polys comms z sts ξs ros rng draws with
  | error e' => exact ⟨e', rfl⟩
  | ok x =>
    obtain ⟨π, ξr, ror, dr⟩ := x
    obtain ⟨cur, ξs', acc, _, _, _, _, _, _, _, rfl, hloop, _⟩ := IPA.open_ok h
    rw [IPA.openLoop_admission ck polys comms sts cur ξs' _ _ hl1 hl2 hloop p hp] at hbad
    cases hbad

/-- **open, mismatched inputs at the head of the lists**: a commitment with another label, a bound
without shifted commitment (or the reverse), a labelled commitment whose bound differs from the
polynomial's — each fires an assertion. -/
theorem ipa_open_refuses_mismatch (ck : IPA.CK F) (p : IPA.LPoly F) (ps : List (IPA.LPoly F))
    (c : IPA.LComm F) (cs : List (IPA.LComm F)) (st : IPA.Rand F) (sts : List (IPA.Rand F))
    (z cur ξ' ξ'' : F) (ξs ros : List F) (rng : Bool) (draws : List F)
    (hadm : IPA.checkDegreesAndBounds (IPA.supportedDegree ck) p.poly p.bound = .ok ())
    (hbad : p.label ≠ c.label ∨ p.bound.isSome ≠ c.comm.shifted.isSome ∨ p.bound ≠ c.bound) :
    IPA.open ck (p :: ps) (c :: cs) z (st :: sts) (cur :: ξ' :: ξ'' :: ξs) ros rng draws
      = .error .abort := by
  have hstep : ∀ acc, IPA.openStep ck p c st cur ξ' acc = .error .abort := by
    intro acc
    unfold IPA.openStep
    by_cases h1 : p.label ≠ c.label
    · rw [if_pos h1]
    · rw [if_neg h1, hadm]
      simp only
      by_cases h2 : p.bound.isSome ≠ c.comm.shifted.isSome
      · rw [if_pos h2]
      · rw [if_neg h2]
        have h3 : p.bound ≠ c.bound := by
          rcases hbad with h | h | h
          · exact absurd h h1
          · exact absurd h h2
          · exact h
        rw [if_pos h3]
  simp only [IPA.open, IPA.openLoop, hstep]

/-- **open, missing RNG**: a hiding polynomial opened without an RNG aborts
(`rng.expect("hiding commitments require randomness")`) — here for a single polynomial. -/
theorem ipa_open_refuses_no_rng (ck : IPA.CK F) (p : IPA.LPoly F) (c : IPA.LComm F) (st : IPA.Rand F)
    (z : F) (ξs ros draws : List F) (hh : p.hb.isSome = true) :
    ∃ e, IPA.open ck [p] [c] z [st] ξs ros false draws = .error e := by
  cases h : IPA.open ck [p] [c] z [st] ξs ros false draws with
  | error e => exact ⟨e, rfl⟩
  | ok x =>
    obtain ⟨π, ξr, ror, dr⟩ := x
    obtain ⟨cur, ξs', acc, _, _, _, _, _, _, _, rfl, hloop, hhid, _⟩ :=
      IPA.open_ok h
    obtain ⟨ξ', ξ'', rest, acc1, rfl, hstep, hrec⟩ := IPA.openLoop_cons_ok hloop
    cases hrec
    have hacc := IPA.openStep_hid hstep
    rcases IPA.hidingStep_ok hhid with ⟨h0, _⟩ | ⟨_, h1, _⟩
    · rw [hacc, hh] at h0; cases h0
    · cases h1

/-- **check, wrong round count**: a proof without exactly `log₂(supported + 1)` pairs `(L, R)` is
refused with `IncorrectInputLength` before anything else is looked at. -/
theorem ipa_check_refuses_shape (vk : IPA.VK F) (cs : List (IPA.LComm F)) (z : F) (vs : List F)
    (π : IPA.Proof F) (ξs ros : List F)
    (h : π.lVec.length ≠ π.rVec.length ∨ π.lVec.length ≠ IPA.clog2 (IPA.supportedDegree vk + 1)) :
    IPA.check vk cs z vs π ξs ros = .error .incorrectInputLength :=
  IPA.check_shape vk cs z vs π ξs ros ((IPA.badShape_iff vk π).2 h)

/-- **check, malformed statement at the head**: a bound label without shifted commitment (or the
reverse), or a bound above the supported degree (`supported − bound` underflows), aborts. -/
theorem ipa_check_refuses_statement (vk : IPA.VK F) (c : IPA.LComm F) (cs : List (IPA.LComm F)) (z v : F)
    (vs : List F) (π : IPA.Proof F) (cur ξ' ξ'' : F) (ξs ros : List F)
    (hshape : IPA.badShape vk π = false)
    (hbad : c.bound.isSome ≠ c.comm.shifted.isSome ∨
      ∃ b sc, c.bound = some b ∧ c.comm.shifted = some sc ∧ b > IPA.supportedDegree vk) :
    IPA.check vk (c :: cs) z (v :: vs) π (cur :: ξ' :: ξ'' :: ξs) ros = .error .abort := by
  have hstep : ∀ C V, IPA.accStep vk z c v cur ξ' C V = .error .abort := by
    intro C V
    rcases hbad with h | ⟨b, sc, h1, h2, h3⟩
    · exact IPA.accStep_mismatch vk z c v cur ξ' C V h
    · rw [IPA.accStep_some vk z c b sc v cur ξ' C V h1 h2, if_pos h3]
  simp only [IPA.check, hshape, Bool.false_eq_true, if_false, IPA.succinctCheck, IPA.succinctRun,
    IPA.accLoop, hstep]

/-- **check, malformed proof**: a hiding commitment without the combined randomness (or the
reverse) fires the assertion — the proof is never accepted. -/
theorem ipa_check_refuses_hiding_mismatch (vk : IPA.VK F) (cs : List (IPA.LComm F)) (z : F)
    (vs : List F) (π : IPA.Proof F) (ξs ros : List F)
    (h : π.hidingComm.isSome ≠ π.rand.isSome) :
    IPA.check vk cs z vs π ξs ros ≠ .ok true := by
  intro hc
  obtain ⟨_, r, ξr, ror, hr, _⟩ := (IPA.check_iff vk cs z vs π ξs ros).1 hc
  cases ξs with
  | nil => cases hr
  | cons cur ξs =>
    obtain ⟨C, _, _, hadj, _⟩ := (IPA.succinctRun_ok_iff ..).1 hr
    rw [IPA.hidingAdjust_mismatch vk π C _ h] at hadj
    cases hadj

/-- **batch_check, outside the domain**: a proof list whose length is not the number of point
labels (assertion); a malformed proof anywhere in the list is never accepted and, standing first, is
refused with `IncorrectInputLength`; a queried label without commitment (`MissingPolynomial`) or
without evaluation (`MissingEvaluation`) in the first group examined. -/
theorem ipa_batch_check_refuses (vk : IPA.VK F) (comms : List (IPA.LComm F)) (qs : List (IPA.Query F))
    (evals : List ((IPA.Label × F) × F)) (πs : List (IPA.Proof F)) (ξs ros rs : List F) :
    (πs.length ≠ (Marlin.groupQueries qs).length →
      IPA.batchCheck vk comms qs evals πs ξs ros rs = .error .abort) ∧
    (∀ π ∈ πs, IPA.badShape vk π = true → IPA.batchCheck vk comms qs evals πs ξs ros rs ≠ .ok true) ∧
    (∀ π πs', πs = π :: πs' → πs.length = (Marlin.groupQueries qs).length → IPA.badShape vk π = true →
      IPA.batchCheck vk comms qs evals πs ξs ros rs = .error .incorrectInputLength) ∧
    (∀ g gs l ls π πs', Marlin.groupQueries qs = g :: gs → g.2.2 = l :: ls → πs = π :: πs' →
      πs.length = (Marlin.groupQueries qs).length → IPA.badShape vk π = false →
      (Marlin.lookupLast (fun (c : IPA.LComm F) => c.label) l comms = none →
        IPA.batchCheck vk comms qs evals πs ξs ros rs = .error .missingPolynomial) ∧
      (∀ c, Marlin.lookupLast (fun (c : IPA.LComm F) => c.label) l comms = some c →
        Marlin.lookupEval evals l g.2.1 = none →
        IPA.batchCheck vk comms qs evals πs ξs ros rs = .error .missingEvaluation)) := by
  refine ⟨?_, ?_, ?_, ?_⟩
  · intro h; unfold IPA.batchCheck; rw [if_pos h]
  · intro π hπ hb; exact IPA.batchCheck_shape vk comms qs evals πs ξs ros rs π hπ hb
  · intro π πs' he hl hb
    subst he
    exact IPA.batchCheck_shape_first vk comms qs evals π πs' ξs ros rs hl hb
  · intro g gs l ls π πs' hg hls he hl hb
    subst he
    constructor
    · intro hlook
      unfold IPA.batchCheck
      rw [if_neg (not_not.2 hl), hg]
      simp only [IPA.batchSuccinct, hb, Bool.false_eq_true, if_false, hls, IPA.gatherComms, hlook]
    · intro c hlook hev
      unfold IPA.batchCheck
      rw [if_neg (not_not.2 hl), hg]
      simp only [IPA.batchSuccinct, hb, Bool.false_eq_true, if_false, hls, IPA.gatherComms, hlook, hev]

/-! non-vacuity over `ZMod 101` (4-element key): both sides of every boundary -/
example : IPA.commit (⟨[3, 5, 7, 11], 13, 17, 7⟩ : IPA.CK K) [⟨[1], [1, 2, 3, 4], none, none⟩] false []
    = .ok ([⟨[1], ⟨78, none⟩, none⟩], [⟨0, none⟩], []) := by decide +kernel
example : IPA.commit (⟨[3, 5, 7, 11], 13, 17, 7⟩ : IPA.CK K) [⟨[1], [1, 2, 3, 4, 5], none, none⟩] false []
    = .error .tooManyCoefficients := by decide +kernel
example : IPA.commit (⟨[3, 5, 7, 11], 13, 17, 7⟩ : IPA.CK K) [⟨[1], [1, 2, 3], some 1, none⟩] false []
    = .error .incorrectBound := by decide +kernel
example : IPA.commit (⟨[3, 5, 7, 11], 13, 17, 7⟩ : IPA.CK K) [⟨[1], [1, 2, 3], some 4, none⟩] false []
    = .error .incorrectBound := by decide +kernel
example : IPA.commit (⟨[3, 5, 7, 11], 13, 17, 7⟩ : IPA.CK K) [⟨[1], [1, 2, 3], some 2, some 1⟩] false []
    = .error .abort := by decide +kernel
example : IPA.open (⟨[3, 5, 7, 11], 13, 17, 7⟩ : IPA.CK K) [⟨[1], [1, 2, 3], none, none⟩]
    [⟨[2], ⟨34, none⟩, none⟩] 6 [⟨0, none⟩] [2, 3, 4] [7, 8, 9, 10] false [] = .error .abort := by decide +kernel
example : IPA.open (⟨[3, 5, 7, 11], 13, 17, 7⟩ : IPA.CK K) [⟨[1], [1, 2, 3], none, some 1⟩]
    [⟨[1], ⟨34, none⟩, none⟩] 6 [⟨0, none⟩] [2, 3, 4] [7, 8, 9, 10] false [] = .error .abort := by decide +kernel
example : IPA.check (⟨[3, 5], 13, 17, 3⟩ : IPA.CK K) [⟨[1], ⟨57, none⟩, none⟩] 6 [58]
    ⟨[7, 1], [83, 1], 48, 10, none, none⟩ [2, 3, 4] [8, 9] = .error .incorrectInputLength := by decide +kernel
example : IPA.check (⟨[3, 5], 13, 17, 3⟩ : IPA.CK K) [⟨[1], ⟨57, none⟩, some 1⟩] 6 [58]
    ⟨[7], [83], 48, 10, none, none⟩ [2, 3, 4] [8, 9] = .error .abort := by decide +kernel
example : IPA.batchCheck (⟨[3, 5], 13, 17, 3⟩ : IPA.CK K) [⟨[1], ⟨57, none⟩, none⟩]
    [([1], ([9], 6)), ([1], ([10], 7))] [(([1], 6), 58), (([1], 7), 67)]
    [⟨[7], [83], 48, 10, none, none⟩] [2, 3, 4, 5, 6, 7] [8, 9, 10, 4] [5, 6] = .error .abort := by decide +kernel
example : IPA.batchCheck (⟨[3, 5], 13, 17, 3⟩ : IPA.CK K) [⟨[1], ⟨57, none⟩, none⟩]
    [([2], ([9], 6))] [(([1], 6), 58)] [⟨[7], [83], 48, 10, none, none⟩] [2, 3, 4] [8, 9] [5]
    = .error .missingPolynomial := by decide +kernel
example : IPA.batchCheck (⟨[3, 5], 13, 17, 3⟩ : IPA.CK K) [⟨[1], ⟨57, none⟩, none⟩]
    [([1], ([9], 6))] [(([1], 7), 58)] [⟨[7], [83], 48, 10, none, none⟩] [2, 3, 4] [8, 9] [5]
    = .error .missingEvaluation := by decide +kernel

end PCV.C17
