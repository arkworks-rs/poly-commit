/-
  Property C17 (out-of-domain requests are refused, never answered with a wrong result) — the
  linear-code schemes.  Model: `PCV.Model.LinCode` (`commit`, `openOne`, `checkOne`, `checkAll`),
  `PCV.Model.LinCodeTranscript` (the `calculate_t(..)?` of `open` / `check`),
  `PCV.Model.LinCodeSetup` (`setup` / `trim`: `C09.lincode_setup_refuses`, `C09.lincode_trim_faithful`).
  Every refusal branch: an encoder that refuses a row, a polynomial larger (D21) or of another size
  (D25) than a fixed shape was made for, fewer than two leaves, a point too short for
  the matrix or with the wrong number of coordinates (D23), a state of the wrong shape, invalid parameters, `v` / well-formedness vector of the wrong
  length or missing, a missing proof, missing columns or paths, a wrong leaf position, a failing
  Merkle path, an encoding of the wrong length, a failing column test — and conversely: an ANSWER
  (`Ok(true)` or `Ok(false)`) is given only inside the published pre-value relation.  In-domain
  requests never abort: `lincode_in_domain_answered` (on a sponge, with and without the
  well-formedness check).
-/
import PCV.Proofs.LinCodeTranscript
import PCV.Proofs.LinCodeToy
import PCV.Proofs.Dimensions

namespace PCV.C17
open PCV PCV.LinCode PCV.Merkle
variable {F : Type} [Field F] [DecidableEq F] {D : Type} [DecidableEq D]

/-! ### `commit` -/

/-- a row the encoder refuses (Brakedown: a message of the wrong length): `commit` aborts -/
theorem lincode_commit_encoder_refusal_aborts (pp : Params F D) (coeffs : List F)
    (h : ∃ r ∈ (coeffMat pp.dims coeffs).rows, ∃ e, pp.enc r = .error e) :
    ∃ e, commit pp coeffs = .error e := by
  cases hc : commit pp coeffs with
  | error e => exact ⟨e, rfl⟩
  | ok r =>
    obtain ⟨row, hrow, e, he⟩ := h
    obtain ⟨_, hmat, henc, _⟩ := commit_ok hc
    rw [hmat] at henc
    have hf := encodeRows_ok_iff.1 henc
    obtain ⟨i, hi, rfl⟩ := List.mem_iff_getElem.1 hrow
    cases he.symm.trans (hf.get hi (hf.length_eq ▸ hi))

/-- **A polynomial larger than the matrix of the parameters is refused** (fix D21): when the coefficient vector
has more entries than `n_rows · n_cols` — possible only for a code of fixed shape, i.e. Brakedown keys made
for fewer variables — `commit` aborts instead of committing to a truncation. -/
theorem lincode_commit_oversize_refused (pp : Params F D) (coeffs : List F)
    (h : (pp.dims (coeffsOrZero coeffs).length).1 * (pp.dims (coeffsOrZero coeffs).length).2
      < (coeffsOrZero coeffs).length) :
    commit pp coeffs = .error .abort := by
  unfold commit
  rw [computeMatrices_oversize (by
    unfold fitsDims
    exact decide_eq_false (fun hh => Nat.not_le_of_lt h hh.1))]

/-- **A polynomial of another size than the parameters were made for is refused** (fix D25): when
the number of columns `m` of `compute_dimensions(len) = (n, m)` is not `⌈len / n⌉` — possible only for
a code of fixed shape, i.e. Brakedown parameters used for a polynomial with fewer (or more)
coefficients than they were made for; `BrakedownPCParams::compute_dimensions` asserts the equality —
`commit` aborts instead of zero-padding the polynomial into a different one. -/
theorem lincode_commit_wrong_size_refused (pp : Params F D) (coeffs : List F)
    (h : ceilDiv (coeffsOrZero coeffs).length (pp.dims (coeffsOrZero coeffs).length).1
      ≠ (pp.dims (coeffsOrZero coeffs).length).2) :
    commit pp coeffs = .error .abort := by
  unfold commit
  rw [computeMatrices_oversize (by
    unfold fitsDims
    exact decide_eq_false (fun hh => h hh.2))]

/-- … and a shape law with `n > 0` rows and `m = ⌈len / n⌉` columns (Ligero's `compute_dimensions`) never
meets either refusal: the size test of `compute_matrices` (D21) and the width test (D25) both hold for
every coefficient vector -/
theorem lincode_fits_of_ceil_div (dims : Nat → Nat × Nat) (coeffs : List F)
    (h : ∀ len, 0 < (dims len).1 ∧ (dims len).2 = ceilDiv len (dims len).1) :
    fitsDims dims coeffs = true :=
  fitsDims_of_ceilDiv dims coeffs h

/-- in particular Ligero's `compute_dimensions` (`computeDimensions`, with any `calculate_t`) fits
every polynomial: the fixes D21 / D25 change nothing for the Ligero schemes -/
theorem lincode_ligero_dims_fit (t : Nat → Nat) (coeffs : List F) :
    fitsDims (fun len => computeDimensions len (t len)) coeffs = true :=
  fitsDims_of_ceilDiv _ coeffs (fun len => ⟨dimN_pos len (t len), rfl⟩)

/-- what the size test of `commit` is: at most `n·m` coefficients and `m = ⌈len / n⌉` columns -/
theorem lincode_fits_iff (dims : Nat → Nat × Nat) (coeffs : List F) :
    fitsDims dims coeffs = true ↔
      (coeffsOrZero coeffs).length
          ≤ (dims (coeffsOrZero coeffs).length).1 * (dims (coeffsOrZero coeffs).length).2 ∧
        ceilDiv (coeffsOrZero coeffs).length (dims (coeffsOrZero coeffs).length).1
          = (dims (coeffsOrZero coeffs).length).2 :=
  fitsDims_iff dims coeffs

/-- **Whatever `commit` answers**: the commitment announces the matrix shape of
`compute_dimensions`, the codeword length of the encoded rows, and the tree has at least two leaves -/
theorem lincode_commit_answer_shape (pp : Params F D) (coeffs : List F) (c : Comm D) (st : State F D)
    (h : commit pp coeffs = .ok (c, st)) :
    c.nRows = (coeffMat pp.dims coeffs).n ∧ c.nCols = (coeffMat pp.dims coeffs).m ∧
      c.nExtCols = st.extMat.m ∧ st.mat = coeffMat pp.dims coeffs ∧ depth st.leaves ≠ 0 := by
  obtain ⟨_, hmat, _, _, hd, rfl⟩ := commit_ok h
  exact ⟨by rw [hmat], by rw [hmat], rfl, hmat, hd⟩

/-! ### `open` -/

set_option linter.unusedSectionVars false in
/-- a multilinear point with fewer coordinates than `log₂ n_cols`: `open` aborts (the slice of
`tensor` is out of range) -/
theorem lincode_open_short_point_refused (pp : Params F D) (pt : List F) (c : Comm D)
    (st : State F D) (o : Oracle F) (h : pt.length < ceilLog2 c.nCols) :
    openOne pp (.ml pt) c st o = .error .abort := by
  unfold openOne
  split
  · rfl
  · simp only [tensor, tensorML]
    rw [if_neg (Nat.not_le_of_lt h)]

/-- a state whose matrix does not have one row per entry of `b` (a state of another polynomial
shape): `open` refuses -/
theorem lincode_open_wrong_state_refused (pp : Params F D) (point : Point F) (c : Comm D)
    (st : State F D) (o : Oracle F) (a b : List F) (ht : tensor point c.nCols c.nRows = .ok (a, b))
    (hb : b.length ≠ st.mat.n) : ∃ e, openOne pp point c st o = .error e := by
  cases ho : openOne pp point c st o with
  | error e => exact ⟨e, rfl⟩
  | ok π =>
    exfalso
    obtain ⟨_, ab, hten, _, hbl, _⟩ := openOne_ok_iff.1 ho
    cases ht.symm.trans hten
    exact hb hbl

/-- a transcript position outside the encoded matrix: `open` aborts (index out of bounds) -/
theorem lincode_open_position_out_of_range_refused (pp : Params F D) (point : Point F) (c : Comm D)
    (st : State F D) (o : Oracle F) (q : Nat) (hq : q ∈ o.indices) (hr : st.extMat.m ≤ q) :
    ∃ e, openOne pp point c st o = .error e := by
  cases ho : openOne pp point c st o with
  | error e => exact ⟨e, rfl⟩
  | ok π =>
    obtain ⟨_, _, _, _, _, hi, _⟩ := openOne_ok_iff.1 ho
    exact absurd (hi q hq).1 (Nat.not_lt_of_le hr)

/-- invalid parameters (`calculate_t` refuses: distance unusable or field too small): `open` and
`check` refuse with that error before touching the proof -/
theorem lincode_invalid_parameters_refused (ro : TRO F D) (tp : TParams F D) (point : Point F)
    (c : Comm D) (value : F) (π : Proof F D) (s : TLog F D) (e : Err) (h : tp.tOf c.nExtCols = .error e) :
    checkOneT ro tp point c value π s = .error e := by
  unfold checkOneT
  rw [h]

theorem lincode_open_invalid_parameters_refused (ro : TRO F D) (tp : TParams F D) (point : Point F)
    (c : Comm D) (st : State F D) (s : TLog F D) (e : Err) (h : tp.tOf st.extMat.m = .error e) :
    ∃ e', openOneT ro tp point c st s = .error e' := by
  cases ho : openOneT ro tp point c st s with
  | error e' => exact ⟨e', rfl⟩
  | ok r =>
    obtain ⟨t, _, _, ht, _⟩ := openOneT_spec ho
    cases h.symm.trans ht

/-! ### `check` -/

/-- `v` of the wrong length (finding D6: the `f(X²)` forgery): `InvalidCommitment` -/
theorem lincode_check_wrong_v_length_refused (pp : Params F D) (point : Point F) (c : Comm D)
    (value : F) (π : Proof F D) (o : Oracle F) (h : π.opening.v.length ≠ c.nCols) :
    checkOne pp point c value π o = .error .invalidCommitment := by
  unfold checkOne checkPre
  rw [if_pos h]

/-- **A point with the wrong number of coordinates is refused** (fix D23), whatever the proof, the
claimed value and the transcript: when `tensor` answers with an `a` that does not have `n_cols`
entries or a `b` that does not have `n_rows` entries (the inner products of `check` would silently
truncate the longer operand), `check` never answers `Ok(_)`.  (Which error it is depends on what
fails first: the tests on `v`, the well-formedness vector, the Merkle paths and `E(v)` come before
`tensor` in the code; see `lincode_check_wrong_point_length_invalid_commitment`.) -/
theorem lincode_check_wrong_point_length_refused (pp : Params F D) (point : Point F) (c : Comm D)
    (value : F) (π : Proof F D) (o : Oracle F) (a b : List F)
    (ht : tensor point c.nCols c.nRows = .ok (a, b))
    (hl : a.length ≠ c.nCols ∨ b.length ≠ c.nRows) :
    ∃ e, checkOne pp point c value π o = .error e := by
  apply checkOne_error_of_not_pre
  rintro a' ⟨_, _, _, w, b', _, _, ht', hla, hlb, _⟩
  cases ht.symm.trans ht'
  exact hl.elim (fun h => h hla) (fun h => h hlb)

/-- … and the error is `InvalidCommitment` for every proof that passes the tests `check` makes before
it calls `tensor`: `v` has `n_cols` entries, the well-formedness vector (when required) is present
with `n_cols` entries, every opened column has a Merkle path at the transcript's position that
recomputes the root, and `E(v)` has the announced `n_ext_cols` entries — in particular for the honest
proof made at a point of the right length and checked at one of another length. -/
theorem lincode_check_wrong_point_length_invalid_commitment (pp : Params F D) (point : Point F)
    (c : Comm D) (value : F) (π : Proof F D) (o : Oracle F) (a b w : List F)
    (ht : tensor point c.nCols c.nRows = .ok (a, b))
    (hl : a.length ≠ c.nCols ∨ b.length ≠ c.nRows)
    (hv : π.opening.v.length = c.nCols)
    (hwf : pp.checkWf = true → ∃ w, π.wf = some w ∧ w.length = c.nCols)
    (hp : ∀ (j : Nat) col q, π.opening.columns[j]? = some col → o.indices[j]? = some q →
      ∃ p, π.opening.paths[j]? = some p ∧ p.leafIndex = q ∧
        recomputeRoot pp.hs (pp.colHash col) p = c.root)
    (hen : pp.enc π.opening.v = .ok w) (hlen : w.length = c.nExtCols) :
    checkOne pp point c value π o = .error .invalidCommitment := by
  have hr : ∃ wf, readWf pp.checkWf c.nCols π.wf = .ok wf := by
    cases hc : pp.checkWf with
    | false => exact ⟨none, readWf_ok_iff.2 (Or.inr ⟨rfl, rfl⟩)⟩
    | true =>
      obtain ⟨w0, hw0, hl0⟩ := hwf hc
      exact ⟨some w0, readWf_ok_iff.2 (Or.inl ⟨rfl, w0, hw0, hl0, rfl⟩)⟩
  obtain ⟨wf, hr⟩ := hr
  unfold checkOne checkPre
  rw [if_neg (not_not.2 hv)]
  simp only [hr, checkPaths_ok_iff.2 hp, hen, ht]
  rw [if_neg (not_not.2 hlen), if_pos hl]

set_option linter.unusedVariables false in
/-- the well-formedness vector missing, or of the wrong length, while the parameters require it:
`InvalidCommitment` -/
theorem lincode_check_bad_wf_refused (pp : Params F D) (point : Point F) (c : Comm D)
    (value : F) (π : Proof F D) (o : Oracle F) (hv : π.opening.v.length = c.nCols)
    (hc : pp.checkWf = true) (h : π.wf = none ∨ ∃ w, π.wf = some w ∧ w.length ≠ c.nCols) :
    checkOne pp point c value π o = .error .invalidCommitment := by
  apply checkOne_readWf_error
  rcases h with h | ⟨w, h, hl⟩
  · rw [hc, h]; rfl
  · rw [hc, h]; exact if_pos hl

/-- **An answer is given only inside the pre-value relation**: whenever `check` answers `Ok(true)`
or `Ok(false)` for one polynomial, lengths, Merkle paths at the transcript's positions and the
column tests all hold (`PreRelation`); every other request — missing columns or paths, a wrong leaf
position, a path that does not verify, an encoding of another length, a failing column test — ends in
an error or abort. -/
theorem lincode_check_answer_in_relation (pp : Params F D) (point : Point F) (c : Comm D)
    (value : F) (π : Proof F D) (o : Oracle F) (b : Bool)
    (h : checkOne pp point c value π o = .ok b) : ∃ a, PreRelation pp point c π o a := by
  obtain ⟨a, ha, _⟩ := checkOne_eq_ok_iff.1 h
  exact ⟨a, ha⟩

theorem lincode_check_outside_relation_refused (pp : Params F D) (point : Point F) (c : Comm D)
    (value : F) (π : Proof F D) (o : Oracle F) (h : ∀ a, ¬ PreRelation pp point c π o a) :
    ∃ e, checkOne pp point c value π o = .error e :=
  checkOne_error_of_not_pre h

/-- a proof list shorter than the list of (commitment, value) pairs is never accepted (the index
`proof_array[i]` panics unless an earlier polynomial already ended the run) -/
theorem lincode_check_missing_proof_not_accepted (pp : Params F D) (point : Point F)
    (cs : List (Comm D)) (vals : List F) (πs : List (Proof F D)) (os : List (Oracle F))
    (h : πs.length < min cs.length vals.length) : checkAll pp point cs vals πs os ≠ .ok true := by
  intro hacc
  obtain ⟨π, _, hπ, _⟩ := checkAll_ok_true_iff.1 hacc πs.length _ _
    (List.getElem?_eq_getElem (Nat.lt_of_lt_of_le h (Nat.min_le_left _ _)))
    (List.getElem?_eq_getElem (Nat.lt_of_lt_of_le h (Nat.min_le_right _ _)))
  rw [List.getElem?_eq_none (le_refl _)] at hπ
  cases hπ

/-! ### in-domain requests never abort -/

/-- **In-domain requests are answered**, on a sponge: a polynomial in the domain of the scheme
(linear row encoder on its rows, codeword length `≥ 2`), a point whose `tensor` fits the matrix
(`ha`, `hb`: the right number of coordinates; any other point is refused, D23),
parameters for which `calculate_t` answers — `open` answers and `check` answers `Ok(true)`; with
and without the well-formedness check, for every oracle and every prior history.  (`commit`:
`C11.lincode_commit_is`.) -/
theorem lincode_in_domain_answered (ro : TRO F D) (tp : TParams F D) (point : Point F)
    (coeffs : List F) (E : List F → List F) (k : Nat) (h : Encodes tp.pp coeffs E k) (a b : List F)
    (t : Nat)
    (ht : tensor point (coeffMat tp.pp.dims coeffs).m (coeffMat tp.pp.dims coeffs).n = .ok (a, b))
    (ha : a.length = (coeffMat tp.pp.dims coeffs).m)
    (hb : b.length = (coeffMat tp.pp.dims coeffs).n) (htk : tp.tOf k = .ok t) (s : TLog F D) :
    ∃ π s', openOneT ro tp point (commitC tp.pp coeffs E k) (commitSt tp.pp coeffs E k) s = .ok (π, s') ∧
      checkOneT ro tp point (commitC tp.pp coeffs E k) (claimed tp.pp point coeffs) π s
        = .ok (true, s') := by
  have hfit : PointFits point (coeffMat tp.pp.dims coeffs).m (coeffMat tp.pp.dims coeffs).n :=
    fun a' b' h' => by cases ht.symm.trans h'; exact ha
  have hd : depth (leavesOf tp.pp (extOf tp.pp coeffs E k)) ≠ 0 :=
    Nat.pos_iff_ne_zero.1 (honest_depth h)
  have hk : k ≠ 0 := Nat.ne_of_gt (Nat.lt_of_lt_of_le Nat.zero_lt_two h.two)
  obtain ⟨r, wf, s2, hwf, hrl⟩ := proverWf_total ro tp.pp.checkWf (coeffMat tp.pp.dims coeffs)
    (Sponge.absorb s (.root (commitC tp.pp coeffs E k).root))
  obtain ⟨idx, s5, hgi⟩ := getIndicesT_total ro k t hk
    (Sponge.absorb (Sponge.absorb s2 (.pointVec point.toVec))
      (.openVec (vecMat b (coeffMat tp.pp.dims coeffs).rows (coeffMat tp.pp.dims coeffs).m)))
  have hidx := (getIndicesT_spec hgi).2.2
  have hop := openOne_eq h ⟨r, idx⟩ ht hb hrl hidx
  have ho : openOneT ro tp point (commitC tp.pp coeffs E k) (commitSt tp.pp coeffs E k) s
      = .ok (honestProof tp.pp coeffs E k b ⟨r, idx⟩, s5) := by
    unfold openOneT
    simp only [commitC, commitSt] at hwf hop ⊢
    have hm : (extOf tp.pp coeffs E k).m = k := rfl
    simp only [hd, ↓reduceIte, ht, hwf, hm, htk, Mat.rowMul, hb, hgi, hop]
  exact ⟨_, s5, ho, oneT_lockstep h hfit ho⟩

/-! non-vacuity on the toy instance (`2 × 2` matrices, repetition code, `ZMod 101`) -/
example : Encodes (toyPP false) [1, 2, 3] toyE 4 ∧
    tensor (Point.uni (5 : K)) 2 2 = .ok (tensorUni 5 2 2) ∧ (tensorUni (5 : K) 2 2).1.length = 2 ∧
    (tensorUni (5 : K) 2 2).2.length = 2 :=
  ⟨toy_encodes false _ (by decide +kernel), rfl, by decide +kernel, by decide +kernel⟩
/-- D21 / D25 on the toy code with the shape frozen at `2 × 2` (`toyFixedPP`, the Brakedown situation:
made for three or four coefficients): five coefficients do not fit (`2·2 < 5`), two would be
zero-padded (`⌈2/2⌉ = 1 ≠ 2`), the zero polynomial `[0]` likewise — all refused; three and four are
committed.  Under the shape law of `toyPP` (`m = ⌈len / 2⌉`, Ligero's) every size is committed. -/
example : (2 : Nat) * 2 < ([1, 2, 3, 4, 5] : List K).length ∧ ceilDiv ([1, 2] : List K).length 2 ≠ 2 ∧
    commit (toyFixedPP true) [1, 2, 3, 4, 5] = .error .abort ∧
    commit (toyFixedPP true) [1, 2] = .error .abort ∧
    commit (toyFixedPP true) [] = .error .abort ∧
    commit (toyFixedPP true) [1, 2, 3] = commit (toyPP true) [1, 2, 3] ∧
    (commit (toyFixedPP true) [4, 0, 0, 5]).toBool = true ∧
    (commit (toyPP true) [1, 2]).toBool = true ∧ (commit (toyPP true) [1, 2, 3, 4, 5]).toBool = true ∧
    fitsDims (toyPP true).dims ([1, 2, 3, 4, 5] : List K) = true := by decide +kernel
/-- the hypothesis of `lincode_fits_of_ceil_div` on the toy shape law and on Ligero's -/
example : (∀ len, 0 < ((toyPP true).dims len).1 ∧ ((toyPP true).dims len).2 = ceilDiv len ((toyPP true).dims len).1) ∧
    computeDimensions 65536 300 = (32, 2048) ∧ ceilDiv 65536 32 = 2048 :=
  ⟨fun _ => ⟨Nat.succ_pos 1, rfl⟩, by decide +kernel, by decide +kernel⟩
/-- D23 on the toy instance: the honest proof for `[1, 2, 3]` made at the univariate point `5` (a `2 × 2`
matrix) and checked at the multilinear point `(3, 8, 2)`: `tensor` answers with `|a| = 2`, `|b| = 4 ≠ 2`
and `check` refuses with `InvalidCommitment` (before the fix: the inner products with `b` were
truncated to two entries); `open` at that point aborts in `row_mul` -/
example : (match commit (toyPP true) [1, 2, 3] with
    | .ok (c, st) =>
      decide (c.nCols = 2 ∧ c.nRows = 2 ∧
        (tensor (Point.ml ([3, 8, 2] : List K)) c.nCols c.nRows).map (fun ab => (ab.1.length, ab.2.length))
          = .ok (2, 4) ∧
        openOne (toyPP true) (.ml [3, 8, 2]) c st ⟨[7, 9], [2, 0, 3]⟩ = .error .abort) &&
      (match openOne (toyPP true) (.uni 5) c st ⟨[7, 9], [2, 0, 3]⟩ with
       | .ok π =>
         decide (checkOne (toyPP true) (.ml [3, 8, 2]) c 0 π ⟨[7, 9], [2, 0, 3]⟩ = .error .invalidCommitment)
       | .error _ => false)
    | .error _ => false) = true := by decide +kernel
example : (match commit (toyPP true) [1, 2, 3] with
    | .ok (c, st) =>
      decide (openOne (toyPP true) (.ml [3]) { c with nCols := 4 } st ⟨[7, 9], [1]⟩ = .error .abort ∧
        (match openOne (toyPP true) (.uni 5) c st ⟨[7, 9], [2, 0, 3]⟩ with
         | .ok π =>
           decide (checkOne (toyPP true) (.uni 5) c 0 { π with opening := { π.opening with v := [1] } } ⟨[7, 9], [2, 0, 3]⟩
               = .error .invalidCommitment ∧
             checkOne (toyPP true) (.uni 5) c 0 { π with wf := none } ⟨[7, 9], [2, 0, 3]⟩
               = .error .invalidCommitment ∧
             checkAll (toyPP true) (.uni 5) [c, c] [0, 0] [π] [⟨[7, 9], [2, 0, 3]⟩, ⟨[7, 9], [2, 0, 3]⟩]
               = .ok false)
         | .error _ => false) = true ∧
        openOne (toyPP true) (.uni 5) c st ⟨[7, 9], [4]⟩ = .error .abort)
    | .error _ => false) = true := by decide +kernel
/-- the hypotheses of `lincode_check_wrong_point_length_invalid_commitment` hold for that honest proof
(they are the first conjuncts of the relation it satisfies at the point it was made for) -/
example : checkOne (toyPP true) (.ml [3, 8, 2]) (commitC (toyPP true) [1, 2, 3] toyE 4) 0
    (honestProof (toyPP true) [1, 2, 3] toyE 4 (tensorUni (5 : K) 2 2).2 ⟨[7, 9], [2, 0, 3]⟩)
    ⟨[7, 9], [2, 0, 3]⟩ = .error .invalidCommitment := by
  obtain ⟨hv, hwf, hp, w, _, hen, hlen, _⟩ := honest_preRelation (point := .uni 5)
    (toy_encodes true [1, 2, 3] (by decide +kernel)) ⟨[7, 9], [2, 0, 3]⟩ rfl (by decide +kernel) (by decide +kernel) (by decide +kernel)
  exact lincode_check_wrong_point_length_invalid_commitment _ _ _ _ _ _
    (tensorVec [3]) (tensorVec [8, 2]) w (by decide +kernel) (by decide +kernel) hv hwf hp hen hlen

end PCV.C17
