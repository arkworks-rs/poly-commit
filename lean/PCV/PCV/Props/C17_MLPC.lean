/-
  Property C17 (multilinear PST) — out-of-domain requests are refused: `setup` with zero variables,
  `trim` beyond the parameters, `commit` / `open` of a polynomial whose number of variables differs
  from the key's, `open` / `check` at a point with a number of coordinates other than the number of
  variables, `check` with a proof list of the wrong length all abort; in-domain requests are answered.
  (On the tree before the fix "multilinear_pc commit/open/check refuse a polynomial or point of the
  wrong number of variables" `commit` truncated silently and surplus point coordinates were never
  read — finding D14; the harness keeps those request kinds as must-refuse cases.)
-/
import PCV.Proofs.MLPCSetup
import PCV.Props.Examples

namespace PCV.C17
open PCV
set_option linter.unusedSectionVars false
variable {F : Type} [Field F] [DecidableEq F]

/-- `setup` with zero variables aborts (`assert!(num_vars > 0)`) -/
theorem mlpc_setup_zero_refused (g h : F) (t : List F) : MLPC.setup 0 g h t = .error .abort := by
  unfold MLPC.setup; rw [if_pos rfl]

/-- `setup` with `nv ≥ 1` variables answers -/
theorem mlpc_setup_ok (nv : Nat) (g h : F) (t : List F) (hnv : nv ≠ 0) (ht : t.length = nv) :
    ∃ pp, MLPC.setup nv g h t = .ok pp := ⟨_, MLPC.setup_eq hnv ht⟩

/-- `trim` to more variables than the parameters have aborts -/
theorem mlpc_trim_refused (pp : MLPC.UParams F) (s : Nat) (hs : pp.numVars < s) :
    MLPC.trim pp s = .error .abort := MLPC.trim_refuses hs

/-- `commit` of a polynomial with more (or fewer) variables than the key aborts — never a commitment -/
theorem mlpc_commit_refuses_wrong_nv (ck : MLPC.CK F) (nv : Nat) (evals : List F) (h : nv ≠ ck.nv) :
    MLPC.commit ck nv evals = .error .abort := by
  unfold MLPC.commit; rw [if_pos h]

/-- `open` of a polynomial with more (or fewer) variables than the key aborts -/
theorem mlpc_open_refuses_wrong_nv (ck : MLPC.CK F) (nv : Nat) (evals z : List F) (h : nv ≠ ck.nv) :
    MLPC.open ck nv evals z = .error .abort := by
  rw [MLPC.open_eq, if_neg fun h' => h h'.1]

/-- `open` at a point with too few or too many coordinates aborts -/
theorem mlpc_open_refuses_wrong_point_len (ck : MLPC.CK F) (nv : Nat) (evals z : List F)
    (h : z.length ≠ nv) : MLPC.open ck nv evals z = .error .abort := by
  rw [MLPC.open_eq, if_neg fun h' => h (h'.2.1.trans h'.1.symm)]

/-- `check` at a point with too few or too many coordinates aborts — never a decision -/
theorem mlpc_check_refuses_wrong_point_len (vk : MLPC.VK F) (c : MLPC.Commitment F) (z : List F)
    (v : F) (πs : List F) (h : z.length ≠ vk.nv) : MLPC.check vk c z v πs = .error .abort := by
  rw [MLPC.check_eq, if_neg fun h' => h h'.1]

/-- `check` with a proof list of the wrong length aborts -/
theorem mlpc_check_refuses_wrong_proof_len (vk : MLPC.VK F) (c : MLPC.Commitment F) (z : List F)
    (v : F) (πs : List F) (h : πs.length ≠ vk.nv) : MLPC.check vk c z v πs = .error .abort :=
  MLPC.check_proof_length h

/-- whatever `commit` answers is tagged with the key's number of variables (no oversized polynomial
slips through as a commitment of its restriction) -/
theorem mlpc_commit_ok_nv (ck : MLPC.CK F) (nv : Nat) (evals : List F) (c : MLPC.Commitment F)
    (h : MLPC.commit ck nv evals = .ok c) : nv = ck.nv ∧ c.nv = ck.nv := by
  obtain ⟨hn, rfl⟩ := MLPC.commit_ok h
  exact ⟨hn, hn⟩

/-- a positive verification result implies a well-shaped request: exactly `nv` point coordinates and
exactly `nv` proof elements -/
theorem mlpc_accept_shape (vk : MLPC.VK F) (c : MLPC.Commitment F) (z : List F) (v : F)
    (πs : List F) (b : Bool) (h : MLPC.check vk c z v πs = .ok b) :
    z.length = vk.nv ∧ πs.length = vk.nv := by
  rw [MLPC.check_eq] at h
  split at h
  · next hs => exact ⟨hs.1, hs.2.2⟩
  · cases h

/-- in-domain requests never abort: `1 ≤ s ≤ nv`, `2^s` evaluations, `s` point coordinates -/
theorem mlpc_in_domain_ok (nv s : Nat) (g h : F) (t evals z : List F)
    (ht : t.length = nv) (hs1 : 1 ≤ s) (hs : s ≤ nv) (he : evals.length = 2 ^ s) (hz : z.length = s) :
    ∃ pp ck vk c πs b, MLPC.setup nv g h t = .ok pp ∧ MLPC.trim pp s = .ok (ck, vk)
      ∧ MLPC.commit ck s evals = .ok c ∧ MLPC.open ck s evals z = .ok πs
      ∧ MLPC.check vk c z (MLPC.mleEval evals z) πs = .ok b := by
  obtain ⟨pp, ck, vk, c, πs, h⟩ := MLPC.honest_run g h ht hs1 hs he hz
  exact ⟨pp, ck, vk, c, πs, true, h⟩

/-- non-vacuity: each refused request kind on the 2-variable key of trapdoor `[7, 20]` -/
example : MLPC.setup 0 (5 : K) 11 [] = .error .abort := by decide +kernel
example : MLPC.commit (MLPC.wfCK (5 : K) 11 [7, 20]) 3 [1, 2, 3, 50, 0, 0, 0, 1] = .error .abort := by
  decide +kernel
example : MLPC.commit (MLPC.wfCK (5 : K) 11 [7, 20]) 1 [1, 2] = .error .abort := by decide +kernel
example : MLPC.open (MLPC.wfCK (5 : K) 11 [7, 20]) 3 [1, 2, 3, 50, 0, 0, 0, 1] [8, 13, 1] = .error .abort := by
  decide +kernel
example : MLPC.open (MLPC.wfCK (5 : K) 11 [7, 20]) 2 [1, 2, 3, 50] [8] = .error .abort := by
  decide +kernel
example : MLPC.open (MLPC.wfCK (5 : K) 11 [7, 20]) 2 [1, 2, 3, 50] [8, 13, 99] = .error .abort := by
  decide +kernel
example : MLPC.check (MLPC.wfVK (5 : K) 11 [7, 20]) ⟨2, 19⟩ [8] 72 [31, 30] = .error .abort := by
  decide +kernel
example : MLPC.check (MLPC.wfVK (5 : K) 11 [7, 20]) ⟨2, 19⟩ [8, 13, 99] 72 [31, 30] = .error .abort := by
  decide +kernel
example : MLPC.check (MLPC.wfVK (5 : K) 11 [7, 20]) ⟨2, 19⟩ [8, 13] 72 [31] = .error .abort := by
  decide +kernel
example : MLPC.trim (MLPC.wfParams (5 : K) 11 [7, 20]) 3 = .error .abort := by decide +kernel

end PCV.C17
