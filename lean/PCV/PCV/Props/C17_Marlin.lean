/-
  Property C17 (MarlinKZG10) — requests outside the domain are refused.
-/
import PCV.Proofs.MarlinMore
import PCV.Props.C01_Marlin
import PCV.Props.C09

namespace PCV.C17
open PCV Marlin
variable {F : Type} [Field F] [DecidableEq F]

/-- a query for a polynomial that was not supplied is refused by the batch prover -/
theorem marlin_batch_open_unknown_label (ck : CK F) (polys : List (LPoly F)) (sts : List (Rand F))
    (g : Label × (F × List Label)) (gs : List (Label × (F × List Label))) (ξs : List F)
    (l : Label) (ls : List Label) (hg : g.2.2 = l :: ls)
    (hl : lookupLast (fun (x : LPoly F × Rand F) => x.1.label) l (polys.zip sts) = none) :
    batchOpenGroups ck polys sts (g :: gs) ξs = .error .missingPolynomial := by
  simp only [batchOpenGroups, hg, gatherPolys, hl]

/-- a query for a commitment that was not supplied is refused by the batch verifier -/
theorem marlin_batch_check_unknown_label (vk : VK F) (comms : List (LComm F))
    (evals : List ((Label × F) × F)) (g : Label × (F × List Label))
    (gs : List (Label × (F × List Label))) (ξs : List F) (l : Label) (ls : List Label)
    (hg : g.2.2 = l :: ls) (hl : lookupLast (fun (c : LComm F) => c.label) l comms = none) :
    combineGroups vk comms evals (g :: gs) ξs = .error .missingPolynomial := by
  simp only [combineGroups, hg, gatherComms, hl]

/-- a missing evaluation is refused by the batch verifier -/
theorem marlin_batch_check_missing_evaluation (vk : VK F) (comms : List (LComm F))
    (evals : List ((Label × F) × F)) (g : Label × (F × List Label))
    (gs : List (Label × (F × List Label))) (ξs : List F) (l : Label) (ls : List Label) (c : LComm F)
    (hg : g.2.2 = l :: ls) (hl : lookupLast (fun (c : LComm F) => c.label) l comms = some c)
    (hb : c.bound.isSome = c.comm.shifted.isSome)
    (he : lookupEval evals l g.2.1 = none) :
    combineGroups vk comms evals (g :: gs) ξs = .error .missingEvaluation := by
  simp only [combineGroups, hg, gatherComms, hl, he]
  rw [if_neg (not_not.2 hb)]

/-- a hiding bound without an RNG never yields a commitment -/
theorem marlin_hiding_without_rng (ck : CK F) (p : LPoly F) (draws : List F) (h : Nat)
    (hh : p.hb = some h) : ∃ e, commitOne ck p false draws = .error e := by
  unfold commitOne
  split
  · exact ⟨_, rfl⟩
  · rw [if_pos ⟨by rw [hh]; rfl, rfl⟩]; exact ⟨_, rfl⟩

/-- trimming beyond the parameters is refused -/
theorem marlin_trim_too_large (pp : UParams F) (s hb : Nat) (bounds : Option (List Nat))
    (h : s > pp.powers.length - 1) : ∃ e, trim pp s hb bounds = .error e :=
  C09.marlin_trim_refuses pp s hb bounds h

example : commitOne C01.exCK ⟨[112], [1, 2, 3], none, some 1⟩ false [7, 8, 9] = .error .abort := by
  decide +kernel

end PCV.C17
