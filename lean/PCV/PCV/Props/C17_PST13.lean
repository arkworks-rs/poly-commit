/-
  Property C17 — out-of-domain requests are refused, never answered with a wrong result:
  MarlinPST13.  The domain of a key `(num_vars, supported_degree)`: polynomials over at most
  `num_vars` variables of total degree `≤ supported_degree`; hiding bounds
  `1 ≤ hb ≤ supported_degree` with an RNG; points with at least the coordinates the polynomial
  reads (and at least `num_vars` for the verifier); proofs with exactly `num_vars` witnesses; labels
  that name supplied polynomials / commitments / evaluations; `setup` with at least one variable and
  degree at least one; `trim` within the maximum degree.  Everything outside ends in an error or an
  abort (`Err.abort` = panic), by the model functions the harness compares with the code.
  (`PolynomialDegreeTooLarge` is represented by `tooManyCoefficients`: the shared error type has no
  such constructor; outcome classes are what is compared.)
-/
import PCV.Proofs.PST13More
import PCV.Proofs.Combinations
import PCV.Props.Examples

set_option synthInstance.maxSize 512

namespace PCV.C17
open PCV PCV.MV PCV.C15Spec
variable {F : Type} [Field F] [DecidableEq F]

/-- **Degree above the supported degree**: `commit` and `open` refuse
(`PolynomialDegreeTooLarge`) — any hiding bound, RNG, point, other polynomials. -/
theorem pst13_degree_too_large_refused (ck : PST.CK F) (p : MVPoly F)
    (h : degreeMV p > ck.supportedDegree) :
    (∀ hb rng draws, PST.commit ck p hb rng draws = .error .tooManyCoefficients) ∧
    (∀ nvp nvr ps z r rs ξs,
      PST.open ck nvp nvr (p :: ps) z (r :: rs) ξs = .error .tooManyCoefficients) :=
  ⟨fun hb rng draws => by unfold PST.commit PST.checkDegree; rw [if_pos h],
   fun nvp nvr ps z r rs ξs => by unfold PST.open; simp only [PST.combine, PST.checkDegree, if_pos h]⟩

/-- **Wrong number of variables, polynomial side**: a polynomial with a monomial the key does not
publish makes `commit` abort (`powers_of_g.get(term).unwrap()`); under the key of a trapdoor over
`nv` variables that is every monomial using a variable `≥ nv`. -/
theorem pst13_extra_variable_refused (g γ : F) (β : List F) (ts : List Term) (nv s D m : Nat)
    (hts : ∀ u ∈ ts, Term.varsBelow nv u = true) (p : MVPoly F) (hb : Option Nat) (rng : Bool)
    (draws : List F) (hd : degreeMV p ≤ s) (t : Term) (ht : t ∈ termsOf p) (q : Nat × Nat)
    (hq : q ∈ t) (hv : nv ≤ q.1) :
    PST.commit (PST.wfCK g γ β ts nv s D m) p hb rng draws = .error .abort :=
  PST.commit_unpublished_monomial hb rng draws hd ht
    (PST.wfCK_unpublished g γ β ts nv s D m hts hq hv)

/-- **Wrong number of variables, point side**: `open` aborts when `divide_at_point` would index the
point out of range; `check` answers only at points with at least `num_vars` coordinates. -/
theorem pst13_short_point_refused (ck : PST.CK F) (vk : PST.VK F) :
    (∀ nvp nvr p r z, PST.divideOk nvp p z = false →
      PST.openCombined ck nvp nvr p r z = .error .abort) ∧
    (∀ cs z vs π ξs b, PST.check vk cs z vs π ξs = .ok b → vk.numVars ≤ z.length) := by
  refine ⟨fun nvp nvr p r z h => by unfold PST.openCombined; simp [h], ?_⟩
  intro cs z vs π ξs b h
  obtain ⟨h1, _, _, _, h2, _⟩ := (PST.check_ok_iff vk cs z vs π ξs b).1 h
  exact h1 ▸ h2

/-- **Hiding bound zero or beyond the key, missing RNG**: never a commitment. -/
theorem pst13_bad_hiding_refused (ck : PST.CK F) (p : MVPoly F) (hb : Nat) (draws : List F)
    (out : F × MVPoly F × List F) :
    (∀ rng, (hb = 0 ∨ ck.supportedDegree < hb) → PST.commit ck p (some hb) rng draws ≠ .ok out) ∧
    PST.commit ck p (some hb) false draws ≠ .ok out :=
  ⟨fun rng hbad => PST.commit_hiding_refused ck p hb rng draws hbad out,
   fun h => nomatch (PST.commit_some_iff.1 h).2.1⟩

/-- **Zero variables / zero degree at `setup`, a supported degree above the maximum at `trim`.** -/
theorem pst13_bad_parameters_refused (D nv : Nat) (betas : List F) (g γ h : F)
    (pp : PST.UParams F) (s : Nat) :
    (nv < 1 → PST.setup D nv betas g γ h = .error .invalidNumVars) ∧
    (1 ≤ nv → D < 1 → PST.setup D nv betas g γ h = .error .degreeIsZero) ∧
    (s > pp.maxDegree → PST.trim pp s = .error .trimTooLarge) :=
  ⟨(PST.setup_refuses D nv betas g γ h).1, (PST.setup_refuses D nv betas g γ h).2,
    PST.trim_refuses pp s⟩

/-- **Unknown polynomial / missing evaluation** in `batch_open` / `batch_check` (and therefore in
`open_combinations` / `check_combinations`): `MissingPolynomial` / `MissingEvaluation`. -/
theorem pst13_unknown_label_refused (trips : List (PST.Trip F)) (comms : List (PST.LComm F))
    (evals : PST.Evals F) (z : List F) (l : PST.Label) (ls : List PST.Label) :
    (Marlin.lookupLast (fun (t : PST.Trip F) => t.1.label) l trips = none →
      PST.gatherTrips trips (l :: ls) = .error .missingPolynomial) ∧
    (Marlin.lookupLast (fun (c : PST.LComm F) => c.label) l comms = none →
      PST.gatherComms comms evals z (l :: ls) = .error .missingPolynomial) ∧
    (∀ c, Marlin.lookupLast (fun (c : PST.LComm F) => c.label) l comms = some c →
      (c.bound = none ∧ c.comm.shifted = none) → PST.lookupEval evals l z = none →
      PST.gatherComms comms evals z (l :: ls) = .error .missingEvaluation) :=
  ⟨PST.gatherTrips_unknown trips l ls, PST.gatherComms_unknown comms evals z l ls,
    fun c hc hb he => PST.gatherComms_missing_eval comms evals z l ls c hc hb he⟩

/-- **A proof of the wrong shape** is refused by both verifiers (C03): wrong witness count —
`IncorrectInputLength`; wrong number of proofs in a batch — abort. -/
theorem pst13_wrong_shape_refused (vk : PST.VK F) :
    (∀ cs z vs π ξs, π.w.length ≠ vk.numVars →
      PST.check vk cs z vs π ξs = .error .incorrectInputLength) ∧
    (∀ cs zs vs πs rs, πs.length ≠ zs.length →
      PST.batchDefect vk cs zs vs πs rs = .error .abort) ∧
    (∀ cs zs vs πs rs, πs.length = zs.length → ∀ π ∈ πs, π.w.length ≠ vk.numVars →
      PST.batchDefect vk cs zs vs πs rs = .error .incorrectInputLength) :=
  ⟨fun _ _ _ _ _ h => PST.check_wrong_length h,
   fun _ _ _ _ _ h => PST.batchDefect_wrong_count h,
   fun _ _ _ _ _ hl _ hπ hw => PST.batchDefect_wrong_witness_count hl hπ hw⟩

/-- **In-domain requests are answered** (restating C15/C01): a covering key commits every
polynomial of degree `≤ s` over `nv` variables, with any hiding bound `1 ≤ hb ≤ s`, and opens it at
every point with `nv` coordinates. -/
theorem pst13_in_domain_answered (g γ : F) (β : List F) (ts : List Term) (nv s D : Nat)
    (hcov : ∀ t, PST.Covered nv s t → t ∈ ts) (p : MVPoly F)
    (hp : polyWf p = true) (hpv : polyVarsBelow nv p = true) (hd : degreeMV p ≤ s)
    (hb : Option Nat) (draws : List F)
    (hhb : ∀ b, hb = some b → 1 ≤ b ∧ b ≤ s ∧ 1 + nv * (b + 1) ≤ draws.length) :
    ∃ out, PST.commit (PST.wfCK g γ β ts nv s D (s + 1)) p hb true draws = .ok out :=
  PST.commit_ok g γ β ts nv s D hcov p hp hpv hd hb draws hhb

/-! ### non-vacuity over `ZMod 101` (key of the trapdoor `(2,7)`, two variables, degree 2) -/

def exCK : PST.CK K := PST.wfCK (3 : K) 5 [2, 7] (specTerms 2 2) 2 2 2 3
def exP : MVPoly K := [(4, []), (6, [(1, 1)]), (9, [(0, 1), (1, 1)]), (2, [(0, 2)])]

example : PST.commit exCK [(2, [(0, 3)])] none false [] = .error .tooManyCoefficients := by decide +kernel
example : PST.open exCK 2 0 [[(2, [(0, 3)])]] [10, 20] [[]] [13] = .error .tooManyCoefficients := by
  decide +kernel
/-- a monomial in a third variable; its hypothesis: the published monomials use variables `< 2` -/
example : PST.commit exCK [(2, [(2, 1)])] none false [] = .error .abort := by decide +kernel
example : ∀ u ∈ specTerms 2 2, Term.varsBelow 2 u = true := by decide +kernel
/-- a point with one coordinate: `open` aborts when `x₁` occurs, and answers when it does not -/
example : PST.open exCK 2 0 [exP] [10] [[]] [13] = .error .abort := by decide +kernel
example : PST.divideOk 2 (addScaledMV [] (13 : K) exP) [10] = false := by decide +kernel
example : PST.open exCK 2 0 [[(4, []), (6, [(0, 1)])]] [10] [[]] [13] = .ok ⟨[32, 0], none⟩ := by decide +kernel
example : PST.check (PST.wfVK (3 : K) 5 11 [2, 7] 2 2 2) [27] [10] [3] ⟨[10, 66], some 93⟩ [13]
    = .error .abort := by decide +kernel
/-- hiding bound zero, too large, missing RNG -/
example : PST.commit exCK exP (some 0) true [1, 2, 3, 4, 5, 6, 7] = .error .hidingBoundZero := by decide +kernel
example : PST.commit exCK exP (some 3) true [1, 2, 3, 4, 5, 6, 7, 8, 9, 10]
    = .error .hidingBoundTooLarge := by decide +kernel
example : PST.commit exCK exP (some 1) false [1, 2, 3, 4, 5, 6, 7] = .error .abort := by decide +kernel
example : PST.setup 2 0 ([] : List K) 3 5 11 = .error .invalidNumVars := by decide +kernel
example : PST.setup 0 2 ([2, 7] : List K) 3 5 11 = .error .degreeIsZero := by decide +kernel

end PCV.C17
