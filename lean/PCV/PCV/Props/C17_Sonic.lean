/-
  Property C17 — out-of-domain requests are refused, never answered with a wrong result; in-domain
  requests never abort.  SonicKZG10: `trim`, `commit`, `open`, `check`, `batch_check`.
-/
import PCV.Proofs.SonicExamples

namespace PCV.C17
open PCV PCV.Sonic
open PCV.Marlin (Label LPoly Query groupQueries lookupLast lookupEval checkDegreesAndBounds)
variable {F : Type} [Field F] [DecidableEq F]

/-- **trim, outside the domain**: empty parameters; supported degree above `max_degree`; a bound
above the supported degree; a hiding bound beyond the γ-powers — each ends in an error. -/
theorem sonic_trim_refuses (pp : UParams F) (s shb : Nat) (bounds : Option (List Nat)) :
    (pp.powers = [] → trim pp s shb bounds = .error .abort) ∧
    (pp.powers ≠ [] → s > pp.powers.length - 1 → trim pp s shb bounds = .error .trimTooLarge) ∧
    (pp.powers ≠ [] → s ≤ pp.powers.length - 1 → (∃ l d, bounds = some l ∧ d ∈ l ∧ d > s) →
      trim pp s shb bounds = .error .unsupportedBound) ∧
    (shb + 2 > pp.gammaPowers.length → ∃ e, trim pp s shb bounds = .error e) := by
  refine ⟨fun h => trim_refuses_empty s shb bounds h,
    fun hp hs => trim_refuses_too_large shb bounds hp hs, ?_,
    fun h => trim_refuses_hiding s bounds h⟩
  intro hp hs ⟨l, d, hb, hd, hds⟩
  rw [hb]; exact trim_refuses_bound shb hp hs hd hds

/-- **trim, inside the domain** (trapdoor-made parameters): answered, no abort. -/
theorem sonic_trim_ok (g γ β bi h : F) (D s shb : Nat) (bounds : Option (List Nat))
    (hs : s ≤ D) (hshb : shb ≤ D) (hb : ∀ l, bounds = some l → ∀ d ∈ l, d ≤ s) :
    ∃ ck vk, trim (wfPP g γ β bi h D) s shb bounds = .ok (ck, vk) :=
  trim_ok g γ β bi h D s shb bounds hs hshb hb

/-- **commit, outside the domain**: an unannounced bound, a degree above the bound, an unbounded
polynomial above the supported degree, a hiding bound without an RNG — refused for the first
offending polynomial of the list, whatever follows it. -/
theorem sonic_commit_refuses (ck : CK F) (p : LPoly F) (ps : List (LPoly F)) (rng : Bool)
    (draws : List F) :
    (∀ d, p.bound = some d → (∀ bs, ck.bounds = some bs → d ∉ bs) →
      commit ck (p :: ps) rng draws = .error .unsupportedBound) ∧
    (∀ d bs, p.bound = some d → ck.bounds = some bs → d ∈ bs → d < pdeg p.poly →
      commit ck (p :: ps) rng draws = .error .incorrectBound) ∧
    (p.bound = none → pdeg p.poly + 1 > ck.powers.length →
      commit ck (p :: ps) rng draws = .error .tooManyCoefficients) ∧
    (p.bound = none → ¬ (pdeg p.poly + 1 > ck.powers.length) → p.hb.isSome = true → rng = false →
      commit ck (p :: ps) rng draws = .error .abort) := by
  refine ⟨?_, ?_, ?_, ?_⟩
  · intro d hb h
    exact commit_refuses_head ps (commitOne_refuses_bound rng draws hb (checkDB_unsupported _ _ _ _ h))
  · intro d bs hb hbs hd hdeg
    exact commit_refuses_head ps (commitOne_refuses_bound rng draws hb
      (by rw [hbs]; exact checkDB_incorrect _ _ _ _ hd (Or.inl hdeg)))
  · intro hb hd
    exact commit_refuses_head ps (commitOne_refuses_degree rng draws hb hd)
  · intro hb hd hh hr
    subst hr
    exact commit_refuses_head ps (commitOne_refuses_no_rng draws hb hd hh)

/-- **open, outside the domain**: the same admission test as `commit`. -/
theorem sonic_open_refuses (ck : CK F) (p : LPoly F) (ps : List (LPoly F)) (st : List F)
    (sts : List (List F)) (z ξ : F) (ξs : List F) (e : Err)
    (h : checkDegreesAndBounds ck.maxDegree ck.bounds p.poly p.bound = .error e) :
    Sonic.open ck (p :: ps) z (st :: sts) (ξ :: ξs) = .error e :=
  open_refuses_bound ps st sts z ξ ξs h

/-- **open, inside the domain**: everything `commit` accepted is opened (no error, no abort). -/
theorem sonic_open_ok (g γ β bi h : F) (hb : β * bi = 1) (D s shb : Nat)
    (bounds : Option (List Nat)) (ck : CK F) (vk : VK F)
    (ht : trim (wfPP g γ β bi h D) s shb bounds = .ok (ck, vk))
    (ps : List (LPoly F)) (rng : Bool) (draws : List F) (cs : List (LComm F)) (rs : List (List F))
    (drest : List F) (hc : commit ck ps rng draws = .ok (cs, rs, drest))
    (z : F) (ξs : List F) (hξ : ps.length < ξs.length) :
    ∃ π rest, Sonic.open ck ps z rs ξs = .ok (π, rest) :=
  open_ok_of_honest g γ β bi h D s shb bounds ck vk ht cs ps rs
    (commit_honest g γ β bi h hb D s shb bounds ck vk ht ps rng draws cs rs drest hc) z ξs hξ

/-- **check**: total on every input (given the sponge's `1 + n` challenges) — it either decides or
refuses with `UnsupportedDegreeBound`; and a label without a G2 element is always refused. -/
theorem sonic_check_total (vk : VK F) (cs : List (LComm F)) (z : F) (vs : List F) (π : KZG.Proof F)
    (ξs : List F) (hξ : min cs.length vs.length < ξs.length) :
    ((∃ b r, check vk cs z vs π ξs = .ok (b, r)) ∨ check vk cs z vs π ξs = .error .unsupportedBound) ∧
    (boundsOk vk.shiftOf cs vs ξs = false → check vk cs z vs π ξs = .error .unsupportedBound) :=
  ⟨check_total vk cs z vs π ξs (restOf_isSome cs vs ξs hξ),
   fun hb => check_unsupported vk cs z vs π ξs (restOf_isSome cs vs ξs hξ) hb⟩

/-- **batch_check, outside the domain**: a proof list of the wrong length; a queried label without a
commitment; a queried label without an evaluation. -/
theorem sonic_batch_check_refuses (vk : VK F) (comms : List (LComm F)) (qs : List (Query F))
    (evals : List ((Label × F) × F)) (πs : List (KZG.Proof F)) (ξs rs : List F) :
    (πs.length ≠ (groupQueries qs).length → batchCheck vk comms qs evals πs ξs rs = .error .abort) ∧
    (∀ gr gs l ls, groupQueries qs = gr :: gs → gr.2.2 = l :: ls →
      lookupLast (fun (c : LComm F) => c.label) l comms = none →
      ∃ e, batchCheck vk comms qs evals πs ξs rs = .error e) ∧
    (∀ gr gs l ls c, groupQueries qs = gr :: gs → gr.2.2 = l :: ls →
      lookupLast (fun (c : LComm F) => c.label) l comms = some c → lookupEval evals l gr.2.1 = none →
      ∃ e, batchCheck vk comms qs evals πs ξs rs = .error e) := by
  refine ⟨fun hl => batchCheck_shape vk comms qs evals πs ξs rs hl, ?_, ?_⟩
  · intro gr gs l ls hg hl hlook
    apply batchCheck_refuses_gather vk comms qs evals πs ξs rs .missingPolynomial
    simp only [hg, gatherGroups, hl, gatherComms, hlook]
  · intro gr gs l ls c hg hl hlook hev
    apply batchCheck_refuses_gather vk comms qs evals πs ξs rs .missingEvaluation
    simp only [hg, gatherGroups, hl, gatherComms, hlook, hev]

/-- non-vacuity: both sides of each boundary are inhabited on the concrete key -/
example : trim Ex.pp 4 1 none ≠ .error .trimTooLarge ∧ trim Ex.pp 5 1 none = .error .trimTooLarge := by
  decide +kernel
example : commit Ex.ck [⟨[112], [1, 2, 3, 4], none, none⟩] false ([] : List K)
    = .ok ([⟨[112], 46, none⟩], [[]], []) := by decide +kernel
example : commit Ex.ck [⟨[112], [1, 2, 3, 4, 5], none, none⟩] false ([] : List K)
    = .error .tooManyCoefficients := by decide +kernel
example : commit Ex.ck [⟨[112], [1, 2, 3, 4], none, some 1⟩] false ([] : List K) = .error .abort := by
  decide +kernel
example : commit Ex.ck [⟨[112], [1, 2], some 3, some 2⟩] true ([1, 2, 3, 4] : List K)
    = .error .hidingBoundTooLarge := by decide +kernel
example : batchCheck Ex.vk Ex.comms [([112, 51], ([97], 5))] [(([112, 51], 5), 1)] [⟨1, none⟩] [1, 2, 3] ([] : List K)
    = .error .missingPolynomial := by decide +kernel
end PCV.C17
