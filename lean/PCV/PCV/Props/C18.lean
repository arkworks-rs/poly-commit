/-
  Property C18 — thread count / `parallel` feature: every deterministic output is the same for
  every worker count and with or without the feature.

  The library's only sources of schedule dependence are its parallel iterator chains
  (`Generated.sites`, extracted from the source by translators/par_sites.py on every run) and RNGs
  that are not the caller's (`Generated.rngSites`).  A schedule is a work-splitting tree
  (`Par.Shape`, arbitrary split points) or, for `for_each` over `iter_mut`, an arbitrary global order
  of the closure calls; the sequential build is `Shape.leaf` / the order `0,1,…,n-1`.  The theorems
  below say that every terminal kind on the allow-list returns the sequential result for EVERY
  schedule, and the `generated_*` obligations say that the source contains nothing else.
  Only property theorems live here; lemmas are in PCV/Proofs/Par.lean.
  Not covered by any model: what rayon and the allocator do at run time (that the real scheduler
  implements `split_at`/`reduce` as modelled) — exercised by the harness run of `check C18`.
-/
import PCV.Proofs.Par
import PCV.Generated.ParSites
import PCV.Props.Examples

namespace PCV.C18
open PCV PCV.Par

variable {α β γ : Type}

set_option linter.unusedVariables false in
/-- **sum / product / reduce.** For every splitting tree, every associative operation with a
two-sided identity: the parallel reduction is the sequential left fold. -/
theorem parReduce_eq_foldl (s : Shape) (f : α → α → α) (e : α)
    (assoc : ∀ a b c, f (f a b) c = f a (f b c)) (left_id : ∀ a, f e a = a)
    (right_id : ∀ a, f a e = a) (xs : List α) :
    parReduce s f e xs = xs.foldl f e :=
  Par.parReduce_eq_foldl s f e assoc right_id xs

/-- **`.sum()`** of field elements (and of group elements in exponent form, DESIGN §2.1). -/
theorem parSum_field {F : Type} [Field F] (s : Shape) (xs : List F) :
    parReduce s (· + ·) 0 xs = xs.foldl (· + ·) 0 :=
  Par.parReduce_eq_foldl (α := F) s HAdd.hAdd 0 add_assoc add_zero xs

/-- **`.product()`** of field elements. -/
theorem parProduct_field {F : Type} [Field F] (s : Shape) (xs : List F) :
    parReduce s (· * ·) 1 xs = xs.foldl (· * ·) 1 :=
  Par.parReduce_eq_foldl (α := F) s HMul.hMul 1 mul_assoc mul_one xs

/-- **`.map(g).sum()`** with independent schedules for the map and the reduction
(`inner_product`, Hyrax `r_lt`, PST13 `batch_check`). -/
theorem parMap_sum_field {F : Type} [Field F] (s₁ s₂ : Shape) (g : α → F) (xs : List α) :
    parReduce s₂ (· + ·) 0 (parMap s₁ g xs) = (xs.map g).foldl (· + ·) 0 := by
  rw [Par.parMap_eq_map]
  exact parSum_field s₂ _

/-- **`.map(g).collect()`**: index-preserving for every splitting tree. -/
theorem parMap_eq_map (s : Shape) (g : α → β) (xs : List α) : parMap s g xs = xs.map g :=
  Par.parMap_eq_map s g xs

/-- **`.enumerate().map(g).collect()`**: every element sees its own global index. -/
theorem parMapIdx_eq_seq (s : Shape) (g : Nat → α → β) (xs : List α) :
    parMapIdx s g 0 xs = mapIdxFrom g 0 xs ∧
      ∀ j, (parMapIdx s g 0 xs)[j]? = (xs[j]?).map (g j) := by
  refine ⟨Par.parMapIdx_eq s g 0 xs, fun j => ?_⟩
  rw [Par.parMapIdx_eq, Par.mapIdxFrom_getElem?, Nat.zero_add]

/-- **`.map(g).unzip()`**. -/
theorem parUnzip_eq_unzip (s : Shape) (g : α → β × γ) (xs : List α) :
    parUnzip s g xs = (xs.map g).unzip := by
  induction s generalizing xs with
  | leaf => rfl
  | node k l r ihl ihr =>
    simp only [parUnzip, appendPair]
    rw [ihl, ihr]
    simp only [List.unzip_eq_map, ← List.map_append, List.take_append_drop]

/-- **`iter_mut().for_each(..)` over disjoint cells**: any order in which the closure calls for the
indices `0 … n-1` are executed yields the sequential result. -/
theorem forEachDisjoint_eq_seq (u : Nat → α → α) (order : List Nat) (v : List α)
    (hperm : order.Perm (List.range v.length)) :
    forEachDisjoint u order v = forEachSeq u v :=
  (Par.forEachDisjoint_eq_mapIdx u order v hperm).trans
    (Par.forEachDisjoint_eq_mapIdx u _ v (List.Perm.refl _)).symm

/-- two schedules of the same `for_each` commute -/
theorem forEachDisjoint_commutes (u : Nat → α → α) (o₁ o₂ : List Nat) (v : List α)
    (h₁ : o₁.Perm (List.range v.length)) (h₂ : o₂.Perm (List.range v.length)) :
    forEachDisjoint u o₁ v = forEachDisjoint u o₂ v :=
  (Par.forEachDisjoint_eq_mapIdx u o₁ v h₁).trans (Par.forEachDisjoint_eq_mapIdx u o₂ v h₂).symm

/-! ### the source contains nothing else -/

/-- terminal kinds covered by the theorems above -/
def allowed : List Generated.Terminal := [.collect, .sum, .product, .unzip, .forEachMut]

/-- Every parallel iterator site of the crate ends in an allow-listed terminal.  A new `reduce` with
an unknown closure, `fold`, `find_any`, a `for_each` that pushes into a shared vector, a bare
`rayon::join`, … is emitted as `Terminal.other _` and breaks this `decide`. -/
theorem generated_sites_allowed : ∀ s ∈ Generated.sites, s.terminal ∈ allowed := by decide +kernel

/-- No RNG expression is compiled in under the `parallel` feature and no library code draws ambient
entropy (`thread_rng`, `OsRng`, `from_entropy`, …): every random draw comes from the caller's RNG.
(The original tree had one such site, `rand::thread_rng()` in Hyrax `commit`; it was repaired by
`fix:` 661f8e6, see DESIGN §11.3 D18.  A new site anywhere breaks this obligation.) -/
theorem generated_rng_sites : Generated.rngSites = [] := by decide +kernel

/-- Every item gated on the feature is either a `use rayon::…` import or lies in Hyrax
(`hyrax/mod.rs`: the caller-RNG / thread-RNG alternative of `commit`); no compound predicates. -/
theorem generated_gates_allowed :
    ∀ g ∈ Generated.gates, g.polarity ≠ .mixed ∧ (g.kind = .useRayon ∨ g.file = "hyrax/mod.rs") := by
  decide +kernel

/-- the extraction is not empty (a vacuous `∀ s ∈ []` cannot discharge the obligation) and has
seen each kind of macro -/
theorem generated_sites_nonempty :
    (Generated.sites.filter (·.source = .cfgIter)).length ≥ 1 ∧
    (Generated.sites.filter (·.source = .cfgIntoIter)).length ≥ 1 ∧
    (Generated.sites.filter (·.source = .cfgIterMut)).length ≥ 1 ∧
    (Generated.sites.filter (·.terminal = .sum)).length ≥ 1 ∧
    (Generated.sites.filter (·.terminal = .unzip)).length ≥ 1 := by decide +kernel

/-! ### non-vacuity -/

/-- a three-level unbalanced tree with off-centre and out-of-range split points -/
def exShape : Shape := .node 3 (.node 1 .leaf (.node 1 .leaf .leaf)) (.node 9 (.node 0 .leaf .leaf) .leaf)

example : parReduce exShape (· + ·) (0 : K) [1, 2, 3, 4, 5, 6, 7] = 28 := by decide +kernel
example : parReduce exShape (· * ·) (1 : K) [1, 2, 3, 4, 5, 6, 7] = 91 := by decide +kernel
example : parMap exShape (fun x : K => x * x) [1, 2, 3, 4, 5] = [1, 4, 9, 16, 25] := by
  decide +kernel
example : parMapIdx exShape (fun i (x : K) => (i : K) + 10 * x) 0 [1, 2, 3, 4, 5]
    = [10, 21, 32, 43, 54] := by decide +kernel
example : parUnzip exShape (fun x : K => (x, x + 1)) [1, 2, 3, 4] = ([1, 2, 3, 4], [2, 3, 4, 5]) := by
  decide +kernel
/-- the hypothesis of `forEachDisjoint_eq_seq` is satisfiable by a non-sequential order -/
example : [2, 0, 3, 1].Perm (List.range ([5, 6, 7, 8] : List K).length) := by decide +kernel
example : forEachDisjoint (fun i (x : K) => x + (i : K) * 10) [2, 0, 3, 1] [5, 6, 7, 8]
    = [5, 16, 27, 38] := by decide +kernel
/-- the model does distinguish schedules: with a non-associative operation the tree matters, so the
theorems above are not true by construction of the model -/
example : parReduce (.node 1 .leaf .leaf) (· - ·) (0 : K) [1, 2] ≠ [1, 2].foldl (· - ·) (0 : K) := by
  decide +kernel
/-- … and a `for_each` whose order is not a permutation (an index run twice) differs -/
example : forEachDisjoint (fun _ (x : K) => x + 1) [0, 0] [5] ≠ forEachSeq (fun _ (x : K) => x + 1) [5] := by
  decide +kernel
/-- `other` is not on the allow-list -/
example : Generated.Terminal.other 4 ∉ allowed := by decide +kernel

end PCV.C18
