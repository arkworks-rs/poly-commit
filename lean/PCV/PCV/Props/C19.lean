/-
  Property C19 — succinctness: commitment and proof shapes (KZG10 / MarlinKZG10 part; Hyrax, IPA,
  multilinear PST, linear codes and the dimension inequality have their own files).
-/
import PCV.Proofs.MarlinBatch
import PCV.Proofs.QuerySet
import PCV.Props.Examples

namespace PCV.C19
open PCV Marlin
variable {F : Type} [Field F] [DecidableEq F]

/-- **KZG10 / Marlin, per-point proof.** An opening proof is one group element plus an optional
field element *by construction* (`KZG.Proof`), whatever the number and degrees of the polynomials:
the only size-relevant fact left is when the optional scalar is present — exactly when the
combined blinding polynomial is non-zero. -/
theorem kzg10_proof_scalar_iff_hiding (pw : KZG.Powers F) (p : List F) (z : F) (r : List F)
    (π : KZG.Proof F) (h : KZG.open pw p z r = .ok π) :
    π.rv.isSome = !isZeroPoly r := by
  rw [KZG.open_eq pw p r z (KZG.open_ok_fits h)] at h
  cases h
  cases isZeroPoly r <;> rfl

/-- **Marlin commitment shape**: a second group element is present iff a degree bound is declared. -/
theorem marlin_commitment_shape (ck : CK F) (p : LPoly F) (rng : Bool) (draws : List F)
    (c : Comm F) (r : Rand F) (rest : List F) (h : commitOne ck p rng draws = .ok (c, r, rest)) :
    c.shifted.isSome = p.bound.isSome := by
  obtain ⟨-, -, c0, r0, d', -, ⟨hb, rfl, -, -⟩ | ⟨b, sp, s, rs, hb, -, -, rfl, -⟩⟩ := commitOne_ok h
  · rw [hb]; rfl
  · rw [hb]; rfl

/-- **Batch proofs**: exactly one per-point proof per distinct point label of the query set. -/
theorem marlin_batch_proof_count (ck : CK F) (polys : List (LPoly F)) (sts : List (Rand F))
    (gs : List (Label × (F × List Label))) (ξs : List F) (πs : List (KZG.Proof F)) (rest : List F)
    (h : batchOpenGroups ck polys sts gs ξs = .ok (πs, rest)) : πs.length = gs.length := by
  induction gs generalizing ξs πs with
  | nil => cases h; rfl
  | cons g gs ih =>
    obtain ⟨-, -, -, ξs', πs', -, -, hrec, rfl⟩ := batchOpenGroups_cons_ok h
    exact congrArg Nat.succ (ih ξs' πs' hrec)

set_option linter.unusedSectionVars false in
/-- the number of point labels never exceeds the number of queries -/
theorem group_count_le (qs : List (Query F)) : (groupQueries qs).length ≤ qs.length := by
  have h := TraitDefault.length_setOfList_le QS.ltLabel (qs.map (·.2.1))
  rwa [← TraitDefault.keys_groupQueries, List.length_map, List.length_map] at h

example : (groupQueries ([([1], ([9], (5 : K))), ([2], ([9], 5)), ([1], ([8], 6))])).length = 2 := by
  decide +kernel

end PCV.C19
