/-
  Property C19, dimension part — Ligero / Brakedown proofs are within a small constant factor of
  the best coefficient-matrix shape.  (Imported by Props/C19.lean.)

  `computeDimensions N t` is the exact-integer model of `compute_dimensions` /
  `BrakedownPCParams::default`; its f64 `sqrt().ceil()` is tied to the code by the correspondence
  runs of C13/C19.  `proofCost N t c n′ = t·n′ + c·⌈N/n′⌉` is the dominant part of the proof size
  (`t` opened columns of `n′` entries, `c` row combinations of `⌈N/n′⌉` entries; `c = 2` with the
  well-formedness vector, `c = 1` without).  Not included (covered by the size correspondence of
  C19): the Merkle-path term `t·⌈log₂ n_ext⌉` digests and the rate factor between `⌈N/n′⌉` and the
  codeword length, which do not depend on the shape beyond a logarithm.
-/
import PCV.Proofs.Dimensions

namespace PCV.C19
open PCV PCV.LinCode

/-- the `n × m` matrix has room for all `N` coefficients, -/
theorem dims_cover (N t : Nat) : N ≤ (computeDimensions N t).1 * (computeDimensions N t).2 := by
  rw [Nat.mul_comm]
  exact ceilDiv_mul_ge N _ (dimN_pos N t)

/-- and no column is superfluous: `m = ⌈N/n⌉`, i.e. `(m − 1)·n < N`. -/
theorem dims_tight (N t : Nat) (hN : 0 < N) :
    ((computeDimensions N t).2 - 1) * (computeDimensions N t).1 < N := by
  show (ceilDiv N (dimN N t) - 1) * dimN N t < N
  rw [Nat.sub_mul, Nat.one_mul]
  exact Nat.sub_lt_right_of_lt_add
    (Nat.le_mul_of_pos_left _ (ceilDiv_pos N (dimN N t) hN (dimN_pos N t)))
    (ceilDiv_mul_lt N (dimN N t) (dimN_pos N t))

/-- the number of rows is a power of two at least the balanced value `√(2N/t)` … -/
theorem dims_rows_ge (N t : Nat) (ht : 0 < t) :
    2 * N ≤ t * ((computeDimensions N t).1 * (computeDimensions N t).1) :=
  dimN_sq_ge N t ht

/-- … and less than twice it. -/
theorem dims_rows_lt (N t h : Nat) (ht : 0 < t) (hn : (computeDimensions N t).1 = 2 * h)
    (hh : 0 < h) : t * (h * h) < 2 * N := by
  have hn : dimN N t = 2 * h := hn
  rcases dimN_one_or_double N t ht with h1 | ⟨h', e, hlt⟩
  · omega
  · obtain rfl : h' = h := Nat.eq_of_mul_eq_mul_left Nat.two_pos (e.symm.trans hn)
    exact hlt

/-- **Dominant-term inequality**, with well-formedness check: the chosen shape costs at most four
times what any other row count `n′ ≥ 1` would (so in particular `≤ 4·min` over powers of two). -/
theorem cost_within_factor_four (N t n' : Nat) (hN : 0 < N) (ht : 0 < t) (hn' : 0 < n') :
    proofCost N t 2 (computeDimensions N t).1 ≤ 4 * proofCost N t 2 n' :=
  dimN_cost_le_four_mul (Nat.le_succ 1) (Nat.le_refl 2) hN ht hn'

/-- the same without the well-formedness vector -/
theorem cost_within_factor_four_no_wf (N t n' : Nat) (hN : 0 < N) (ht : 0 < t) (hn' : 0 < n') :
    proofCost N t 1 (computeDimensions N t).1 ≤ 4 * proofCost N t 1 n' :=
  dimN_cost_le_four_mul (Nat.le_refl 1) (Nat.le_succ 1) hN ht hn'

/-! non-vacuity: `N = 2^16` coefficients, `t = 300` openings -/
example : computeDimensions 65536 300 = (32, 2048) := by decide +kernel
example : proofCost 65536 300 2 32 = 13696 ∧ proofCost 65536 300 2 16 = 12992 := by decide +kernel
example : computeDimensions 1 1 = (2, 1) := by decide +kernel

end PCV.C19
