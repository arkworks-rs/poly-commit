/-
  Property C19 (succinctness) — Hyrax shapes: a commitment consists of `2^(n/2)` row commitments and
  a proof of three group elements, a vector `z` of `2^(n/2)` scalars and three scalars — square-root
  size in the `2^n` evaluations, for every even `n`.
-/
import PCV.Proofs.Hyrax
import PCV.Props.Examples

namespace PCV.C19
open PCV
variable {F : Type} [Field F] [DecidableEq F]

omit [DecidableEq F] in
/-- **Hyrax, commitment shape.** A commitment to a polynomial in `nv` variables has exactly
`2^(nv/2)` row commitments; the state holds `2^(nv/2)` blinding scalars and the
`2^(nv/2) × 2^(nv/2)` matrix. -/
theorem hyrax_commit_shape (ks : List F) (hh : F) (p : Hyrax.MLPoly F) (ρs T : List F)
    (st : Hyrax.State F) (hc : Hyrax.commitOne ks hh p ρs = .ok (T, st)) :
    T.length = 2 ^ (p.nv / 2) ∧ st.randomness.length = 2 ^ (p.nv / 2) ∧
      st.mat.n = 2 ^ (p.nv / 2) ∧ st.mat.m = 2 ^ (p.nv / 2) ∧ st.mat.entries.length = 2 ^ (p.nv / 2) ∧
      T.length * T.length = p.evals.length := by
  obtain ⟨hn, _, hlen, hρ, rfl, rfl⟩ := Hyrax.commitOne_ok_iff.1 hc
  have hT := Hyrax.rowCommits_rowsOf_length ks hh p.evals ρs _ hρ
  exact ⟨hT, List.length_take_of_le hρ, rfl, rfl, Hyrax.rowsOf_length _ _ _,
    by rw [hT, hlen, Hyrax.two_pow_half_sq hn]⟩

/-- **Hyrax, transcript shape.** For an honest run over any list of polynomials at a point with
`n` variables: one commitment and one proof per polynomial, every commitment has
`row_coms.length = 2^(n/2)` and every proof has `z.length = 2^(n/2)` (the rest of a proof is three
group elements and three scalars, by the type `Proof`). -/
theorem hyrax_shape (ks : List F) (hh : F) (polys : List (Hyrax.MLPoly F)) (point : List F)
    (ρdraws odraws cs : List F) (coms : List (List F)) (sts : List (Hyrax.State F)) (rest : List F)
    (items : List (Hyrax.OpenItem F)) (πs : List (Hyrax.Proof F))
    (hc : Hyrax.commit ks hh polys ρdraws = .ok (coms, sts, rest))
    (hst : items.map (·.st) = sts)
    (ho : Hyrax.open ks hh items point odraws cs = .ok πs) :
    coms.length = polys.length ∧ πs.length = polys.length ∧
      (∀ T ∈ coms, T.length = 2 ^ (point.length / 2)) ∧
      (∀ π ∈ πs, π.z.length = 2 ^ (point.length / 2)) := by
  exact (Hyrax.complete hc hst ho).2

/-- what a verifier accepts has the same shapes (so no accepted proof is larger) -/
theorem hyrax_accepted_shape (ks : List F) (hh : F) (coms : List (List F)) (point vs : List F)
    (πs : List (Hyrax.Proof F)) (cs : List F)
    (h : Hyrax.check ks hh coms point vs πs cs = .ok true) :
    (∀ T ∈ coms, T.length = 2 ^ (point.length / 2)) ∧ (∀ π ∈ πs, π.z.length = ks.length) := by
  exact (Hyrax.check_shapes h).2.2.2

/-! non-vacuity over `ZMod 101`: 4 variables, 16 evaluations, 4 row commitments, `z` of length 4 -/
example : ((Hyrax.commitOne ([3, 5, 8, 9] : List K) 7
      ⟨4, [1, 2, 3, 4, 5, 6, 7, 8, 9, 10, 11, 12, 13, 14, 15, 16]⟩ [10, 20, 30, 40]).toOption.map
        fun x => (x.1.length, x.2.randomness.length)) = some (4, 4) := by decide +kernel

end PCV.C19
