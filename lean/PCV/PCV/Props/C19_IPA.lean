/-
  Property C19 — succinctness, inner-product-argument scheme: the proof has exactly
  `log₂(supported_degree + 1)` pairs `(L, R)`, one key element, one scalar, an optional hiding
  commitment and an optional scalar — independent of the number and degree of the polynomials.
-/
import PCV.Proofs.IPAVerify
import PCV.Props.Examples

namespace PCV.C19
open PCV
variable {F : Type} [Field F] [DecidableEq F]

/-- **IPA, proof shape.** For a key of `2^k` elements (every key `trim` returns), any list of
polynomials, commitments and states and any oracle outputs: a proof returned by `open` has
`l_vec.length = r_vec.length = k = log₂(s + 1)`. -/
theorem ipa_proof_shape (ck : IPA.CK F) (k : Nat) (hk : ck.commKey.length = 2 ^ k)
    (polys : List (IPA.LPoly F)) (comms : List (IPA.LComm F)) (sts : List (IPA.Rand F))
    (z : F) (ξs ros : List F) (rng : Bool) (draws : List F) (π : IPA.Proof F) (ξr ror dr : List F)
    (ho : IPA.open ck polys comms z sts ξs ros rng draws = .ok (π, ξr, ror, dr)) :
    π.lVec.length = IPA.clog2 (IPA.supportedDegree ck + 1) ∧
    π.rVec.length = IPA.clog2 (IPA.supportedDegree ck + 1) ∧
    IPA.clog2 (IPA.supportedDegree ck + 1) = k := by
  obtain ⟨h1, h2⟩ := IPA.open_shape hk ho
  rw [IPA.clog2_supported ck k hk]
  exact ⟨h1, h2, rfl⟩

set_option linter.unusedSectionVars false in
/-- **IPA, keys have power-of-two length**: `trim` rounds the requested degree up to `2^k − 1`,
so the premise of `ipa_proof_shape` holds for every key it returns, and the supported degree it
reports is at least the requested one. -/
theorem ipa_trim_pow2 (pp : IPA.UParams F) (supported : Nat) (ck vk : IPA.CK F)
    (h : IPA.trim pp supported = .ok (ck, vk)) :
    vk = ck ∧ (∃ k, ck.commKey.length = 2 ^ k) ∧ supported ≤ IPA.supportedDegree ck := by
  obtain ⟨h1, h2, _, _, _, h3, _⟩ := IPA.trim_spec pp supported ck vk h
  exact ⟨h1, h2, h3⟩

/-- **IPA, batch proofs**: one proof per point label (otherwise `batch_check` aborts). -/
theorem ipa_batch_proof_count (vk : IPA.VK F) (comms : List (IPA.LComm F)) (qs : List (IPA.Query F))
    (evals : List ((IPA.Label × F) × F)) (πs : List (IPA.Proof F)) (ξs ros rs : List F) (b : Bool)
    (h : IPA.batchCheck vk comms qs evals πs ξs ros rs = .ok b) :
    πs.length = (Marlin.groupQueries qs).length := by
  unfold IPA.batchCheck at h
  split at h
  · cases h
  · rename_i hl; by_contra hne; exact hl hne

example : IPA.open (⟨[3, 5, 7, 11], 13, 17, 7⟩ : IPA.CK K)
      [⟨[1], [1, 2, 3], some 2, some 1⟩, ⟨[2], [4, 0, 0, 9], none, none⟩]
      [⟨[1], ⟨88, some 22⟩, some 2⟩, ⟨[2], ⟨10, none⟩, none⟩] 6
      [⟨21, some 22⟩, ⟨0, none⟩] [2, 3, 4, 5, 6] [7, 8, 9, 10, 11] true [31, 32, 33, 34, 35, 36]
    = .ok (⟨[89, 67], [85, 95], 96, 5, some 34, some 50⟩, [], [11], [36]) ∧
    IPA.clog2 (IPA.supportedDegree (⟨[3, 5, 7, 11], 13, 17, 7⟩ : IPA.CK K) + 1) = 2 := by
  constructor
  · decide +kernel
  · decide +kernel

end PCV.C19
