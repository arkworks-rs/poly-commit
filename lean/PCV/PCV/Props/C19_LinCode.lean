/-
  Property C19 (succinctness) — linear-code PCS: shape of opening proofs and commitments.
  (The dimension-balancing inequality is in Props/C19Dim.lean.)
-/
import PCV.Proofs.LinCodeProto
import PCV.Proofs.LinCodeToy

namespace PCV.C19
open PCV PCV.LinCode PCV.Merkle
variable {F : Type} [Field F] [DecidableEq F] {D : Type} [DecidableEq D]

/-- **Shape of one opening proof** (any state `open` accepts): with `t` transcript positions,
`columns.length = paths.length = t`; `v` has `n_cols` entries; the well-formedness vector is present
exactly when the flag is on and then has `n_cols` entries; every column has one entry per row of the
encoded matrix; every Merkle path carries `⌈log₂ #leaves⌉` hashes (leaf sibling + inner siblings). -/
theorem lincode_proof_shape (pp : Params F D) (point : Point F) (c : Comm D) (st : State F D)
    (o : Oracle F) (π : Proof F D) (h : openOne pp point c st o = .ok π) :
    π.opening.columns.length = o.indices.length ∧
    π.opening.paths.length = o.indices.length ∧
    π.opening.v.length = st.mat.m ∧
    (∀ col ∈ π.opening.columns, col.length = st.extMat.rows.length) ∧
    (∀ p ∈ π.opening.paths, p.authPath.length + 1 = ceilLog2 st.leaves.length) ∧
    π.wf.isSome = pp.checkWf ∧ (∀ w, π.wf = some w → w.length = st.mat.m) := by
  obtain ⟨hd, ab, _, _, _, _, rfl⟩ := openOne_ok_iff.1 h
  refine ⟨List.length_map _, List.length_map _, vecMat_length _ _ _, ?_, ?_, ?_, ?_⟩
  · intro col hcol
    obtain ⟨i, _, rfl⟩ := List.mem_map.1 hcol
    exact colOf_length _ _
  · intro p hp
    obtain ⟨i, _, rfl⟩ := List.mem_map.1 hp
    rw [merklePath_depth pp.hs st.leaves i]
    exact Nat.max_eq_left (Nat.pos_of_ne_zero hd)
  · cases pp.checkWf <;> rfl
  · intro w hw
    cases hc : pp.checkWf <;> simp only [hc, if_true, Bool.false_eq_true, if_false] at hw
    · cases hw
    · cases hw
      exact vecMat_length _ _ _

/-- **Shape in terms of the commitment's metadata**, for the state `commit` returns:
`v.length = n_cols`, columns `n_rows` long, paths `⌈log₂ n_ext_cols⌉` deep. -/
theorem lincode_proof_shape_committed (pp : Params F D) (point : Point F) (coeffs : List F)
    (E : List F → List F) (k : Nat) (h : Encodes pp coeffs E k) (c : Comm D) (st : State F D)
    (o : Oracle F) (π : Proof F D) (hc : commit pp coeffs = .ok (c, st))
    (ho : openOne pp point c st o = .ok π) :
    π.opening.columns.length = o.indices.length ∧
    π.opening.paths.length = o.indices.length ∧
    π.opening.v.length = c.nCols ∧
    (∀ col ∈ π.opening.columns, col.length = c.nRows) ∧
    (∀ p ∈ π.opening.paths, p.authPath.length + 1 = ceilLog2 c.nExtCols) ∧
    (∀ w, π.wf = some w → w.length = c.nCols) := by
  rw [commit_eq pp coeffs E k h] at hc
  cases hc
  obtain ⟨h1, h2, h3, h4, h5, _, h7⟩ := lincode_proof_shape pp point _ _ o π ho
  refine ⟨h1, h2, h3, ?_, ?_, h7⟩
  · intro col hcol
    rw [h4 col hcol]
    simp [extOf, coeffMat_rows_length]
  · intro p hp
    rw [h5 p hp, leavesOf_length]
    rfl

/-- one proof per zipped (commitment, state) pair -/
theorem lincode_proof_count (pp : Params F D) (point : Point F) (cs : List (Comm D))
    (sts : List (State F D)) (os : List (Oracle F)) (πs : List (Proof F D))
    (hlen : min cs.length sts.length ≤ os.length)
    (h : openAll pp point cs sts os = .ok πs) : πs.length = min cs.length sts.length := by
  rw [openAll_length h, List.length_zip, List.length_zip, ← Nat.min_assoc, Nat.min_eq_left hlen]

set_option linter.unusedSectionVars false in
/-- the commitment is three machine words and one digest, whatever the polynomial -/
theorem lincode_commitment_constant (pp : Params F D) (coeffs : List F) (c : Comm D) (st : State F D)
    (_h : commit pp coeffs = .ok (c, st)) : c = ⟨c.nRows, c.nCols, c.nExtCols, c.root⟩ := rfl

/-! non-vacuity: the toy proof has 3 columns of 2 entries, 3 paths of depth 2, `v` of 2 entries -/
example : (match commit (toyPP true) [1, 2, 3] with
    | .ok (c, st) =>
      match openOne (toyPP true) (.uni 5) c st ⟨[7, 9], [2, 0, 3]⟩ with
      | .ok π => decide (π.opening.columns.map List.length = [2, 2, 2] ∧
          π.opening.paths.map (fun p => p.authPath.length + 1) = [2, 2, 2] ∧
          π.opening.v.length = 2 ∧ π.wf.map List.length = some 2)
      | .error _ => false
    | .error _ => false) = true := by decide +kernel

end PCV.C19
