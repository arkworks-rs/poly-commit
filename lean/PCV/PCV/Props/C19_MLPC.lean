/-
  Property C19 (multilinear PST) — succinctness: one G1 element per commitment, exactly one G2
  element per variable in a proof, independent of the `2^nv` evaluations.
-/
import PCV.Proofs.MLPC
import PCV.Props.Examples

namespace PCV.C19
open PCV
set_option linter.unusedSectionVars false
variable {F : Type} [Field F] [DecidableEq F]

/-- **Proof shape.**  Whatever key, polynomial and point: a proof returned by `open` has exactly
`nv` (G2) elements. -/
theorem mlpc_proof_length (ck : MLPC.CK F) (nv : Nat) (evals z πs : List F)
    (h : MLPC.open ck nv evals z = .ok πs) : πs.length = nv := by
  rw [MLPC.open_eq] at h
  split at h
  · exact MLPC.openLoop_length h
  · cases h

/-- on a well-formed key the proof is `[h·q̃ᵢ(t_{>i})]_{i<nv}` — `nv` elements -/
theorem mlpc_honest_proof_length (h : F) (t z evals : List F) (hz : t.length ≤ z.length) :
    (MLPC.proofSpec h t z evals).length = t.length := MLPC.proofSpec_length h t z evals hz

/-- **Only proofs of that shape are ever decided**: a decision (`true` or `false`) implies
`proofs.length = vk.nv`. -/
theorem mlpc_decided_proof_length (vk : MLPC.VK F) (c : MLPC.Commitment F) (z : List F) (v : F)
    (πs : List F) (b : Bool) (h : MLPC.check vk c z v πs = .ok b) : πs.length = vk.nv := by
  by_contra hne
  rw [MLPC.check_proof_length hne] at h
  cases h

/-- **Commitment shape**: one group element and the variable count, whatever the polynomial — the
same for `2^nv` evaluations as for 2. -/
theorem mlpc_commitment_shape (ck : MLPC.CK F) (nv : Nat) (evals : List F) (c : MLPC.Commitment F)
    (h : MLPC.commit ck nv evals = .ok c) : c = ⟨nv, c.gProduct⟩ := by
  obtain ⟨_, rfl⟩ := MLPC.commit_ok h
  rfl

/-- proof size in group elements as a function of the polynomial size `N = 2^nv`: `log₂ N` -/
theorem mlpc_proof_size_log (ck : MLPC.CK F) (nv : Nat) (evals z πs : List F)
    (h : MLPC.open ck nv evals z = .ok πs) : 2 ^ πs.length = evals.length := by
  rw [mlpc_proof_length ck nv evals z πs h]
  rw [MLPC.open_eq] at h
  split at h
  · next hs => exact hs.2.2.symm
  · cases h

example : MLPC.open (MLPC.wfCK (5 : K) 11 [7, 20]) 2 [1, 2, 3, 50] [8, 13] = .ok [31, 30] := by
  decide +kernel

end PCV.C19
