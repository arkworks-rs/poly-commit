/-
  Property C19 — succinctness: MarlinPST13.  A commitment is one group element (whatever the number
  of monomials); an evaluation proof is exactly `num_vars` group elements plus an optional field
  element (present iff the opening is hiding), whatever the degree, the number of polynomials opened
  together, or the point; a batch proof is one such proof per point label of the query set.
  Serialized: commitment `48 + 1` bytes (compressed G1 + the `None` flag of the shifted part), proof
  `8 + 48·num_vars + 1 (+ 32)` bytes — the harness compares these laws with the library's
  `compressed_size()`.
-/
import PCV.Proofs.PST13More
import PCV.Proofs.Combinations
import PCV.Props.Examples

set_option synthInstance.maxSize 512

namespace PCV.C19
open PCV PCV.MV PCV.C15Spec
variable {F : Type} [Field F] [DecidableEq F]

/-- the byte size of a serialized PST13 proof: length prefix, compressed G1 elements, option flag,
optional scalar -/
def pst13ProofBytes (π : PST.Proof F) : Nat :=
  8 + 48 * π.w.length + 1 + (if π.rv.isSome then 32 else 0)

/-- **One group element per commitment, one commitment and one state per polynomial.**  `commit`
returns, for each polynomial of the list, a single group element (the model's scalar) — never a
vector that grows with the polynomial. -/
theorem pst13_one_commitment_each (ck : PST.CK F) (phs : List (MVPoly F × Option Nat)) (rng : Bool)
    (draws : List F) (cs : List F) (rs : List (MVPoly F)) (rest : List F)
    (h : PST.commitList ck phs rng draws = .ok (cs, rs, rest)) :
    cs.length = phs.length ∧ rs.length = phs.length := by
  fun_induction PST.commitList ck phs rng draws generalizing cs rs with
  | case1 => cases h; exact ⟨rfl, rfl⟩
  | case2 => cases h
  | case3 => cases h
  | case4 ph phs rng draws r1 hr1 rs1 hrs1 ih =>
    cases h
    obtain ⟨i1, i2⟩ := ih rs1.1 rs1.2.1 hrs1
    exact ⟨congrArg Nat.succ i1, congrArg Nat.succ i2⟩

/-- **A proof is exactly `num_vars` witness elements plus an optional field element.**  Arbitrary
key, any number of polynomials of any degree opened together, any point: whenever `open` answers,
`w` has one element per key variable, and `random_v` is present exactly when the combined blinding
polynomial is non-zero. -/
theorem pst13_proof_shape (ck : PST.CK F) (nvp nvr : Nat) (p r : MVPoly F) (z : List F)
    (π : PST.Proof F) (h : PST.openCombined ck nvp nvr p r z = .ok π) :
    π.w.length = ck.numVars ∧ (π.rv.isSome = !isZeroMV r) :=
  PST.openCombined_shape h

theorem pst13_open_proof_length (ck : PST.CK F) (nvp nvr : Nat) (ps : List (MVPoly F)) (z : List F)
    (rs : List (MVPoly F)) (ξs : List F) (π : PST.Proof F)
    (h : PST.open ck nvp nvr ps z rs ξs = .ok π) : π.w.length = ck.numVars := by
  obtain ⟨c, _, h⟩ := PST.open_ok_iff.1 h
  exact (PST.openCombined_shape h).1

/-- **The proof size depends on the number of variables only**: `8 + 48·num_vars + 1` bytes,
plus `32` when hiding — not on the degree, the number of monomials or of polynomials. -/
theorem pst13_proof_bytes (ck : PST.CK F) (nvp nvr : Nat) (p r : MVPoly F) (z : List F)
    (π : PST.Proof F) (h : PST.openCombined ck nvp nvr p r z = .ok π) :
    pst13ProofBytes π = 8 + 48 * ck.numVars + 1 + (if isZeroMV r then 0 else 32) := by
  obtain ⟨h1, h2⟩ := PST.openCombined_shape h
  unfold pst13ProofBytes
  rw [h1, h2]
  cases isZeroMV r <;> simp

/-- **A batch proof is one proof per point label**: `batch_open` returns as many proofs as the
query set has distinct point labels — the groups are pairwise distinct and are exactly the point
labels that occur — each with `num_vars` witnesses, however many polynomials are queried under a
label. -/
theorem pst13_batch_one_proof_per_point_label (ck : PST.CK F) (trips : List (PST.Trip F))
    (qs : List (PST.Query F)) (ξs : List F) (πs : List (PST.Proof F)) (rest : List F)
    (h : PST.batchOpen ck trips qs ξs = .ok (πs, rest)) :
    πs.length = (PST.groupQueries qs).length
      ∧ ((PST.groupQueries qs).map (·.1)).Nodup
      ∧ (∀ pl, pl ∈ (PST.groupQueries qs).map (·.1) ↔ ∃ q ∈ qs, q.2.1 = pl)
      ∧ ∀ π ∈ πs, π.w.length = ck.numVars := by
  unfold PST.batchOpen at h
  obtain ⟨h1, h2⟩ := PST.batchOpenGroups_shape h
  obtain ⟨_, g2, g3⟩ := PST.groupQueries_labels qs
  exact ⟨h1, g2, g3, h2⟩

/-- **The verifiers accept only proofs of that size** (C03): an answer of `check` implies
`num_vars` witnesses. -/
theorem pst13_checked_proof_length (vk : PST.VK F) (cs z vs : List F) (π : PST.Proof F)
    (ξs : List F) (b : Bool) (h : PST.check vk cs z vs π ξs = .ok b) : π.w.length = vk.numVars :=
  ((PST.check_ok_iff vk cs z vs π ξs b).1 h).1

/-! ### non-vacuity over `ZMod 101` -/

def exCK : PST.CK K := PST.wfCK (3 : K) 5 [2, 7] (specTerms 2 2) 2 2 2 3

/-- a degree-2 polynomial with four monomials and a constant: both proofs have two witnesses -/
example : PST.open exCK 2 0 [[(4, []), (6, [(1, 1)]), (9, [(0, 1), (1, 1)]), (2, [(0, 2)])]] [10, 20]
    [[]] [13] = .ok ⟨[60, 7], none⟩ := by decide +kernel
example : PST.open exCK 0 0 [[(4, [])]] [10, 20] [[]] [13] = .ok ⟨[0, 0], none⟩ := by decide +kernel
example : pst13ProofBytes (⟨[60, 7], none⟩ : PST.Proof K) = 8 + 48 * 2 + 1 := by decide +kernel
example : pst13ProofBytes (⟨[10, 66], some 93⟩ : PST.Proof K) = 8 + 48 * 2 + 1 + 32 := by decide +kernel
/-- three queries under two point labels: two groups -/
example : (PST.groupQueries ([([108], ([122], [10, 20])), ([109], ([122], [10, 20])),
      ([109], ([123], [10, 20]))] : List (PST.Query K))).map (·.1) = [[122], [123]] := by decide +kernel

/-- … and `batch_open` returns two proofs of two witnesses each for them -/
example : PST.batchOpen exCK
    [((⟨[108], [(4, []), (6, [(0, 1)])], 2, none, none⟩ : PST.LPoly K), ⟨[], 0⟩, ⟨[108], ⟨48, none⟩, none⟩),
     (⟨[109], [(4, []), (6, [(1, 1)]), (2, [(0, 2)])], 2, none, none⟩, ⟨[], 0⟩, ⟨[109], ⟨61, none⟩, none⟩)]
    [([108], ([122], [10, 20])), ([109], ([122], [10, 20])), ([109], ([123], [10, 20]))] [13, 17, 19]
    = .ok ([⟨[44, 3], none⟩, ⟨[55, 39], none⟩], []) := by decide +kernel

end PCV.C19
