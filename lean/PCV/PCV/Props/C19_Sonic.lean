/-
  Property C19 — succinctness, SonicKZG10: a commitment is ONE group element whether or not a degree
  bound is declared (the bound is carried by the label, not by a second element as in MarlinKZG10), an
  opening proof is one group element plus an optional field element whatever the number and degrees of
  the polynomials, and batch / combination proofs have exactly one such proof per point label.
  (`LComm.comm : F` and `KZG.Proof = ⟨w, rv⟩` have these shapes by construction; the theorems give the
  counts and say when the optional scalar is present.)
-/
import PCV.Proofs.SonicLCExamples
import PCV.Props.C19

namespace PCV.C19
open PCV PCV.Sonic
open PCV.Marlin (Label LPoly Query groupQueries)
variable {F : Type} [Field F] [DecidableEq F]

/-- number of group elements / field elements of an opening proof -/
def sonicProofSize (π : KZG.Proof F) : Nat × Nat := (1, if π.rv.isSome then 1 else 0)

/-- **Commitments**: `commit` returns exactly one labelled commitment — one group element — and one
state per polynomial, and the commitment's bound label is the polynomial's (no second element for a
degree bound). -/
theorem sonic_commitment_shape (ck : CK F) (ps : List (LPoly F)) (rng : Bool) (draws : List F)
    (cs : List (LComm F)) (rs : List (List F)) (rest : List F)
    (h : commit ck ps rng draws = .ok (cs, rs, rest)) :
    cs.length = ps.length ∧ rs.length = ps.length ∧ cs.map (·.bound) = ps.map (·.bound) := by
  fun_induction commit ck ps rng draws generalizing cs rs rest with
  | case1 => cases h; exact ⟨rfl, rfl, rfl⟩
  | case2 | case3 => cases h
  | case4 p ps rng draws c r draws' hone cs' rs' d hrest ih =>
    cases h
    obtain ⟨i1, i2, i3⟩ := ih _ _ _ hrest
    simp only [List.length_cons, List.map_cons, i1, i2, i3, and_self]

/-- **Per-point proof**: one group element, and the optional scalar is present exactly when the
challenge-combined blinding polynomial is non-zero — independent of the number and the degrees of the
polynomials opened. -/
theorem sonic_proof_shape (ck : CK F) (ps : List (LPoly F)) (z : F) (sts : List (List F))
    (ξs : List F) (π : KZG.Proof F) (rest : List F)
    (h : Sonic.open ck ps z sts ξs = .ok (π, rest)) :
    ∃ P R, openLoop ck ps sts ξs ([], []) = .ok ((P, R), rest) ∧ π.rv.isSome = !isZeroPoly R ∧
      (sonicProofSize π).1 = 1 ∧ (sonicProofSize π).2 ≤ 1 := by
  obtain ⟨P, R, hloop, hk⟩ := open_ok_inv ck ps z sts ξs π rest h
  refine ⟨P, R, hloop, kzg10_proof_scalar_iff_hiding _ P z R π hk, rfl, ?_⟩
  unfold sonicProofSize
  split <;> simp

/-- without hiding (every state is the empty blinding polynomial) the proof is the group element alone -/
theorem sonic_proof_nonhiding (ck : CK F) (ps : List (LPoly F)) (z : F) (sts : List (List F))
    (hst : ∀ st ∈ sts, st = []) (ξs : List F) (π : KZG.Proof F) (rest : List F)
    (h : Sonic.open ck ps z sts ξs = .ok (π, rest)) : π.rv = none := by
  obtain ⟨P, R, hloop, hrv, _⟩ := sonic_proof_shape ck ps z sts ξs π rest h
  have hR : ∀ (ps : List (LPoly F)) (sts : List (List F)) (ξs : List F) (acc : List F × List F),
      (∀ st ∈ sts, st = []) → openLoop ck ps sts ξs acc = .ok ((P, R), rest) → R = acc.2 := by
    intro ps sts ξs acc hst hl
    fun_induction openLoop ck ps sts ξs acc with
    | case1 => cases hl
    | case2 p ps st sts ξ ξs acc he ih =>
      rw [ih (fun s hs => hst s (List.mem_cons_of_mem _ hs)) hl, hst st (by simp)]
      cases acc.2 <;> rfl
    | case3 => injection hl with hl; injection hl with hl; rw [hl]
    | case4 => cases hl
  have : R = [] := hR ps sts ξs ([], []) hst hloop
  subst this
  cases hx : π.rv with
  | none => rfl
  | some _ => rw [hx] at hrv; simp [isZeroPoly, pnorm] at hrv

/-- **Batch proofs**: exactly one per-point proof per point label of the query set -/
theorem sonic_batch_proof_count (ck : CK F) (polys : List (LPoly F)) (sts : List (List F))
    (qs : List (Query F)) (ξs : List F) (πs : List (KZG.Proof F)) (rest : List F)
    (h : batchOpen ck polys sts qs ξs = .ok (πs, rest)) :
    πs.length = (groupQueries qs).length ∧ πs.length ≤ qs.length := by
  have hcount : ∀ (gs : List (Label × (F × List Label))) (ξs : List F) (πs : List (KZG.Proof F))
      (rest : List F), batchOpenGroups ck polys sts gs ξs = .ok (πs, rest) → πs.length = gs.length := by
    intro gs ξs πs rest h
    fun_induction batchOpenGroups ck polys sts gs ξs generalizing πs rest with
    | case1 => cases h; rfl
    | case2 | case3 | case4 => cases h
    | case5 g gs ξs ps ss hgp π ξs' hopen πs' rest' hrec ih => cases h; exact congrArg Nat.succ (ih _ _ hrec)
  have h1 := hcount _ ξs πs rest h
  exact ⟨h1, by rw [h1]; exact group_count_le qs⟩

/-- **Combination proofs**: one per-point proof per point label, whatever the number of combinations
and of their terms; and the verifier refuses (aborts on) any other count. -/
theorem sonic_lc_proof_count (ck : CK F) (polys : List (LPoly F)) (sts : List (List F))
    (comms : List (LComm F)) (lcs : List (LC.LinComb F)) (qs : List (Query F)) (ξs : List F)
    (πs : List (KZG.Proof F)) (rest : List F)
    (h : openCombinations ck polys sts comms lcs qs ξs = .ok (πs, rest)) :
    πs.length = (groupQueries qs).length := by
  unfold openCombinations at h
  split at h
  · cases h
  · exact (sonic_batch_proof_count ck _ _ qs ξs πs rest h).1

theorem sonic_batch_check_count (vk : VK F) (comms : List (LComm F)) (qs : List (Query F))
    (evals : List ((Label × F) × F)) (πs : List (KZG.Proof F)) (ξs rs : List F) (b : Bool)
    (h : batchCheck vk comms qs evals πs ξs rs = .ok b) :
    πs.length = (groupQueries qs).length := by
  unfold batchCheck at h
  simp only at h
  split at h
  · cases h
  · rename_i hl; by_contra hne; exact hl hne

/-! ### non-vacuity -/

/-- three polynomials (two bounded, one hiding): three commitments of one element each; the proof for
all three at one point is `(w, some rv)`; the batch over two point labels has two proofs; the
combination batch over three point labels has three -/
example : commit Ex.ck Ex.polys true [7, 0, 9, 4] = .ok (Ex.comms, Ex.rands, [4]) ∧
    Ex.comms.length = 3 ∧ Sonic.open Ex.ck Ex.polys 5 Ex.rands Ex.xis = .ok (⟨3, some 27⟩, [23]) ∧
    sonicProofSize (⟨3, some 27⟩ : KZG.Proof K) = (1, 1) := ⟨Ex.commit_eq, rfl, Ex.open_eq, rfl⟩
example : (groupQueries ExLC.qs).length = 3 ∧ ExLC.proofs.length = 3 ∧
    openCombinations Ex.ck Ex.polys Ex.rands Ex.comms ExLC.lcs ExLC.qs ExLC.xis
      = .ok (ExLC.proofs, [41]) := by decide +kernel
/-- a non-hiding opening has no scalar -/
example : Sonic.open Ex.ck [⟨[112, 49], [4, 0, 1], none, none⟩] 5 [[]] [11, 13]
    = .ok (⟨29, none⟩, []) := by decide +kernel
end PCV.C19
